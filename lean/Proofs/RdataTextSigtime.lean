import Proofs.RdataTextFieldHex
import Proofs.RdataTextCal
/-! RRSIG / SIG times (C05): `YYYYMMDDHHMMSS` of a 32-bit POSIX time is six fixed-width decimal fields; the parser slices
them at the same widths and `calendar.timegm` inverts `time.gmtime` on every day of the 32-bit range. -/
namespace Model

/-- `%0Nd` of a number of at most `N` digits -/
theorem padDec_spec (w n : Nat) (hw : 0 < w) (h : n < 10 ^ w) :
    (padDec w n).length = w ∧ (∀ c ∈ padDec w n, 48 ≤ c ∧ c ≤ 57) ∧ decVal (padDec w n) = n := by
  have hl := natToDec_length_le w n hw h
  unfold padDec
  refine ⟨by simp; omega, ?_, ?_⟩
  · intro c hc
    rcases List.mem_append.mp hc with hc | hc
    · rw [(List.mem_replicate.mp hc).2]; omega
    · exact natToDec_digits n c hc
  · have hz : ∀ k, (List.replicate k 48).foldl (fun a d => a * 10 + (d - 48)) 0 = 0 := by
      intro k; induction k with
      | zero => rfl
      | succ k ih => simpa [List.replicate_succ] using ih
    unfold decVal
    rw [List.foldl_append, hz]
    exact decVal_natToDec n

theorem pyIntSigned_padDec (w n : Nat) (hw : 0 < w) (h : n < 10 ^ w) : pyIntSigned (padDec w n) = some (n : Int) := by
  obtain ⟨hl, hd, hv⟩ := padDec_spec w n hw h
  have hne : padDec w n ≠ [] := by intro e; rw [e] at hl; simp at hl; omega
  unfold pyIntSigned
  rw [pyInt_digits 10 (by omega) _ (fun c hc => by have := hd c hc; omega) hne]
  simp only [Bool.false_eq_true, if_false]
  exact congrArg (fun x : Nat => some (x : Int)) hv

theorem timegm_civil (z y mo d h mi s : Nat) (hday : daysFromCivilShift y mo 1 + d - 1 = z + 719468)
    (hy : 1 ≤ y ∧ y ≤ 9999) (hmo : 1 ≤ mo ∧ mo ≤ 12) :
    timegm (y : Int) (mo : Int) (d : Int) (h : Int) (mi : Int) (s : Int) = some ((((z * 24 + h) * 60 + mi) * 60 + s : Nat) : Int) := by
  unfold timegm
  have c1 : ¬ ((y : Int) < 1 ∨ (y : Int) > 9999 ∨ (mo : Int) < 1 ∨ (mo : Int) > 12) := by omega
  simp only [c1, if_false, Int.toNat_natCast]
  generalize daysFromCivilShift y mo 1 = sh at hday
  congr 1
  have : (sh : Int) - 719468 + (d : Int) - 1 = (z : Int) := by omega
  rw [this]
  push_cast
  rfl

theorem sigtime_slices (A B C D E F : List Nat) (hA : A.length = 4) (hB : B.length = 2) (hC : C.length = 2)
    (hD : D.length = 2) (hE : E.length = 2) (hF : F.length = 2) :
    (A ++ B ++ C ++ D ++ E ++ F).length = 14 ∧ (A ++ B ++ C ++ D ++ E ++ F).take 4 = A ∧
    ((A ++ B ++ C ++ D ++ E ++ F).drop 4).take 2 = B ∧ ((A ++ B ++ C ++ D ++ E ++ F).drop 6).take 2 = C ∧
    ((A ++ B ++ C ++ D ++ E ++ F).drop 8).take 2 = D ∧ ((A ++ B ++ C ++ D ++ E ++ F).drop 10).take 2 = E ∧
    ((A ++ B ++ C ++ D ++ E ++ F).drop 12).take 2 = F := by
  simp [List.drop_append, hA, hB, hC, hD, hE, hF, List.take_of_length_le, List.drop_of_length_le]

theorem sigtimeFromText_fields (w : List Nat) (y mo d h mi s : Int) (x : Nat) (hl : w.length = 14)
    (h1 : pyIntSigned (w.take 4) = some y) (h2 : pyIntSigned ((w.drop 4).take 2) = some mo)
    (h3 : pyIntSigned ((w.drop 6).take 2) = some d) (h4 : pyIntSigned ((w.drop 8).take 2) = some h)
    (h5 : pyIntSigned ((w.drop 10).take 2) = some mi) (h6 : pyIntSigned ((w.drop 12).take 2) = some s)
    (htg : timegm y mo d h mi s = some (x : Int)) (hx : x ≤ 4294967295) : sigtimeFromText w = some x := by
  have h10 : ¬ (14 : Nat) ≤ 10 := by decide
  have hx' : (0 : Int) ≤ x ∧ (x : Int) ≤ 4294967295 := by omega
  unfold sigtimeFromText
  simp only [hl, h10, false_and, h1, h2, h3, h4, h5, h6, htg, hx', if_false, ne_eq, not_true_eq_false, and_self, if_true, Int.toNat_natCast]

theorem sigtimeFromText_lt (w : List Nat) : Returns (· < 4294967296) (sigtimeFromText w) := by
  unfold sigtimeFromText
  dsimp only
  split
  · exact .ite_some fun h => .some (by omega)
  · exact .none

theorem sigtime_rt (t : Nat) (ht : t < 4294967296) :
    sigtimeFromText (sigtimeToText t) = some t ∧ Plain (sigtimeToText t) ∧ sigtimeToText t ≠ [] := by
  have hciv := civil_roundtrip (t / 86400)
  rcases hc : civilFromDays (t / 86400) with ⟨y, mo, d⟩
  simp only [hc] at hciv
  obtain ⟨hday, hm1, hm2, hd1, hd2, hyear⟩ := hciv
  obtain ⟨hy1, hy2⟩ := hyear (by omega)
  have htext : sigtimeToText t = padDec 4 y ++ padDec 2 mo ++ padDec 2 d ++ padDec 2 (t % 86400 / 3600) ++
      padDec 2 (t % 86400 % 3600 / 60) ++ padDec 2 (t % 86400 % 60) := by
    unfold sigtimeToText; simp only [hc]
  have htg := timegm_civil (t / 86400) y mo d (t % 86400 / 3600) (t % 86400 % 3600 / 60) (t % 86400 % 60) hday (by omega) ⟨hm1, hm2⟩
  rw [show ((t / 86400 * 24 + t % 86400 / 3600) * 60 + t % 86400 % 3600 / 60) * 60 + t % 86400 % 60 = t by omega] at htg
  have hH : t % 86400 / 3600 < 10 ^ 2 := by omega
  have hM : t % 86400 % 3600 / 60 < 10 ^ 2 := by omega
  have hS : t % 86400 % 60 < 10 ^ 2 := by omega
  rw [htext]
  generalize t % 86400 / 3600 = H at *
  generalize t % 86400 % 3600 / 60 = M at *
  generalize t % 86400 % 60 = S at *
  -- six fields, each of its fixed width, which is where the parser slices
  obtain ⟨lY, dY, -⟩ := padDec_spec 4 y (by omega) (by omega)
  obtain ⟨lM, dM, -⟩ := padDec_spec 2 mo (by omega) (by omega)
  obtain ⟨lD, dD, -⟩ := padDec_spec 2 d (by omega) (by omega)
  obtain ⟨lh, dh, -⟩ := padDec_spec 2 H (by omega) hH
  obtain ⟨lm, dm, -⟩ := padDec_spec 2 M (by omega) hM
  obtain ⟨ls, ds, -⟩ := padDec_spec 2 S (by omega) hS
  obtain ⟨s0, s1, s2, s3, s4, s5, s6⟩ := sigtime_slices _ _ _ _ _ _ lY lM lD lh lm ls
  refine ⟨?_, ?_, fun e => by rw [e] at s0; cases s0⟩
  · refine sigtimeFromText_fields _ _ _ _ _ _ _ t s0 ?_ ?_ ?_ ?_ ?_ ?_ htg (by omega)
    · rw [s1]; exact pyIntSigned_padDec 4 y (by omega) (by omega)
    · rw [s2]; exact pyIntSigned_padDec 2 mo (by omega) (by omega)
    · rw [s3]; exact pyIntSigned_padDec 2 d (by omega) (by omega)
    · rw [s4]; exact pyIntSigned_padDec 2 H (by omega) hH
    · rw [s5]; exact pyIntSigned_padDec 2 M (by omega) hM
    · rw [s6]; exact pyIntSigned_padDec 2 S (by omega) hS
  · intro c hc'
    simp only [List.mem_append] at hc'
    have : 48 ≤ c ∧ c ≤ 57 := by
      rcases hc' with ((((h | h) | h) | h) | h) | h
      · exact dY c h
      · exact dM c h
      · exact dD c h
      · exact dh c h
      · exact dm c h
      · exact ds c h
    simp [isDelim]; omega

end Model
