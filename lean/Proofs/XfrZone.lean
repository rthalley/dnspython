import Model.Xfr
/-!
# Set-level facts about the zone operations of the transfer model

A zone is *coherent* when it is one a real `dns.zone` can hold: the records of an rdataset share their TTL,
a CNAME is not next to other data, a singleton type holds one rdata.  On coherent zones `txn.add`,
`txn.replace` and `txn.delete_exact` are what one expects of sets of records: `addTxn_equiv`, `put_soa_equiv`,
`delTxn_equiv`, each by way of `mem_put_of_keeps` (nothing is driven out, so `put` replaces one rdataset).
-/
namespace Model.Xfr

def Coherent (z : Zone) : Prop :=
  (∀ a ∈ z, ∀ b ∈ z, a.owner = b.owner → a.rdtype = b.rdtype → a.ttl = b.ttl) ∧
  (∀ a ∈ z, ∀ b ∈ z, a.owner = b.owner → drivesOut a.rdtype b = false) ∧
  (∀ a ∈ z, ∀ b ∈ z, a.owner = b.owner → a.rdtype = b.rdtype → isSingleton a.rdtype = true → a.rdata = b.rdata)

theorem Coherent.subset {a b : Zone} (h : ∀ r ∈ a, r ∈ b) (hb : Coherent b) : Coherent a :=
  ⟨fun x hx y hy => hb.1 x (h x hx) y (h y hy), fun x hx y hy => hb.2.1 x (h x hx) y (h y hy),
   fun x hx y hy => hb.2.2 x (h x hx) y (h y hy)⟩

theorem Coherent.congr {a b : Zone} (h : a ≃z b) (hb : Coherent b) : Coherent a :=
  hb.subset fun r hr => (h r).1 hr

/-- stated for use with hypotheses about the fields -/
theorem RR.eq_of_fields {a b : RR} (ho : a.owner = b.owner) (ht : a.rdtype = b.rdtype) (hd : a.rdata = b.rdata)
    (httl : a.ttl = b.ttl) : a = b := by
  obtain ⟨_, _, _, _⟩ := a
  obtain ⟨_, _, _, _⟩ := b
  dsimp only at ho ht hd httl
  subst ho ht hd httl
  rfl

section
variable {z : Zone} (h : Coherent z) {a b : RR} (ha : a ∈ z) (hb : b ∈ z) (ho : a.owner = b.owner)
include h ha hb ho

theorem Coherent.keeps : drivesOut a.rdtype b = false := h.2.1 a ha b hb ho

theorem Coherent.ttl_eq (ht : a.rdtype = b.rdtype) : a.ttl = b.ttl := h.1 a ha b hb ho ht

theorem Coherent.rdata_eq (ht : a.rdtype = b.rdtype) (hs : isSingleton a.rdtype = true) : a.rdata = b.rdata :=
  h.2.2 a ha b hb ho ht hs

/-- a record of the rdataset of `b` is `b` up to its rdata -/
theorem Coherent.eq_mk (ht : a.rdtype = b.rdtype) : a = ⟨b.owner, b.rdtype, a.rdata, b.ttl⟩ :=
  RR.eq_of_fields ho ht rfl (h.ttl_eq ha hb ho ht : a.ttl = b.ttl)

end

/-- two records that can sit in one zone: `Coherent` says this of every pair -/
def Compat (a b : RR) : Prop :=
  a.owner = b.owner →
    (a.rdtype = b.rdtype → a.ttl = b.ttl ∧ (isSingleton a.rdtype = true → a.rdata = b.rdata)) ∧
      drivesOut a.rdtype b = false ∧ drivesOut b.rdtype a = false

theorem coherent_iff {z : Zone} : Coherent z ↔ ∀ a ∈ z, ∀ b ∈ z, Compat a b :=
  ⟨fun h a ha b hb ho =>
    ⟨fun ht => ⟨h.1 a ha b hb ho ht, h.2.2 a ha b hb ho ht⟩, h.2.1 a ha b hb ho, h.2.1 b hb a ha ho.symm⟩,
   fun h => ⟨fun a ha b hb ho ht => ((h a ha b hb ho).1 ht).1, fun a ha b hb ho => (h a ha b hb ho).2.1,
    fun a ha b hb ho ht => ((h a ha b hb ho).1 ht).2⟩⟩

theorem Compat.refl (a : RR) : Compat a a := by
  have : drivesOut a.rdtype a = false := by simp only [drivesOut]; cases kindOf a.rdtype <;> rfl
  exact fun _ => ⟨fun _ => ⟨rfl, fun _ => rfl⟩, this, this⟩

theorem Compat.symm {a b : RR} (h : Compat a b) : Compat b a := fun ho =>
  have h' := h ho.symm
  ⟨fun ht => ⟨((h'.1 ht.symm).1).symm, fun hs => ((h'.1 ht.symm).2 (ht ▸ hs)).symm⟩, h'.2.2, h'.2.1⟩

theorem Coherent.snoc {z : Zone} {x : RR} (hz : Coherent z) (hx : ∀ q ∈ z, Compat q x) : Coherent (z ++ [x]) := by
  refine coherent_iff.2 fun p hp q hq => ?_
  simp only [List.mem_append, List.mem_singleton] at hp hq
  rcases hp with hp | rfl <;> rcases hq with hq | rfl
  · exact coherent_iff.1 hz p hp q hq
  · exact hx p hp
  · exact (hx q hq).symm
  · exact Compat.refl _

theorem Zone.equiv_refl (a : Zone) : a ≃z a := fun _ => Iff.rfl
theorem Zone.equiv_symm {a b : Zone} (h : a ≃z b) : b ≃z a := fun r => (h r).symm
theorem Zone.equiv_trans {a b c : Zone} (h1 : a ≃z b) (h2 : b ≃z c) : a ≃z c := fun r => (h1 r).trans (h2 r)

theorem Zone.equiv_append {a b : Zone} (h : a ≃z b) (c : Zone) : (a ++ c) ≃z (b ++ c) := by
  intro r; simp only [List.mem_append]; rw [h r]

theorem Coherent.nil : Coherent [] := ⟨by simp, by simp, by simp⟩

theorem mem_existing {w : Zone} {o : Name} {t : Nat} {r : RR} :
    r ∈ existing w o t ↔ r ∈ w ∧ r.owner = o ∧ r.rdtype = t := by
  simp [existing]

theorem mem_put {w : Zone} {o : Name} {t ttl : Nat} {ds : List Rdata} {r : RR} :
    r ∈ put w o t ttl ds ↔
      (r ∈ w ∧ ¬ (r.owner = o ∧ (r.rdtype = t ∨ drivesOut t r = true))) ∨ (∃ d ∈ ds, r = ⟨o, t, d, ttl⟩) := by
  simp only [put, List.mem_append, List.mem_filter, List.mem_map, Bool.not_eq_true', Bool.and_eq_false_iff,
    beq_eq_false_iff_ne, ne_eq, Bool.or_eq_false_iff, not_and, not_or]
  constructor
  · rintro (⟨h1, h2⟩ | ⟨d, hd, rfl⟩)
    · left
      refine ⟨h1, fun ho => ?_⟩
      rcases h2 with h | h
      · exact absurd ho h
      · exact ⟨h.1, by simp [h.2]⟩
    · exact Or.inr ⟨d, hd, rfl⟩
  · rintro (⟨h1, h2⟩ | ⟨d, hd, rfl⟩)
    · left
      refine ⟨h1, ?_⟩
      by_cases ho : r.owner = o
      · right; have := h2 ho; exact ⟨this.1, by simpa using this.2⟩
      · left; exact ho
    · exact Or.inr ⟨d, hd, rfl⟩

/-- Where the new rdataset drives nothing out, as in a coherent zone, `put` replaces the rdataset `(o, t)`. -/
theorem mem_put_of_keeps {w : Zone} {o : Name} {t ttl : Nat} {ds : List Rdata} {r : RR}
    (hk : ∀ q ∈ w, q.owner = o → drivesOut t q = false) :
    r ∈ put w o t ttl ds ↔ (r ∈ w ∧ ¬ (r.owner = o ∧ r.rdtype = t)) ∨ (∃ d ∈ ds, r = ⟨o, t, d, ttl⟩) := by
  rw [mem_put]
  refine or_congr_left (and_congr_right fun hr => not_congr ⟨fun h => ⟨h.1, ?_⟩, fun h => ⟨h.1, Or.inl h.2⟩⟩)
  exact h.2.resolve_right (by rw [hk r hr h.1]; simp)

theorem ttlOf_existing {w : Zone} (hc : Coherent w) {o : Name} {t : Nat} {r : RR} (hr : r ∈ existing w o t) :
    ttlOf (existing w o t) = r.ttl := by
  cases he : existing w o t with
  | nil => rw [he] at hr; cases hr
  | cons e es =>
    have h1 := mem_existing.1 (show e ∈ existing w o t by rw [he]; simp)
    have h2 := mem_existing.1 hr
    exact hc.ttl_eq h1.1 h2.1 (h1.2.1.trans h2.2.1.symm) (h1.2.2.trans h2.2.2.symm)

theorem mem_recsOf {rs : RRset} {r : RR} : r ∈ recsOf rs ↔ ∃ d ∈ rs.rdatas, r = ⟨rs.owner, rs.rdtype, d, rs.ttl⟩ := by
  simp [recsOf, eq_comm]

/-! ## `txn.add` -/

/-- the working copy after `txn.add(rs)` -/
def addTxn (x : Txn) (rs : RRset) : Txn :=
  ⟨put x.work rs.owner rs.rdtype (unionTtl (existing x.work rs.owner rs.rdtype) rs.ttl)
    (unionData (isSingleton rs.rdtype) ((existing x.work rs.owner rs.rdtype).map (·.rdata)) rs.rdatas), true⟩

theorem txnAdd_ok {o : Name} {x : Txn} {rs : RRset} (h : rs.rdtype = soaType → rs.owner = o) :
    txnAdd o x rs = .ok (addTxn x rs) := by
  rw [txnAdd, if_neg fun hk => hk.2 (h hk.1)]; rfl

/-- `txn.add` refuses an SOA whose owner is not the apex -/
theorem txnAdd_nonapex_soa {o : Name} {x : Txn} {rs : RRset} (ht : rs.rdtype = soaType) (hno : rs.owner ≠ o) :
    txnAdd o x rs = .error .ValueError := by
  rw [txnAdd, if_pos ⟨ht, hno⟩]

/-- The working copy `x` is followed as a set of records `W` (`hx`); the hypotheses speak of `W`. -/
theorem addTxn_equiv {x : Txn} {rs : RRset} {W : Zone} (hx : x.work ≃z W) (hne : rs.rdatas ≠ [])
    (hc : Coherent (W ++ recsOf rs)) : (addTxn x rs).work ≃z (W ++ recsOf rs) := by
  refine Zone.equiv_trans ?_ (Zone.equiv_append hx _)
  replace hc := Coherent.congr (Zone.equiv_append hx _) hc
  obtain ⟨d0, hd0⟩ := List.exists_mem_of_ne_nil _ hne
  have hnew : ∀ d ∈ rs.rdatas, (⟨rs.owner, rs.rdtype, d, rs.ttl⟩ : RR) ∈ x.work ++ recsOf rs :=
    fun d hd => List.mem_append_right _ (mem_recsOf.2 ⟨d, hd, rfl⟩)
  have hw : ∀ r ∈ x.work, r ∈ x.work ++ recsOf rs := fun r hr => List.mem_append_left _ hr
  -- a record of the rdataset that is already there carries the TTL of the rrset
  have hold : ∀ e ∈ x.work, e.owner = rs.owner → e.rdtype = rs.rdtype → e = ⟨rs.owner, rs.rdtype, e.rdata, rs.ttl⟩ :=
    fun e he ho ht => hc.eq_mk (hw e he) (hnew d0 hd0) ho ht
  have httl : unionTtl (existing x.work rs.owner rs.rdtype) rs.ttl = rs.ttl := by
    cases he : existing x.work rs.owner rs.rdtype with
    | nil => rfl
    | cons e es =>
      have hem := mem_existing.1 (show e ∈ existing x.work rs.owner rs.rdtype by rw [he]; simp)
      rw [unionTtl, hold e hem.1 hem.2.1 hem.2.2]; exact Nat.min_self _
  -- the rdatas stored: the old ones and the new ones (for a singleton type these are one rdata)
  have hdata : ∀ d, d ∈ unionData (isSingleton rs.rdtype) ((existing x.work rs.owner rs.rdtype).map (·.rdata)) rs.rdatas ↔
      (∃ e ∈ existing x.work rs.owner rs.rdtype, e.rdata = d) ∨ d ∈ rs.rdatas := by
    intro d
    unfold unionData
    by_cases hs : isSingleton rs.rdtype = true
    · rw [if_pos hs]
      cases hdl : rs.rdatas.getLast? with
      | none => exact absurd (List.getLast?_eq_none_iff.1 hdl) hne
      | some dl =>
        have hl := hnew dl (List.mem_of_getLast? hdl)
        rw [List.mem_singleton]
        refine ⟨fun h => Or.inr (h ▸ List.mem_of_getLast? hdl), ?_⟩
        rintro (⟨e, he, rfl⟩ | h)
        · have hem := mem_existing.1 he
          exact hc.rdata_eq (hw e hem.1) hl hem.2.1 hem.2.2 (hem.2.2 ▸ hs)
        · exact hc.rdata_eq (hnew d h) hl rfl rfl hs
    · rw [if_neg hs, List.mem_append, List.mem_map]
  intro r
  rw [addTxn, mem_put_of_keeps fun q hq ho => hc.keeps (hnew d0 hd0) (hw q hq) ho.symm, httl, List.mem_append, mem_recsOf]
  simp only [hdata, mem_existing]
  constructor
  · rintro (⟨h1, _⟩ | ⟨d, ⟨e, he, rfl⟩ | hd, rfl⟩)
    · exact Or.inl h1
    · exact Or.inl (hold e he.1 he.2.1 he.2.2 ▸ he.1)
    · exact Or.inr ⟨d, hd, rfl⟩
  · rintro (h | ⟨d, hd, rfl⟩)
    · by_cases hk : r.owner = rs.owner ∧ r.rdtype = rs.rdtype
      · exact Or.inr ⟨r.rdata, Or.inl ⟨r, ⟨h, hk.1, hk.2⟩, rfl⟩, hold r h hk.1 hk.2⟩
      · exact Or.inl ⟨h, hk⟩
    · exact Or.inr ⟨d, Or.inr hd, rfl⟩

/-! ## `txn.replace` of the apex SOA -/

theorem kindOf_soa : kindOf soaType = .regular := by decide

/-- `txn.replace(origin, soa)` at the set level -/
def putSoaRec (o : Name) (w : Zone) (r : RR) : Zone :=
  (w.filter fun q => ¬ (q.owner = o ∧ q.rdtype = soaType)) ++ [r]

theorem put_soa_equiv {w : Zone} {o : Name} {ttl : Nat} {d : Rdata}
    (hcn : ∀ q ∈ w, q.owner = o → kindOf q.rdtype ≠ .cname) :
    put w o soaType ttl [d] ≃z putSoaRec o w ⟨o, soaType, d, ttl⟩ := by
  intro r
  rw [mem_put_of_keeps fun q hq ho => by simp [drivesOut, kindOf_soa, hcn q hq ho]]
  simp only [putSoaRec, List.mem_append, List.mem_filter, List.mem_singleton, decide_eq_true_eq, exists_eq_left]

/-! ## `txn.delete_exact` -/

/-- the working copy after `txn.delete_exact` of one record -/
def delTxn (x : Txn) (r : RR) : Txn :=
  ⟨if (remaining x.work r.owner r.rdtype [r.rdata]).isEmpty then
      x.work.filter fun q => !(q.owner == r.owner && q.rdtype == r.rdtype)
    else put x.work r.owner r.rdtype (ttlOf (existing x.work r.owner r.rdtype))
      (remaining x.work r.owner r.rdtype [r.rdata]), true⟩

/-- `delete_exact` of one record: a record with its rdata must be in the rdataset (the TTL is not compared) -/
theorem txnDeleteExact_single (x : Txn) (r : RR) :
    txnDeleteExact x (single r) =
      if ∃ a ∈ existing x.work r.owner r.rdtype, a.rdata = r.rdata then .ok (delTxn x r) else .error .DeleteNotExact := by
  by_cases hcont : ∃ a ∈ existing x.work r.owner r.rdtype, a.rdata = r.rdata <;>
  by_cases hemp : (remaining x.work r.owner r.rdtype [r.rdata]).isEmpty = true <;>
    simp [txnDeleteExact, single, hemp, hcont, delTxn]

/-- "not there" is with respect to a coherent zone `W` that holds the working copy and the record -/
theorem txnDeleteExact_absent {x : Txn} {r : RR} {W : Zone} (hW : Coherent W) (hsub : ∀ q ∈ x.work, q ∈ W)
    (hr : r ∈ W) (hnot : r ∉ x.work) : txnDeleteExact x (single r) = .error .DeleteNotExact := by
  rw [txnDeleteExact_single, if_neg]
  rintro ⟨a, ha, hd⟩
  have ha' := mem_existing.1 ha
  have : a = r := RR.eq_of_fields ha'.2.1 ha'.2.2 hd (hW.ttl_eq (hsub a ha'.1) hr ha'.2.1 ha'.2.2)
  exact hnot (this ▸ ha'.1)

/-- nothing of an rdataset that is not there can be deleted -/
theorem txnDeleteExact_none {x : Txn} {rs : RRset} (hne : rs.rdatas ≠ [])
    (hex : existing x.work rs.owner rs.rdtype = []) : txnDeleteExact x rs = .error .DeleteNotExact := by
  cases hd : rs.rdatas with
  | nil => exact absurd hd hne
  | cons d ds => simp [txnDeleteExact, hd, hex]

theorem delTxn_equiv {x : Txn} {r : RR} {W : Zone} (hx : x.work ≃z W) (hc : Coherent W) (hr : r ∈ W) :
    (delTxn x r).work ≃z (W.filter fun q => ¬ (q ∈ [r])) := by
  refine Zone.equiv_trans (b := x.work.filter fun q => ¬ (q ∈ [r])) ?_ fun q => by simp only [List.mem_filter, hx q]
  replace hc := Coherent.congr hx hc
  replace hr := (hx r).2 hr
  have hrem : ∀ d, d ∈ remaining x.work r.owner r.rdtype [r.rdata] ↔
      (∃ e ∈ x.work, e.owner = r.owner ∧ e.rdtype = r.rdtype ∧ e.rdata = d) ∧ d ≠ r.rdata := by
    intro d
    simp only [remaining, List.mem_filter, List.mem_map, mem_existing, List.contains_cons, List.contains_nil,
      Bool.or_false, Bool.not_eq_true', beq_eq_false_iff_ne, ne_eq, and_assoc]
  -- a record of the rdataset of `r` carries the TTL of the rdataset
  have hkeep : ∀ q ∈ x.work, q.owner = r.owner → q.rdtype = r.rdtype →
      q = ⟨r.owner, r.rdtype, q.rdata, ttlOf (existing x.work r.owner r.rdtype)⟩ := fun q hq ho ht =>
    RR.eq_of_fields ho ht rfl (ttlOf_existing hc (mem_existing.2 ⟨hq, ho, ht⟩)).symm
  -- whether or not anything remains, the rdataset of `r` is replaced by what remains of it
  have hwork : ∀ q, q ∈ (delTxn x r).work ↔ (q ∈ x.work ∧ ¬ (q.owner = r.owner ∧ q.rdtype = r.rdtype)) ∨
      ∃ d ∈ remaining x.work r.owner r.rdtype [r.rdata],
        q = ⟨r.owner, r.rdtype, d, ttlOf (existing x.work r.owner r.rdtype)⟩ := by
    intro q
    unfold delTxn
    by_cases hemp : (remaining x.work r.owner r.rdtype [r.rdata]).isEmpty = true
    · simp [List.isEmpty_iff.1 hemp, -not_and, Classical.not_and_iff_not_or_not]
    · rw [if_neg hemp]; exact mem_put_of_keeps fun p hp ho => hc.keeps hr hp ho.symm
  intro q
  rw [hwork]
  simp only [List.mem_filter, List.mem_singleton, decide_eq_true_eq]
  by_cases hk : q.owner = r.owner ∧ q.rdtype = r.rdtype
  · -- in the rdataset of `r`: there unless it is `r`
    constructor
    · rintro (h | ⟨d, hd, rfl⟩)
      · exact absurd hk h.2
      · obtain ⟨⟨e, he, ho, ht, rfl⟩, hne⟩ := (hrem d).1 hd
        exact ⟨hkeep e he ho ht ▸ he, fun h => hne (h ▸ rfl)⟩
    · rintro ⟨h1, h2⟩
      refine Or.inr ⟨q.rdata, (hrem _).2 ⟨⟨q, h1, hk.1, hk.2, rfl⟩, fun hd => h2 ?_⟩, hkeep q h1 hk.1 hk.2⟩
      exact RR.eq_of_fields hk.1 hk.2 hd (hc.ttl_eq h1 hr hk.1 hk.2)
  · -- another rdataset: untouched
    have hne : ¬ q = r := fun h => hk (h ▸ ⟨rfl, rfl⟩)
    exact ⟨fun h => h.elim (fun h => ⟨h.1, hne⟩) fun ⟨d, _, e⟩ => absurd (e ▸ ⟨rfl, rfl⟩) hk, fun h => Or.inl ⟨h.1, hk⟩⟩

end Model.Xfr
