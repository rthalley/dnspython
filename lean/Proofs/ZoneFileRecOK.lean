import Model.ZoneFile
import Proofs.ZoneFileLossless
import Proofs.ZoneFileCodecWords
import Proofs.ZoneFileOwnerText
/-!
What `RecOK` asks of a record besides the name algebra of its owner.  The type column: the mnemonics of the working
tree's table, and the generic `TYPEn` spelling of `want_generic`, are tokens that read back as their type and as nothing
else.  The RDATA: the codec instances are stated for "blanks, text, line end"; here is the bridge to the shape the writer
prints after the (possibly padded) type column — one blank, the RDATA text, the comment the style keeps, the newline.
-/
namespace Model


/-- the meta-type `ANY` is excluded: its mnemonic is also a class mnemonic, and it cannot be stored in a zone -/
theorem typeTok_table (p : Nat × List Nat) (hp : p ∈ ConstsC09.typeText) (hany : p.1 ≠ 255) :
    TokOK (typeToText p.1) ∧ typeFromText (typeToText p.1) = some p.1 ∧ ttlOf (typeToText p.1) = none ∧
      classFromText (typeToText p.1) = none := by
  -- that the mnemonic is a token and reads back as the type is `typeText_table_ok`; what is left is that it is no TTL and
  -- no class
  obtain ⟨a, b, c⟩ := typeText_table_ok p hp
  have : ∀ q ∈ ConstsC09.typeText, q.1 ≠ 255 → ttlOf (typeToText q.1) = none ∧ classFromText (typeToText q.1) = none := by
    decide +kernel
  exact ⟨⟨a, b⟩, c, this p hp hany⟩

theorem typeTokOK_plain (st : Style) (hg : st.wantGeneric = false) (p : Nat × List Nat) (hp : p ∈ ConstsC09.typeText)
    (hany : p.1 ≠ 255) : TypeTokOK st p.1 := by
  obtain ⟨a, b, c, d⟩ := typeTok_table p hp hany
  have e : typeTok st p.1 = typeToText p.1 := by simp [typeTok, hg]
  exact ⟨e ▸ a, e ▸ b, e ▸ c, e ▸ d⟩

def typePrefix : List Nat := s2l "TYPE"

theorem typePrefix_eq : typePrefix = [84, 89, 80, 69] := by
  rw [typePrefix, s2l_ofList]; rfl

theorem upper_decimal (ds : List Nat) (h : ds.all isDecimal = true) : ds.map upperAscii = ds := by
  induction ds with
  | nil => rfl
  | cons d r ih =>
    simp only [List.all_cons, Bool.and_eq_true] at h
    have hd : 48 ≤ d ∧ d ≤ 57 := by simpa [isDecimal] using h.1
    have : upperAscii d = d := by unfold upperAscii; split <;> omega
    simp [this, ih h.2]

theorem upper_generic (n : Nat) : (typePrefix ++ natToDec n).map upperAscii = typePrefix ++ natToDec n := by
  rw [List.map_append, upper_decimal _ (natToDec_all n)]
  rfl

theorem typeNames_generic_consistent :
    ∀ q ∈ ConstsC09.typeNames, q.1.take 4 = typePrefix → (q.1.drop 4).all isDecimal = true → q.1.drop 4 ≠ [] →
      q.2 = digitsVal (q.1.drop 4) 0 := by decide +kernel

/-- what a table lookup can return -/
theorem lookupName_cases (tbl : List (List Nat × Nat)) (key : List Nat) :
    lookupName tbl key = none ∨ ∃ q ∈ tbl, q.1 = key ∧ lookupName tbl key = some q.2 := by
  unfold lookupName
  cases hf : tbl.find? (fun p => p.1 == key) with
  | none => exact Or.inl rfl
  | some q => exact Or.inr ⟨q, List.mem_of_find?_eq_some hf, by simpa using List.find?_some hf, rfl⟩

theorem lookup_generic (n : Nat) :
    lookupName ConstsC09.typeNames (typePrefix ++ natToDec n) = none ∨
    lookupName ConstsC09.typeNames (typePrefix ++ natToDec n) = some n := by
  rcases lookupName_cases ConstsC09.typeNames (typePrefix ++ natToDec n) with h | ⟨q, hm, he, h⟩
  · exact Or.inl h
  · right
    have := typeNames_generic_consistent q hm (by rw [he]; rfl)
      (by rw [he]; simpa [typePrefix_eq] using natToDec_all n)
      (by rw [he]; simpa [typePrefix_eq] using natToDec_ne_nil n)
    rw [h, this, he]
    simpa [typePrefix_eq] using digitsVal_natToDec n

theorem typeFromText_generic (n : Nat) (h : n ≤ 65535) : typeFromText (typePrefix ++ natToDec n) = some n := by
  unfold typeFromText enumFromText
  simp only [upper_generic]
  rcases lookup_generic n with hl | hl
  · simp only [hl]
    have h1 : (typePrefix ++ natToDec n).take (s2l "TYPE").length = s2l "TYPE" := List.take_left' rfl
    have h2 : (typePrefix ++ natToDec n).drop (s2l "TYPE").length = natToDec n := List.drop_left' rfl
    have h3 : ¬ n > 65535 := by omega
    simp [h1, h2, natToDec_ne_nil, natToDec_all, digitsVal_natToDec, h3]
  · simp [hl]

theorem classNames_no_type_prefix : ∀ q ∈ ConstsC09.classNames, q.1.take 4 ≠ typePrefix := by decide

theorem classFromText_generic (n : Nat) : classFromText (typePrefix ++ natToDec n) = none := by
  unfold classFromText enumFromText
  simp only [upper_generic]
  have hl : lookupName ConstsC09.classNames (typePrefix ++ natToDec n) = none := by
    rcases lookupName_cases ConstsC09.classNames (typePrefix ++ natToDec n) with h | ⟨q, hm, he, _⟩
    · exact h
    · exact absurd (by rw [he]; rfl) (classNames_no_type_prefix q hm)
  simp only [hl]
  have : (typePrefix ++ natToDec n).take (s2l "CLASS").length ≠ s2l "CLASS" := by
    cases hd : natToDec n with
    | nil => exact absurd hd (natToDec_ne_nil n)
    | cons d r =>
      simp only [typePrefix, s2l]
      intro h
      simp at h
  simp [this]

theorem ttlOf_generic (n : Nat) : ttlOf (typePrefix ++ natToDec n) = none := by
  unfold ttlOf ttlFromText
  have h1 : ¬ ((typePrefix ++ natToDec n) ≠ [] ∧ (typePrefix ++ natToDec n).all isDecimal = true) := by
    intro ⟨_, h⟩
    simp [typePrefix_eq, isDecimal] at h
  have h2 : typePrefix ++ natToDec n ≠ [] := by simp [typePrefix_eq]
  simp only [h1, if_false, h2]
  simp [typePrefix_eq, ttlLoop, isDecimal]

theorem identOK_letters_digits (w : List Nat) (h : ∀ c ∈ w, (65 ≤ c ∧ c ≤ 90) ∨ (48 ≤ c ∧ c ≤ 57)) : identOK w = true :=
  (plainWord_ok w fun c hc => by
    have := h c hc
    exact ⟨by omega, by simp [isDelim, delimiters]; omega⟩).1

/-- `want_generic`: the type column `TYPEn` of any 16-bit type -/
theorem typeTokOK_generic (st : Style) (hg : st.wantGeneric = true) (n : Nat) (h : n ≤ 65535) : TypeTokOK st n := by
  have e : typeTok st n = typePrefix ++ natToDec n := by simp [typeTok, hg, typePrefix]
  refine ⟨⟨?_, ?_⟩, ?_, ?_, ?_⟩
  · rw [e]
    apply identOK_letters_digits
    intro c hc
    rcases List.mem_append.mp hc with hc | hc
    · left; simp [typePrefix_eq] at hc; omega
    · exact Or.inr (natToDec_digit hc)
  · rw [e]; simp [typePrefix_eq]
  · rw [e]; exact typeFromText_generic n h
  · rw [e]; exact ttlOf_generic n
  · rw [e]; exact classFromText_generic n

theorem extra_lineEnd (st : Style) (rr : RR) : extraOf st rr ++ [10] = lineEnd (keptComment st rr) := by
  unfold extraOf keptComment lineEnd
  cases st.wantComments
  · simp
  · cases hc : rr.comment with
    | none => simp
    | some c =>
      by_cases he : c = [] <;> simp [he]

theorem typeGap_sep (st : Style) (ty : Nat) : Blank (padR (typeTok st ty) st.typeJust ++ [32]) ∧
    padR (typeTok st ty) st.typeJust ++ [32] ≠ [] :=
  ⟨blank_append (padR_blank _ _) sp_blank, by simp⟩

theorem keptComment_nl (st : Style) (rr : RR) (h : ∀ c ∈ rr.comment, 10 ∉ c) : ∀ t ∈ keptComment st rr, 10 ∉ t := by
  intro t ht
  unfold keptComment at ht
  cases hw : st.wantComments
  · simp [hw] at ht
  · simp only [hw, if_true] at ht
    cases hc : rr.comment with
    | none => simp [hc] at ht
    | some c =>
      simp only [hc] at ht
      by_cases he : c = []
      · simp [he] at ht
      · simp only [he, if_false, Option.mem_def, Option.some.injEq] at ht
        subst ht
        exact h c (by simp [hc])

end Model
