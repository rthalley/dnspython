import Proofs.Xfr
import Proofs.XfrSpec
/-!
# A chunked run against the flat run over the concatenated answer sections (shipped variant)

`procBody false` is the flat run of one answer section, first SOA included (`feed`), and over TCP it
distributes over append (`feed_append`): the machine looks at message boundaries in one place only, the message
loop stops at the end of the message in which the transfer is done.  So the run over any division into
messages is the flat run (`run_tcp_flat`), unless records are left when the flat run is done (`Surplus`); for the code
as it is the zone is the one it started from if that raises (`run_of_flat`, by `run_repaired`).
-/
namespace Model.Xfr

variable {c : Config} {z0 : Zone}

theorem procRRset_false_more (s : Inbound) (rr : RRset) (m m' : Bool) :
    procRRset false s rr m = procRRset false s rr m' := by
  unfold procRRset procFinalSoa
  simp

theorem procAnswers_append : ∀ (a b : List RRset) (s : Inbound),
    procAnswers false s (a ++ b) =
      match procAnswers false s a with
      | .error e => .error e
      | .ok s' => procAnswers false s' b := by
  intro a
  induction a with
  | nil => intro b s; simp [procAnswers]
  | cons rr rest ih =>
    intro b s
    simp only [List.cons_append, procAnswers]
    rw [procRRset_false_more s rr (!(rest ++ b).isEmpty) (!rest.isEmpty)]
    cases procRRset false s rr (!rest.isEmpty) with
    | error e => rfl
    | ok s1 => exact ih b s1

theorem procAnswers_cons_ok {fix : Bool} {s s1 : Inbound} {r : RRset} {l : List RRset}
    (h : procRRset fix s r (!l.isEmpty) = .ok s1) : procAnswers fix s (r :: l) = procAnswers fix s1 l := by
  rw [procAnswers, h]

theorem procAnswers_append_ok {a : List RRset} {s s1 : Inbound} (h : procAnswers false s a = .ok s1)
    (b : List RRset) : procAnswers false s (a ++ b) = procAnswers false s1 b := by
  rw [procAnswers_append, h]

theorem procAnswers_done {fix : Bool} {s : Inbound} (hd : s.done = true) (r : RRset) (l : List RRset) :
    procAnswers fix s (r :: l) = .error (.FormError, s.zone) := by
  simp [procAnswers, procRRset, hd]

/-- the rrsets `l` as the answer section of one message: the first SOA is taken from them if it has not been
seen yet -/
def feed (s : Inbound) (l : List RRset) : R := procBody false s ⟨0, [], l⟩

theorem feed_of_soa {s : Inbound} (h : s.soa.isSome = true) (l : List RRset) : feed s l = procAnswers false s l := by
  unfold feed procBody
  cases hs : s.soa with
  | none => rw [hs] at h; cases h
  | some f => rfl

theorem firstSoa_tcp {s : Inbound} (hu : s.isUdp = false) (rr : RRset) (b b' : Bool) :
    firstSoa s rr b = firstSoa s rr b' := by
  unfold firstSoa; simp [hu]

/-- `ha`: the first message of a transfer is not empty -/
theorem feed_append {s : Inbound} (hu : s.isUdp = false) {a : List RRset} (ha : s.soa = none → a ≠ [])
    (b : List RRset) :
    feed s (a ++ b) =
      match feed s a with
      | .error e => .error e
      | .ok s1 => procAnswers false s1 b := by
  unfold feed procBody
  cases hs : s.soa with
  | some f => exact procAnswers_append a b s
  | none =>
    cases a with
    | nil => exact absurd rfl (ha hs)
    | cons rr rest =>
      dsimp only [List.cons_append]
      rw [firstSoa_tcp hu rr (rest ++ b).isEmpty rest.isEmpty]
      cases firstSoa s rr rest.isEmpty with
      | error e => rfl
      | ok s1 => exact procAnswers_append rest b s1

/-- a state of a TCP transfer with a transaction open: one in which a message is read -/
structure Between (s : Inbound) : Prop where
  txn : s.txn.isSome = true
  tcp : s.isUdp = false

theorem Between.later {s s1 : Inbound} (b : Between s) (h : Later s s1) (hd : s1.done = false) : Between s1 :=
  ⟨(h.open_ hd).2.2 b.txn, h.udp.trans b.tcp⟩

theorem Pending.later {s s1 : Inbound} (p : Pending c z0 s) (h : Later s s1) (hd : s1.done = false) : Pending c z0 s1 :=
  ⟨by rw [h.origin]; exact p.origin, h.rdtype.trans p.rdtype, h.udp.trans p.udp, (h.open_ hd).2.1.trans p.zone, hd⟩

theorem Pending.headerErr_eq {s : Inbound} {o : Name} (p : Pending c z0 s) (ho : c.origin = some o) (m : Msg) :
    headerErr s m = headerErrOf o c.rdtype m := by
  have := p.origin; rw [ho] at this; cases this
  unfold headerErr; rw [p.rdtype]

/-- `h` is `Chunks.hdr` -/
theorem Pending.header {s : Inbound} {m : Msg} (p : Pending c z0 s)
    (h : m.rcode = 0 ∧ (m.question = [] ∨ ∃ o rest, c.origin = some o ∧ m.question = (o, c.rdtype) :: rest)) :
    headerErr s m = none := by
  unfold headerErr headerErrOf
  rcases h with ⟨hr, hq | ⟨o, rest, hco, hq⟩⟩
  · simp [hr, hq]
  · rw [p.origin] at hco; cases hco
    simp [hr, hq, p.rdtype]

theorem procMessage_eq {fix : Bool} {s : Inbound} {m : Msg} (htx : s.txn.isSome = true) (hh : headerErr s m = none) :
    procMessage fix s m =
      match procBody fix s m with
      | .error e => .error e
      | .ok s2 => udpCheck s2 := by
  rw [procMessage, (openTxn_props s).same htx, hh]; rfl

theorem runLoop_cons {s : Inbound} {m : Msg} (b : Between s) (hh : headerErr s m = none) (ms : List Msg) :
    runLoop false s (m :: ms) =
      match feed s m.answer with
      | .error e => .error e
      | .ok s2 => if s2.done then .ok s2 else runLoop false s2 ms := by
  rw [runLoop, procMessage_eq b.txn hh, show procBody false s m = feed s m.answer from rfl]
  cases h : feed s m.answer with
  | error e => rfl
  | ok s2 => simp [udpCheck, (procBody_post.ok h).1.udp.trans b.tcp]

/-- the run `F` over `recs` is done with records still to come -/
def Surplus (F : List RRset → R) (recs : List RRset) : Prop :=
  ∃ a b s1, recs = a ++ b ∧ b ≠ [] ∧ F a = .ok s1 ∧ s1.done = true

theorem headerErr_congr {a b : Inbound} (ho : a.origin = b.origin) (ht : a.rdtype = b.rdtype) (m : Msg) :
    headerErr a m = headerErr b m := by
  unfold headerErr; rw [ho, ht]

/-- The messages `m :: pre` are read as their concatenated answer sections; then the loop goes on with `X`. -/
theorem runLoop_split : ∀ (pre : List Msg) (m : Msg) (s : Inbound) (X : List Msg), Between s →
    (∀ m' ∈ m :: pre, headerErr s m' = none) → (s.soa = none → m.answer ≠ []) →
    ¬ Surplus (feed s) ((m :: pre).flatMap (·.answer)) →
    runLoop false s (m :: pre ++ X) =
      match feed s ((m :: pre).flatMap (·.answer)) with
      | .error e => .error e
      | .ok s1 => if s1.done then .ok s1 else runLoop false s1 X := by
  intro pre
  induction pre with
  | nil =>
    intro m s X b hh _ _
    rw [List.cons_append, List.nil_append, runLoop_cons b (hh m (by simp))]
    simp
  | cons m' pre ih =>
    intro m s X b hh ha hns
    rw [List.cons_append, runLoop_cons b (hh m (by simp)), List.flatMap_cons, feed_append b.tcp ha]
    cases h : feed s m.answer with
    | error e => rfl
    | ok s2 =>
      obtain ⟨p, hsoa⟩ := procBody_post.ok h
      dsimp only
      cases hd : s2.done with
      | true =>
        -- the transfer is done with this message: no records may follow
        cases hr : (m' :: pre).flatMap (·.answer) with
        | nil => simp [procAnswers, hd]
        | cons r rs => exact absurd ⟨m.answer, r :: rs, s2, by rw [List.flatMap_cons, hr], by simp, h, hd⟩ hns
      | false =>
        rw [← feed_of_soa hsoa]
        simpa using ih m' s2 X (b.later p hd)
          (fun x hx => by rw [headerErr_congr p.origin p.rdtype]; exact hh x (by simp [hx]))
          (fun hn => by rw [hn] at hsoa; cases hsoa) fun ⟨a, b', s3, e1, e2, e3, e4⟩ =>
            hns ⟨m.answer ++ a, b', s3, by rw [List.flatMap_cons, e1, List.append_assoc], e2,
              by rw [feed_append b.tcp ha, h]; exact (feed_of_soa hsoa a).symm.trans e3, e4⟩

/-- what the caller sees of a result of the message loop -/
def outcomeOf : R → Outcome
  | .error (e, z) => ⟨some e, z⟩
  | .ok s => ⟨none, s.zone⟩

/-- `s` is the state in which the first message of the transfer `c` of the zone `z0` is read: `Inbound.__init__`
has accepted the arguments and `process_message` has opened its transaction. -/
structure Start (c : Config) (z0 : Zone) (s : Inbound) : Prop extends Pending c z0 s where
  init : ∃ s0, Inbound.init c.origin z0 c.rdtype c.serial c.isUdp = .ok s0 ∧ s = openTxn s0
  txn : s.txn.isSome = true
  soa : s.soa = none

theorem Start.of_init {s0 : Inbound} (hi : Inbound.init c.origin z0 c.rdtype c.serial c.isUdp = .ok s0) :
    Start c z0 (openTxn s0) :=
  have ⟨p, hs⟩ := Pending.of_init hi
  have o := openTxn_props s0
  ⟨p.later o.toLater (o.done.trans p.done), ⟨s0, hi, rfl⟩, o.txn, o.soa_eq.trans hs⟩

/-- either `Inbound.__init__` refuses the arguments, or there is the state in which the first message is read -/
theorem start_cases (c : Config) (z0 : Zone) :
    (∃ e, (∀ fix msgs, run fix c z0 msgs = ⟨some e, z0⟩) ∧ ∀ recs, flatRun c z0 recs = .error (e, z0)) ∨
      ∃ s, Start c z0 s := by
  cases hi : Inbound.init c.origin z0 c.rdtype c.serial c.isUdp with
  | error e => exact Or.inl ⟨e, fun _ _ => by simp [run, hi], fun _ => by simp [flatRun, hi]⟩
  | ok s0 => exact Or.inr ⟨_, Start.of_init hi⟩

theorem Start.of_flatRun {recs : List RRset} {s' : Inbound} (h : flatRun c z0 recs = .ok s') :
    recs ≠ [] ∧ ∃ s, Start c z0 s := by
  unfold flatRun at h
  cases hi : Inbound.init c.origin z0 c.rdtype c.serial c.isUdp with
  | error e => rw [hi] at h; cases h
  | ok s0 =>
    refine ⟨fun e => ?_, _, Start.of_init hi⟩
    rw [hi, e] at h; cases h

theorem Start.run_eq {s : Inbound} (st : Start c z0 s) (fix : Bool) (msgs : List Msg) :
    run fix c z0 msgs = outcomeOf (runLoop fix s msgs) := by
  obtain ⟨s0, hi, rfl⟩ := st.init
  have o := openTxn_props s0
  unfold run; rw [hi]
  cases msgs with
  | nil => simp only [runLoop, o.zone]; rfl
  | cons m ms => simp only [runLoop, procMessage, (openTxn_props (openTxn s0)).same o.txn, o.zone]; rfl

/-- The flat run is the stream fed as one message; the flag of the lone SOA is read over UDP only. -/
theorem Start.flatRun_eq {s : Inbound} {recs : List RRset} (st : Start c z0 s) (h : c.isUdp = true → 2 ≤ recs.length) :
    flatRun c z0 recs = feed s recs := by
  obtain ⟨s0, hi, rfl⟩ := st.init
  unfold flatRun feed procBody
  rw [hi, st.soa]
  cases recs with
  | nil => simp only [st.zone]
  | cons rr0 rest =>
    dsimp only
    cases hu : c.isUdp with
    | false => rw [firstSoa_tcp (st.udp.trans hu) rr0 false rest.isEmpty]; rfl
    | true =>
      cases rest with
      | nil => exact absurd (h hu) (by simp)
      | cons _ _ => rfl

theorem firstSoa_not_apex {s : Inbound} {rr : RRset} {b : Bool} (h : rr.rdtype ≠ soaType ∨ rr.owner ≠ s.origin) :
    firstSoa s rr b = .error (.FormError, s.zone) := by
  unfold firstSoa
  by_cases h1 : rr.owner = s.origin
  · rw [if_neg (not_not_intro h1), if_pos (h.resolve_right (not_not_intro h1))]
  · rw [if_pos h1]

/-- The first rrset of the first message decides: it is refused … -/
theorem run_first_err {fix : Bool} {m0 : Msg} {ms : List Msg} {rr0 : RRset} {rest0 : List RRset} {s : Inbound}
    {e : XErr} {z : Zone} (st : Start c z0 s) (hh : headerErr s m0 = none)
    (ha : m0.answer = rr0 :: rest0) (h1 : firstSoa s rr0 rest0.isEmpty = .error (e, z)) :
    run fix c z0 (m0 :: ms) = ⟨some e, z0⟩ := by
  rw [st.run_eq, runLoop, procMessage_eq st.txn hh]
  unfold procBody
  rw [st.soa, ha]
  dsimp only
  rw [h1, (firstSoa_post st.soa).err h1, st.zone]
  rfl

/-- … or it completes the transfer (the up-to-date answer): then nothing may follow it. -/
theorem run_first_done {fix : Bool} {m0 : Msg} {ms : List Msg} {rr0 : RRset} {rest0 : List RRset} {s s1 : Inbound}
    (st : Start c z0 s) (hh : headerErr s m0 = none)
    (ha : m0.answer = rr0 :: rest0) (h1 : firstSoa s rr0 rest0.isEmpty = .ok s1) (hd : s1.done = true) :
    run fix c z0 (m0 :: ms) = ⟨if rest0.isEmpty then none else some .FormError, z0⟩ := by
  have hz : s1.zone = z0 := ((firstSoa_post st.soa).ok h1).2.1.trans st.zone
  rw [st.run_eq, runLoop, procMessage_eq st.txn hh]
  unfold procBody
  rw [st.soa, ha]
  dsimp only
  rw [h1]
  cases rest0 with
  | nil => simp [procAnswers, udpCheck, hd, outcomeOf, hz]
  | cons r rs => dsimp only; rw [procAnswers_done hd, hz]; rfl

theorem flatRun_cons {rr0 : RRset} {s0 s1 : Inbound}
    (hi : Inbound.init c.origin z0 c.rdtype c.serial c.isUdp = .ok s0)
    (h1 : firstSoa (openTxn s0) rr0 false = .ok s1) (rest : List RRset) :
    flatRun c z0 (rr0 :: rest) = procAnswers false s1 rest := by
  unfold flatRun; simp only [hi, h1]

theorem flatRun_append_eq {A : List RRset} (hA : A ≠ []) (B : List RRset) :
    flatRun c z0 (A ++ B) =
      match flatRun c z0 A with
      | .error e => .error e
      | .ok s => procAnswers false s B := by
  cases A with
  | nil => exact absurd rfl hA
  | cons rr0 rest =>
    unfold flatRun
    cases Inbound.init c.origin z0 c.rdtype c.serial c.isUdp with
    | error e => rfl
    | ok s0 =>
      dsimp only [List.cons_append]
      cases firstSoa (openTxn s0) rr0 false with
      | error e => rfl
      | ok s1 => exact procAnswers_append rest B s1

theorem flatRun_append {A : List RRset} {s : Inbound} (B : List RRset)
    (h : flatRun c z0 A = .ok s) : flatRun c z0 (A ++ B) = procAnswers false s B := by
  rw [flatRun_append_eq (Start.of_flatRun h).1, h]

/-- The flat run gets through `a ++ b`: then it gets through the non-empty prefix `a`, the rest continues from there,
and if there is a rest the transfer is open at that point. -/
theorem flatRun_prefix {a b : List RRset} {s : Inbound} (ha : a ≠ []) (h : flatRun c z0 (a ++ b) = .ok s) :
    ∃ s1, flatRun c z0 a = .ok s1 ∧ procAnswers false s1 b = .ok s ∧ (b ≠ [] → s1.done = false) := by
  rw [flatRun_append_eq ha] at h
  cases h1 : flatRun c z0 a with
  | error e => rw [h1] at h; cases h
  | ok s1 =>
    rw [h1] at h
    dsimp only at h
    refine ⟨s1, rfl, h, fun hb => ?_⟩
    cases hd : s1.done with
    | false => rfl
    | true =>
      obtain ⟨r, rs, rfl⟩ := List.exists_cons_of_ne_nil hb
      rw [procAnswers_done hd] at h; cases h

theorem not_surplus_of_ok {recs : List RRset} {s' : Inbound}
    (h : flatRun c z0 recs = .ok s') : ¬ Surplus (flatRun c z0) recs := by
  rintro ⟨a, b, s1, rfl, hb, ha, hd⟩
  obtain ⟨s2, h2, -, ho⟩ := flatRun_prefix (Start.of_flatRun ha).1 h
  rw [ha] at h2; cases h2
  rw [ho hb] at hd; cases hd

theorem not_surplus_of_raises {A : List RRset} {r : RRset} {B : List RRset} {s1 : Inbound}
    {e : XErr × Zone} (hA : flatRun c z0 A = .ok s1) (hd : s1.done = false)
    (hr : procRRset false s1 r true = .error e) : ¬ Surplus (flatRun c z0) (A ++ r :: B) := by
  rintro ⟨a, b, s2, hab, hb, ha, hd2⟩
  have herr : ∀ l, flatRun c z0 (A ++ r :: l) ≠ .ok s2 := by
    intro l h
    rw [flatRun_append _ hA, procAnswers, procRRset_false_more s1 r _ true, hr] at h
    cases h
  rcases List.append_eq_append_iff.mp hab with ⟨a', h1, h2⟩ | ⟨c', h1, _⟩
  · -- `a` reaches at least as far as `A`
    subst h1
    cases a' with
    | nil => rw [List.append_nil, hA] at ha; cases ha; rw [hd] at hd2; cases hd2
    | cons x xs => cases h2; exact herr xs ha
  · -- `a` ends inside `A`
    subst h1
    rw [flatRun_append c' ha] at hA
    cases c' with
    | nil => cases hA; rw [hd] at hd2; cases hd2
    | cons y ys => rw [procAnswers_done hd2] at hA; cases hA

theorem Start.tcp {s : Inbound} (st : Start c z0 s) (hu : c.isUdp = false) : Between s ∧ flatRun c z0 = feed s :=
  ⟨⟨st.txn, st.udp.trans hu⟩, funext fun _ => st.flatRun_eq fun h => by rw [hu] at h; cases h⟩

theorem run_tcp_flat {recs : List RRset} {msgs : List Msg}
    (hu : c.isUdp = false) (hne : recs ≠ []) (hc : Chunks c recs msgs) (hns : ¬ Surplus (flatRun c z0) recs) :
    run false c z0 msgs = outcomeOf (closeStream (flatRun c z0 recs)) := by
  rcases start_cases c z0 with ⟨e, h1, h2⟩ | ⟨s, st⟩
  · rw [h1, h2]; rfl
  obtain ⟨b, hfl⟩ := st.tcp hu
  cases msgs with
  | nil => exact absurd hc.flat.symm hne
  | cons m ms =>
    have e := runLoop_split ms m s [] b (fun m' hm' => st.header (hc.hdr m' hm')) (fun _ => hc.first m rfl)
      (by rw [hc.flat, ← hfl]; exact hns)
    rw [List.append_nil, hc.flat] at e
    rw [st.run_eq, e, hfl]
    cases feed s recs with
    | error e => rfl
    | ok s1 => cases hd : s1.done <;> simp [closeStream, runLoop, hd]

/-- The messages `pre` of a division of an accepted stream, with records still to come, lead to a state `s2` from
which the loop goes on with whatever messages follow. -/
theorem run_tcp_prefix {recs : List RRset} {pre tail : List Msg} {s' : Inbound}
    (hu : c.isUdp = false) (hc : Chunks c recs (pre ++ tail)) (hf : flatRun c z0 recs = .ok s')
    (htail : tail.flatMap (·.answer) ≠ []) :
    ∃ s2, Between s2 ∧ Pending c z0 s2 ∧ feed s2 (tail.flatMap (·.answer)) = .ok s' ∧
      ∀ X, run false c z0 (pre ++ X) = outcomeOf (runLoop false s2 X) := by
  obtain ⟨_, s, st⟩ := Start.of_flatRun hf
  obtain ⟨b, hfl⟩ := st.tcp hu
  rw [← hc.flat, List.flatMap_append] at hf
  cases pre with
  | nil => exact ⟨s, b, st.toPending, hfl ▸ hf, st.run_eq false⟩
  | cons m0 pre =>
    have hfirst : (m0 :: pre).flatMap (·.answer) ≠ [] := fun h =>
      hc.first m0 rfl (List.append_eq_nil_iff.1 (List.flatMap_cons ▸ h)).1
    obtain ⟨s2, h2, hrest, ho⟩ := flatRun_prefix hfirst hf
    have hd2 := ho htail
    have hns := not_surplus_of_ok h2
    rw [hfl] at h2 hns
    obtain ⟨q, hsoa⟩ := procBody_post.ok h2
    refine ⟨s2, b.later q hd2, st.toPending.later q hd2, (feed_of_soa hsoa _).trans hrest, fun X => ?_⟩
    rw [st.run_eq, runLoop_split pre m0 s X b
      (fun m' hm' => st.header (hc.hdr m' (List.mem_append_left _ hm'))) (fun _ => hc.first m0 rfl) hns, h2]
    simp only [hd2]; rfl

/-- A UDP response is one datagram: the flat run, closed by the check that the transfer is done. -/
theorem run_udp {m : Msg} {recs : List RRset} (hu : c.isUdp = true)
    (hc : Chunks c recs [m]) (h2 : 2 ≤ recs.length) :
    run false c z0 [m] =
      match flatRun c z0 recs with
      | .error (e, z) => ⟨some e, z⟩
      | .ok s' => ⟨if s'.done then none else some .FormError, s'.zone⟩ := by
  have hm : m.answer = recs := by simpa using hc.flat
  rcases start_cases c z0 with ⟨e, h1, h2⟩ | ⟨s, st⟩
  · rw [h1, h2]
  rw [st.run_eq, runLoop, procMessage_eq st.txn (st.header (hc.hdr m (by simp))), st.flatRun_eq fun _ => h2, ← hm,
    show procBody false s m = feed s m.answer from rfl]
  cases h : feed s m.answer with
  | error e => rfl
  | ok s2 =>
    have hu2 : s2.isUdp = true := ((procBody_post.ok h).1.udp.trans st.udp).trans hu
    cases hd : s2.done <;> simp [udpCheck, hu2, hd, outcomeOf]

/-- **The code as it is over TCP, on any division into messages**: the flat run closed by the end of the stream, with
the zone it started from if that raises — unless records follow the point where the flat run is done. -/
theorem run_of_flat {recs : List RRset} {msgs : List Msg}
    (hu : c.isUdp = false) (hne : recs ≠ []) (hc : Chunks c recs msgs) (hns : ¬ Surplus (flatRun c z0) recs) :
    run true c z0 msgs = repaired z0 (outcomeOf (closeStream (flatRun c z0 recs))) := by
  rw [run_repaired, run_tcp_flat hu hne hc hns]

theorem Yields.accepted {recs : List RRset} {Z : Zone} (h : Yields c z0 recs Z) : Accepted c z0 recs :=
  h.imp fun _ h => ⟨h.1, h.2.1⟩

theorem Yields.congr {recs : List RRset} {Z Z' : Zone} (h : Yields c z0 recs Z) (hz : Z ≃z Z') : Yields c z0 recs Z' :=
  h.imp fun _ h => ⟨h.1, h.2.1, Zone.equiv_trans h.2.2 hz⟩

/-- a stream that denotes `Z` leaves the zone `Z`, in every division into messages -/
theorem Yields.run {recs : List RRset} {msgs : List Msg} {Z : Zone}
    (hu : c.isUdp = false) (h : Yields c z0 recs Z) (hc : Chunks c recs msgs) :
    (run true c z0 msgs).err = none ∧ (run true c z0 msgs).zone ≃z Z := by
  obtain ⟨s', hf, hd, hz⟩ := h
  rw [run_of_flat hu (Start.of_flatRun hf).1 hc (not_surplus_of_ok hf), hf]
  simpa [closeStream, hd, outcomeOf, repaired] using hz

theorem run_of_flat_open {recs : List RRset} {msgs : List Msg} {s' : Inbound}
    (hu : c.isUdp = false) (hc : Chunks c recs msgs) (hf : flatRun c z0 recs = .ok s') (hd : s'.done = false) :
    run true c z0 msgs = ⟨some .EOF, z0⟩ := by
  rw [run_of_flat hu (Start.of_flatRun hf).1 hc (not_surplus_of_ok hf), hf]
  simp [closeStream, hd, outcomeOf, repaired]

theorem run_of_flat_raises {msgs : List Msg} {A : List RRset} {r : RRset}
    {tail : List RRset} {s1 : Inbound} {e : XErr} {z : Zone}
    (hu : c.isUdp = false) (hA : flatRun c z0 A = .ok s1) (hd : s1.done = false)
    (hr : procRRset false s1 r true = .error (e, z)) (hc : Chunks c (A ++ r :: tail) msgs) :
    run true c z0 msgs = ⟨some e, z0⟩ := by
  rw [run_of_flat hu (by simp) hc (not_surplus_of_raises hA hd hr), flatRun_append _ hA, procAnswers,
    procRRset_false_more s1 r _ true, hr]
  rfl

/-- a proper prefix of an accepted stream leaves the transfer open -/
theorem flatRun_take {recs : List RRset} {s' : Inbound} (k : Nat)
    (hf : flatRun c z0 recs = .ok s') (hk1 : 0 < k) (hk : k < recs.length) :
    ∃ s'', flatRun c z0 (recs.take k) = .ok s'' ∧ s''.done = false := by
  rw [← List.take_append_drop k recs] at hf
  have hne : recs.take k ≠ [] := fun h => by
    rcases List.take_eq_nil_iff.1 h with h | h
    · omega
    · rw [h] at hk; cases hk
  obtain ⟨s'', h, -, ho⟩ := flatRun_prefix hne hf
  exact ⟨s'', h, ho fun e => by simp at e; omega⟩

theorem runLoop_header_err {fix : Bool} {s : Inbound} {m : Msg} {e : XErr} (h : headerErr s m = some e)
    (ms : List Msg) : runLoop fix s (m :: ms) = .error (e, s.zone) := by
  have o := openTxn_props s
  rw [runLoop, procMessage, headerErr_congr o.origin o.rdtype, h]

theorem run_surplus_shipped {recs : List RRset} {pre : List Msg} {m : Msg}
    {extra : List RRset} {s' : Inbound}
    (hu : c.isUdp = false) (hc : Chunks c recs (pre ++ [m])) (hf : flatRun c z0 recs = .ok s') (hd : s'.done = true)
    (hm : m.answer ≠ []) (hx : extra ≠ []) :
    run false c z0 (pre ++ [{ m with answer := m.answer ++ extra }]) = ⟨some .FormError, s'.zone⟩ := by
  obtain ⟨x, xs, rfl⟩ := List.exists_cons_of_ne_nil hx
  obtain ⟨s2, b2, p2, hrest, hX⟩ := run_tcp_prefix (tail := [m]) hu hc hf (by simpa using hm)
  simp only [List.flatMap_cons, List.flatMap_nil, List.append_nil] at hrest
  rw [hX, runLoop_cons b2 (p2.header (m := { m with answer := m.answer ++ x :: xs }) (hc.hdr m (by simp))),
    feed_append b2.tcp (fun _ => hm), hrest]
  dsimp only
  rw [procAnswers_done hd]
  rfl

end Model.Xfr
