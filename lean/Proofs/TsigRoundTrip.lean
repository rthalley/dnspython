import Proofs.TsigCodec
import Proofs.TsigReader
/-! What the model's `to_wire` signs, the model's reader accepts: the walk over the body replayed inside the
signed message, the TSIG RR decoded back, `validate` accepting (`sign_then_validate_gen`). -/
namespace Model.Tsig
open Model Model.NameOrder Rfc8945

/-- a message body as `Message.to_wire` hands it to `dns.tsig.sign`: header written, walkable, no TSIG record -/
structure BodyOk (body : Bytes) : Prop where
  len : 12 ≤ body.length
  oct : OctetsOk body
  walk : ∃ p0 p1 p2, skipQuestions body (rd16 body 4) 12 = some p0 ∧ skipRRsNT body (rd16 body 6) p0 = some p1
      ∧ skipRRsNT body (rd16 body 8) p1 = some p2 ∧ skipRRsNT body (rd16 body 10) p2 = some body.length

/-- the renderer's encoding `o` of the TSIG owner name, standing right after `pre`, reads back as `n` and is
skipped as a whole, whatever follows (an uncompressed name; or a compressed one whose pointers stay in `pre`) -/
structure OwnerEncodes (pre o : Bytes) (n : Name) : Prop where
  skip : ∀ post, skipName (pre ++ o ++ post) (pre ++ o ++ post).length ((pre ++ o ++ post).length + 1) pre.length
      = some (pre.length + o.length)
  dec : ∀ post, decodeName (pre ++ o ++ post) pre.length = .ok n

/-- a TSIG RR standing at `s` as `_write_tsig` lays it out, read as the last record of the additional section: its owner
encoding skipped and decoded, its RDATA parsed back, `validate` accepting -/
theorem readRR_tsig_at {V : Verifier} {tbl : List AlgEntry} {strict : Bool} {W o : Bytes} {rd : Rdata} {k : Key} {owner : Name}
    {now : Nat} {rm : Bytes} {ctx : Option Ctx} {multi : Bool} {s : Nat} {c : Ctx} {c' : Option Ctx} (ar : Nat)
    (hat : At W s (tsigRR o rd)) (hskip : skipName W W.length (W.length + 1) s = some (s + o.length))
    (hdec : decodeName W s = .ok owner) (hrd : RdataOk rd) (hL : (rdataWire rd).length < 65536)
    (hv : validateV V tbl W k owner rd now rm s ctx multi = .ok (c, c')) :
    rd16 W (s + o.length) = ConstsC14.typeTsig
      ∧ readRR V tbl strict W (.key k) now rm multi 3 (ar + 1) ar ⟨s, none, ctx⟩
        = .ok ⟨s + (tsigRR o rd).length, some ⟨owner, rd, some (c, rd.mac)⟩, c'⟩ := by
  have hlen : (tsigRR o rd).length = o.length + 10 + (rdataWire rd).length := by
    simp only [tsigRR, List.length_append, u16_length, u32_length]
  have hle := hat.end_le
  rw [hlen, ← Nat.add_assoc, ← Nat.add_assoc] at hle ⊢
  -- the fixed header of the RR and its RDATA, each where the reader looks for it
  simp only [tsigRR, u16_eq_be, u32_eq_be, List.append_assoc, At.append, be_length] at hat
  obtain ⟨_, ht, hc, httl, hl, hr⟩ := hat
  generalize s + o.length = p at *
  refine ⟨rd16_at ht (by decide), ?_⟩
  unfold readRR
  rw [hskip]
  dsimp only
  rw [if_neg (by omega), if_pos (rd16_at ht (by decide)), rd16_at hc (by decide), rd32_at (p := p + 4) httl (by decide),
    rd16_at (p := p + 8) hl hL, if_neg (by simp), if_neg (by simp), if_neg (by omega), hdec, rdataParse_at (a := p + 10) hr hrd]
  dsimp only [resolveKey]
  rw [hv]

/-! The statements below cover `ignore_trailing`: with it, any octets `junk` may follow the message; without it none do. -/

theorem BodyOk.walk_eq {body : Bytes} (hb : BodyOk body) : walkWith skipRRnt body (rd16 body 10) = some body.length := by
  have := hb.walk
  rwa [skipQuestions_eq, skipRRsNT_eq, ← walkN_eq_some_iff] at this

theorem BodyOk.walk_in {body : Bytes} (hb : BodyOk body) (W : Bytes)
    (hag : ∀ i, (i < 10 ∨ 12 ≤ i) → i < body.length → W[i]? = body[i]?) :
    walkWith skipRRnt W (rd16 body 10) = some body.length := by
  have hl := hb.len
  exact walkWith_transfer skipRRnt_local hb.walk_eq (fun i _ b => hag i (by omega) (by omega))
    (fun i a b => hag i (by omega) b)

theorem readVI_unsigned_ok (it : Bool) (V : Verifier) (tbl : List AlgEntry) (strict : Bool) (body junk : Bytes) (kr : Keyring)
    (now : Nat) (rm : Bytes) (ctx : Option Ctx) (multi : Bool) (hj : it = false → junk = []) (hb : BodyOk body) :
    readVI it V tbl strict (body ++ junk) kr now rm ctx multi
      = .ok ⟨none, if multi then ctx.map (·.update body) else ctx⟩ := by
  have hl := hb.len
  refine (readVI_ok_iff ..).mpr ⟨by rw [List.length_append]; omega, Or.inl ⟨body.length, ?_,
    fun a => by rw [hj a, List.append_nil], by rw [List.take_left]⟩⟩
  rw [rd16_append_left body junk 10 hl]
  exact hb.walk_in (body ++ junk) (fun i _ hi => List.getElem?_append_left hi)

theorem readVI_signed_ok (it : Bool) (V : Verifier) (tbl : List AlgEntry) (strict : Bool) (body o junk : Bytes) (rd : Rdata)
    (k : Key) (owner : Name) (now : Nat) (rm : Bytes) (ctx : Option Ctx) (multi : Bool) (c : Ctx) (c' : Option Ctx)
    (hj : it = false → junk = [])
    (hb : BodyOk body) (hcnt : rd16 body 10 + 1 < 65536)
    (hown : OwnerEncodes (setArcount body (rd16 body 10 + 1)) o owner) (hrd : RdataOk rd)
    (hL : (rdataWire rd).length < 65536)
    (hv : validateV V tbl (appendTsig body o rd) k owner rd now rm body.length ctx multi = .ok (c, c')) :
    readVI it V tbl strict (appendTsig body o rd ++ junk) (.key k) now rm ctx multi
      = .ok ⟨some ⟨owner, rd, some (c, rd.mac)⟩, c'⟩ := by
  have hl := hb.len
  rw [appendTsig_split body o rd hl] at hv ⊢
  have hBl := setArcount_length body (rd16 body 10 + 1) hl
  have hw := hb.walk_in (setArcount body (rd16 body 10 + 1) ++ tsigRR o rd ++ junk) (fun i h1 h2 => by
    rw [List.append_assoc, List.getElem?_append_left (by rw [hBl]; exact h2)]
    exact setArcount_getElem body _ i hl h1)
  have h10 : rd16 (setArcount body (rd16 body 10 + 1) ++ tsigRR o rd ++ junk) 10 = rd16 body 10 + 1 := by
    rw [List.append_assoc]; exact setArcount_rd16_10 body _ hl hcnt _
  generalize setArcount body (rd16 body 10 + 1) = B at *
  have sh : B ++ tsigRR o rd ++ junk = B ++ o ++ (tsigRR [] rd ++ junk) := by
    simp only [tsigRR, List.append_assoc, List.nil_append]
  have hp := sh ▸ hown.skip (tsigRR [] rd ++ junk)
  have hat := At.mid B (tsigRR o rd) junk
  have hle := hat.end_le
  obtain ⟨ht, hrr⟩ := readRR_tsig_at (strict := strict) (rd16 body 10) hat hp (sh ▸ hown.dec _) hrd hL
    (by rw [validateV_append V tbl _ junk k owner rd now rm _ ctx multi (by simp [hBl]; omega) (by simp), hBl]; exact hv)
  rw [hBl] at hp ht hrr
  exact (readVI_ok_iff ..).mpr ⟨by omega, Or.inr ⟨body.length, _, _, by omega, by rw [h10]; exact hw, hp, ht,
    by rw [h10]; exact hrr, fun a => by rw [hj a, List.append_nil, List.length_append, hBl], rfl⟩⟩

/-- what `sign` hands back, field by field -/
structure SignedFields (H : Hmac) (rd rd' : Rdata) (now : Nat) : Prop where
  alg : rd'.algorithm = rd.algorithm
  time : rd'.timeSigned = now
  fudge : rd'.fudge = rd.fudge
  oid : rd'.originalId = rd.originalId
  err : rd'.error = rd.error
  other : rd'.other = rd.other
  mac : ∃ c : Ctx, rd'.mac = c.sign H

theorem sign_then_validate_gen (H : Hmac) (e : AlgEntry) (he : e ∈ algTable) (key : Key) (hk : key.algorithm = e.name)
    (body ownerEnc : Bytes) (owner : Name) (rd : Rdata) (now vnow : Nat) (rm : Bytes) (ctx : Option Ctx) (multi : Bool)
    (hl : 12 ≤ body.length) (ho : OctetsOk body) (hc : rd16 body 10 + 1 < 65536)
    (hown : nameEq key.name owner = true)
    (halg : rd.algorithm = key.algorithm) (herr : rd.error = 0) (hother : rd.other.length ≤ 65535)
    (hwin : absDiff now vnow ≤ rd.fudge) :
    ∃ wire rd' ctx' c, signMessage H algTable body ownerEnc key rd now rm ctx multi = .ok (wire, rd', ctx')
      ∧ wire = appendTsig body ownerEnc rd' ∧ SignedFields H rd rd' now
      ∧ validateV (verifyWith H) algTable wire key owner rd' vnow rm body.length ctx multi = .ok (c, ctx') := by
  obtain ⟨e', he'⟩ := lookupAlg_mem algTable e he
  obtain ⟨c0, hc0⟩ : ∃ c0, getContext algTable key = .ok c0 := by
    unfold getContext; rw [hk, he']; exact ⟨_, rfl⟩
  -- `_digest` fails only for an unknown algorithm or overlong other data
  obtain ⟨c, hd⟩ : ∃ c, digest algTable body key rd (some now) rm ctx multi = .ok c := by
    unfold digest
    have hnot : ¬ rd.other.length > ConstsC14.otherMax := by simp [ConstsC14.otherMax]; omega
    cases (if multi then ctx else none) <;> simp only [hc0, hnot, if_false] <;> exact ⟨_, rfl⟩
  obtain ⟨c', hm⟩ : ∃ c', maybeStartDigest algTable key (c.sign H) multi = .ok c' := by
    unfold maybeStartDigest
    cases multi <;> simp [hc0]
  refine ⟨_, { rd with timeSigned := now, mac := c.sign H }, c', c, ?_, rfl, ⟨rfl, rfl, rfl, rfl, rfl, rfl, c, rfl⟩, ?_⟩
  · simp [signMessage, sign_eq_ok_iff.mpr ⟨c, hd, hm, rfl⟩]
  · rw [validateV_spec]
    have h10 := rd16_appendTsig body ownerEnc { rd with timeSigned := now, mac := c.sign H } hl hc
    have hnw := newWire_appendTsig body ownerEnc { rd with timeSigned := now, mac := c.sign H } hl ho hc
    have hdc : digest algTable body key { rd with timeSigned := now, mac := c.sign H } none rm ctx multi
        = digest algTable body key rd (some now) rm ctx multi := rfl
    simp only [h10, hnw, hdc, hd]
    have : ¬ absDiff now vnow > rd.fudge := by omega
    simp [this, hm, herr, halg, hown, nameEq_refl, verifyWith]

/-- everything the round trip needs to know about one signed envelope -/
structure SignedOk (H : Hmac) (key : Key) (body o : Bytes) (owner : Name) (rd : Rdata) (now vnow : Nat) : Prop where
  alg : ∃ e ∈ algTable, key.algorithm = e.name
  bodyOk : BodyOk body
  cnt : rd16 body 10 + 1 < 65536
  enc : OwnerEncodes (setArcount body (rd16 body 10 + 1)) o owner
  own : nameEq key.name owner = true
  rdalg : rd.algorithm = key.algorithm
  algWf : WfName key.algorithm
  algAbs : isAbs key.algorithm = true
  err : rd.error = 0
  time : now < 281474976710656
  fudge : rd.fudge < 65536
  oid : rd.originalId < 65536
  hmac : ∀ h k d, (H h k d).length ≤ 64
  size : (toWire key.algorithm).length + rd.other.length + 80 < 65536
  win : absDiff now vnow ≤ rd.fudge

theorem sign_length_le (H : Hmac) (c : Ctx) : (c.sign H).length ≤ (H c.hash c.secret c.data).length := by
  unfold Ctx.sign
  split
  · simp; omega
  · exact Nat.le_refl _

theorem sign_then_read_core (it : Bool) (junk : Bytes) (hj : it = false → junk = []) (H : Hmac) (strict : Bool) (key : Key)
    (body o : Bytes) (owner : Name) (rd : Rdata) (now vnow : Nat) (rm : Bytes) (ctx : Option Ctx) (multi : Bool)
    (hok : SignedOk H key body o owner rd now vnow) :
    ∃ wire rd' ctx' c, signMessage H algTable body o key rd now rm ctx multi = .ok (wire, rd', ctx')
      ∧ wire = appendTsig body o rd' ∧ SignedFields H rd rd' now
      ∧ newWire wire body.length = body
      ∧ readVI it (verifyWith H) algTable strict (wire ++ junk) (.key key) vnow rm ctx multi
          = .ok ⟨some ⟨owner, rd', some (c, rd'.mac)⟩, ctx'⟩ := by
  obtain ⟨e, he, hk⟩ := hok.alg
  have hsz := hok.size
  obtain ⟨wire, rd', ctx', c, hs, hw, hf, hv⟩ := sign_then_validate_gen H e he key hk body o owner rd now vnow rm ctx multi
    hok.bodyOk.len hok.bodyOk.oct hok.cnt hok.own hok.rdalg hok.err (by omega) hok.win
  refine ⟨wire, rd', ctx', c, hs, hw, hf, ?_, ?_⟩
  · rw [hw]; exact newWire_appendTsig body o rd' hok.bodyOk.len hok.bodyOk.oct hok.cnt
  · obtain ⟨c0, hmac⟩ := hf.mac
    have hml : rd'.mac.length ≤ 64 := by
      rw [hmac]; exact Nat.le_trans (sign_length_le H c0) (hok.hmac _ _ _)
    have hrd : RdataOk rd' := by
      refine ⟨?_, ?_, ?_, ?_, by omega, ?_, ?_, ?_⟩
      · rw [hf.alg, hok.rdalg]; exact hok.algWf
      · rw [hf.alg, hok.rdalg]; exact hok.algAbs
      · rw [hf.time]; exact hok.time
      · rw [hf.fudge]; exact hok.fudge
      · rw [hf.oid]; exact hok.oid
      · rw [hf.err, hok.err]; exact Nat.zero_le _
      · rw [hf.other]; omega
    have hL : (rdataWire rd').length < 65536 := by
      rw [rdataWire_eq]
      simp only [tsigTail, List.length_append, be_length, hf.alg, hok.rdalg, hf.other]
      omega
    rw [hw] at hv ⊢
    exact readVI_signed_ok it (verifyWith H) algTable strict body o junk rd' key owner vnow rm ctx multi c ctx' hj hok.bodyOk
      hok.cnt hok.enc hrd hL hv

/-- an envelope of a multi-message response as the sender builds it -/
inductive SEnv where
  | signed (body o : Bytes) (owner : Name) (rd : Rdata) (now vnow : Nat)
  | unsigned (body : Bytes) (vnow : Nat)

def SEnv.isSigned : SEnv → Bool
  | .signed .. => true
  | .unsigned .. => false

def SEnv.vnow : SEnv → Nat
  | .signed _ _ _ _ _ v => v
  | .unsigned _ v => v

/-- the sending side: `to_wire(multi=True, tsig_ctx=…)` for a signed envelope, and for an unsigned one the
message as it is, digested whole into the running context (RFC 8945 §5.3.1) -/
def signExchange (H : Hmac) (key : Key) (rm : Bytes) : Option Ctx → List SEnv → Except Err (List Bytes)
  | _, [] => .ok []
  | ctx, .signed body o _ rd now _ :: rest =>
    match signMessage H algTable body o key rd now rm ctx true with
    | .error e => .error e
    | .ok (w, _, ctx') =>
      match signExchange H key rm ctx' rest with
      | .error e => .error e
      | .ok ws => .ok (w :: ws)
  | ctx, .unsigned body _ :: rest =>
    match signExchange H key rm (ctx.map (·.update body)) rest with
    | .error e => .error e
    | .ok ws => .ok (body :: ws)

/-- the receiving side: `from_wire(keyring=key, request_mac, multi=True, tsig_ctx=…)` message after message -/
def readExchange (H : Hmac) (strict : Bool) (key : Key) (rm : Bytes) : Option Ctx → List (Bytes × Nat) → Except Err (List ReadOk)
  | _, [] => .ok []
  | ctx, (w, vnow) :: rest =>
    match read H algTable strict w (.key key) vnow rm ctx true with
    | .error e => .error e
    | .ok r =>
      match readExchange H strict key rm r.ctx rest with
      | .error e => .error e
      | .ok rs => .ok (r :: rs)

def SEnv.Ok (H : Hmac) (key : Key) : SEnv → Prop
  | .signed body o owner rd now vnow => SignedOk H key body o owner rd now vnow
  | .unsigned body _ => BodyOk body

theorem envelope_ok (it : Bool) (junk : Bytes) (hj : it = false → junk = []) (H : Hmac) (strict : Bool) (key : Key)
    (rm : Bytes) (ctx : Option Ctx) (e : SEnv) (he : SEnv.Ok H key e) :
    ∃ w ctx' r, (∀ rest, signExchange H key rm ctx (e :: rest) = match signExchange H key rm ctx' rest with
          | .error x => .error x
          | .ok ws => .ok (w :: ws))
      ∧ readVI it (verifyWith H) algTable strict (w ++ junk) (.key key) e.vnow rm ctx true = .ok r
      ∧ r.ctx = ctx' ∧ r.tsig.isSome = e.isSigned := by
  cases e with
  | signed body o owner rd now vnow =>
    obtain ⟨wire, rd', ctx', c, hs, _, _, _, hr⟩ :=
      sign_then_read_core it junk hj H strict key body o owner rd now vnow rm ctx true he
    exact ⟨wire, ctx', _, fun rest => by simp only [signExchange, hs], hr, rfl, rfl⟩
  | unsigned body vnow =>
    exact ⟨body, ctx.map (·.update body), _, fun rest => rfl,
      readVI_unsigned_ok it (verifyWith H) algTable strict body junk (.key key) vnow rm ctx true hj he, rfl, rfl⟩

theorem sign_then_read_exchange_core (H : Hmac) (strict : Bool) (key : Key) (rm : Bytes) (envs : List SEnv) :
    ∀ (ctx : Option Ctx), (∀ e ∈ envs, SEnv.Ok H key e) →
      ∃ ws rs, signExchange H key rm ctx envs = .ok ws
        ∧ readExchange H strict key rm ctx (ws.zip (envs.map SEnv.vnow)) = .ok rs
        ∧ ws.length = envs.length
        ∧ rs.map (fun r => r.tsig.isSome) = envs.map SEnv.isSigned := by
  induction envs with
  | nil => intro ctx _; exact ⟨[], [], rfl, rfl, rfl, rfl⟩
  | cons e rest ih =>
    intro ctx hall
    obtain ⟨w, ctx', r, hs, hr, rfl, ht⟩ := envelope_ok false [] (fun _ => rfl) H strict key rm ctx e (hall e (by simp))
    obtain ⟨ws, rs, h1, h2, h3, h4⟩ := ih r.ctx (fun x hx => hall x (by simp [hx]))
    rw [List.append_nil] at hr
    refine ⟨w :: ws, r :: rs, by rw [hs, h1], ?_, by simp [h3], by simp [ht, h4]⟩
    simp only [List.map_cons, List.zip_cons_cons, readExchange, read, readV, hr, h2]

/-- the receiving side with `ignore_trailing=True`: every envelope may be followed by octets that are not part of it -/
def readExchangeJ (H : Hmac) (strict : Bool) (key : Key) (rm : Bytes) :
    Option Ctx → List (Bytes × Bytes × Nat) → Except Err (List ReadOk)
  | _, [] => .ok []
  | ctx, (w, junk, vnow) :: rest =>
    match readI true H algTable strict (w ++ junk) (.key key) vnow rm ctx true with
    | .error e => .error e
    | .ok r =>
      match readExchangeJ H strict key rm r.ctx rest with
      | .error e => .error e
      | .ok rs => .ok (r :: rs)

theorem sign_then_read_exchange_junk_core (H : Hmac) (strict : Bool) (key : Key) (rm : Bytes) (envs : List SEnv) :
    ∀ (ctx : Option Ctx) (junks : List Bytes), junks.length = envs.length → (∀ e ∈ envs, SEnv.Ok H key e) →
      ∃ ws rs, signExchange H key rm ctx envs = .ok ws
        ∧ readExchangeJ H strict key rm ctx (ws.zip (junks.zip (envs.map SEnv.vnow))) = .ok rs
        ∧ ws.length = envs.length
        ∧ rs.map (fun r => r.tsig.isSome) = envs.map SEnv.isSigned := by
  induction envs with
  | nil =>
    intro ctx junks hj _
    cases junks with
    | nil => exact ⟨[], [], rfl, rfl, rfl, rfl⟩
    | cons _ _ => simp at hj
  | cons e rest ih =>
    intro ctx junks hj hall
    cases junks with
    | nil => simp at hj
    | cons junk junks =>
    obtain ⟨w, ctx', r, hs, hr, rfl, ht⟩ := envelope_ok true junk (fun h => by cases h) H strict key rm ctx e (hall e (by simp))
    obtain ⟨ws, rs, h1, h2, h3, h4⟩ := ih r.ctx junks (by simpa using hj) (fun x hx => hall x (by simp [hx]))
    refine ⟨w :: ws, r :: rs, by rw [hs, h1], ?_, by simp [h3], by simp [ht, h4]⟩
    simp only [List.map_cons, List.zip_cons_cons, readExchangeJ, readI, hr, h2]

end Model.Tsig
