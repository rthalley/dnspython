import Proofs.ZoneTxnSim
import Proofs.ZoneTxnValue
/-! Every call of the transaction API refines the reference model (C10): step simulation and its induction. -/
namespace Model.ZT
open Model

/-- the intended variant of the decision points (for `d09`, `d10`: the code as it now is) -/
structure GoodCfg (cfg : Cfg) : Prop where
  d09 : cfg.d09 = false
  d10 : cfg.d10 = false
  gn : cfg.gn = false

/-- a node of the code's version and the owner's entries in the reference map hold the same rdatasets -/
def NodeRel (cls : Nat) (k : Name) : Option Node → Option SZone → Prop
  | none, none => True
  | some nd, some zs => ∀ t c, nd.find cls t c = SZone.get zs (k, t, c)
  | _, _ => False

/-- results agree: equal — or, for iteration and `get_node`, the same content whatever the order
(`Sim`: the same rdataset under every key and the same owner names, so no empty node either) -/
def ResRel (cls : Nat) (a b : Res) : Prop :=
  a = b ∨
    match a, b with
    | .ok (.nodes v), .ok (.szone z) => Sim cls v z
    | .ok (.node k nd), .ok (.snode k' zs) => k = k' ∧ NodeRel cls k nd zs
    | _, _ => False

/-- pointwise relation of two result lists of the same length -/
def AllRel {α β : Type} (R : α → β → Prop) : List α → List β → Prop
  | [], [] => True
  | a :: as, b :: bs => R a b ∧ AllRel R as bs
  | _, _ => False

/-- the simulation between an open transaction and the reference transaction -/
structure TSim (cfg : Cfg) (s : Txn) (t : STxn) : Prop where
  zone : Sim cfg.rdclass s.zone t.zone
  ver : Sim cfg.rdclass s.ver t.ver
  izone : Inv cfg.rdclass s.zone
  iver : Inv cfg.rdclass s.ver
  ro : s.readOnly = t.readOnly
  ended : s.ended = t.ended
  changed : s.changed = t.touched

theorem getRdataset_ok {cfg : Cfg} {name k : Name} (hv : validateName cfg name = .ok k) (v : Nodes) (t c : Nat) :
    getRdataset cfg v name t c = .ok (getM cfg.rdclass v k t c) := by
  unfold getRdataset getM
  rw [hv]
  dsimp only
  cases nodesGet v k <;> rfl

theorem getRdataset_error {cfg : Cfg} {name : Name} {e : Err} (hv : validateName cfg name = .error e) (v : Nodes)
    (t c : Nat) : getRdataset cfg v name t c = .error e := by
  unfold getRdataset
  rw [hv]

theorem soaNameOk_spec (cfg : Cfg) (hg : GoodCfg cfg) (n : Name) : soaNameOk (specCfg cfg) n = soaNameOk cfg n := by
  unfold soaNameOk specCfg effectiveOrigin; simp [hg.d10]

theorem Inv.congr {cls : Nat} {v v' : Nodes} (h : ∀ k, nodesGet v' k = nodesGet v k) (hi : Inv cls v) : Inv cls v' := by
  intro k nd hk; rw [h k] at hk; exact hi k nd hk

theorem parseAddArgs_name_rds (n : Name) (r : Rdataset) : parseAddArgs [.name n, .rds r] = .ok (n, r, false) := rfl

/-! ### one call against its reference counterpart

Code and reference model run through the same tests in (nearly) the same order, so the proofs walk down the two
`if`/`match` cascades in step: `ite_rel` where both branch on the same test, `cases` where both match on the same
value, and at each leaf either an outcome that leaves both states alone (`TSim.same`) or one of the three stores. -/

theorem ite_rel {α β : Type} {R : α → β → Prop} {c c' : Prop} [Decidable c] [Decidable c'] {a a' : α} {b b' : β}
    (hc : c ↔ c') (h1 : c → R a b) (h2 : ¬ c → R a' b') : R (if c then a else a') (if c' then b else b') := by
  by_cases h : c
  · rw [if_pos h, if_pos (hc.mp h)]; exact h1 h
  · rw [if_neg h, if_neg (mt hc.mpr h)]; exact h2 h

/-- the states after the two calls are related and the results are equal -/
def StepEq (cfg : Cfg) (a : Txn × Res) (b : STxn × Res) : Prop := TSim cfg a.1 b.1 ∧ a.2 = b.2

/-- the same, results related by `ResRel` -/
def StepRel (cfg : Cfg) (a : Txn × Res) (b : STxn × Res) : Prop := TSim cfg a.1 b.1 ∧ ResRel cfg.rdclass a.2 b.2

theorem StepEq.rel {cfg : Cfg} {a : Txn × Res} {b : STxn × Res} (h : StepEq cfg a b) : StepRel cfg a b :=
  ⟨h.1, Or.inl h.2⟩

section
variable {cfg : Cfg} {s : Txn} {t : STxn}

theorem TSim.ended_iff (h : TSim cfg s t) : s.ended = true ↔ t.ended = true := by rw [h.ended]
theorem TSim.ro_iff (h : TSim cfg s t) : s.readOnly = true ↔ t.readOnly = true := by rw [h.ro]
theorem TSim.changed_iff (h : TSim cfg s t) : s.changed = true ↔ t.touched = true := by rw [h.changed]

theorem TSim.same (h : TSim cfg s t) (r : Res) : StepEq cfg (s, r) (t, r) := ⟨h, rfl⟩

theorem TSim.store (h : TSim cfg s t) {v : Nodes} {z : SZone} (hv : Sim cfg.rdclass v z ∧ Inv cfg.rdclass v)
    {c c' : Bool} (hc : c = c') :
    StepEq cfg ({ s with ver := v, changed := c }, .ok .unit) ({ t with ver := z, touched := c' }, .ok .unit) :=
  ⟨{ h with ver := hv.1, iver := hv.2, changed := hc }, rfl⟩

/-- the `_check_ended()` at the head of every call -/
theorem TSim.unlessEnded (h : TSim cfg s t) {a : Txn × Res} {b : STxn × Res} (hab : StepRel cfg a b) :
    StepRel cfg (if s.ended then (s, .error .alreadyEnded) else a) (if t.ended then (t, .error .alreadyEnded) else b) :=
  ite_rel h.ended_iff (fun _ => (h.same _).rel) fun _ => hab

theorem TSim.ifWritable (h : TSim cfg s t) {a : Txn × Res} {b : STxn × Res} (hab : StepEq cfg a b) :
    StepRel cfg
      (if s.ended then (s, .error .alreadyEnded) else if s.readOnly then (s, .error .readOnly) else a)
      (if t.ended then (t, .error .alreadyEnded) else if t.readOnly then (t, .error .readOnly) else b) :=
  h.unlessEnded (ite_rel h.ro_iff (fun _ => h.same _) fun _ => hab).rel

theorem TSim.get_class (h : TSim cfg s t) {k : Name} {ty c : Nat} {r : Rdataset}
    (hq : t.ver.get (k, ty, c) = some r) : r.rdclass = cfg.rdclass := by
  rw [← h.ver.1, getM_eq_find] at hq
  exact (find_mem hq).2.1

theorem checkedPut_ok {name k : Name} (hv : validateName cfg name = .ok k) (r : Rdataset) :
    checkedPut cfg s name r false =
      ({ s with ver := nodesSet s.ver k (((nodesGet s.ver k).getD []).replace r), changed := true }, .ok .unit) := by
  simp [checkedPut, putRdataset, hv]

theorem checkedPut_error {name : Name} {e : Err} (hv : validateName cfg name = .error e) (r : Rdataset) (veto : Bool) :
    checkedPut cfg s name r veto = (s, .error (if veto then .veto else e)) := by
  cases veto <;> simp [checkedPut, putRdataset, hv]

theorem checkedPut_veto (name : Name) (r : Rdataset) : checkedPut cfg s name r true = (s, .error .veto) := rfl

theorem put_refines (h : TSim cfg s t) {name k : Name} (hv : validateName cfg name = .ok k) {r : Rdataset}
    (hr : r.rdclass = cfg.rdclass) (veto : Bool) :
    StepEq cfg (checkedPut cfg s name r veto)
      (if veto then (t, .error .veto) else ({ t with ver := t.ver.put k r, touched := true }, .ok .unit)) := by
  cases veto
  · rw [checkedPut_ok hv]
    exact h.store (sim_put _ _ _ k r h.ver h.iver hr) rfl
  · exact h.same _

theorem addCore_refines (hg : GoodCfg cfg) (h : TSim cfg s t) (replace : Bool) (name : Name) (rds : Rdataset)
    (extra veto : Bool) :
    StepEq cfg (addCore cfg s replace name rds extra veto) (sPut cfg t name rds extra (!replace) veto) := by
  unfold addCore sPut
  rw [soaNameOk_spec cfg hg]
  refine ite_rel .rfl (fun _ => h.same _) fun hcls => ite_rel .rfl (fun _ => h.same _) fun _ =>
    ite_rel .rfl (fun _ => h.same _) fun _ => ?_
  have hcls : rds.rdclass = cfg.rdclass := Decidable.of_not_not hcls
  cases hv : validateName cfg name with
  | error e =>
    -- replacing, the code asks the hooks before it validates the name; merging, the look-up comes first
    cases replace
    · rw [getRdataset_error hv]; cases veto <;> exact h.same _
    · rw [checkedPut_error hv]; cases veto <;> exact h.same _
  | ok k =>
    cases replace
    · simp only [getRdataset_ok hv, h.ver.1]
      cases hq : t.ver.get (k, rds.rdtype, rds.covers) with
      | none => exact put_refines h hv hcls veto
      | some ex => exact put_refines h hv ((union_hdr ex rds).1.trans (h.get_class hq)) veto
    · exact put_refines h hv hcls veto

/-- `delete_rdataset` once the name the dict is indexed with is the validated key — which under the legacy `d09`
takes an owner given in the zone's own spelling -/
theorem deleteRdataset_key (cfg : Cfg) (v : Nodes) (name k : Name) (t c : Nat)
    (hv : validateName cfg name = .ok k) (hraw : cfg.d09 = true → lowerName name = k) :
    deleteRdataset cfg v name t c = (delRdsM cfg.rdclass v k t c, none) := by
  unfold deleteRdataset delRdsM
  simp only [hv]
  split
  · cases hd : cfg.d09 with
    | false => rfl
    | true => simp only [hraw hd, if_true, nodesGet_set, Option.isSome_some]
  · rfl

theorem deleteRdataset_good (cfg : Cfg) (hg : GoodCfg cfg) (v : Nodes) (name k : Name) (t c : Nat)
    (hv : validateName cfg name = .ok k) :
    deleteRdataset cfg v name t c = (delRdsM cfg.rdclass v k t c, none) :=
  deleteRdataset_key cfg v name k t c hv fun h => absurd (hg.d09.symm.trans h) Bool.false_ne_true

theorem checkedDeleteRdataset_veto (name : Name) (ty c : Nat) :
    checkedDeleteRdataset cfg s name ty c true = (s, .error .veto) := rfl

theorem delRds_refines (hg : GoodCfg cfg) (h : TSim cfg s t) {name k : Name} (hv : validateName cfg name = .ok k)
    (ty c : Nat) (veto : Bool) :
    StepEq cfg (checkedDeleteRdataset cfg s name ty c veto)
      (if veto then (t, .error .veto) else ({ t with ver := t.ver.delRds k ty c, touched := true }, .ok .unit)) := by
  cases veto
  · have : checkedDeleteRdataset cfg s name ty c false =
        ({ s with ver := delRdsM cfg.rdclass s.ver k ty c, changed := true }, .ok .unit) := by
      simp [checkedDeleteRdataset, hv, deleteRdataset_good cfg hg s.ver name k ty c hv]
    rw [this]
    exact h.store (sim_delRds _ _ _ k ty c h.ver h.iver) rfl
  · exact h.same _

theorem getNode_ok {name k : Name} (hv : validateName cfg name = .ok k) (v : Nodes) :
    getNode cfg v name = .ok (nodesGet v k) := by
  unfold getNode; rw [hv]

theorem getNode_error {name : Name} {e : Err} (hv : validateName cfg name = .error e) (v : Nodes) :
    getNode cfg v name = .error e := by
  unfold getNode; rw [hv]

theorem deleteNode_ok {name k : Name} (hv : validateName cfg name = .ok k) (v : Nodes) :
    deleteNode cfg v name = .ok (if (nodesGet v k).isSome then (nodesErase v k, true) else (v, false)) := by
  unfold deleteNode; rw [hv]; dsimp only; split <;> rfl

theorem checkedDeleteName_error {name : Name} {e : Err} (hv : validateName cfg name = .error e) (veto : Bool) :
    checkedDeleteName cfg s name veto = (s, .error (if veto then .veto else e)) := by
  cases veto <;> simp [checkedDeleteName, deleteNode, hv]

/-- `delete_node` of an absent name leaves the dict alone — which is erasing the name -/
theorem nodesErase_absent {v : Nodes} {k : Name} (hk : nodesGet v k = none) : nodesErase v k = v :=
  List.filter_eq_self.mpr fun e he => decide_eq_true fun hek => by
    rw [← hek] at hk
    exact absurd (nodesGet_lookup.isSome_of_mem (x := e.2) he) (by rw [hk]; exact Bool.false_ne_true)

theorem delName_refines (h : TSim cfg s t) {name k : Name} (hv : validateName cfg name = .ok k) (veto : Bool) :
    StepEq cfg (checkedDeleteName cfg s name veto)
      (if veto then (t, .error .veto)
       else ({ t with ver := t.ver.delName k, touched := t.touched || t.ver.has k }, .ok .unit)) := by
  cases veto
  · simp only [checkedDeleteName, deleteNode_ok hv, Bool.false_eq_true, if_false]
    rw [← h.ver.2 k, show (if (nodesGet s.ver k).isSome = true then (nodesErase s.ver k, true) else (s.ver, false)) =
      (nodesErase s.ver k, (nodesGet s.ver k).isSome) by
        cases hq : nodesGet s.ver k with
        | none => rw [nodesErase_absent hq]; rfl
        | some nd => rfl]
    exact h.store (sim_delName _ _ _ k h.ver h.iver) (by rw [h.changed])
  · exact h.same _

/-- `delete` / `delete_exact` of a whole name (`delAll` of `sDelete`) -/
theorem deleteAll_refines (h : TSim cfg s t) (exact : Bool) (name : Name) (veto : Bool) :
    StepEq cfg (deleteAll cfg s exact name veto) (sDelete cfg t name .all exact veto) := by
  unfold deleteAll sDelete
  dsimp only
  cases hv : validateName cfg name with
  | error e =>
    rw [getNode_error hv, checkedDeleteName_error hv]
    cases exact <;> cases veto <;> exact h.same _
  | ok k =>
    rw [getNode_ok hv]
    dsimp only
    have hdel := delName_refines h hv veto
    cases exact
    · exact hdel
    · cases hq : nodesGet s.ver k with
      | none =>
        have hk : t.ver.has k = false := by rw [← h.ver.2 k, hq]; rfl
        rw [hk]; exact h.same _
      | some nd =>
        have hk : t.ver.has k = true := by rw [← h.ver.2 k, hq]; rfl
        rw [hk] at hdel ⊢; exact hdel

theorem deleteCore_refines (hg : GoodCfg cfg) (h : TSim cfg s t) (exact : Bool) (name : Name) (sel : Sel)
    (veto : Bool) : StepEq cfg (deleteCore cfg s exact name sel veto) (sDelete cfg t name sel exact veto) := by
  have absent : StepEq cfg (if exact then (s, .error .deleteNotExact) else (s, .ok .unit))
      (if exact then (t, .error .deleteNotExact) else (t, .ok .unit)) :=
    ite_rel .rfl (fun _ => h.same _) fun _ => h.same _
  cases sel with
  | all => exact deleteAll_refines h exact name veto
  | type ty c =>
    unfold deleteCore sDelete
    dsimp only
    cases hv : validateName cfg name with
    | error e => rw [getRdataset_error hv]; exact h.same _
    | ok k =>
      rw [getRdataset_ok hv, h.ver.1]
      dsimp only
      cases t.ver.get (k, ty, c) with
      | none => exact absent
      | some ex => exact delRds_refines hg h hv ty c veto
  | rds r =>
    unfold deleteCore sDelete
    refine ite_rel .rfl (fun _ => deleteAll_refines h exact name veto) fun _ =>
      ite_rel .rfl (fun _ => h.same _) fun _ => ?_
    cases hv : validateName cfg name with
    | error e => rw [getRdataset_error hv]; exact h.same _
    | ok k =>
      rw [getRdataset_ok hv, h.ver.1]
      dsimp only
      cases hq : t.ver.get (k, r.rdtype, r.covers) with
      | none => exact absent
      | some ex =>
        have hex := h.get_class hq
        refine ite_rel .rfl (fun _ => h.same _) fun _ => ?_
        -- the reference model asks the hooks first; the code does inside whichever store it ends in
        cases veto
        · rw [if_neg Bool.false_ne_true]
          exact ite_rel .rfl (fun _ => delRds_refines hg h hv _ _ false) fun _ =>
            put_refines (r := ex.difference r) h hv hex false
        · simp only [checkedPut_veto, checkedDeleteRdataset_veto, ite_self]
          exact h.same _

theorem TSim.close (h : TSim cfg s t) (r : Res) :
    StepEq cfg ({ s with ended := true }, r) ({ t with ended := true }, r) :=
  ⟨{ h with ended := rfl }, rfl⟩

theorem end_refines (h : TSim cfg s t) (commit : Bool) : StepEq cfg (endTxn s commit) (sEnd t commit) :=
  ite_rel h.ended_iff (fun _ => h.same _) fun _ => ite_rel h.ro_iff (fun _ => h.close _) fun _ =>
    ite_rel (and_congr_right fun _ => h.changed_iff)
      (fun _ => ⟨{ h with zone := h.ver, izone := h.iver, ended := rfl }, rfl⟩) fun _ => h.close _

theorem endRaise_refines (h : TSim cfg s t) : StepEq cfg (endTxnRaise s) (sEndRaise t) :=
  ite_rel h.ended_iff (fun _ => h.same _) fun _ => ite_rel h.ro_iff (fun _ => h.close _) fun _ =>
    ite_rel h.changed_iff (fun _ => h.close _) fun _ => h.close _

theorem exit_refines (h : TSim cfg s t) (exc : Bool) : TSim cfg (exitTxn s exc) (sExit t exc) :=
  ite_rel (R := TSim cfg) h.ended_iff (fun _ => h) fun _ => (end_refines h (!exc)).1

theorem get_refines (h : TSim cfg s t) (n : Name) (ty c : Nat) :
    StepEq cfg (step cfg s (.get n ty c)) (sStep cfg t (.get n ty c)) := by
  refine ite_rel h.ended_iff (fun _ => h.same _) fun _ => ?_
  cases hv : validateName cfg n with
  | error e => rw [getRdataset_error hv]; exact h.same _
  | ok k => rw [getRdataset_ok hv, h.ver.1]; exact h.same _

theorem nameExists_refines (h : TSim cfg s t) (n : Name) :
    StepEq cfg (step cfg s (.nameExists n)) (sStep cfg t (.nameExists n)) := by
  refine ite_rel h.ended_iff (fun _ => h.same _) fun _ => ?_
  cases hv : validateName cfg n with
  | error e => rw [getNode_error hv]; exact h.same _
  | ok k => rw [getNode_ok hv]; dsimp only; rw [h.ver.2]; exact h.same _

theorem Sim.nodeRel {cls : Nat} {v : Nodes} {z : SZone} (hs : Sim cls v z) (k : Name) :
    NodeRel cls k (nodesGet v k) (if z.has k then some (z.atName k) else none) := by
  have hget := hs.1 k
  rw [← hs.2 k]
  unfold getM at hget
  cases hq : nodesGet v k with
  | none => trivial
  | some nd =>
    intro ty c
    rw [hq] at hget
    rw [show nd.find cls ty c = z.get (k, ty, c) from hget ty c, SZone.atName, sget_filter z (fun key => decide (key.1 = k)), if_pos (decide_eq_true rfl)]

theorem step_refines (hg : GoodCfg cfg) (h : TSim cfg s t) (op : Op) :
    StepRel cfg (step cfg s op) (sStep cfg t (toSOp op)) := by
  cases op with
  | commit => exact (end_refines h true).rel
  | rollback => exact (end_refines h false).rel
  | commitRaise => exact (endRaise_refines h).rel
  | add args veto | replace args veto =>
    simp only [step, toSOp, txnAdd]
    cases parseAddArgs args with
    | error e => exact h.ifWritable (h.same _)
    | ok x => exact h.ifWritable (addCore_refines hg h _ x.1 x.2.1 x.2.2 veto)
  | delete args veto | deleteExact args veto =>
    simp only [step, toSOp, txnDelete]
    cases parseDeleteArgs args with
    | error e => exact h.ifWritable (h.same _)
    | ok x => exact h.ifWritable (deleteCore_refines hg h _ x.1 x.2 veto)
  | updateSerial value relative name veto =>
    refine h.unlessEnded (StepEq.rel ?_)
    unfold txnUpdateSerial
    refine ite_rel .rfl (fun _ => h.same _) fun _ => ?_
    cases hv : validateName cfg name with
    | error e => rw [getRdataset_error hv]; exact h.same _
    | ok k =>
      rw [getRdataset_ok hv, h.ver.1]
      dsimp only
      cases t.ver.get (k, ConstsC10.soa, 0) with
      | none => exact h.same _
      | some rds =>
        dsimp only
        cases rds.items with
        | nil => exact h.same _
        | cons rd0 _ =>
          dsimp only
          cases newSerial rd0.val value relative with
          | error e => exact h.same _
          | ok serial =>
            -- `self.replace(name, new_rdataset)`: a well-formed argument list
            exact ite_rel h.ro_iff (fun _ => h.same _) fun _ => addCore_refines hg h true name _ false veto
  | get name ty c => exact (get_refines h name ty c).rel
  | nameExists name => exact (nameExists_refines h name).rel
  | changed => exact h.unlessEnded (StepEq.rel ⟨h, by rw [h.ro, h.changed]⟩)
  | dump => exact h.unlessEnded ⟨h, Or.inr h.ver⟩
  | getNode name =>
    refine ite_rel (by simp [hg.gn, h.ended]) (fun _ => (h.same _).rel) fun _ => ?_
    cases validateName cfg name with
    | error e => exact (h.same _).rel
    | ok k => exact ⟨h, Or.inr ⟨rfl, h.ver.nodeRel k⟩⟩

theorem run_refines (cfg : Cfg) (hg : GoodCfg cfg) (ops : List Op) (s : Txn) (t : STxn) (h : TSim cfg s t) :
    TSim cfg (run cfg s ops).1 (sRun cfg t (ops.map toSOp)).1 ∧
      AllRel (ResRel cfg.rdclass) (run cfg s ops).2 (sRun cfg t (ops.map toSOp)).2 := by
  induction ops generalizing s t with
  | nil => exact ⟨h, trivial⟩
  | cons op rest ih =>
    obtain ⟨h1, h2⟩ := step_refines hg h op
    obtain ⟨h3, h4⟩ := ih _ _ h1
    exact ⟨h3, h2, h4⟩

theorem TSim.begin {z : Nodes} {sz : SZone} (hz : Sim cfg.rdclass z sz) (hi : Inv cfg.rdclass z) (ro : Bool) :
    TSim cfg (if ro then beginRead z else beginWrite z) (if ro then sBeginRead sz else sBeginWrite sz) := by
  cases ro <;> exact ⟨hz, hz, hi, hi, rfl, rfl, rfl⟩

/-- From any pair of related open transactions: the results of a history agree one by one, and the published
zones are related again however the block is left. -/
theorem txn_refines (hg : GoodCfg cfg) (h : TSim cfg s t) (ops : List Op) (exc : Bool) :
    AllRel (ResRel cfg.rdclass) (run cfg s ops).2 (sRun cfg t (ops.map toSOp)).2 ∧
      Sim cfg.rdclass (exitTxn (run cfg s ops).1 exc).zone (sExit (sRun cfg t (ops.map toSOp)).1 exc).zone ∧
      Inv cfg.rdclass (exitTxn (run cfg s ops).1 exc).zone :=
  have ⟨h1, h2⟩ := run_refines cfg hg ops s t h
  ⟨h2, (exit_refines h1 exc).zone, (exit_refines h1 exc).izone⟩

end
end Model.ZT
