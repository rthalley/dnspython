import Proofs.ResolverRun
/-!
The state machine (`run`) computes the specification (`spec`).
`SpecOf` reads a state of the machine as "the specification resumed in the middle"; one iteration of the machine
either ends with the specification's result or moves to a state with the same reading (`Reads`, `step_sim`).  The
candidate loops of both sides are the same scan through `probe`; inside a candidate, whichever way `next_nameserver`
picks, the specification resumed there asks the picked server next (`SpecOf_pick`), and both judge the reply by `verdict`.
-/
namespace Model.Resolver
open Model

def worldOf (st : St) : World := { now := st.now, cache := st.cache, script := st.script, nx := st.nxNames }

/-- what is compared at the end: the clock, the cache, the unread script -/
def obsW (w : World) : Nat × Cache × List ScriptStep := (w.now, w.cache, w.script)
def obsS (st : St) : Nat × Cache × List ScriptStep := (st.now, st.cache, st.script)

def finishStop (env : Env) (rest : List Name) : Stop → Result × World
  | .result r w => (r, w)
  | .nextCandidate w => specCands env rest w

/-- the specification resumed inside a candidate: remaining servers of the round, servers alive, budget, back-off -/
def resume (env : Env) (q : Name) (rest : List Name) (F b : Nat) (round alive : List Server) (w : World) :
    Result × World :=
  finishStop env rest (specRounds env q F b round alive w)

def afterHandled (env : Env) (q : Name) (rest : List Name) (F b : Nat) (round : List Server) : Handled → Result × World
  | .stop e => finishStop env rest e
  | .goOn alive' w' => resume env q rest F b round alive' w'

/-- a state of the machine read as a point of the specification -/
def SpecOf (env : Env) (F : Nat) (st : St) : Result × World :=
  match st.phase with
  | .needRequest => specCands env st.qnames (worldOf st)
  | .querying =>
    if st.retryWithTcp then
      match st.nameserver with
      | some s =>
        afterHandled env st.qname st.qnames F st.backoff st.current
          (specTcpRetry env st.qname s st.nameservers (worldOf st))
      | none => (.noNameservers, worldOf st)
    else resume env st.qname st.qnames F st.backoff st.current st.nameservers (worldOf st)

theorem resume_cons (env : Env) (q : Name) (rest : List Name) (F b : Nat) (s : Server) (round alive : List Server)
    (w : World) :
    resume env q rest F b (s :: round) alive w = afterHandled env q rest F b round (specServer env q s alive w) := by
  unfold resume afterHandled
  rw [specRounds]
  simp only [specRound]
  cases specServer env q s alive w with
  | stop e => simp
  | goOn alive' w' =>
    simp only [resume]
    rw [specRounds]

theorem resume_nil_nil (env : Env) (q : Name) (rest : List Name) (F b : Nat) (w : World) :
    resume env q rest F b [] [] w = (.noNameservers, w) := by
  unfold resume
  rw [specRounds]
  simp [specRound, finishStop]

theorem resume_nil_cons (env : Env) (q : Name) (rest : List Name) (F b : Nat) (ns : Server) (al : List Server)
    (w : World) :
    resume env q rest (F + 1) b [] (ns :: al) w =
      afterHandled env q rest F (min (b * env.bo.factor) env.bo.cap) al
        (specServer env q ns (ns :: al) { w with now := w.now + sleepFor env b w.now }) := by
  unfold resume
  rw [specRounds]
  simp only [specRound, List.cons_ne_nil, if_false]
  exact resume_cons env q rest F _ ns al (ns :: al) _


/-- `specCands` at a candidate does what the cache says about it, as `next_request` does (`nextRequest_cons`) -/
theorem specCands_cons (env : Env) (q : Name) (rest : List Name) (w : World) :
    specCands env (q :: rest) w =
      match probe env w.cache w.now q with
      | .hit a => (.answer a, w)
      | .noAnswer => (.noAnswer, w)
      | .skip => specCands env rest { w with nx := recordNx w.nx q }
      | .ask => resume env q rest (specBudget env) env.bo.init env.cfg.servers env.cfg.servers w := by
  rw [specCands]
  refine (probe_elim ..).trans ?_
  unfold resume
  cases specRounds env q (specBudget env) env.bo.init env.cfg.servers env.cfg.servers w <;> rfl

theorem specCands_skip (env : Env) (qs : List Name) : ∀ (skipped : List Name) (w : World),
    (∀ p ∈ skipped, probe env w.cache w.now p = .skip) →
      specCands env (skipped ++ qs) w = specCands env qs { w with nx := skipped.foldl recordNx w.nx }
  | [], _, _ => rfl
  | q :: skipped, w, h => by
    rw [List.cons_append, specCands_cons, h q (List.mem_cons_self ..)]
    exact specCands_skip env qs skipped _ fun p hp => h p (List.mem_cons_of_mem _ hp)


/-- `specServer` with the transport as a parameter -/
def specServerT (env : Env) (q : Name) (s : Server) (tcp : Bool) (alive : List Server) (w : World) : Handled :=
  match specAsk env q s tcp w with
  | none => .stop (.result .lifetimeTimeout w)
  | some (.truncatedUdp, w') => specTcpRetry env q s alive w'
  | some (v, w') => specVerdict env q s alive v w'

theorem specServer_eq (env : Env) (q : Name) (s : Server) (alive : List Server) (w : World) :
    specServer env q s alive w = specServerT env q s (env.tcp || s.alwaysMax) alive w := rfl

theorem specTcpRetry_eq (env : Env) (q : Name) (s : Server) (alive : List Server) (w : World) :
    specTcpRetry env q s alive w = specServerT env q s true alive w := by
  unfold specTcpRetry specServerT specAsk
  cases computeTimeout env w.now with
  | none => rfl
  | some t =>
    simp only
    cases h : verdict env q s true (w.now + (doQuery w.script t).2.1) (doQuery w.script t).1
    case truncatedUdp => cases verdict_truncatedUdp h
    all_goals rfl

theorem cachePutIf_eq (env : Env) (w : World) (k : Key) (a : Answer) :
    cachePutIf env w k a = { w with cache := if env.cfg.cacheOn then cachePut w.cache k a else w.cache } := by
  unfold cachePutIf
  split <;> rfl

/-- re-armings the remaining lifetime still allows -/
def need (env : Env) (st : St) : Nat := roundsLeft env.bo env.lifetime (st.now - env.start)

/-- whichever way `next_nameserver` picks, the specification resumed at `st` asks the picked server next; its budget
is kept, or is one less after a re-arming, which sleeps a full back-off -/
theorem SpecOf_pick {env : Env} {st : St} {c : Choice} {F : Nat} (hph : st.phase = .querying) (hp : Picks env st c)
    (hF : 1 ≤ F) :
    ∃ F', SpecOf env F st = afterHandled env st.qname st.qnames F' c.backoff c.rest
        (specServerT env st.qname c.ns c.tcp st.nameservers
          { worldOf st with now := st.now + sleepFor env c.sleep st.now }) ∧
      (F' = F ∨ (F' + 1 = F ∧ c.sleep = st.backoff)) := by
  have hw : ({ worldOf st with now := st.now } : World) = worldOf st := rfl
  cases hp with
  | retry hr hn =>
    exact ⟨F, by simp only [SpecOf, hph, hr, hn, if_true, specTcpRetry_eq, sleepFor_zero, Nat.add_zero, hw], Or.inl rfl⟩
  | next hr hc =>
    exact ⟨F, by simp only [SpecOf, hph, hr, Bool.false_eq_true, if_false, hc, resume_cons, specServer_eq,
      sleepFor_zero, Nat.add_zero, hw], Or.inl rfl⟩
  | rearm hr hc hn =>
    obtain ⟨F0, rfl⟩ : ∃ F0, F = F0 + 1 := ⟨F - 1, by omega⟩
    exact ⟨F0, by simp only [SpecOf, hph, hr, Bool.false_eq_true, if_false, hc, hn, resume_nil_cons, specServer_eq,
      worldOf], Or.inr ⟨rfl, rfl⟩⟩

/-- `x` is what the specification yields when resumed at `st`, with a budget that covers the re-armings the remaining
lifetime allows -/
abbrev Reads (env : Env) (st : St) (x : Result × World) : Prop :=
  ∃ F, x = SpecOf env F st ∧ (st.phase = .querying → need env st + 1 ≤ F)

theorem step_sim (env : Env) (hpos : 0 < env.bo.init) (hcap : env.bo.init ≤ env.bo.cap) (hfac : 1 ≤ env.bo.factor)
    (st : St) (x : Result × World) (hwf : Wf env st) (hx : Reads env st x) :
    (step env st).sat (fun _ st' => Reads env st' x) (fun _ r st' => x.1 = r ∧ obsW x.2 = obsS st') := by
  obtain ⟨F, rfl, hF⟩ := hx
  refine step_sat fun res h => ?_
  have hstart := hwf.start_le
  cases h with
  | nxdomain hph hsk =>
    have := specCands_skip env [] st.qnames (worldOf st) hsk
    rw [List.append_nil] at this
    simp only [SpecOf, hph, this, specCands]
    exact ⟨rfl, rfl⟩
  | noAnswer hph hqs hsk hq | hit hph hqs hsk hq =>
    simp only [SpecOf, hph, hqs]
    rw [specCands_skip env _ _ _ hsk, specCands_cons]
    simp only [worldOf, hq]
    exact ⟨rfl, rfl⟩
  | request hph hqs hsk hq =>
    refine ⟨specBudget env, ?_, fun _ => ?_⟩
    · simp only [SpecOf, hph, hqs]
      rw [specCands_skip env _ _ _ hsk, specCands_cons]
      simp only [worldOf, hq]
      rfl
    have := roundsLeft_mono env.bo env.lifetime 0 (st.now - env.start) (Nat.zero_le _)
    exact Nat.succ_le_succ this
  | noNs hph h =>
    rcases h with ⟨c1, c2, c3⟩ | ⟨c1, c2⟩
    · simp [SpecOf, hph, c1, c2, c3, resume_nil_nil, obsW, obsS, worldOf]
    · simp [SpecOf, hph, c1, c2, obsW, obsS, worldOf]
  | @expired c w hph hp hw ht =>
    obtain ⟨F', heq, _⟩ := SpecOf_pick (F := F) hph hp (by have := hF hph; omega)
    rw [heq, ← hw]
    simp [specServerT, specAsk, worldOf, ht, afterHandled, finishStop, obsW, obsS, St.asked]
  | @reply c w t d hph hp hw ht hd =>
    obtain ⟨F', heq, hF1⟩ := SpecOf_pick (F := F) hph hp (by have := hF hph; omega)
    obtain ⟨hmono, hdec⟩ := roundsLeft_after_pass env (now' := w + d.2.1) hstart (hw ▸ (computeTimeout_some ht).1)
      (by omega)
    -- the budget still covers the re-armings the lifetime allows: a re-arming slept at least the first back-off
    have hbudget : roundsLeft env.bo env.lifetime (w + d.2.1 - env.start) + 1 ≤ F' := by
      have h := hF hph
      unfold need at h
      rcases hF1 with rfl | ⟨rfl, hb⟩
      · omega
      · have := hdec hpos (hb ▸ (hwf.sched hph).init_le hcap hfac)
        omega
    rw [heq, ← hw]
    -- both judge the reply with `verdict`; acting on the verdict is compared verdict by verdict
    simp only [specServerT, specAsk, worldOf, ht, ← hd]
    cases verdict env st.qname c.ns c.tcp (w + d.2.1) d.1 <;> simp only [judge, leaves, specVerdict, StepR.sat]
    case accept a => split <;> simp [afterHandled, finishStop, obsS, obsW, cachePutIf_eq, St.asked]
    case yxdomain => simp [afterHandled, finishStop, obsS, obsW, St.asked]
    all_goals
      exact ⟨F', by simp [afterHandled, finishStop, SpecOf, worldOf, cachePutIf_eq, St.asked, hph], fun _ => hbudget⟩

/-- for the loop as `Resolver.resolve` starts it, with whatever fuel: the result, the clock, the cache and the unread
script are those of `specCands` over all candidates -/
theorem run_sim (env : Env) (hpos : 0 < env.bo.init) (hcap : env.bo.init ≤ env.bo.cap) (hfac : 1 ≤ env.bo.factor)
    {cache : Cache} {script : List ScriptStep} {fuel : Nat} {res : List Event × Result × St}
    (hres : run env fuel (initOf env cache script) = res) {x : Result × World}
    (hx : specCands env env.qnamesToTry { now := env.start, cache := cache, script := script, nx := [] } = x) :
    res.2.1 = .outOfFuel ∨
    (res.2.1 = x.1 ∧ res.2.2.now = x.2.now ∧ res.2.2.cache = x.2.cache ∧ res.2.2.script = x.2.script) := by
  refine (run_post env hres (fun _ st' => Reads env st' x) (fun _ r st' => x.1 = r ∧ obsW x.2 = obsS st')
    (fun _ st => step_sim env hpos hcap hfac st x) ⟨0, hx.symm, nofun⟩).imp_right fun ⟨h1, h2⟩ => ?_
  simp only [obsW, obsS, Prod.mk.injEq] at h2
  exact ⟨h1.symm, h2.1.symm, h2.2.1.symm, h2.2.2.symm⟩

end Model.Resolver
