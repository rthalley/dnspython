import Proofs.BTreeShape
/-!
Layer L5: a cursor position as a zipper.  The parents stack of a cursor determines the elements
before and after the current node's subtree (`ctx`); a position inside the current node splits that
node's flattening (`upTo` / `fromPos`); together they cut the in-order listing in two (`Pos`).  A cut has several
descriptions — a child at its edge is a place of its parent, the two sides of an element are one step apart — and
every movement of a cursor passes from one to another (`pos_kid`, `Pos.read`, `Pos.pop`, `Pos.seek`); the resting state
of a cursor denotes a cut (`CurInv`).
-/
namespace Model.BTree

/-- elements of an internal node's flattening before child `i` -/
def nodeBefore (es : List Elt) (cs : List Node) (i : Nat) : List Elt := LF (cs.take i) (es.take i)
/-- elements of an internal node's flattening after child `i` -/
def nodeAfter (es : List Elt) (cs : List Node) (i : Nat) : List Elt := RF (cs.drop (i + 1)) (es.drop i)

theorem node_at {el er : List Elt} {cl cr : List Node} {c : Node} (h : cl.length = el.length) :
    nodeBefore (el ++ er) (cl ++ c :: cr) el.length = LF cl el ∧
    nodeAfter (el ++ er) (cl ++ c :: cr) el.length = RF cr er := by
  simp only [nodeBefore, nodeAfter]
  rw [List.take_left, List.drop_left, ← h, List.take_left, drop_at_succ]
  exact ⟨rfl, rfl⟩

theorem node_flat_at {es : List Elt} {cs : List Node} {i : Nat} (hlen : cs.length = es.length + 1)
    (hi : i ≤ es.length) :
    flat (.node es cs) = nodeBefore es cs i ++ flat (kidAt cs i) ++ nodeAfter es cs i := by
  obtain ⟨el, er, rfl, hel⟩ := split_at es i hi
  obtain ⟨cl, c, cr, rfl, hcl⟩ := split_at_lt cs i (by omega)
  have h : cl.length = el.length := by omega
  subst hel
  rw [flat_node_split el er cl c cr h, (node_at h).1, (node_at h).2, kidAt_at h]

/-- the part of a node's flattening before position `i`; for an internal node the position is either
just before child `i` (`afterChild = false`) or just after it (`afterChild = true`) -/
def upTo (n : Node) (i : Nat) (afterChild : Bool) : List Elt :=
  match n with
  | .leaf es => es.take i
  | .node es cs => nodeBefore es cs i ++ (if afterChild then flat (kidAt cs i) else [])

/-- the part of a node's flattening from position `i` on -/
def fromPos (n : Node) (i : Nat) (afterChild : Bool) : List Elt :=
  match n with
  | .leaf es => es.drop i
  | .node es cs => (if afterChild then [] else flat (kidAt cs i)) ++ nodeAfter es cs i

theorem upTo_leaf (es : List Elt) (i : Nat) (b : Bool) : upTo (.leaf es) i b = es.take i := rfl
theorem fromPos_leaf (es : List Elt) (i : Nat) (b : Bool) : fromPos (.leaf es) i b = es.drop i := rfl

theorem upTo_fromPos {t h : Nat} {n : Node} (hn : Shape t h n) (i : Nat) (b : Bool) (hi : i ≤ n.elts.length) :
    upTo n i b ++ fromPos n i b = flat n := by
  cases h with
  | zero => obtain ⟨es, rfl⟩ := shape_zero hn; simp [upTo, fromPos]
  | succ h =>
    obtain ⟨es, cs, rfl, hlen, _⟩ := shape_succ hn
    rw [node_flat_at hlen (by simpa [Node.elts] using hi)]
    cases b <;> simp [upTo, fromPos]

/-- the elements before / after the subtree reached through the stack (top of the stack first) -/
def ctx : List (Node × Nat) → List Elt × List Elt
  | [] => ([], [])
  | (p, j) :: ps => ((ctx ps).1 ++ nodeBefore p.elts p.children j, nodeAfter p.elts p.children j ++ (ctx ps).2)

/-- `n` (of height `h`) is reached from `root` through the stack `ps` -/
def PathOk (t : Nat) (root : Node) : Nat → Node → List (Node × Nat) → Prop
  | h, n, [] => n = root ∧ Shape t h n
  | h, n, (p, j) :: ps =>
    j < p.children.length ∧ kidAt p.children j = n ∧ Shape t h n ∧ PathOk t root (h + 1) p ps

theorem pathOk_shape {t : Nat} {root : Node} {h : Nat} {n : Node} {ps : List (Node × Nat)}
    (hp : PathOk t root h n ps) : Shape t h n := by
  cases ps with
  | nil => exact hp.2
  | cons pj ps => obtain ⟨p, j⟩ := pj; exact hp.2.2.1

theorem zipper {t : Nat} {root : Node} : ∀ {ps : List (Node × Nat)} {h : Nat} {n : Node},
    PathOk t root h n ps → flat root = (ctx ps).1 ++ flat n ++ (ctx ps).2 := by
  intro ps
  induction ps with
  | nil => intro h n hp; simp [ctx, hp.1]
  | cons pj ps ih =>
    intro h n hp
    obtain ⟨p, j⟩ := pj
    obtain ⟨hj, hkid, _, hpp⟩ := hp
    have hps := pathOk_shape hpp
    obtain ⟨es, cs, rfl, hlen, _⟩ := shape_succ hps
    rw [ih hpp, node_flat_at hlen (i := j) (by simp [Node.children] at hj; omega)]
    simp only [Node.children] at hkid
    simp [ctx, Node.elts, Node.children, hkid]

theorem pathOk_push {t : Nat} {root : Node} {h : Nat} {es : List Elt} {cs : List Node} {ps : List (Node × Nat)}
    {i : Nat} (hp : PathOk t root (h + 1) (.node es cs) ps) (hi : i < cs.length) :
    PathOk t root h (kidAt cs i) ((.node es cs, i) :: ps) := by
  have hs := pathOk_shape hp
  obtain ⟨_, _, heq, hlen, hk⟩ := shape_succ hs
  cases heq
  refine ⟨by simpa [Node.children] using hi, by simp [Node.children], ?_, hp⟩
  have hmem : kidAt cs i ∈ cs := by
    simp only [kidAt, List.getD_eq_getElem?_getD, List.getElem?_eq_getElem hi, Option.getD_some]
    exact List.getElem_mem _
  exact (hk _ hmem).1

theorem pathOk_height {t : Nat} {root : Node} {H : Nat} (hr : Shape t H root) :
    ∀ {ps : List (Node × Nat)} {h : Nat} {n : Node}, PathOk t root h n ps → h + ps.length = H := by
  intro ps
  induction ps with
  | nil =>
    intro h n hp
    obtain ⟨rfl, hs⟩ := hp
    have h1 := height_of_shape hs
    have h2 := height_of_shape hr
    simp; omega
  | cons pj ps ih =>
    intro h n hp
    obtain ⟨p, j⟩ := pj
    have := ih hp.2.2.2
    simp; omega

theorem node_step {es : List Elt} {cs : List Node} {i : Nat} (hlen : cs.length = es.length + 1)
    (hi : i < es.length) :
    nodeAfter es cs i = eltAt es i :: (flat (kidAt cs (i + 1)) ++ nodeAfter es cs (i + 1)) ∧
    nodeBefore es cs (i + 1) = nodeBefore es cs i ++ flat (kidAt cs i) ++ [eltAt es i] := by
  obtain ⟨el, x, er, rfl, hel⟩ := split_at_lt es i hi
  obtain ⟨cl, c, rest, rfl, hcl⟩ := split_at_lt cs i (by omega)
  cases rest with
  | nil => simp at hlen; omega
  | cons c' cr =>
    have h : cl.length = el.length := by omega
    subst hel
    -- the same node cut at `c` and at `c'`
    have e := node_at (el := el ++ [x]) (er := er) (cl := cl ++ [c]) (c := c') (cr := cr) (by simp [h])
    simp only [List.append_assoc, List.singleton_append, List.length_append, List.length_singleton] at e
    rw [(node_at h).1, (node_at h).2, e.1, e.2, RF_cons, kidAt_at_succ h, kidAt_at h, eltAt_at rfl, LF_snoc cl c el x h]
    exact ⟨rfl, rfl⟩

theorem nodeBefore_zero (es : List Elt) (cs : List Node) : nodeBefore es cs 0 = [] := by
  simp [nodeBefore, LF]

theorem nodeAfter_last {es : List Elt} {cs : List Node} (hlen : cs.length = es.length + 1) :
    nodeAfter es cs es.length = [] := by
  simp [nodeAfter, RF, List.drop_eq_nil_of_le, hlen]

theorem read_step {t h : Nat} {n : Node} {i : Nat} (hn : Shape t h n) (hi : i < n.elts.length) :
    fromPos n i true = eltAt n.elts i :: fromPos n (i + 1) false ∧
    upTo n (i + 1) false = upTo n i true ++ [eltAt n.elts i] := by
  cases h with
  | zero =>
    obtain ⟨es, rfl⟩ := shape_zero hn
    obtain ⟨a, x, b, rfl, rfl⟩ := split_at_lt es i hi
    simp only [fromPos_leaf, upTo_leaf, Node.elts]
    rw [List.drop_left, drop_at_succ, take_at_succ, List.take_left, eltAt_append_cons]
    exact ⟨rfl, rfl⟩
  | succ h =>
    obtain ⟨es, cs, rfl, hlen, _⟩ := shape_succ hn
    simp only [Node.elts] at hi
    obtain ⟨h1, h2⟩ := node_step hlen hi
    simp only [fromPos, upTo, Node.elts, if_true, List.nil_append, Bool.false_eq_true, if_false,
      List.append_nil]
    exact ⟨h1, by rw [h2]⟩

/-- The place `(n, i)` under the stack `ps` cuts the listing of `root` into `D` and `R`.  In an internal node the
place is just before child `i` (`after = false`) or just after it (`after = true`); in a leaf the flag means nothing.
`next()` and `_seek_least` meet the flags in one order, `prev()` and `_seek_greatest` in the other. -/
def Pos (t : Nat) (root : Node) (h : Nat) (n : Node) (i : Nat) (after : Bool) (ps : List (Node × Nat))
    (D R : List Elt) : Prop :=
  PathOk t root h n ps ∧ i ≤ n.elts.length ∧ D = (ctx ps).1 ++ upTo n i after ∧ R = fromPos n i after ++ (ctx ps).2

theorem Pos.split {t : Nat} {root : Node} {h : Nat} {n : Node} {i : Nat} {b : Bool} {ps : List (Node × Nat)}
    {D R : List Elt} (hp : Pos t root h n i b ps D R) : D ++ R = flat root := by
  obtain ⟨hp, hi, rfl, rfl⟩ := hp
  rw [zipper hp, ← upTo_fromPos (pathOk_shape hp) i b hi]
  simp

theorem Pos.flag {t : Nat} {root : Node} {h : Nat} {n : Node} {i : Nat} {b : Bool} {ps : List (Node × Nat)}
    {D R : List Elt} (hp : Pos t root h n i b ps D R) (b' : Bool) (hb : n.isLeaf = false → b = b') :
    Pos t root h n i b' ps D R := by
  obtain ⟨hp, hi, rfl, rfl⟩ := hp
  refine ⟨hp, hi, ?_⟩
  cases h with
  | zero => obtain ⟨es, rfl⟩ := shape_zero (pathOk_shape hp); exact ⟨rfl, rfl⟩
  | succ h => obtain ⟨es, cs, rfl, _, _⟩ := shape_succ (pathOk_shape hp); rw [hb rfl]; exact ⟨rfl, rfl⟩

/-- what a step in direction `fwd` (`next()`: `true`, `prev()`: `false`) returns at the cut `(D, R)`, and the cut it
leaves -/
def zhead (fwd : Bool) (D R : List Elt) : Option Elt := if fwd then R.head? else D.getLast?

def zstep (fwd : Bool) (D R : List Elt) : List Elt × List Elt :=
  if fwd then (D ++ R.head?.toList, R.tail) else (D.dropLast, D.getLast?.toList ++ R)

/-- in direction `fwd` the next thing after place `i` of the node is one of its own elements -/
def canRead (fwd : Bool) (n : Node) (i : Nat) : Prop := if fwd then i < n.elts.length else i ≥ 1

instance (fwd : Bool) (n : Node) (i : Nat) : Decidable (canRead fwd n i) := by unfold canRead; infer_instance

theorem Pos.read {t : Nat} {root : Node} {h : Nat} {n : Node} {i : Nat} {fwd : Bool} {ps : List (Node × Nat)}
    {D R : List Elt} (hp : Pos t root h n i fwd ps D R) (hr : canRead fwd n i) :
    zhead fwd D R = some (eltAt n.elts (if fwd then i else i - 1)) ∧
    Pos t root h n (if fwd then i + 1 else i - 1) (!fwd) ps (zstep fwd D R).1 (zstep fwd D R).2 := by
  obtain ⟨hp, hi, rfl, rfl⟩ := hp
  cases fwd with
  | true =>
    simp only [canRead, if_true] at hr
    obtain ⟨r1, r2⟩ := read_step (pathOk_shape hp) hr
    simp only [zhead, zstep, if_true, r1, List.cons_append, List.head?_cons, List.tail_cons, Option.toList_some]
    exact ⟨trivial, hp, hr, by rw [Bool.not_true, r2, List.append_assoc], rfl⟩
  | false =>
    simp only [canRead, Bool.false_eq_true, if_false] at hr
    obtain ⟨r1, r2⟩ := read_step (pathOk_shape hp) (i := i - 1) (by omega)
    rw [Nat.sub_add_cancel hr] at r1 r2
    simp only [zhead, zstep, Bool.false_eq_true, if_false, r2, ← List.append_assoc, List.getLast?_concat,
      List.dropLast_concat, Option.toList_some]
    exact ⟨trivial, hp, by omega, rfl, by rw [Bool.not_false, r1]; rfl⟩

/-- the edge of a node at which a traversal with flag `b` enters it from its parent: the start going forward
(`b = false`, before child 0), the end going backward -/
def edge (b : Bool) (n : Node) : Nat := if b then n.elts.length else 0

theorem pos_edge {t h : Nat} {n : Node} (hs : Shape t h n) (b : Bool) :
    upTo n (edge b n) b = (if b then flat n else []) ∧ fromPos n (edge b n) b = (if b then [] else flat n) := by
  cases h with
  | zero => obtain ⟨es, rfl⟩ := shape_zero hs; cases b <;> simp [upTo, fromPos, edge, Node.elts]
  | succ h =>
    obtain ⟨es, cs, rfl, hlen, _⟩ := shape_succ hs
    cases b <;> simp only [edge, upTo, fromPos, Node.elts, if_true, Bool.false_eq_true, if_false, List.nil_append,
      List.append_nil]
    · rw [node_flat_at hlen (Nat.zero_le _), nodeBefore_zero]; simp
    · rw [node_flat_at hlen (Nat.le_refl _), nodeAfter_last hlen]; simp

theorem edge_of_not_canRead {fwd : Bool} {n : Node} {i : Nat} (hi : i ≤ n.elts.length) (hr : ¬ canRead fwd n i) :
    i = edge fwd n := by
  cases fwd <;> simp only [canRead, edge, if_true, Bool.false_eq_true, if_false] at hr ⊢ <;> omega

/-- child `i` taken at its edge is the place `i` of the parent -/
theorem pos_kid {t : Nat} {root : Node} {h : Nat} {es : List Elt} {cs : List Node} {i : Nat} {b : Bool}
    {ps : List (Node × Nat)} {D R : List Elt} :
    Pos t root h (kidAt cs i) (edge b (kidAt cs i)) b ((.node es cs, i) :: ps) D R ↔
      Pos t root (h + 1) (.node es cs) i b ps D R := by
  have hcut : ∀ c : Node, Shape t h c → kidAt cs i = c →
      (ctx ((.node es cs, i) :: ps)).1 ++ upTo c (edge b c) b = (ctx ps).1 ++ upTo (.node es cs) i b ∧
      fromPos c (edge b c) b ++ (ctx ((.node es cs, i) :: ps)).2 = fromPos (.node es cs) i b ++ (ctx ps).2 := by
    intro c hc hkid
    obtain ⟨e1, e2⟩ := pos_edge hc b
    rw [e1, e2]
    cases b <;> simp [ctx, upTo, fromPos, Node.elts, Node.children, hkid]
  constructor
  · rintro ⟨hp, _, rfl, rfl⟩
    obtain ⟨hj, _, hc, hpp⟩ := hp
    obtain ⟨_, _, heq, hlen, _⟩ := shape_succ (pathOk_shape hpp)
    cases heq
    obtain ⟨c1, c2⟩ := hcut _ hc rfl
    exact ⟨hpp, by simp only [Node.children] at hj; simp only [Node.elts]; omega, c1, c2⟩
  · rintro ⟨hp, hi, rfl, rfl⟩
    obtain ⟨_, _, heq, hlen, _⟩ := shape_succ (pathOk_shape hp)
    cases heq
    have hp' := pathOk_push hp (i := i) (by simp only [Node.elts] at hi; omega)
    obtain ⟨c1, c2⟩ := hcut _ (pathOk_shape hp') rfl
    exact ⟨hp', by cases b <;> simp [edge], c1.symm, c2.symm⟩

/-- at the end of a node in direction `fwd`: the same cut seen from the parent … -/
theorem Pos.pop {t : Nat} {root : Node} {h : Nat} {n p : Node} {i j : Nat} {fwd : Bool} {ps : List (Node × Nat)}
    {D R : List Elt} (hp : Pos t root h n i fwd ((p, j) :: ps) D R) (hr : ¬ canRead fwd n i) :
    Pos t root (h + 1) p j fwd ps D R := by
  obtain rfl := edge_of_not_canRead hp.2.1 hr
  obtain ⟨es, cs, rfl, _, _⟩ := shape_succ (pathOk_shape hp.1.2.2.2)
  obtain rfl : kidAt cs j = n := hp.1.2.1
  exact pos_kid.mp hp

/-- … or, at the root, an end of the listing -/
theorem Pos.last {t : Nat} {root : Node} {h : Nat} {n : Node} {i : Nat} {fwd : Bool} {D R : List Elt}
    (hp : Pos t root h n i fwd [] D R) (hr : ¬ canRead fwd n i) :
    zhead fwd D R = none ∧ zstep fwd D R = (D, R) := by
  obtain rfl := edge_of_not_canRead hp.2.1 hr
  obtain ⟨hp, _, rfl, rfl⟩ := hp
  obtain ⟨e1, e2⟩ := pos_edge (pathOk_shape hp) fwd
  rw [e1, e2]
  cases fwd <;> simp [ctx, zhead, zstep]

/-- `_seek_least` (`fwd = true`) / `_seek_greatest` -/
def seekTo (fwd : Bool) : Nat → Node → Nat → List (Node × Nat) → Node × Nat × List (Node × Nat) :=
  if fwd then seekLeast else seekGreatest

/-- The descent that precedes a step in direction `fwd` — from before child `i` to the least element below it, or from
after child `i` to the greatest — ends in a leaf at the same cut. -/
theorem Pos.seek {t : Nat} {root : Node} (fwd : Bool) {D R : List Elt} : ∀ (h f : Nat) (n : Node) (i : Nat)
    (ps : List (Node × Nat)), h ≤ f → Pos t root h n i (!fwd) ps D R →
    ∃ ls i' ps', seekTo fwd f n i ps = (.leaf ls, i', ps') ∧ Pos t root 0 (.leaf ls) i' (!fwd) ps' D R := by
  intro h
  induction h with
  | zero =>
    intro f n i ps _ hp
    obtain ⟨es, rfl⟩ := shape_zero (pathOk_shape hp.1)
    exact ⟨es, i, ps, by cases fwd <;> simp [seekTo, seekLeast, seekGreatest], hp⟩
  | succ h ih =>
    intro f n i ps hf hp
    obtain ⟨f, rfl⟩ : ∃ f', f = f' + 1 := ⟨f - 1, by omega⟩
    obtain ⟨es, cs, rfl, _, _⟩ := shape_succ (pathOk_shape hp.1)
    have hstep : seekTo fwd (f + 1) (.node es cs) i ps =
        seekTo fwd f (kidAt cs i) (edge (!fwd) (kidAt cs i)) ((.node es cs, i) :: ps) := by cases fwd <;> rfl
    rw [hstep]
    exact ih f _ _ _ (by omega) (pos_kid.mpr hp)

/-- The resting state of a cursor on the tree `root` denotes the listing split at the cursor's position:
`done` are the elements before it, `rest` those after it. -/
def CurInv (t : Nat) (root : Node) (c : Cursor) (done rest : List Elt) : Prop :=
  match c.node with
  | none => c.parents = [] ∧ c.recurse = false ∧ done ++ rest = flat root ∧
      ((c.idx = 0 ∧ done = []) ∨ (c.idx = 1 ∧ rest = []))
  | some n => ∃ h, PathOk t root h n c.parents ∧ c.idx ≤ n.elts.length ∧ c.recurse = !n.isLeaf ∧
      done = (ctx c.parents).1 ++ upTo n c.idx (!c.increasing) ∧
      rest = fromPos n c.idx (!c.increasing) ++ (ctx c.parents).2

theorem curInv_some {t : Nat} {root n : Node} {c : Cursor} {D R : List Elt} (hn : c.node = some n) :
    CurInv t root c D R ↔ (∃ h, Pos t root h n c.idx (!c.increasing) c.parents D R) ∧ c.recurse = !n.isLeaf := by
  simp only [CurInv, hn, Pos]
  constructor
  · rintro ⟨h, a, b, c, d, e⟩; exact ⟨⟨h, a, b, d, e⟩, c⟩
  · rintro ⟨⟨h, a, b, d, e⟩, c⟩; exact ⟨h, a, b, c, d, e⟩

/-- a cursor off the tree rests at an edge of the root: the start (`idx = 0`) or the end (`idx = 1`) of the listing -/
theorem curInv_none {t : Nat} {root : Node} {Hr : Nat} {c : Cursor} {D R : List Elt} (hr : Shape t Hr root)
    (hn : c.node = none) (h : CurInv t root c D R) :
    c.parents = [] ∧ c.recurse = false ∧
      ∃ b : Bool, c.idx = (if b then 1 else 0) ∧ Pos t root Hr root (edge b root) b [] D R := by
  simp only [CurInv, hn] at h
  obtain ⟨hps, hrec, hsplit, hb⟩ := h
  refine ⟨hps, hrec, ?_⟩
  rcases hb with ⟨h0, rfl⟩ | ⟨h1, rfl⟩
  · obtain ⟨e1, e2⟩ := pos_edge hr false
    exact ⟨false, h0, ⟨rfl, hr⟩, Nat.zero_le _, by simp [ctx, e1], by simpa [ctx, e2] using hsplit⟩
  · obtain ⟨e1, e2⟩ := pos_edge hr true
    exact ⟨true, h1, ⟨rfl, hr⟩, Nat.le_refl _, by simpa [ctx, e1] using hsplit, by simp [ctx, e2]⟩

theorem curInv_split {t : Nat} {root : Node} {c : Cursor} {done rest : List Elt} (h : CurInv t root c done rest) :
    done ++ rest = flat root := by
  cases hn : c.node with
  | none => simp only [CurInv, hn] at h; exact h.2.2.1
  | some n => obtain ⟨⟨_, hp⟩, _⟩ := (curInv_some hn).mp h; exact hp.split

end Model.BTree
