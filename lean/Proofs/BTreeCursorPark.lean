import Proofs.BTreeCursorStep
/-!
Layer L5: `seek(key, before)` positions the cursor at the lower bound (`before`) or the upper bound
(`not before`) of the key in the in-order listing; parked cursors: unparking re-seeks the anchor (`parking_key`,
`parking_key_read`, `increasing`) on the tree as it is now, and `next()` / `prev()` leave the anchor that describes
their new position.
-/
namespace Model.BTree

/-- the listing is split at the bound of `key`: strictly smaller keys before and keys at least `key` after
(`before = true`), or keys at most `key` before and strictly larger keys after (`before = false`) -/
def SplitAt (key : Nat) (before : Bool) (D R : List Elt) : Prop :=
  if before then (∀ x ∈ D, x.1 < key) ∧ (∀ x ∈ R, key ≤ x.1)
  else (∀ x ∈ D, x.1 ≤ key) ∧ (∀ x ∈ R, key < x.1)

theorem splitAt_of_strict {key : Nat} {D R : List Elt} (before : Bool) (hD : ∀ x ∈ D, x.1 < key)
    (hR : ∀ x ∈ R, key < x.1) : SplitAt key before D R := by
  unfold SplitAt
  cases before
  · exact ⟨fun x hx => Nat.le_of_lt (hD x hx), hR⟩
  · exact ⟨hD, fun x hx => Nat.le_of_lt (hR x hx)⟩

theorem mem_append3 {x : Elt} {A B C : List Elt} (h : x ∈ A ++ B ++ C) : x ∈ A ∨ x ∈ B ∨ x ∈ C := by
  rcases List.mem_append.mp h with h | h
  · rcases List.mem_append.mp h with h | h
    · exact Or.inl h
    · exact Or.inr (Or.inl h)
  · exact Or.inr (Or.inr h)

theorem splitAt_found_before {key : Nat} {D R : List Elt} {e : Elt} (he : e.1 = key) (hD : ∀ x ∈ D, x.1 < key)
    (hR : ∀ x ∈ R, key < x.1) : SplitAt key true D (e :: R) := by
  simp only [SplitAt, if_true]
  exact ⟨hD, List.forall_mem_cons.mpr ⟨Nat.le_of_eq he.symm, fun x hx => Nat.le_of_lt (hR x hx)⟩⟩

theorem splitAt_found_after {key : Nat} {D R : List Elt} {e : Elt} (he : e.1 = key) (hD : ∀ x ∈ D, x.1 < key)
    (hR : ∀ x ∈ R, key < x.1) : SplitAt key false (D ++ [e]) R := by
  simp only [SplitAt, Bool.false_eq_true, if_false]
  exact ⟨List.forall_mem_append.mpr ⟨fun x hx => Nat.le_of_lt (hD x hx),
    List.forall_mem_singleton.mpr (Nat.le_of_eq he)⟩, hR⟩

theorem seekLoop_leaf {t : Nat} {root : Node} (key : Nat) (before : Bool) (f : Nat) {n : Node}
    {ps : List (Node × Nat)} (hp : PathOk t root 0 n ps) (hs : Sorted (flat n))
    (hb : ∀ x ∈ (ctx ps).1, x.1 < key) (ha : ∀ x ∈ (ctx ps).2, key < x.1) :
    ∃ ls i' ps' D R, seekLoop key before f n ps = (.leaf ls, i', ps') ∧ Pos t root 0 (.leaf ls) i' before ps' D R ∧
      SplitAt key before D R := by
  obtain ⟨es, rfl⟩ := shape_zero (pathOk_shape hp)
  simp only [flat_leaf] at hs
  unfold seekLoop
  simp only [Node.elts]
  have hpos : ∀ i, i ≤ es.length → Pos t root 0 (.leaf es) i before ps ((ctx ps).1 ++ es.take i) (es.drop i ++ (ctx ps).2) :=
    fun i hi => ⟨hp, hi, rfl, rfl⟩
  rcases search_cases key hs with ⟨el, er, rfl, hl, hr, hres⟩ | ⟨el, e, er, rfl, he, hl, hr, hres⟩
  · refine ⟨_, el.length, ps, _, _, by simp [hres], hpos _ (by simp), ?_⟩
    rw [List.take_left, List.drop_left]
    exact splitAt_of_strict before (List.forall_mem_append.mpr ⟨hb, hl⟩) (List.forall_mem_append.mpr ⟨hr, ha⟩)
  · cases before with
    | true =>
      refine ⟨_, el.length, ps, _, _, by simp [hres], hpos _ (by simp), ?_⟩
      rw [List.take_left, List.drop_left]
      exact splitAt_found_before he (List.forall_mem_append.mpr ⟨hb, hl⟩) (List.forall_mem_append.mpr ⟨hr, ha⟩)
    | false =>
      refine ⟨_, el.length + 1, ps, _, _, by simp [hres], hpos _ (by simp), ?_⟩
      rw [take_at_succ, drop_at_succ, ← List.append_assoc]
      exact splitAt_found_after he (List.forall_mem_append.mpr ⟨hb, hl⟩) (List.forall_mem_append.mpr ⟨hr, ha⟩)

theorem seekLoop_spec {t : Nat} {root : Node} (key : Nat) (before : Bool) :
    ∀ (f h : Nat) (n : Node) (ps : List (Node × Nat)), h ≤ f → PathOk t root h n ps → Sorted (flat n) →
    (∀ x ∈ (ctx ps).1, x.1 < key) → (∀ x ∈ (ctx ps).2, key < x.1) →
    ∃ ls i' ps' D R, seekLoop key before f n ps = (.leaf ls, i', ps') ∧ Pos t root 0 (.leaf ls) i' before ps' D R ∧
      SplitAt key before D R := by
  intro f
  induction f with
  | zero =>
    intro h n ps hf hp hs hb ha
    have : h = 0 := by omega
    subst this
    exact seekLoop_leaf key before 0 hp hs hb ha
  | succ f ih =>
    intro h n ps hf hp hs hb ha
    cases h with
    | zero => exact seekLoop_leaf key before (f + 1) hp hs hb ha
    | succ h =>
      have hsn := pathOk_shape hp
      obtain ⟨es, cs, rfl, hk⟩ := shape_succ hsn
      unfold seekLoop
      simp only [Node.elts]
      rcases node_cases key hk hs with ⟨el, er, cl, c, cr, rfl, rfl, hres, w⟩ |
        ⟨el, e, er, _, _, _, _, rfl, _, _, he, hres, _⟩
      · -- descend into the child at the search index
        obtain ⟨hsc, hA, hB⟩ := w.window
        have hcl := w.len
        simp only [hres, Bool.false_eq_true, if_false, kidAt_at hcl]
        have hp' := pathOk_push (i := el.length) hp (by simp; omega)
        rw [kidAt_at hcl] at hp'
        apply ih h c _ (by omega) hp' hsc
        · simp only [ctx, Node.elts, Node.children, (node_at hcl).1]
          exact List.forall_mem_append.mpr ⟨hb, hA⟩
        · simp only [ctx, Node.elts, Node.children, (node_at hcl).2]
          exact List.forall_mem_append.mpr ⟨hB, ha⟩
      · -- found in this internal node
        have hi : el.length < (el ++ e :: er).length := by simp
        have hi' : el.length ≤ (Node.node (el ++ e :: er) cs).elts.length := by simp [Node.elts]
        obtain ⟨r1, r2⟩ := read_step hsn (i := el.length) hi
        simp only [Node.elts, eltAt_at rfl] at r1 r2
        have hfl := upTo_fromPos hsn el.length true hi'
        rw [r1] at hfl
        have hs' := hs
        rw [← hfl] at hs'
        have hlt := (sorted_append_iff.mp hs').2.2
        have hgt := (sorted_cons_iff.mp (sorted_append_iff.mp hs').2.1).1
        -- everything before the element (context and node) is below the key, everything after it above
        have hD := List.forall_mem_append.mpr ⟨hb, fun x hx => he ▸ hlt x hx e (by simp)⟩
        have hR := List.forall_mem_append.mpr ⟨fun x hx => he ▸ hgt x hx, ha⟩
        simp only [hres, if_true]
        -- the place just before the element (then `_seek_greatest`), or just after it (`_seek_least`)
        cases before with
        | true =>
          obtain ⟨ls, i', ps', s1, s2⟩ := Pos.seek false (h + 1) (f + 1) _ el.length ps hf ⟨hp, hi', rfl, rfl⟩
          simp only [Bool.not_false, r1] at s2
          exact ⟨ls, i', ps', _, _, s1, s2, splitAt_found_before he hD hR⟩
        | false =>
          obtain ⟨ls, i', ps', s1, s2⟩ := Pos.seek true (h + 1) (f + 1) _ (el.length + 1) ps hf
            ⟨hp, by simp [Node.elts], rfl, rfl⟩
          simp only [Bool.not_true, r2, ← List.append_assoc] at s2
          exact ⟨ls, i', ps', _, _, s1, s2, splitAt_found_after he hD hR⟩

theorem seek_spec {t : Nat} {root : Node} (hw : Wf t root) (key : Nat) (before : Bool) :
    ∃ D R, CurInv t root (Cursor.seek root key before) D R ∧ SplitAt key before D R ∧
      (∃ ls, (Cursor.seek root key before).node = some (.leaf ls)) ∧
      (Cursor.seek root key before).parked = false ∧ (Cursor.seek root key before).pkey = some key ∧
      (Cursor.seek root key before).pread = false ∧ (Cursor.seek root key before).increasing = before := by
  obtain ⟨Hr, hr⟩ := hw.shape
  obtain ⟨ls, i', ps', D, R, s1, s2, s3⟩ := seekLoop_spec (t := t) (root := root) key before (height root + 1) Hr root []
    (by have := height_of_shape hr; omega) ⟨rfl, hr⟩ hw.sorted (by simp [ctx]) (by simp [ctx])
  refine ⟨D, R, ?_, s3, ⟨ls, by unfold Cursor.seek; rw [s1]⟩, ?_⟩
  · unfold Cursor.seek
    rw [s1]
    exact (curInv_some rfl).mpr ⟨⟨0, s2.flag _ (fun hl => nomatch hl)⟩, rfl⟩
  · unfold Cursor.seek
    rw [s1]
    simp

/-- the hint with which `_maybe_unpark` seeks the parking key: after it if the key was returned by `next()`,
before it if it was returned by `prev()`, and as sought if it was not returned yet -/
def unparkBefore (c : Cursor) : Bool := if c.pread then !c.increasing else c.increasing

/-- `_maybe_unpark` of a parked cursor with a parking key: the cursor rests at the bound of that key in the
tree as it is now, whatever happened to the tree since the cursor was parked -/
theorem maybeUnpark_key {t : Nat} {root : Node} (hw : Wf t root) (c : Cursor) (K : Nat)
    (hp : c.parked = true) (hk : c.pkey = some K) :
    ∃ D R, CurInv t root (c.maybeUnpark root) D R ∧ SplitAt K (unparkBefore c) D R ∧
      (c.maybeUnpark root).parked = false := by
  obtain ⟨D, R, hinv, hsplit, ⟨ls, hls⟩, _⟩ := seek_spec hw K (unparkBefore c)
  refine ⟨D, R, ?_, hsplit, ?_⟩
  · have : c.maybeUnpark root =
        { Cursor.seek root K (unparkBefore c) with increasing := c.increasing, parked := false, pkey := none } := by
      simp [Cursor.maybeUnpark, hp, hk, unparkBefore]
    rw [this]
    -- in a leaf the direction hint does not enter the position
    obtain ⟨⟨h, hpos⟩, hrec⟩ := (curInv_some hls).mp hinv
    refine (curInv_some ?_).mpr ⟨⟨h, hpos.flag _ (fun hl => nomatch hl)⟩, hrec⟩
    exact hls
  · simp [Cursor.maybeUnpark, hp, hk]

theorem maybeUnpark_nokey {t : Nat} {root : Node} (c : Cursor) {D R : List Elt} (hp : c.parked = true)
    (hk : c.pkey = none) (h : CurInv t root c D R) :
    CurInv t root (c.maybeUnpark root) D R ∧ (c.maybeUnpark root).parked = false := by
  have : c.maybeUnpark root = { c with parked := false, pkey := none } := by
    simp [Cursor.maybeUnpark, hp, hk]
  rw [this]
  exact ⟨curInv_congr rfl rfl rfl rfl rfl h, rfl⟩

theorem boundary_inv (t : Nat) (root : Node) (c : Cursor) (hn : c.node = none) (hps : c.parents = [])
    (hrec : c.recurse = false) :
    (c.idx = 0 → CurInv t root c [] (flat root)) ∧ (c.idx = 1 → CurInv t root c (flat root) []) := by
  constructor
  · intro h0
    simp only [CurInv, hn]
    exact ⟨hps, hrec, by simp, Or.inl ⟨h0, trivial⟩⟩
  · intro h1
    simp only [CurInv, hn]
    exact ⟨hps, hrec, by simp, Or.inr ⟨h1, trivial⟩⟩

/-- the anchor a step leaves: the key returned, marked as read, with the direction of the step; the anchor is
untouched when nothing is returned -/
theorem stepLoop_anchor (fwd : Bool) (H : Nat) : ∀ (k : Nat) (c : Cursor) (n : Node),
    (∀ e, (stepLoop fwd H k c n).2 = some e →
      (stepLoop fwd H k c n).1.pkey = some e.1 ∧ (stepLoop fwd H k c n).1.pread = true ∧
      (stepLoop fwd H k c n).1.increasing = fwd) ∧
    ((stepLoop fwd H k c n).2 = none → (stepLoop fwd H k c n).1.pkey = c.pkey) := by
  intro k
  induction k with
  | zero => intro c n; simp [stepLoop]
  | succ k ih =>
    intro c n
    unfold stepLoop
    generalize (if c.recurse = true ∧ c.increasing = fwd then seekTo fwd H n c.idx c.parents
      else (n, c.idx, c.parents)) = st
    obtain ⟨n1, i1, ps1⟩ := st
    simp only []
    by_cases hr : canRead fwd n1 i1
    · simp [hr]
    · simp only [hr, if_false]
      cases ps1 with
      | nil => simp
      | cons pj ps' =>
        obtain ⟨pn, pi⟩ := pj
        simp only []
        have := ih { c with node := some pn, idx := pi, parents := ps', recurse := false, increasing := fwd } pn
        simpa using this

theorem stepBody_anchor (fwd : Bool) (root : Node) (c1 : Cursor) :
    (∀ e, (stepBody fwd root c1).2 = some e →
      (stepBody fwd root c1).1.pkey = some e.1 ∧ (stepBody fwd root c1).1.pread = true ∧
      (stepBody fwd root c1).1.increasing = fwd) ∧
    ((stepBody fwd root c1).2 = none → (stepBody fwd root c1).1.pkey = c1.pkey) := by
  unfold stepBody
  cases c1.node with
  | none =>
    by_cases hfar : c1.idx = (if fwd then 1 else 0)
    · simp [hfar]
    · simp only [hfar, if_false]
      generalize seekTo fwd _ root _ c1.parents = st
      obtain ⟨n, i, ps⟩ := st
      exact stepLoop_anchor _ _ _ _ _
  | some n => exact stepLoop_anchor _ _ _ _ _

theorem next_anchor (c : Cursor) (root : Node) :
    (∀ e, (c.next root).2 = some e →
      (c.next root).1.pkey = some e.1 ∧ (c.next root).1.pread = true ∧ (c.next root).1.increasing = true) ∧
    ((c.next root).2 = none → (c.next root).1.pkey = none) := by
  rw [next_eq_body]
  exact stepBody_anchor true root { c.maybeUnpark root with pkey := none }

theorem prev_anchor (c : Cursor) (root : Node) :
    (∀ e, (c.prev root).2 = some e →
      (c.prev root).1.pkey = some e.1 ∧ (c.prev root).1.pread = true ∧ (c.prev root).1.increasing = false) ∧
    ((c.prev root).2 = none → (c.prev root).1.pkey = none) := by
  rw [prev_eq_body]
  exact stepBody_anchor false root { c.maybeUnpark root with pkey := none }

end Model.BTree
