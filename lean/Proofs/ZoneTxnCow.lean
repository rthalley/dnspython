import Model.ZoneCow
import Proofs.ZoneTxnSim
/-! Copy-on-write isolation (C10): the version never writes to a node object the published zone can reach, and
what it holds is what the persistent-value model holds. -/
namespace Model.ZT
open Model

theorem pget_lookup : IsLookup pget := ⟨fun _ => rfl, fun _ _ _ _ => rfl⟩

theorem pget_erase (m : PMap) (k k' : Name) : pget (perase m k) k' = if k' = k then none else pget m k' :=
  pget_lookup.erase m k k'

theorem pget_set (m : PMap) (k k' : Name) (i : Nat) : pget (pset m k i) k' = if k' = k then some i else pget m k' :=
  pget_lookup.set m k k' i

theorem pget_mem {m : PMap} {k : Name} {i : Nat} (h : pget m k = some i) : (k, i) ∈ m := pget_lookup.mem_of_some h

theorem mem_perase {m : PMap} {k : Name} {e : Name × Nat} (h : e ∈ perase m k) : e ∈ m ∧ e.1 ≠ k := by
  unfold perase at h; rw [List.mem_filter] at h; exact ⟨h.1, by simpa using h.2⟩

theorem mem_pset {m : PMap} {k : Name} {i : Nat} {e : Name × Nat} (h : e ∈ pset m k i) : e = (k, i) ∨ (e ∈ m ∧ e.1 ≠ k) := by
  unfold pset at h
  rcases List.mem_cons.mp h with h | h
  · exact Or.inl h
  · exact Or.inr (mem_perase h)

/-- allocated ids everywhere; a name the version has touched owns its node object: the published zone cannot
reach it, and no other name of the version shares it -/
structure CowInv (v : CVer) : Prop where
  zalloc : ∀ e ∈ v.zone, e.2 < v.heap.next
  nalloc : ∀ e ∈ v.nodes, e.2 < v.heap.next
  own : ∀ k, k ∈ v.changed → ∀ i, pget v.nodes k = some i →
    (∀ e ∈ v.zone, e.2 ≠ i) ∧ (∀ e ∈ v.nodes, e.2 = i → e.1 = k)

theorem view_congr {m : PMap} {c c' : Nat → Node} (k : Name) (h : ∀ i, (k, i) ∈ m → c' i = c i) :
    (pget m k).map c' = (pget m k).map c := by
  cases hp : pget m k with
  | none => rfl
  | some i => exact congrArg some (h i (pget_mem hp))

/-- What `_maybe_cow_with_name` establishes: the version `v1` has touched `key` and holds there the node object `i`
with content `nd`; the published zone sees what it saw in `v`, the version what `v` held but for `nd` at `key`. -/
structure Owns (v : CVer) (key : Name) (nd : Node) (v1 : CVer) (i : Nat) : Prop where
  inv : CowInv v1
  touched : key ∈ v1.changed
  held : pget v1.nodes key = some i
  cell : v1.heap.cell i = nd
  zone : ∀ k, zview v1 k = zview v k
  ver : ∀ k, vview v1 k = if k = key then some nd else vview v k

/-- `node_factory()` -/
theorem cow_alloc (v : CVer) (hi : CowInv v) (key : Name) (nd : Node) :
    Owns v key nd { v with heap := (v.heap.alloc nd).1, nodes := pset v.nodes key v.heap.next, changed := key :: v.changed }
      v.heap.next := by
  have hnew : (v.heap.alloc nd).1.cell v.heap.next = nd := if_pos rfl
  have hold : ∀ z, z < v.heap.next → (v.heap.alloc nd).1.cell z = v.heap.cell z := fun z hz => if_neg (Nat.ne_of_lt hz)
  refine ⟨⟨fun e he => Nat.lt_succ_of_lt (hi.zalloc e he), fun e he => ?_, fun k hk i hp => ?_⟩,
    List.mem_cons_self .., (pget_set ..).trans (if_pos rfl), hnew,
    fun k => view_congr k fun z hz => hold z (hi.zalloc _ hz), fun k => ?_⟩
  · rcases mem_pset he with rfl | h
    · exact Nat.lt_succ_self _
    · exact Nat.lt_succ_of_lt (hi.nalloc e h.1)
  · replace hp : pget (pset v.nodes key v.heap.next) k = some i := hp
    rw [pget_set] at hp
    split at hp
    · -- the fresh id is above every id in use
      cases hp; subst k
      refine ⟨fun e he => Nat.ne_of_lt (hi.zalloc e he), fun e he heq => ?_⟩
      rcases mem_pset he with rfl | h
      · rfl
      · exact absurd heq (Nat.ne_of_lt (hi.nalloc e h.1))
    · obtain ⟨o1, o2⟩ := hi.own k ((List.mem_cons.mp hk).resolve_left ‹_›) i hp
      refine ⟨o1, fun e he heq => ?_⟩
      rcases mem_pset he with rfl | h
      · exact absurd heq.symm (Nat.ne_of_lt (hi.nalloc _ (pget_mem hp)))
      · exact o2 e h.1 heq
  · show (pget (pset v.nodes key v.heap.next) k).map (v.heap.alloc nd).1.cell = _
    rw [pget_set]
    split
    · exact congrArg some hnew
    · exact view_congr k fun z hz => hold z (hi.nalloc _ hz)

/-- `_maybe_cow_with_name` -/
theorem cow_spec (v : CVer) (hi : CowInv v) (key : Name) :
    Owns v key ((vview v key).getD []) (cCow v key).1 (cCow v key).2 := by
  unfold cCow
  cases hp : pget v.nodes key with
  | none =>
    rw [show (vview v key).getD [] = [] by unfold vview; rw [hp]; rfl]
    exact cow_alloc v hi key []
  | some i =>
    have hv : vview v key = some (v.heap.cell i) := by unfold vview; rw [hp]; rfl
    rw [hv]
    dsimp only
    split
    · refine ⟨hi, ‹_›, hp, rfl, fun _ => rfl, fun k => ?_⟩
      split
      · subst k; exact hv
      · rfl
    · exact cow_alloc v hi key _

/-- copy on first touch, then mutate in place -/
theorem write_spec (v : CVer) (hi : CowInv v) (key : Name) (f : Node → Node) :
    let v' : CVer := { (cCow v key).1 with
      heap := (cCow v key).1.heap.set (cCow v key).2 (f ((cCow v key).1.heap.cell (cCow v key).2)) }
    CowInv v' ∧ (∀ k, zview v' k = zview v k) ∧
      (∀ k, vview v' k = if k = key then some (f ((vview v key).getD [])) else vview v k) := by
  have o := cow_spec v hi key
  generalize cCow v key = cw at o
  obtain ⟨v1, i⟩ := cw
  dsimp only at o ⊢
  obtain ⟨o1, o2⟩ := o.inv.own key o.touched i o.held
  refine ⟨⟨o.inv.zalloc, o.inv.nalloc, o.inv.own⟩, fun k => ?_, fun k => ?_⟩
  · exact (view_congr k fun z hz => if_neg (o1 _ hz)).trans (o.zone k)
  · rw [← o.cell]
    split
    · subst k
      show (pget v1.nodes key).map _ = _
      rw [o.held]
      exact congrArg some (if_pos rfl)
    · rename_i hk
      refine Eq.trans ?_ ((o.ver k).trans (if_neg hk))
      exact view_congr k fun z hz => if_neg fun e => hk (o2 _ hz e)

/-- `del self.nodes[key]` -/
theorem erase_spec (v : CVer) (hi : CowInv v) (key : Name) (extra : List Name) :
    let v' : CVer := { v with nodes := perase v.nodes key, changed := extra ++ v.changed }
    (∀ k ∈ extra, k = key) →
    CowInv v' ∧ (∀ k, zview v' k = zview v k) ∧ (∀ k, vview v' k = if k = key then none else vview v k) := by
  intro v' hex
  refine ⟨⟨hi.zalloc, fun e he => hi.nalloc e (mem_perase he).1, ?_⟩, fun _ => rfl, ?_⟩
  · intro k hk i hp
    replace hp : pget (perase v.nodes key) k = some i := hp
    rw [pget_erase] at hp
    split at hp
    · cases hp
    · obtain ⟨o1, o2⟩ := hi.own k ((List.mem_append.mp hk).resolve_left fun h => ‹¬k = key› (hex k h)) i hp
      exact ⟨o1, fun e he heq => o2 e (mem_perase he).1 heq⟩
  · intro k
    show (pget (perase v.nodes key) k).map v.heap.cell = _
    rw [pget_erase]
    split <;> rfl

/-- the version and a persistent node map hold the same thing -/
def Rep (v : CVer) (m : Nodes) : Prop := ∀ k, vview v k = nodesGet m k

theorem Rep.set {v v' : CVer} {m : Nodes} {key : Name} {x : Node} (hr : Rep v m)
    (h : ∀ k, vview v' k = if k = key then some x else vview v k) : Rep v' (nodesSet m key x) := by
  intro k
  rw [h, nodesGet_set]
  split
  · rfl
  · exact hr k

theorem Rep.erase {v v' : CVer} {m : Nodes} {key : Name} (hr : Rep v m)
    (h : ∀ k, vview v' k = if k = key then none else vview v k) : Rep v' (nodesErase m key) := by
  intro k
  rw [h, nodesGet_erase]
  split
  · rfl
  · exact hr k

theorem cStep_spec (cls : Nat) (v : CVer) (m : Nodes) (hi : CowInv v) (hr : Rep v m) (op : COp) :
    CowInv (cStep cls v op) ∧ (∀ k, zview (cStep cls v op) k = zview v k) ∧ Rep (cStep cls v op) (pStep cls m op) := by
  cases op with
  | put key r =>
    obtain ⟨w1, w2, w3⟩ := write_spec v hi key (·.replace r)
    rw [hr key] at w3
    exact ⟨w1, w2, hr.set w3⟩
  | delRds key t c =>
    obtain ⟨w1, w2, w3⟩ := write_spec v hi key (·.delete cls t c)
    have hcell := (cow_spec v hi key).cell
    unfold cStep cDelRds pStep
    dsimp only
    rw [← hr key, ← hcell]
    rw [← hcell] at w3
    split
    · obtain ⟨e1, e2, e3⟩ := erase_spec _ w1 key [] nofun
      exact ⟨e1, fun k => (e2 k).trans (w2 k), (hr.set w3).erase e3⟩
    · exact ⟨w1, w2, hr.set w3⟩
  | delNode key =>
    unfold cStep cDelNode pStep
    dsimp only
    have hsome : (pget v.nodes key).isSome = (nodesGet m key).isSome := by
      rw [← hr key]; unfold vview; cases pget v.nodes key <;> rfl
    rw [hsome]
    split
    · obtain ⟨e1, e2, e3⟩ := erase_spec v hi key [key] (fun k hk => List.mem_singleton.mp hk)
      exact ⟨e1, e2, hr.erase e3⟩
    · exact ⟨hi, fun _ => rfl, hr⟩

/-- the content of a node map over a store -/
def deref (h : Heap) (m : PMap) : Nodes := m.map fun e => (e.1, h.cell e.2)

theorem nodesGet_deref (h : Heap) (m : PMap) (k : Name) : nodesGet (deref h m) k = (pget m k).map h.cell :=
  pget_lookup.map nodesGet_lookup h.cell m k

theorem cRun_spec (cls : Nat) (ops : List COp) (v : CVer) (m : Nodes) (hi : CowInv v) (hr : Rep v m) :
    CowInv (ops.foldl (cStep cls) v) ∧ (∀ k, zview (ops.foldl (cStep cls) v) k = zview v k) ∧
      Rep (ops.foldl (cStep cls) v) (ops.foldl (pStep cls) m) := by
  induction ops generalizing v m with
  | nil => exact ⟨hi, fun _ => rfl, hr⟩
  | cons op rest ih =>
    obtain ⟨s1, s2, s3⟩ := cStep_spec cls v m hi hr op
    obtain ⟨r1, r2, r3⟩ := ih (cStep cls v op) (pStep cls m op) s1 s3
    simp only [List.foldl_cons]
    exact ⟨r1, fun k => (r2 k).trans (s2 k), r3⟩

end Model.ZT
