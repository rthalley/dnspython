import Model.ZoneFile
import Proofs.ZoneFileStep
import Proofs.ZoneFileInterp
/-!
Record lines in every shape the writer produces under a lossless style: explicit or inherited (blank) owner,
TTL and class present or omitted, fields separated by any positive number of blanks (justification padding).
-/
namespace Model

theorem rrParse_steps (r r1 r2 r3 : PState) (m : Name) (tt : Option Nat) (ty : Nat) (e : Entry)
    (hB : rrOwner r = .ok (some m, r1)) (hC : rrHeader r1 = .ok ((tt, ty), r2))
    (hD : rrFinish m tt ty r2 = .ok (some e, r3)) : rrParse r = .ok (some e, r3) := by
  unfold rrParse
  simp only [bind, Except.bind, hB, hC, hD]

/-- TTL / class / type fields as written on the line (`b…` are the blanks after a field) -/
inductive Hdr where
  | tc (ttlT b1 clsT b2 tyT : List Nat)
  | t (ttlT b1 tyT : List Nat)
  | c (clsT b1 tyT : List Nat)
  | y (tyT : List Nat)

def Hdr.first : Hdr → List Nat
  | .tc ttlT _ _ _ _ => ttlT
  | .t ttlT _ _ => ttlT
  | .c clsT _ _ => clsT
  | .y tyT => tyT

/-- text after the first token, up to and including the type token -/
def Hdr.rest : Hdr → List Nat
  | .tc _ b1 clsT b2 tyT => b1 ++ (clsT ++ (b2 ++ tyT))
  | .t _ b1 tyT => b1 ++ tyT
  | .c _ b1 tyT => b1 ++ tyT
  | .y _ => []

def Hdr.text (h : Hdr) : List Nat := h.first ++ h.rest

structure TokOK (w : List Nat) : Prop where
  ok : identOK w = true
  ne : w ≠ []

structure SepOK (b : List Nat) : Prop where
  blank : Blank b
  ne : b ≠ []

/-- side conditions: the tokens are tokens, the blanks are non-empty runs of spaces, the TTL token (if any) reads
as `ttl`, the class token (if any) as IN, the type token as `ty` and as nothing else -/
def Hdr.OK : Hdr → (ttl ty : Nat) → Prop
  | .tc ttlT b1 clsT b2 tyT, ttl, ty =>
    TokOK ttlT ∧ SepOK b1 ∧ TokOK clsT ∧ SepOK b2 ∧ TokOK tyT ∧
    ttlOf ttlT = some ttl ∧ classFromText clsT = some 1 ∧ typeFromText tyT = some ty
  | .t ttlT b1 tyT, ttl, ty =>
    TokOK ttlT ∧ SepOK b1 ∧ TokOK tyT ∧ ttlOf ttlT = some ttl ∧ classFromText tyT = none ∧ typeFromText tyT = some ty
  | .c clsT b1 tyT, _, ty =>
    TokOK clsT ∧ SepOK b1 ∧ TokOK tyT ∧ classFromText clsT = some 1 ∧ ttlOf clsT = none ∧ ttlOf tyT = none ∧
    typeFromText tyT = some ty
  | .y tyT, _, ty => TokOK tyT ∧ ttlOf tyT = none ∧ classFromText tyT = none ∧ typeFromText tyT = some ty

/-- is the TTL written on the line? -/
def Hdr.hasTTL : Hdr → Bool
  | .tc .. => true
  | .t .. => true
  | _ => false

theorem Hdr.first_ok (h : Hdr) (ttl ty : Nat) (hok : h.OK ttl ty) : TokOK h.first := by
  cases h <;> simp only [Hdr.OK] at hok <;> simp only [Hdr.first]
  · exact hok.1
  · exact hok.1
  · exact hok.1
  · exact hok.1

theorem Hdr.rest_startsDelim (h : Hdr) (ttl ty : Nat) (hok : h.OK ttl ty) (R : List Nat) (hR : startsDelim R) :
    startsDelim (h.rest ++ R) := by
  cases h <;> simp only [Hdr.OK] at hok <;> simp only [Hdr.rest, List.append_assoc, List.nil_append]
  · exact blank_startsDelim _ _ hok.2.1.blank hok.2.1.ne
  · exact blank_startsDelim _ _ hok.2.1.blank hok.2.1.ne
  · exact blank_startsDelim _ _ hok.2.1.blank hok.2.1.ne
  · exact hR

/-- the reader's TTL bookkeeping behind a header that states the TTL `ttl`, or states none (field by field, so that it
commutes with every other update of the state by computation) -/
def ttlStated (stated : Bool) (ttl : Nat) (r : PState) : PState :=
  { r with lastTTL := if stated then ttl else r.lastTTL, lastTTLKnown := stated || r.lastTTLKnown }

theorem header_stage (r1 : PState) (h : Hdr) (R : List Nat) (ttl ty : Nat) (hR : startsDelim R)
    (hfirst : getIdent r1.tok = .ok (identToken h.first, after 0 false (h.rest ++ R)))
    (hok : h.OK ttl ty) :
    rrHeader r1 = .ok ((if h.hasTTL then some ttl else r1.inheritedTTL, ty),
      { ttlStated h.hasTTL ttl r1 with tok := after 0 false R }) := by
  cases h with
  | tc ttlT b1 clsT b2 tyT =>
    obtain ⟨_, s1, k2, s2, k3, v1, v2, v3⟩ := hok
    simp only [Hdr.first, Hdr.rest, List.append_assoc] at hfirst
    exact rrHeaderA_ttl_class r1 ttlT clsT tyT _ _ _ ttl ty hfirst
      (getIdent_blank b1 clsT _ s1.blank k2.ok k2.ne (blank_startsDelim _ _ s2.blank s2.ne))
      (getIdent_blank b2 tyT R s2.blank k3.ok k3.ne hR) v1 v2 v3
  | t ttlT b1 tyT =>
    obtain ⟨_, s1, k3, v1, v2, v3⟩ := hok
    simp only [Hdr.first, Hdr.rest, List.append_assoc] at hfirst
    exact rrHeaderA_ttl_only r1 ttlT tyT _ _ ttl ty hfirst (getIdent_blank b1 tyT R s1.blank k3.ok k3.ne hR) v1 v2 v3
  | c clsT b1 tyT =>
    obtain ⟨_, s1, k3, v1, v2, v3, v4⟩ := hok
    simp only [Hdr.first, Hdr.rest, List.append_assoc] at hfirst
    exact rrHeaderA_class_only r1 clsT tyT _ _ ty hfirst (getIdent_blank b1 tyT R s1.blank k3.ok k3.ne hR) v1 v2 v3 v4
  | y tyT =>
    obtain ⟨_, v1, v2, v3⟩ := hok
    exact rrHeaderA_type_only r1 tyT _ ty hfirst v1 v2 v3

/-- what the RDATA text of a record must satisfy (the C05 interface): parsed right after the type token, with
the rest of the file behind it, `dns.rdata.from_text` yields the rdata and its comment and consumes the line -/
def RdataReads (ty : Nat) (rdText : List Nat) (rd : Rdata) (comment : Option (List Nat))
    (co : Option Name) (rel : Bool) (zo : Option Name) (gfix : Bool) : Prop :=
  startsDelim rdText ∧
  ∀ rest, rdataFromText ty (after 0 false (rdText ++ rest)) co rel zo gfix = .ok (rd, comment, after 0 false rest)

/-- the SOA-minimum default: picked up from the first SOA when no default TTL is known yet -/
def soaDefault (r : PState) (ty : Nat) (rd : Rdata) : PState :=
  if !r.defaultTTLKnown ∧ ty = tSOA then
    match rd with
    | .soa _ _ _ _ _ _ minimum => { r with defaultTTL := minimum, defaultTTLKnown := true }
    | _ => r
  else r

theorem finish_stage (r2 : PState) (m co zo : Name) (ttl ty : Nat) (rdText rest : List Nat) (rd : Rdata)
    (comment : Option (List Nat))
    (hco : r2.currentOrigin = some co) (hzo : r2.zoneOrigin = some zo)
    (htok : r2.tok = after 0 false (rdText ++ rest))
    (hrd : RdataReads ty rdText rd comment (some co) r2.relativize (some zo) r2.gfix) :
    rrFinish m (some ttl) ty r2 =
      .ok (some ⟨m, ttl, ty, ⟨rd, comment⟩⟩, soaDefault { r2 with tok := after 0 false rest } ty rd) := by
  unfold rrFinish
  simp only [bind, Except.bind, hco, hzo, htok, hrd.2 rest]
  unfold soaDefault
  by_cases hc : r2.defaultTTLKnown = false ∧ ty = tSOA
  · cases rd <;> simp [hc, pure, Except.pure]
  · simp [hc, pure, Except.pure]

/-- a record line: owner written or inherited, blanks, header, RDATA text (from the delimiter after the type token to
the end of the line), and what it denotes -/
structure GLine where
  owner : Option (List Nat)
  b0 : List Nat
  hdr : Hdr
  rdText : List Nat
  n : Name
  m : Name
  ttl : Nat
  ty : Nat
  rd : Rdata
  comment : Option (List Nat)

def GLine.text (l : GLine) : List Nat := l.owner.getD [] ++ (l.b0 ++ (l.hdr.text ++ l.rdText))

def GLine.entry (l : GLine) : Entry := ⟨l.m, l.ttl, l.ty, ⟨l.rd, l.comment⟩⟩

/-- `co` is the current origin (`$ORIGIN`), `zo` the zone origin: relative names are completed with `co`; membership,
the stored owner and the relativization of RDATA names are taken against `zo` (the argument triple
`(current_origin, relativize, zone_origin)` of both `_rr_line` and `_generate_line`). -/
structure GLine.Good (l : GLine) (co zo : Name) (rel gfix : Bool) : Prop where
  b0 : SepOK l.b0
  owner : ∀ ow, l.owner = some ow →
    identOK ow = true ∧ ow ≠ [] ∧ ow.head? ≠ some 36 ∧ (identToken ow).asName (some co) false none = .ok l.n
  in_zone : isSubdomain l.n zo = true
  stored : ownerInZone rel l.n zo = .ok l.m
  hdr : l.hdr.OK l.ttl l.ty
  rdata : RdataReads l.ty l.rdText l.rd l.comment (some co) rel (some zo) gfix

/-- parser state after the line -/
def afterG (r : PState) (l : GLine) (rest : List Nat) : PState :=
  soaDefault { ttlStated l.hdr.hasTTL l.ttl r with tok := after 0 false rest, lastName := some l.n } l.ty l.rd

theorem lineStep_G (r : PState) (l : GLine) (rest : List Nat) (co zo : Name)
    (hco : r.currentOrigin = some co) (hzo : r.zoneOrigin = some zo)
    (htok : r.tok = after 0 false (l.text ++ rest))
    (hg : l.Good co zo r.relativize r.gfix)
    (hown : l.owner = none → r.lastName = some l.n)
    (httl : l.hdr.hasTTL = false → r.inheritedTTL = some l.ttl) :
    lineStep r = .ok (.entry l.entry, afterG r l rest) := by
  have hfo := Hdr.first_ok l.hdr l.ttl l.ty hg.hdr
  have hRd := hg.rdata.1.append rest
  have hT1 := Hdr.rest_startsDelim l.hdr l.ttl l.ty hg.hdr (l.rdText ++ rest) hRd
  have htxt : l.text ++ rest = l.owner.getD [] ++ (l.b0 ++ (l.hdr.first ++ (l.hdr.rest ++ (l.rdText ++ rest)))) := by
    simp [GLine.text, Hdr.text, List.append_assoc]
  rw [htxt] at htok
  -- either owner case: first token `t`, and `_rr_line` past the owner in a state `r1` whose first `_get_identifier` is the
  -- first header token
  have key : ∀ (t : Token) (s : TState) (r1 : PState), r.tok.get true true = .ok (t, s) →
      t.ttype ≠ .eof → t.ttype ≠ .eol → t.ttype ≠ .comment → t.value.head? ≠ some 36 →
      rrOwner { r with tok := { s with ungotten := some t } } = .ok (some l.m, r1) →
      r1.relativize = r.relativize → r1.gfix = r.gfix →
      r1.currentOrigin = some co → r1.zoneOrigin = some zo → r1.inheritedTTL = r.inheritedTTL →
      getIdent r1.tok = .ok (identToken l.hdr.first, after 0 false (l.hdr.rest ++ (l.rdText ++ rest))) →
      lineStep r = .ok (.entry l.entry,
        soaDefault { ttlStated l.hdr.hasTTL l.ttl r1 with tok := after 0 false rest } l.ty l.rd) := by
    intro t s r1 hA t1 t2 t3 t4 hB e1 e2 e3 e4 e5 hfirst
    have hC := header_stage r1 l.hdr (l.rdText ++ rest) l.ttl l.ty hRd hfirst hg.hdr
    -- the TTL of the record: written, or the one inherited
    have hval : (if l.hdr.hasTTL then some l.ttl else r1.inheritedTTL) = some l.ttl := by
      cases hh : l.hdr.hasTTL
      · exact e5.trans (httl hh)
      · rfl
    rw [hval] at hC
    have hrd : RdataReads l.ty l.rdText l.rd l.comment (some co) r1.relativize (some zo) r1.gfix := by
      rw [e1, e2]; exact hg.rdata
    rw [lineStep_to_rrParse r t s hA t1 t2 t3 t4, rrParse_steps _ r1 _ _ l.m _ l.ty l.entry hB hC
      (finish_stage _ l.m co zo l.ttl l.ty l.rdText rest l.rd l.comment e3 e4 rfl hrd)]
    rfl
  cases hown' : l.owner with
  | some ow =>
    obtain ⟨o1, o2, o3, o4⟩ := hg.owner ow hown'
    simp only [hown', Option.getD_some] at htok
    rw [key (identToken ow) _
      { r with tok := after 0 false (l.b0 ++ (l.hdr.first ++ (l.hdr.rest ++ (l.rdText ++ rest)))), lastName := some l.n }
      (htok ▸ get_first_ident ow _ o1 o2 (blank_startsDelim _ _ hg.b0.blank hg.b0.ne)) nofun nofun nofun o3
      ((rrOwner_explicit { r with tok := { after 0 false _ with ungotten := some (identToken ow) } } (identToken ow) _ co zo l.n
          hco hzo (get_leading_ungotten 0 false _ ow) nofun o4 hg.in_zone).trans
        (by rw [hg.stored]; rfl))
      rfl rfl hco hzo rfl (getIdent_blank l.b0 _ _ hg.b0.blank hfo.ok hfo.ne hT1)]
    rfl
  | none =>
    simp only [hown', Option.getD_none, List.nil_append] at htok
    rw [key wsToken _
      { r with tok := { after 0 false (l.hdr.rest ++ (l.rdText ++ rest)) with ungotten := some (identToken l.hdr.first) } }
      (htok ▸ get_leading_blank l.b0 _ _ hg.b0.blank hg.b0.ne hfo.ok hfo.ne) nofun nofun nofun nofun
      ((rrOwner_inherited { r with tok := { after 0 false _ with ungotten := some wsToken } } wsToken (identToken l.hdr.first) _
          (after 0 false (l.hdr.rest ++ (l.rdText ++ rest))) co zo l.n hco hzo (hown hown') rfl rfl (get_blank_ident [] _ _ blank_nil hfo.ok hfo.ne hT1) rfl hg.in_zone).trans
        (by rw [hg.stored]; rfl))
      rfl rfl hco hzo rfl (getIdent_ungot _ _ rfl)]
    rw [afterG, ← hown hown']
    rfl

end Model
