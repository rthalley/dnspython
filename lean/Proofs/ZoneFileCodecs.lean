import Model.ZoneFile
import Proofs.ZoneFileLineG
/-!
Concrete RDATA codecs as instances of the reader's interface `RdataReads`: what `to_styled_text` prints is read back by
`dns.rdata.from_text` — after any padding, with or without a trailing comment — and the line is consumed.  Here: the
line end, the field readers of the tokenizer on decimal and name tokens, `from_text` on each of its three routes
(`rdataFromText_generic`, `_marker`, `_typed`), the frame shared by the types whose text is a fixed sequence of fields
(`rdataReads_typed`), and A with `inet_aton ∘ inet_ntoa`.  NS/CNAME/PTR, MX and SOA are proved
from these where they are stated (`Props/C09`); TXT and the RFC 3597 generic form, whose text is a run of words, rest on
`ZoneFileCodecWords`.
-/
namespace Model

/-- what follows the RDATA text on its line: ` ;comment` (if any) and the newline -/
def lineEnd (kc : Option (List Nat)) : List Nat :=
  (match kc with | some c => 32 :: 59 :: c | none => []) ++ [10]

theorem get_blank_lineEnd (bE : List Nat) (hb : Blank bE) (kc : Option (List Nat)) (hc : ∀ t ∈ kc, 10 ∉ t) (pq : Bool)
    (rest : List Nat) :
    (after 0 pq (bE ++ (lineEnd kc ++ rest))).get = .ok (eolToken kc, after 0 false rest) := by
  cases kc with
  | none => simpa [lineEnd, trailingText] using get_blank_end bE hb none hc pq rest
  | some c =>
    -- the blank in front of the `;` belongs to the separator
    simpa [lineEnd, trailingText, List.append_assoc] using
      get_blank_end (bE ++ [32]) (blank_append hb sp_blank) (some c) hc pq rest

theorem get_lineEnd (kc : Option (List Nat)) (hc : ∀ t ∈ kc, 10 ∉ t) (pq : Bool) (rest : List Nat) :
    (after 0 pq (lineEnd kc ++ rest)).get = .ok (eolToken kc, after 0 false rest) :=
  get_blank_lineEnd [] blank_nil kc hc pq rest

theorem getEol_lineEnd (kc : Option (List Nat)) (hc : ∀ t ∈ kc, 10 ∉ t) (pq : Bool) (rest : List Nat) :
    (after 0 pq (lineEnd kc ++ rest)).getEol = .ok (eolToken kc, after 0 false rest) := by
  simp [TState.getEol, bind, Except.bind, get_lineEnd kc hc pq rest, eolToken, Token.isEolOrEof, pure, Except.pure]

theorem lineEnd_startsDelim (kc : Option (List Nat)) (rest : List Nat) : startsDelim (lineEnd kc ++ rest) := by
  cases kc
  · exact ⟨10, rest, rfl, by decide⟩
  · exact ⟨32, _, rfl, by decide⟩

theorem get_ungot (s : TState) (t : Token) (h : s.ungotten = none) (ht1 : t.ttype ≠ .whitespace) (ht2 : t.ttype ≠ .comment) :
    ({ s with ungotten := some t } : TState).get = .ok (t, s) := by
  cases s
  simp only at h
  subst h
  simp [TState.get, ht1, ht2]

theorem getName_of_get (s s1 : TState) (w : List Nat) (co : Option Name) (rel : Bool) (zo : Option Name) (t : Name)
    (hg : s.get = .ok (identToken w, s1)) (hn : (identToken w).asName co rel zo = .ok t) :
    s.getName co rel zo = .ok (t, s1) := by
  simp [TState.getName, bind, Except.bind, hg, hn, pure, Except.pure]

theorem unescape_noesc (w : List Nat) (h : hasEsc w = false) : (identToken w).unescape = .ok (identToken w) := by
  simp [Token.unescape, identToken, h]

theorem plainWord_ok (w : List Nat) (h : ∀ c ∈ w, c ≠ 92 ∧ isDelim false c = false) :
    identOK w = true ∧ hasEsc w = false := by
  refine ⟨?_, by simpa [hasEsc] using fun hm => (h 92 hm).1 rfl⟩
  induction w with
  | nil => rfl
  | cons c r ih =>
    rw [identOK_plain c r (h c (by simp)).1, (h c (by simp)).2, ih (fun x hx => h x (by simp [hx]))]
    rfl

theorem getIdentifier_of_get (s s1 : TState) (w : List Nat) (hg : s.get = .ok (identToken w, s1)) (he : hasEsc w = false) :
    s.getIdentifier = .ok (w, s1) := by
  simp only [TState.getIdentifier, bind, Except.bind, hg, unescape_noesc w he]
  simp [identToken, Token.isIdentifier, pure, Except.pure]

theorem hasEsc_natToDec (n : Nat) : hasEsc (natToDec n) = false := by
  simp only [hasEsc, List.contains_eq_mem, decide_eq_false_iff_not]
  intro hm
  have := natToDec_digit hm
  omega

theorem getTTL_of_get (s s1 : TState) (n : Nat) (hg : s.get = .ok (identToken (natToDec n), s1)) (hn : n ≤ Consts.maxTTL) :
    s.getTTL = .ok (n, s1) := by
  simp only [TState.getTTL, bind, Except.bind, hg, unescape_noesc _ (hasEsc_natToDec n)]
  simp [identToken, Token.isIdentifier, ttlFromText_natToDec n hn, pure, Except.pure]

/-! ## Python `int()` on a decimal string -/

theorem pyDigits_decimal (ds : List Nat) (h : ds.all isDecimal = true) (b : Bool) (hb : ds = [] → b = true) :
    pyDigits ds b = some ds := by
  induction ds generalizing b with
  | nil => simp [pyDigits, hb rfl]
  | cons d r ih =>
    simp only [List.all_cons, Bool.and_eq_true] at h
    simp only [pyDigits, h.1, if_true, ih h.2 true (fun _ => rfl), Option.map_some]

theorem decimal_not_space (d : Nat) (h : isDecimal d = true) : isPySpace d = false := by
  simp only [isDecimal, decide_eq_true_eq] at h
  simp [isPySpace]; omega

theorem stripSpaces_decimal (ds : List Nat) (h : ds.all isDecimal = true) : stripSpaces ds = ds := by
  unfold stripSpaces
  cases ds with
  | nil => rfl
  | cons d r =>
    have hd : isPySpace d = false := decimal_not_space d (by simpa using (List.all_eq_true.mp h) d (by simp))
    rw [List.dropWhile_cons_of_neg (by simp [hd])]
    have hl : ∀ x ∈ (d :: r).reverse.head?, isPySpace x = false := by
      intro x hx
      have : x ∈ (d :: r).reverse := List.mem_of_mem_head? hx
      exact decimal_not_space x ((List.all_eq_true.mp h) x (by simp at this; simp; exact this.symm))
    cases hr : (d :: r).reverse with
    | nil => simp at hr
    | cons x xs =>
      rw [hr] at hl
      rw [List.dropWhile_cons_of_neg (by simp [hl x (by simp)]), ← hr, List.reverse_reverse]

theorem pyInt_decimal (d : Nat) (r : List Nat) (h : (d :: r).all isDecimal = true) :
    pyInt (d :: r) = some ((digitsVal (d :: r) 0 : Nat) : Int) := by
  have hdd : isDecimal d = true := (List.all_eq_true.mp h) d (by simp)
  have h45 : d ≠ 45 := by simp [isDecimal] at hdd; omega
  have h43 : d ≠ 43 := by simp [isDecimal] at hdd; omega
  have hs : signSplit (d :: r) = (false, d :: r) := by
    unfold signSplit
    split
    · rename_i h2; simp at h2; exact absurd h2.1 h45
    · rename_i h2; simp at h2; exact absurd h2.1 h43
    · rfl
  unfold pyInt
  rw [stripSpaces_decimal _ h]
  simp [hs, hdd, pyDigits_decimal _ h false (by simp)]

theorem pyInt_natToDec (n : Nat) : pyInt (natToDec n) = some (n : Int) := by
  have hall := natToDec_all n
  have hne := natToDec_ne_nil n
  have hv := digitsVal_natToDec n
  cases hd : natToDec n with
  | nil => exact absurd hd hne
  | cons d r =>
    rw [hd] at hall hv
    rw [pyInt_decimal d r hall, hv]

theorem asInt_natToDec (n : Nat) : (identToken (natToDec n)).asInt = .ok n := by
  have h2 : ¬ ((n : Int) < 0) := by omega
  simp [Token.asInt, identToken, Token.isIdentifier, pyInt_natToDec, h2]

theorem getUint_of_get (bound : Nat) (s s1 : TState) (n : Nat) (hg : s.get = .ok (identToken (natToDec n), s1))
    (hn : n ≤ bound) : s.getUint bound = .ok (n, s1) := by
  have h1 : ¬ bound < n := by omega
  simp [TState.getUint, bind, Except.bind, hg, unescape_noesc _ (hasEsc_natToDec n), Token.asUint, asInt_natToDec, h1, pure,
    Except.pure]

theorem getInt_of_get (s s1 : TState) (n : Nat) (hg : s.get = .ok (identToken (natToDec n), s1)) :
    s.getInt = .ok (n, s1) := by
  simp [TState.getInt, bind, Except.bind, hg, unescape_noesc _ (hasEsc_natToDec n), asInt_natToDec, pure, Except.pure]

/-! ## `dns.rdata.from_text` on each of its three routes: a type without an implementation class (RFC 3597 generic
syntax), a known type written in generic syntax, a known type written in its own syntax; then the end of the line -/

theorem rdataFromText_generic (ty : Nat) (s s2 s3 : TState) (tk : Token) (d : Bytes) (co : Option Name) (rel : Bool)
    (zo : Option Name) (gfix : Bool) (hgen : isGenericType ty = true)
    (hbody : genericFromText s = .ok (d, s2)) (heol : s2.getEol = .ok (tk, s3)) :
    rdataFromText ty s co rel zo gfix = .ok (.generic d, tk.comment, s3) := by
  unfold rdataFromText
  simp only [hgen, if_true, bind, Except.bind, hbody, pure, Except.pure, liftT, heol]
  rfl

/-- the first token is peeked at and put back; behind the marker `\#` the data must decode as the type and re-encode to
itself (against which origin is the recorded finding D08, read side: `gfix`) -/
theorem rdataFromText_marker (ty : Nat) (s s1 s2 s3 : TState) (t1 tk : Token) (d : Bytes) (rd : Rdata) (co : Option Name)
    (rel : Bool) (zo : Option Name) (gfix : Bool)
    (hgen : isGenericType ty = false) (hmod : isModelledType ty = true)
    (hget : s.get = .ok (t1, s1)) (hmark : t1.isIdentifier = true ∧ t1.value = [92, 35])
    (hbody : genericFromText { s1 with ungotten := some t1 } = .ok (d, s2))
    (hdec : rdataFromWire ty d (if gfix then wireOrigin co rel zo else co) = some rd)
    (henc : rdataToWire (if gfix then wireOrigin co rel zo else none) rd = .ok d)
    (heol : s2.getEol = .ok (tk, s3)) :
    rdataFromText ty s co rel zo gfix = .ok (rd, tk.comment, s3) := by
  have hu := get_ungotten_none s s1 t1 false false hget
  unfold rdataFromText
  simp only [hgen, hmod, Bool.false_eq_true, if_false, Bool.not_true, bind, Except.bind, liftT, hget, unget_ok s1 t1 hu,
    hmark, and_self, if_true, hbody, hdec, henc, ne_eq, not_true_eq_false, pure, Except.pure, heol]
  rfl

theorem rdataFromText_typed (ty : Nat) (s s1 s2 s3 : TState) (t1 tk : Token) (rd : Rdata) (co : Option Name) (rel : Bool)
    (zo : Option Name) (gfix : Bool)
    (hgen : isGenericType ty = false) (hmod : isModelledType ty = true)
    (hget : s.get = .ok (t1, s1)) (hnot : ¬ (t1.isIdentifier = true ∧ t1.value = [92, 35]))
    (htyped : rdataFromTextTyped ty { s1 with ungotten := some t1 } co rel zo = .ok (rd, s2))
    (heol : s2.getEol = .ok (tk, s3)) :
    rdataFromText ty s co rel zo gfix = .ok (rd, tk.comment, s3) := by
  have hu := get_ungotten_none s s1 t1 false false hget
  unfold rdataFromText
  simp only [hgen, hmod, Bool.false_eq_true, if_false, Bool.not_true, bind, Except.bind, liftT, hget, unget_ok s1 t1 hu,
    hnot, htyped, heol]
  simp [wrapSyntax, pure, Except.pure]

theorem get_ungot_ident (s : TState) (w : List Nat) (h : s.ungotten = none) :
    ({ s with ungotten := some (identToken w) } : TState).get = .ok (identToken w, s) :=
  get_ungot s (identToken w) h (by simp [identToken]) (by simp [identToken])

theorem get_ungot_after (T w : List Nat) :
    ({ after 0 false T with ungotten := some (identToken w) } : TState).get = .ok (identToken w, after 0 false T) :=
  get_ungot_ident _ w rfl

theorem eolToken_comment (kc : Option (List Nat)) : (eolToken kc).comment = kc := rfl

theorem natToDec_not_marker (n : Nat) : natToDec n ≠ [92, 35] := by
  intro h
  have := natToDec_digit (n := n) (c := 92) (by rw [h]; simp)
  omega

/-- The frame shared by the codecs of the typed syntax.  The RDATA text is blanks, a first identifier `w` (which
`from_text` peeks at and puts back), and `body X`: the remaining fields in front of whatever `X` follows them.  What is
left to each type is its own `cls.from_text`, started on the ungotten `w` and ending in front of the line end. -/
theorem rdataReads_typed {ty : Nat} {b w : List Nat} {body : List Nat → List Nat} {rd : Rdata} {kc : Option (List Nat)}
    {co : Option Name} {rel : Bool} {zo : Option Name} {gfix : Bool}
    (hgen : isGenericType ty = false) (hmod : isModelledType ty = true)
    (hb : Blank b) (hbn : b ≠ []) (hkc : ∀ t ∈ kc, 10 ∉ t)
    (hw : identOK w = true) (hne : w ≠ []) (hnot : w ≠ [92, 35])
    (hbody : ∀ X rest, body X ++ rest = body (X ++ rest))
    (hdelim : ∀ rest, startsDelim (body (lineEnd kc ++ rest)))
    (htyped : ∀ rest, rdataFromTextTyped ty
        { after 0 false (body (lineEnd kc ++ rest)) with ungotten := some (identToken w) } co rel zo =
      .ok (rd, after 0 false (lineEnd kc ++ rest))) :
    RdataReads ty (b ++ (w ++ body (lineEnd kc))) rd kc co rel zo gfix := by
  refine ⟨blank_startsDelim _ _ hb hbn, fun rest => ?_⟩
  rw [List.append_assoc, List.append_assoc, hbody]
  exact rdataFromText_typed ty _ _ _ _ _ (eolToken kc) rd co rel zo gfix hgen hmod
    (get_blank_ident b w _ hb hw hne (hdelim rest)) (by simp [identToken, hnot]) (htyped rest) (getEol_lineEnd kc hkc false rest)

/-! ### `cls.from_text` type by type -/

theorem rdataFromTextTyped_A (s : TState) (co : Option Name) (rel : Bool) (zo : Option Name) :
    rdataFromTextTyped tA s co rel zo = (do
      let (v, s) ← liftT s.getIdentifier
      match inetAton (v.flatMap utf8) with
      | some b => pure (.a b, s)
      | none => .error .syntaxError) := rfl

theorem rdataFromTextTyped_name1 (ty : Nat) (hty : isName1Type ty = true) (s : TState) (co : Option Name) (rel : Bool)
    (zo : Option Name) :
    rdataFromTextTyped ty s co rel zo = (do
      let (n, s) ← liftT (s.getName co rel zo)
      pure (.name1 n, s)) := by
  have hcases : ty = 2 ∨ ty = 5 ∨ ty = 12 := of_decide_eq_true hty
  rcases hcases with h | h | h <;> subst h <;> rfl

theorem rdataFromTextTyped_MX (s : TState) (co : Option Name) (rel : Bool) (zo : Option Name) :
    rdataFromTextTyped tMX s co rel zo = (do
      let (p, s) ← liftT (s.getUint 65535)
      let (n, s) ← liftT (s.getName co rel zo)
      pure (.mx p n, s)) := rfl

theorem rdataFromTextTyped_TXT (s : TState) (co : Option Name) (rel : Bool) (zo : Option Name) :
    rdataFromTextTyped tTXT s co rel zo = (do
      let (ts, s) ← liftT s.getRemaining
      let strs ← ts.mapM txtString
      if strs = [] then .error .syntaxError else pure (.txt strs, s)) := rfl

theorem rdataFromTextTyped_SOA (s : TState) (co : Option Name) (rel : Bool) (zo : Option Name) :
    rdataFromTextTyped tSOA s co rel zo = (do
      let (m, s) ← liftT (s.getName co rel zo)
      let (r, s) ← liftT (s.getName co rel zo)
      let (se, s) ← liftT (s.getUint 4294967295)
      let (rf, s) ← liftT s.getTTL
      let (rt, s) ← liftT s.getTTL
      let (ex, s) ← liftT s.getTTL
      let (mi, s) ← liftT s.getTTL
      pure (.soa m r se rf rt ex mi, s)) := rfl

theorem getName_sp (w T : List Nat) (co : Option Name) (rel : Bool) (zo : Option Name) (t : Name)
    (hw : identOK w = true) (hne : w ≠ []) (hT : startsDelim T) (hn : (identToken w).asName co rel zo = .ok t) :
    (after 0 false (32 :: (w ++ T))).getName co rel zo = .ok (t, after 0 false T) :=
  getName_of_get _ _ w co rel zo t (get_sp w T hw hne hT) hn

theorem getUint_sp (bound n : Nat) (T : List Nat) (hn : n ≤ bound) (hT : startsDelim T) :
    (after 0 false (32 :: (natToDec n ++ T))).getUint bound = .ok (n, after 0 false T) :=
  getUint_of_get bound _ _ n (get_sp _ T (natToDec_token n).1 (natToDec_token n).2 hT) hn

theorem getTTL_sp (n : Nat) (T : List Nat) (hn : n ≤ Consts.maxTTL) (hT : startsDelim T) :
    (after 0 false (32 :: (natToDec n ++ T))).getTTL = .ok (n, after 0 false T) :=
  getTTL_of_get _ _ n (get_sp _ T (natToDec_token n).1 (natToDec_token n).2 hT) hn

theorem rdataReads_A_gen (b w addr : List Nat) (kc : Option (List Nat)) (co : Option Name) (rel : Bool) (zo : Option Name)
    (gfix : Bool) (hb : Blank b) (hbn : b ≠ []) (hkc : ∀ t ∈ kc, 10 ∉ t)
    (hw : identOK w = true) (hne : w ≠ []) (hnot : w ≠ [92, 35]) (hesc : hasEsc w = false)
    (hval : inetAton (w.flatMap utf8) = some addr) :
    RdataReads tA (b ++ (w ++ lineEnd kc)) (.a addr) kc co rel zo gfix := by
  refine rdataReads_typed (body := id) (by decide) (by decide) hb hbn hkc hw hne hnot (fun _ _ => rfl)
    (lineEnd_startsDelim kc) fun rest => ?_
  rw [rdataFromTextTyped_A]
  simp only [bind, Except.bind, liftT, getIdentifier_of_get _ _ w (get_ungot_after _ w) hesc, hval, pure, Except.pure, id]

theorem rdataReads_A (w addr : List Nat) (co : Option Name) (rel : Bool) (zo : Option Name) (gfix : Bool)
    (hw : identOK w = true) (hne : w ≠ []) (hnot : w ≠ [92, 35]) (hesc : hasEsc w = false)
    (hval : inetAton (w.flatMap utf8) = some addr) :
    RdataReads tA (32 :: (w ++ [10])) (.a addr) none co rel zo gfix :=
  rdataReads_A_gen [32] w addr none co rel zo gfix sp_blank (by simp) (by simp) hw hne hnot hesc hval

/-- the RDATA text of an SOA: two names, the serial and the four timers, separated by single blanks -/
def soaText (mt rt : List Nat) (se rf rtv ex mi : Nat) (tail : List Nat) : List Nat :=
  mt ++ (32 :: (rt ++ (32 :: (natToDec se ++ (32 :: (natToDec rf ++ (32 :: (natToDec rtv ++ (32 :: (natToDec ex ++
    (32 :: (natToDec mi ++ tail))))))))))))

theorem soaText_join (mt rt : List Nat) (se rf rtv ex mi : Nat) :
    joinWith [32] [mt, rt, natToDec se, natToDec rf, natToDec rtv, natToDec ex, natToDec mi] = soaText mt rt se rf rtv ex mi [] := by
  simp [joinWith, soaText, List.append_assoc]

/-! ## A without side conditions: the dotted quad `inet_ntoa` prints is one token that `inet_aton` maps back -/

theorem decAux_head_nonzero (f n : Nat) (acc : List Nat) (h1 : 1 ≤ n) (h2 : n < 10 ^ f) :
    ∃ d t, decAux f n acc = d :: t ∧ d ≠ 48 ∧ isDecimal d = true := by
  induction f generalizing n acc with
  | zero => simp at h2; omega
  | succ f ih =>
    unfold decAux
    by_cases h : n < 10
    · exact ⟨48 + n, acc, by simp [h], by omega, by simp [isDecimal]; omega⟩
    · simp only [h, if_false]
      have : n / 10 < 10 ^ f := by
        have : n < 10 ^ f * 10 := by simpa [Nat.pow_succ] using h2
        omega
      exact ih (n / 10) _ (by omega) this

theorem natToDec_no_leading_zero (n : Nat) : ¬ ((natToDec n).length > 1 ∧ (natToDec n).head? = some 48) := by
  intro ⟨hl, hh⟩
  by_cases h0 : n = 0
  · subst h0; simp [natToDec, decAux] at hl
  · obtain ⟨d, t, e, hd, _⟩ := decAux_head_nonzero (n + 1) n [] (by omega)
      (Nat.lt_of_lt_of_le (Nat.lt_pow_self (by decide : 1 < 10)) (Nat.pow_le_pow_right (by decide) (Nat.le_succ n)))
    unfold natToDec at hh
    rw [e] at hh
    simp at hh
    exact hd hh

theorem splitOn_no_sep (l : List Nat) (h : 46 ∉ l) : splitOn 46 l = [l] := by
  induction l with
  | nil => rfl
  | cons c r ih =>
    have hc : c ≠ 46 := fun e => h (by simp [e])
    simp [splitOn, ih (fun e => h (by simp [e])), hc]

theorem splitOn_sep (l rest : List Nat) (h : 46 ∉ l) : splitOn 46 (l ++ 46 :: rest) = l :: splitOn 46 rest := by
  induction l with
  | nil =>
    simp only [List.nil_append, splitOn]
    cases hs : splitOn 46 rest with
    | nil => 
      exfalso
      cases rest with
      | nil => simp [splitOn] at hs
      | cons a b =>
        simp only [splitOn] at hs
        split at hs
        · cases hs
        · split at hs <;> cases hs
    | cons p ps => simp
  | cons c r ih =>
    have hc : c ≠ 46 := fun e => h (by simp [e])
    simp only [List.cons_append, splitOn, ih (fun e => h (by simp [e])), hc, if_false]

theorem natToDec_no_dot (n : Nat) : 46 ∉ natToDec n := by
  intro hm
  have := natToDec_digit hm
  omega

/-- the dotted quad of four octets -/
def quadText (a b c d : Nat) : List Nat :=
  natToDec a ++ (46 :: (natToDec b ++ (46 :: (natToDec c ++ (46 :: natToDec d)))))

theorem inetNtoa_quad (a b c d : Nat) : inetNtoa [a, b, c, d] = quadText a b c d := by
  simp [inetNtoa, joinWith, quadText, List.append_assoc]

theorem quad_chars (a b c d : Nat) : ∀ x ∈ quadText a b c d, isDecimal x = true ∨ x = 46 := by
  intro x hx
  simp only [quadText, List.mem_append, List.mem_cons] at hx
  have hdec : ∀ n, x ∈ natToDec n → isDecimal x = true := fun n h => (List.all_eq_true.mp (natToDec_all n)) x h
  rcases hx with h | h | h | h | h | h | h
  · exact Or.inl (hdec a h)
  · exact Or.inr h
  · exact Or.inl (hdec b h)
  · exact Or.inr h
  · exact Or.inl (hdec c h)
  · exact Or.inr h
  · exact Or.inl (hdec d h)

theorem inetAton_quad (a b c d : Nat) (ha : a < 256) (hb : b < 256) (hc : c < 256) (hd : d < 256) :
    inetAton (quadText a b c d) = some [a, b, c, d] := by
  have hsplit : splitOn 46 (quadText a b c d) = [natToDec a, natToDec b, natToDec c, natToDec d] := by
    unfold quadText
    rw [splitOn_sep _ _ (natToDec_no_dot a), splitOn_sep _ _ (natToDec_no_dot b), splitOn_sep _ _ (natToDec_no_dot c),
      splitOn_no_sep _ (natToDec_no_dot d)]
  unfold inetAton
  simp only [hsplit]
  simp [digitsVal_natToDec, Nat.not_lt.mpr (Nat.le_of_lt_succ ha), Nat.not_lt.mpr (Nat.le_of_lt_succ hb),
    Nat.not_lt.mpr (Nat.le_of_lt_succ hc), Nat.not_lt.mpr (Nat.le_of_lt_succ hd)]
  have part : ∀ n, ¬ natToDec n = [] ∧ (∀ x ∈ natToDec n, isDecimal x = true) ∧
      (1 < (natToDec n).length → ¬ (natToDec n).head? = some 48) := fun n =>
    ⟨natToDec_ne_nil n, fun x hx => (List.all_eq_true.mp (natToDec_all n)) x hx,
      fun hl hh => natToDec_no_leading_zero n ⟨hl, hh⟩⟩
  exact ⟨part a, part b, part c, part d⟩

theorem quad_token (a b c d : Nat) :
    identOK (quadText a b c d) = true ∧ quadText a b c d ≠ [] ∧ quadText a b c d ≠ [92, 35] ∧
    hasEsc (quadText a b c d) = false ∧ (quadText a b c d).flatMap utf8 = quadText a b c d := by
  have hch : ∀ x ∈ quadText a b c d, x ≠ 92 ∧ isDelim false x = false ∧ x < 128 := by
    intro x hx
    rcases quad_chars a b c d x hx with hx | hx
    · simp only [isDecimal, decide_eq_true_eq] at hx
      exact ⟨by omega, by simp [isDelim, delimiters]; omega, by omega⟩
    · subst hx; decide
  obtain ⟨hid, hesc⟩ := plainWord_ok _ fun x hx => ⟨(hch x hx).1, (hch x hx).2.1⟩
  refine ⟨hid, ?_, ?_, hesc, ?_⟩
  · exact fun h => natToDec_ne_nil a (List.append_eq_nil_iff.mp h).1
  · intro h
    exact (hch 92 (by rw [h]; simp)).1 rfl
  · generalize quadText a b c d = w at hch
    induction w with
    | nil => rfl
    | cons x r ih =>
      simp [List.flatMap_cons, utf8, (hch x (by simp)).2.2, ih (fun y hy => hch y (by simp [hy]))]

theorem rdataReads_A_all (b : List Nat) (o1 o2 o3 o4 : Nat) (h1 : o1 < 256) (h2 : o2 < 256) (h3 : o3 < 256) (h4 : o4 < 256)
    (kc : Option (List Nat)) (co : Option Name) (rel : Bool) (zo : Option Name) (gfix : Bool)
    (hb : Blank b) (hbn : b ≠ []) (hkc : ∀ t ∈ kc, 10 ∉ t) :
    RdataReads tA (b ++ (inetNtoa [o1, o2, o3, o4] ++ lineEnd kc)) (.a [o1, o2, o3, o4]) kc co rel zo gfix := by
  rw [inetNtoa_quad]
  obtain ⟨t1, t2, t3, t4, t5⟩ := quad_token o1 o2 o3 o4
  exact rdataReads_A_gen b _ _ kc co rel zo gfix hb hbn hkc t1 t2 t3 t4 (by rw [t5]; exact inetAton_quad o1 o2 o3 o4 h1 h2 h3 h4)

end Model
