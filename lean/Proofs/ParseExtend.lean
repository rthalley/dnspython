import Proofs.ParseBasic
/-! What follows the message does not matter: every step of the reader that succeeds on `w` succeeds alike on `w ++ j`
and leaves the position inside `w`; so appended octets are `TrailingJunk`, or ignored with `ignore_trailing`. -/
namespace Model

theorem slice_append_left (w j : Bytes) (i n : Nat) (h : i + n ≤ w.length) : slice (w ++ j) i n = slice w i n :=
  take_drop_append_left w j i n h

theorem getName_extend (w j : Bytes) (endp endp' : Nat) (he : endp ≤ endp') (he' : endp' ≤ (w ++ j).length) (cur : Nat)
    (r : Name × Nat) (h : getName w endp cur = .ok r) : getName (w ++ j) endp' cur = .ok r := by
  obtain ⟨_, hw, ls, fwd, hd, hf, hn, hc⟩ := getName_ok_iff.mp h
  exact getName_ok_iff.mpr ⟨he', hw, ls, fwd, hd.mono j, by omega, hn, hc⟩

theorem getName_pos {w : Bytes} {endp cur : Nat} {n : Name} {c : Nat} (h : getName w endp cur = .ok (n, c)) (hc : cur ≤ endp) :
    c ≤ endp ∧ endp ≤ w.length := by
  obtain ⟨he, _, _, fwd, _, hf, _, rfl⟩ := getName_ok_iff.mp h
  exact ⟨by omega, he⟩

theorem getName_append (w j : Bytes) {endp endp' : Nat} (he : endp ≤ endp') (he' : endp' ≤ (w ++ j).length) {cur : Nat}
    (hc : cur ≤ endp) :
    Sim False id (fun p : Name × Nat => p.2 ≤ endp ∧ endp ≤ w.length) (getName (w ++ j) endp' cur) (getName w endp cur) :=
  And.intro (fun r h => ⟨getName_extend w j endp endp' he he' cur r h, getName_pos (n := r.1) (c := r.2) h hc⟩) False.elim

theorem parseOptions_append (w j : Bytes) (endp : Nat) (he : endp ≤ w.length) (fuel : Nat) : ∀ cur : Nat,
    Sim False id (fun _ => True) (parseOptions (w ++ j) endp fuel cur) (parseOptions w endp fuel cur) := by
  induction fuel with
  | zero => exact fun cur => Sim.ite (fun _ => Sim.error False.elim) fun _ => Sim.ok rfl trivial
  | succ fuel ih =>
    intro cur
    unfold parseOptions
    refine Sim.ite (fun _ => Sim.guard id False.elim fun h2 => ?_) fun _ => Sim.ok rfl trivial
    rw [slice_append_left w j cur 2 (by omega), slice_append_left w j (cur + 2) 2 (by omega)]
    refine Sim.guard id False.elim fun h3 => ?_
    rw [slice_append_left w j (cur + 4) _ (by omega)]
    obtain ⟨h1, -⟩ := ih (cur + 4 + beVal (slice w (cur + 2) 2))
    cases hr : parseOptions w endp fuel (cur + 4 + beVal (slice w (cur + 2) 2)) with
    | error e => exact Sim.error False.elim
    | ok rest => rw [(h1 rest hr).1]; exact Sim.ok rfl trivial

theorem parseRData_append (w j : Bytes) (start endp : Nat) (hs : start ≤ endp) (he : endp ≤ w.length) (origin : Option Name)
    (rdtype : Nat) :
    Sim False id (fun _ => True) (parseRData (w ++ j) start endp origin rdtype) (parseRData w start endp origin rdtype) := by
  have hel : endp ≤ (w ++ j).length := by simp; omega
  unfold parseRData
  cases shapeOf rdtype with
  | raw => exact Sim.ok (by rw [slice_append_left w j start (endp - start) (by omega)]; rfl) trivial
  | name1 =>
    exact Sim.name (getName_append w j (Nat.le_refl _) hel hs) fun n c _ _ => Sim.guard id False.elim fun _ => Sim.ok rfl trivial
  | mx =>
    refine Sim.guard id False.elim fun hl => Sim.name (getName_append w j (Nat.le_refl _) hel (by omega)) fun n c _ _ =>
      Sim.guard id False.elim fun _ => Sim.ok ?_ trivial
    rw [slice_append_left w j start 2 (by omega)]; rfl
  | soa =>
    refine Sim.name (getName_append w j (Nat.le_refl _) hel hs) fun m c1 _ h1 =>
      Sim.name (getName_append w j (Nat.le_refl _) hel h1.1) fun r c2 _ _ =>
        Sim.guard id False.elim fun _ => Sim.guard id False.elim fun _ => Sim.ok ?_ trivial
    rw [slice_append_left w j c2 4 (by omega), slice_append_left w j (c2 + 4) 4 (by omega),
      slice_append_left w j (c2 + 8) 4 (by omega), slice_append_left w j (c2 + 12) 4 (by omega),
      slice_append_left w j (c2 + 16) 4 (by omega)]
    rfl

theorem parseTsigRData_append (w j : Bytes) (start endp : Nat) (hs : start ≤ endp) (he : endp ≤ w.length) (owner : Name) :
    Sim False id (fun _ => True) (parseTsigRData (w ++ j) start endp owner) (parseTsigRData w start endp owner) := by
  have hel : endp ≤ (w ++ j).length := by simp; omega
  unfold parseTsigRData
  refine Sim.name (getName_append w j (Nat.le_refl _) hel hs) fun alg c _ _ => Sim.guard id False.elim fun h1 => ?_
  rw [slice_append_left w j c 6 (by omega), slice_append_left w j (c + 6) 2 (by omega), slice_append_left w j (c + 8) 2 (by omega)]
  refine Sim.guard id False.elim fun h2 => ?_
  rw [slice_append_left w j (c + 10) _ (by omega)]
  refine Sim.guard id False.elim fun h3 => ?_
  rw [slice_append_left w j (c + 10 + beVal (slice w (c + 8) 2)) 2 (by omega),
    slice_append_left w j (c + 10 + beVal (slice w (c + 8) 2) + 2) 2 (by omega)]
  refine Sim.guard id False.elim fun h4 => ?_
  rw [slice_append_left w j (c + 10 + beVal (slice w (c + 8) 2) + 4) 2 (by omega)]
  refine Sim.guard id False.elim fun h5 => Sim.guard id False.elim fun h6 => Sim.ok ?_ trivial
  rw [slice_append_left w j (c + 10 + beVal (slice w (c + 8) 2) + 4 + 2) _ (by omega)]
  rfl

/-- The reader on `w ++ j` follows the reader on `w`, and stays inside `w`. -/
theorem parseQuestion_append (cfg : PCfg) (upd : Bool) (w j : Bytes) :
    StepSim False id (fun st => st.cur ≤ w.length) (parseQuestion cfg upd (w ++ j)) (parseQuestion cfg upd w) := by
  intro st hst
  unfold parseQuestion
  refine Sim.name (getName_append w j (by simp) (Nat.le_refl _) hst) fun n c _ hc => Sim.guard (by simp; omega) False.elim fun hl => ?_
  rw [slice_append_left w j c 2 (by omega), slice_append_left w j (c + 2) 2 (by omega)]
  exact Sim.hdr fun rc _ _ => Sim.ok rfl (show c + 4 ≤ w.length by omega)

/-- every window the reader opens (the ten fixed octets, the RDATA) is checked against the length first -/
theorem parseRR_append (cfg : PCfg) (upd : Bool) (w j : Bytes) (sec count i : Nat) :
    StepSim False id (fun st => st.cur ≤ w.length) (parseRR cfg upd (w ++ j) sec count i) (parseRR cfg upd w sec count i) := by
  intro st hst
  unfold parseRR
  refine Sim.name (getName_append w j (by simp) (Nat.le_refl _) hst) fun n c _ hc => Sim.guard (by simp; omega) False.elim fun hl => ?_
  rw [slice_append_left w j c 2 (by omega), slice_append_left w j (c + 2) 2 (by omega),
    slice_append_left w j (c + 4) 4 (by omega), slice_append_left w j (c + 8) 2 (by omega)]
  refine Sim.hdr fun rc del empty => Sim.ite (fun _ => Sim.guard id False.elim fun _ => Sim.ok rfl ?_) fun _ =>
    Sim.guard (by simp; omega) False.elim fun hr => ?_
  · exact Nat.le_trans (Nat.le_of_eq (cur_setSection ..)) (show c + 10 ≤ w.length by omega)
  have hend : c + 10 + beVal (slice w (c + 8) 2) ≤ w.length := by omega
  refine Sim.ite (fun _ => ?_) fun _ => Sim.ite (fun _ => ?_) fun _ => ?_
  · obtain ⟨h1, -⟩ := parseOptions_append w j _ hend (beVal (slice w (c + 8) 2)) (c + 10)
    cases ho : parseOptions w (c + 10 + beVal (slice w (c + 8) 2)) (beVal (slice w (c + 8) 2)) (c + 10) with
    | error e => exact Sim.error False.elim
    | ok opts => rw [(h1 opts ho).1]; exact Sim.ok rfl hend
  · obtain ⟨h1, -⟩ := parseTsigRData_append w j (c + 10) _ (by omega) hend n
    cases ht : parseTsigRData w (c + 10) (c + 10 + beVal (slice w (c + 8) 2)) n with
    | error e => exact Sim.error False.elim
    | ok t =>
      rw [(h1 t ht).1]
      exact Sim.guard id False.elim fun _ => Sim.ite (fun _ => Sim.ok rfl hend) fun _ => Sim.error False.elim
  · obtain ⟨h1, -⟩ := parseRData_append w j (c + 10) _ (by omega) hend cfg.origin (beVal (slice w c 2))
    cases hp : parseRData w (c + 10) (c + 10 + beVal (slice w (c + 8) 2)) cfg.origin (beVal (slice w c 2)) with
    | error e => exact Sim.error False.elim
    | ok rd => rw [(h1 rd hp).1]; exact Sim.ok rfl (Nat.le_trans (Nat.le_of_eq (cur_setSection ..)) hend)

/-- `ignore_trailing` may be set to anything in the conclusion: it is only looked at after the last record -/
theorem parseSections_extend (cfg : PCfg) (b : Bool) (w j : Bytes) (hl : 12 ≤ w.length) (st : PState)
    (h : parseSections cfg w = .ok st) :
    parseSections { cfg with ignoreTrailing := b } (w ++ j) = .ok st ∧ st.cur ≤ w.length := by
  unfold parseSections at h ⊢
  rw [slice_append_left w j 2 2 (by omega), slice_append_left w j 4 2 (by omega), slice_append_left w j 6 2 (by omega),
    slice_append_left w j 8 2 (by omega), slice_append_left w j 10 2 (by omega)]
  exact (readSections_sim (cfg' := { cfg with ignoreTrailing := b }) (parseQuestion_append cfg _ w j)
    (parseRR_append cfg _ w j) _ _ _ _ _ { cur := 12 } hl).1 st h

theorem parseMessage_append (cfg : PCfg) (b : Bool) (w j : Bytes) (m : Message) (h : parseMessage cfg w = .ok m) :
    (b = true → parseMessage { cfg with ignoreTrailing := b } (w ++ j) = .ok m) ∧
    (b = false → j ≠ [] → parseMessage { cfg with ignoreTrailing := b } (w ++ j) = .error .trailingJunk) := by
  rw [parseMessage_eq] at h ⊢
  by_cases hl : w.length < 12
  · simp [hl] at h
  have hl' : ¬ (w ++ j).length < 12 := by simp; omega
  simp only [hl, hl', if_false] at h ⊢
  cases hs : parseSections cfg w with
  | error e => rw [hs] at h; simp at h
  | ok st =>
    rw [hs] at h
    obtain ⟨he, hc⟩ := parseSections_extend cfg b w j (by omega) st hs
    rw [he]
    simp only at h ⊢
    rw [slice_append_left w j 0 2 (by omega), slice_append_left w j 2 2 (by omega)]
    refine ⟨?_, ?_⟩
    · intro hb
      simp only [hb, Bool.not_true, Bool.false_eq_true, false_and, if_false]
      split at h
      · simp at h
      · exact h
    · intro hb hj
      have hjl : j.length ≠ 0 := fun e => hj (List.length_eq_zero_iff.mp e)
      have : (w ++ j).length - st.cur ≠ 0 := by simp; omega
      simp only [hb, Bool.not_false, true_and]
      rw [if_pos this]

theorem parseMessage_junk (cfg : PCfg) (w j : Bytes) (m : Message) (h : parseMessage cfg w = .ok m) :
    (cfg.ignoreTrailing = true → parseMessage cfg (w ++ j) = .ok m) ∧
    (cfg.ignoreTrailing = false → j ≠ [] → parseMessage cfg (w ++ j) = .error .trailingJunk) :=
  parseMessage_append cfg cfg.ignoreTrailing w j m h

theorem parseMessage_ignore_trailing (cfg : PCfg) (w j : Bytes) (m : Message) (h : parseMessage cfg w = .ok m) :
    parseMessage { cfg with ignoreTrailing := true } (w ++ j) = .ok m :=
  (parseMessage_append cfg true w j m h).1 rfl

end Model
