import Proofs.WritersPc
/-!
The transition relation of the writer-admission model, one constructor per program point and branch, each with the
successor state written out.  `step_trans`: every step of the model is one of these transitions (the converse does not
hold: `rdPickMiss` has no premise about `c.pick`); the invariant proofs do `cases` on it.
`enabled` is the guard of a step (`enabled_iff`).

`Trans` says what a step does program point by program point.  The lemmas after it give the other reading, field by
field: which program points write a field, and what.  Where the new value can be written down without a witness the
lemma is an equation with `if` (`ev_eq`, `evSet_eq`, `versions_eq`, `publish_eq`), which also says that nothing else
writes the field; the ghost histories `admitted`, `arrivals`, `committed` are logs, and the equation says what a step
appends (`admitted_eq`, `arrivals_eq`, `publish_eq`).  The queue and the token, where a popped event has to be named, get
a case distinction, "unchanged, or the mover is at … and the new value is …" (`writeEvent_cases`, `waiters_cases`), and so
do the lock and `_write_txn`, which come with what the step does to the class of the mover's program point (`lock_cases`,
`own_cases`); there the first case does not exclude the others, so these serve where each part of a clause reads one
field.  The program counter moves along `succPc` (`pc_mem`), so that what own steps do to a class or a measure is a fact
about that table.  Last the frames: nothing of another thread's locals (`loc_ne`), nothing shared while the thread is
outside its critical sections and the lock is taken (`unlocked`), nothing published unless the thread owns the open
transaction (`not_owner`), never the creator of an existing event (`owner_eq`).  A clause of an invariant that reads one
or two shared fields is argued from these, without `cases` on the transition; a clause about the moving thread at a given
program point does `cases`.

The first hypothesis of every constructor fixes the program point, `(s.loc t).pc = …`.  After `cases` on a transition
the invariant proofs pick it up by `‹_›` and use it to discard the constructors that contradict what is known about
that program point, or about the one reached.
-/
namespace Model.Writers

@[simp] theorem setLoc_loc (s : State) (t u : Tid) (l : Local) :
    (s.setLoc t l).loc u = if u = t then l else s.loc u := rfl
theorem setLoc_loc_self (s : State) (t : Tid) (l : Local) : (s.setLoc t l).loc t = l := if_pos rfl
@[simp] theorem setLoc_lock (s : State) (t : Tid) (l : Local) : (s.setLoc t l).lock = s.lock := rfl
@[simp] theorem setLoc_writeTxn (s : State) (t : Tid) (l : Local) : (s.setLoc t l).writeTxn = s.writeTxn := rfl
@[simp] theorem setLoc_writeEvent (s : State) (t : Tid) (l : Local) : (s.setLoc t l).writeEvent = s.writeEvent := rfl
@[simp] theorem setLoc_waiters (s : State) (t : Tid) (l : Local) : (s.setLoc t l).waiters = s.waiters := rfl
@[simp] theorem setLoc_evSet (s : State) (t : Tid) (l : Local) : (s.setLoc t l).evSet = s.evSet := rfl
@[simp] theorem setLoc_nextEv (s : State) (t : Tid) (l : Local) : (s.setLoc t l).nextEv = s.nextEv := rfl
@[simp] theorem setLoc_versions (s : State) (t : Tid) (l : Local) : (s.setLoc t l).versions = s.versions := rfl
@[simp] theorem setLoc_nodes (s : State) (t : Tid) (l : Local) : (s.setLoc t l).nodes = s.nodes := rfl
@[simp] theorem setLoc_readers (s : State) (t : Tid) (l : Local) : (s.setLoc t l).readers = s.readers := rfl
@[simp] theorem setLoc_arrivals (s : State) (t : Tid) (l : Local) : (s.setLoc t l).arrivals = s.arrivals := rfl
@[simp] theorem setLoc_admitted (s : State) (t : Tid) (l : Local) : (s.setLoc t l).admitted = s.admitted := rfl
@[simp] theorem setLoc_committed (s : State) (t : Tid) (l : Local) : (s.setLoc t l).committed = s.committed := rfl
@[simp] theorem setLoc_ends (s : State) (t : Tid) (l : Local) : (s.setLoc t l).ends = s.ends := rfl
@[simp] theorem setLoc_owner (s : State) (t : Tid) (l : Local) : (s.setLoc t l).owner = s.owner := rfl

inductive Trans (c : Cfg) (s : State) (t : Tid) : State → Prop
  | idleW (b : Bool) : (s.loc t).pc = .idle → c.role t = .writer b →
      Trans c s t (s.setLoc t { s.loc t with pc := .wInit })
  | idleR : (s.loc t).pc = .idle → c.role t = .reader →
      Trans c s t (s.setLoc t { s.loc t with pc := .rdAcq })
  | wInit : (s.loc t).pc = .wInit →
      Trans c s t (s.setLoc t { s.loc t with pc := .wAcq, ev := none })
  | wAcqFirst : (s.loc t).pc = .wAcq → s.lock = none → (s.loc t).ev = none →
      Trans c s t ({ s with lock := some t, arrivals := s.arrivals ++ [t] }.setLoc t { s.loc t with pc := .wTest })
  | wAcqAgain : (s.loc t).pc = .wAcq → s.lock = none → (s.loc t).ev ≠ none →
      Trans c s t ({ s with lock := some t }.setLoc t { s.loc t with pc := .wTest })
  | wTestOk : (s.loc t).pc = .wTest → s.writeTxn = none → (s.loc t).ev = s.writeEvent →
      Trans c s t (s.setLoc t { s.loc t with pc := .wMkTxn })
  | wTestFail : (s.loc t).pc = .wTest → ¬ (s.writeTxn = none ∧ (s.loc t).ev = s.writeEvent) →
      Trans c s t (s.setLoc t { s.loc t with pc := .wNewEv })
  | wMkTxn : (s.loc t).pc = .wMkTxn →
      Trans c s t ({ s with writeTxn := some t, admitted := s.admitted ++ [t] }.setLoc t { s.loc t with pc := .wClrEv })
  | wClrEv : (s.loc t).pc = .wClrEv →
      Trans c s t ({ s with writeEvent := none }.setLoc t { s.loc t with pc := .wRelA })
  | wRelA : (s.loc t).pc = .wRelA →
      Trans c s t ({ s with lock := none }.setLoc t { s.loc t with pc := .wSetupId })
  | wNewEv : (s.loc t).pc = .wNewEv →
      Trans c s t ({ s with nextEv := s.nextEv + 1,
                            owner := fun e => if e = s.nextEv then t else s.owner e }.setLoc t
                    { s.loc t with pc := .wAppend, ev := some s.nextEv })
  | wAppend (e : Ev) : (s.loc t).pc = .wAppend → (s.loc t).ev = some e →
      Trans c s t ({ s with waiters := s.waiters ++ [e] }.setLoc t { s.loc t with pc := .wRelB })
  | wRelB : (s.loc t).pc = .wRelB →
      Trans c s t ({ s with lock := none }.setLoc t { s.loc t with pc := .wWait })
  | wWait (e : Ev) : (s.loc t).pc = .wWait → (s.loc t).ev = some e → e ∈ s.evSet →
      Trans c s t (s.setLoc t { s.loc t with pc := .wAcq })
  | wSetupId : (s.loc t).pc = .wSetupId →
      Trans c s t (s.setLoc t { s.loc t with pc := .wSetupCopy, vid := s.lastId + 1 })
  | wSetupCopy : (s.loc t).pc = .wSetupCopy →
      Trans c s t (s.setLoc t { s.loc t with pc := .wReturn, snap := if c.repl t then [] else s.nodes })
  | wReturn : (s.loc t).pc = .wReturn →
      Trans c s t (s.setLoc t { s.loc t with pc := .wBody })
  | wBodyC : (s.loc t).pc = .wBody → c.role t = .writer true →
      Trans c s t (s.setLoc t { s.loc t with pc := .cAcq, snap := c.body t (s.loc t).snap })
  | wBodyR : (s.loc t).pc = .wBody → c.role t ≠ .writer true →
      Trans c s t (s.setLoc t { s.loc t with pc := .rAcq, snap := c.body t (s.loc t).snap })
  | cAcq : (s.loc t).pc = .cAcq → s.lock = none →
      Trans c s t ({ s with lock := some t }.setLoc t { s.loc t with pc := .cAppend })
  | cAppend : (s.loc t).pc = .cAppend →
      Trans c s t ({ s with versions := s.versions ++ [((s.loc t).vid, (s.loc t).snap)] }.setLoc t
                    { s.loc t with pc := .cPrune })
  | cPrune : (s.loc t).pc = .cPrune → c.pruneFails t = false →
      Trans c s t (s.setLoc t { s.loc t with pc := .cNodes })
  | cPruneFail : (s.loc t).pc = .cPrune → c.pruneFails t = true →
      Trans c s t (s.setLoc t { s.loc t with pc := .cUndo })
  | cUndo : (s.loc t).pc = .cUndo →
      Trans c s t ({ s with versions := s.versions.dropLast }.setLoc t { s.loc t with pc := .eTxnNone })
  | cNodes : (s.loc t).pc = .cNodes →
      Trans c s t ({ s with nodes := (s.loc t).snap, committed := s.committed ++ [t] }.setLoc t
                    { s.loc t with pc := .eTxnNone })
  | rAcq : (s.loc t).pc = .rAcq → s.lock = none →
      Trans c s t ({ s with lock := some t }.setLoc t { s.loc t with pc := .eTxnNone })
  | eTxnNone : (s.loc t).pc = .eTxnNone →
      Trans c s t ({ s with writeTxn := none, ends := s.ends + 1 }.setLoc t { s.loc t with pc := .eTestW })
  | eTestWSome : (s.loc t).pc = .eTestW → s.waiters ≠ [] →
      Trans c s t (s.setLoc t { s.loc t with pc := .ePop })
  | eTestWNone : (s.loc t).pc = .eTestW → s.waiters = [] →
      Trans c s t (s.setLoc t { s.loc t with pc := .eRel })
  | ePop (e : Ev) (rest : List Ev) : (s.loc t).pc = .ePop → s.waiters = e :: rest →
      Trans c s t ({ s with writeEvent := some e, waiters := rest }.setLoc t { s.loc t with pc := .eSet })
  | eSet (e : Ev) : (s.loc t).pc = .eSet → s.writeEvent = some e →
      Trans c s t ({ s with evSet := e :: s.evSet }.setLoc t { s.loc t with pc := .eRel })
  | eRel : (s.loc t).pc = .eRel →
      Trans c s t ({ s with lock := none }.setLoc t { s.loc t with pc := .done })
  | rdAcq : (s.loc t).pc = .rdAcq → s.lock = none →
      Trans c s t ({ s with lock := some t }.setLoc t { s.loc t with pc := .rdPick })
  | rdPick : (s.loc t).pc = .rdPick → c.pick t = .latest →
      Trans c s t (s.setLoc t { s.loc t with pc := .rdAdd, rver := s.lastVersion })
  | rdPickId (k : Nat) (v : Nat × Content) : (s.loc t).pc = .rdPick → c.pick t = .byId k →
      s.versions.find? (fun v => v.1 == k) = some v →
      Trans c s t (s.setLoc t { s.loc t with pc := .rdAdd, rver := v })
  | rdPickMiss : (s.loc t).pc = .rdPick →
      Trans c s t (s.setLoc t { s.loc t with pc := .rdFail })
  | rdFail : (s.loc t).pc = .rdFail →
      Trans c s t ({ s with lock := none }.setLoc t { s.loc t with pc := .done })
  | rdAdd : (s.loc t).pc = .rdAdd →
      Trans c s t ({ s with readers := t :: s.readers }.setLoc t { s.loc t with pc := .rdRel })
  | rdRel : (s.loc t).pc = .rdRel →
      Trans c s t ({ s with lock := none }.setLoc t { s.loc t with pc := .rdRet })
  | rdRet : (s.loc t).pc = .rdRet →
      Trans c s t (s.setLoc t { s.loc t with pc := .rdBody })
  | rdBody : (s.loc t).pc = .rdBody →
      Trans c s t (s.setLoc t { s.loc t with pc := .xAcq, seen := (s.loc t).rver.2 })
  | xAcq : (s.loc t).pc = .xAcq → s.lock = none →
      Trans c s t ({ s with lock := some t }.setLoc t { s.loc t with pc := .xRemove })
  | xRemove : (s.loc t).pc = .xRemove →
      Trans c s t ({ s with readers := s.readers.erase t }.setLoc t { s.loc t with pc := .xPrune })
  | xPrune : (s.loc t).pc = .xPrune →
      Trans c s t (s.setLoc t { s.loc t with pc := .xRel })
  | xRel : (s.loc t).pc = .xRel →
      Trans c s t ({ s with lock := none }.setLoc t { s.loc t with pc := .done })

theorem step_trans {c : Cfg} {s s' : State} {t : Tid} (hs : step c s t = some s') : Trans c s t s' := by
  cases hpc : (s.loc t).pc <;> simp only [step, hpc] at hs
  case idle =>
    split at hs <;> cases hs
    · exact .idleW _ hpc (by assumption)
    · exact .idleR hpc (by assumption)
  case wAcq =>
    split at hs
    · cases hs
      by_cases he : (s.loc t).ev = none
      · rw [if_pos he]; exact .wAcqFirst hpc (by assumption) he
      · rw [if_neg he]; exact .wAcqAgain hpc (by assumption) he
    · contradiction
  case wTest =>
    split at hs <;> cases hs
    · rename_i h; exact .wTestOk hpc h.1 h.2
    · rename_i h; exact .wTestFail hpc h
  case wAppend =>
    split at hs
    · cases hs; exact .wAppend _ hpc (by assumption)
    · contradiction
  case wWait =>
    split at hs
    · split at hs
      · cases hs; exact .wWait _ hpc (by assumption) (by assumption)
      · contradiction
    · contradiction
  case wBody =>
    split at hs <;> cases hs
    · exact .wBodyC hpc (by assumption)
    · rename_i h; exact .wBodyR hpc (by intro h'; exact h h')
  case cPrune =>
    split at hs <;> cases hs
    · exact .cPruneFail hpc (by assumption)
    · rename_i h; exact .cPrune hpc (by simpa using h)
  case eTestW =>
    split at hs <;> cases hs
    · exact .eTestWSome hpc (by assumption)
    · rename_i h; exact .eTestWNone hpc (by simpa using h)
  case ePop =>
    split at hs
    · cases hs; exact .ePop _ _ hpc (by assumption)
    · contradiction
  case eSet =>
    split at hs
    · cases hs; exact .eSet _ hpc (by assumption)
    · contradiction
  case rdPick =>
    split at hs
    · cases hs; exact .rdPick hpc (by assumption)
    · split at hs
      · cases hs; exact .rdPickId _ _ hpc (by assumption) (by assumption)
      · cases hs; exact .rdPickMiss hpc
    · cases hs; exact .rdPickMiss hpc
  case cAcq | rAcq | rdAcq | xAcq =>
    split at hs
    · cases hs; constructor <;> assumption
    · contradiction
  -- the three releases that end at `done` have the same successor state
  case rdFail => cases hs; exact .rdFail hpc
  case xRel => cases hs; exact .xRel hpc
  case done => contradiction
  -- the straight-line program points: one constructor has this successor state
  all_goals cases hs; constructor; exact hpc

/-- when a thread can move -/
def enabled (s : State) (u : Tid) : Prop :=
  match (s.loc u).pc with
  | .wAcq | .cAcq | .rAcq | .rdAcq | .xAcq => s.lock = none
  | .wWait => ∃ e, (s.loc u).ev = some e ∧ e ∈ s.evSet
  | .wAppend => (s.loc u).ev ≠ none
  | .ePop => s.waiters ≠ []
  | .eSet => s.writeEvent ≠ none
  | .done => False
  | _ => True

theorem enabled_iff (c : Cfg) (s : State) (u : Tid) : (step c s u).isSome ↔ enabled s u := by
  unfold enabled
  cases hpc : (s.loc u).pc <;> simp only [step, hpc]
  case idle => cases c.role u <;> simp
  case wAcq | cAcq | rAcq | rdAcq | xAcq => by_cases hl : s.lock = none <;> simp [hl]
  case wTest => split <;> simp
  case wAppend => cases (s.loc u).ev <;> simp
  case wWait =>
    cases hev : (s.loc u).ev with
    | none => simp
    | some e => by_cases he : e ∈ s.evSet <;> simp [he]
  case wBody => split <;> simp
  case eTestW => split <;> simp
  case cPrune => split <;> simp
  case rdPick => split <;> (try split) <;> simp
  case ePop => cases s.waiters <;> simp
  case eSet => cases s.writeEvent <;> simp
  all_goals simp

variable {c : Cfg} {s s' : State} {t u : Tid}

theorem Trans.loc_ne (htr : Trans c s t s') (hu : u ≠ t) : s'.loc u = s.loc u := by
  cases htr <;> exact if_neg hu

theorem Trans.pc_mem (htr : Trans c s t s') : (s'.loc t).pc ∈ succPc (s.loc t).pc := by
  cases htr <;> simp [succPc, *]

theorem Trans.not_idle (htr : Trans c s t s') (h : (s.loc u).pc ≠ .idle) : (s'.loc u).pc ≠ .idle := by
  by_cases hu : u = t
  · subst hu; exact succPc_ne_idle _ _ htr.pc_mem
  · rw [htr.loc_ne hu]; exact h

theorem Trans.done (htr : Trans c s t s') (h : (s.loc u).pc = .done) : (s'.loc u).pc = .done := by
  by_cases hu : u = t
  · subst hu
    have := htr.pc_mem
    rw [h] at this; cases this
  · rw [htr.loc_ne hu]; exact h

/-- a thread starts as what its role says -/
theorem Trans.start (htr : Trans c s t s') (hpc : (s.loc t).pc = .idle) :
    (c.role t ≠ .reader ∧ (s'.loc t).pc = .wInit) ∨ (c.role t = .reader ∧ (s'.loc t).pc = .rdAcq) := by
  cases htr <;> simp only [hpc, reduceCtorEq] at *
  · exact .inl ⟨by rw [‹c.role t = _›]; nofun, congrArg Local.pc (setLoc_loc_self ..)⟩
  · exact .inr ⟨‹_›, congrArg Local.pc (setLoc_loc_self ..)⟩

/-- a parked writer is woken only by its event being set -/
theorem Trans.wait_guard (htr : Trans c s t s') (hpc : (s.loc t).pc = .wWait) :
    ∃ e, (s.loc t).ev = some e ∧ e ∈ s.evSet := by
  cases htr <;> simp only [hpc, reduceCtorEq] at *
  exact ⟨_, ‹_›, ‹_›⟩

/-- the local variable `event` of the moving thread -/
theorem Trans.ev_eq (htr : Trans c s t s') :
    (s'.loc t).ev =
      if (s.loc t).pc = .wInit then none else if (s.loc t).pc = .wNewEv then some s.nextEv else (s.loc t).ev := by
  cases htr <;> simp [*]

/-- `event = threading.Event()` -/
theorem Trans.newEv (htr : Trans c s t s') (hpc : (s.loc t).pc = .wNewEv) :
    s'.nextEv = s.nextEv + 1 ∧ s'.owner s.nextEv = t := by
  cases htr <;> simp only [hpc, reduceCtorEq] at *
  exact ⟨rfl, if_pos rfl⟩

theorem Trans.lock_cases (htr : Trans c s t s') :
    (s'.lock = s.lock ∧ holdsLock (s'.loc t).pc = holdsLock (s.loc t).pc) ∨
    (s.lock = none ∧ s'.lock = some t ∧ holdsLock (s'.loc t).pc = true) ∨
    (holdsLock (s.loc t).pc = true ∧ s'.lock = none ∧ holdsLock (s'.loc t).pc = false) := by
  cases htr <;> simp [*]

theorem Trans.lock_kept (htr : Trans c s t s') (hl : s.lock = some t) (h : 1 < lockFuel (s.loc t).pc) : s'.lock = some t := by
  rcases htr.lock_cases with h1 | h1 | h1
  · exact h1.1.trans hl
  · exact h1.2.1
  · rw [holdsLock_succ _ h _ htr.pc_mem] at h1; cases h1.2.2

/-- `_write_txn`, the program point of the thread that writes it, and the two ghost counters that follow it: admissions and
ends of write transactions -/
theorem Trans.own_cases (htr : Trans c s t s') :
    (s'.writeTxn = s.writeTxn ∧ isOwner (s'.loc t).pc = isOwner (s.loc t).pc ∧ s'.admitted = s.admitted ∧ s'.ends = s.ends) ∨
    ((s.loc t).pc = .wMkTxn ∧ s'.writeTxn = some t ∧ isOwner (s'.loc t).pc = true ∧ s'.admitted = s.admitted ++ [t] ∧
      s'.ends = s.ends) ∨
    ((s.loc t).pc = .eTxnNone ∧ s'.writeTxn = none ∧ isOwner (s'.loc t).pc = false ∧ s'.admitted = s.admitted ∧
      s'.ends = s.ends + 1) := by
  cases htr <;> simp [*]

theorem Trans.writeTxn_none (htr : Trans c s t s') (hwt : s.writeTxn = none) (hmk : (s.loc t).pc ≠ .wMkTxn) :
    s'.writeTxn = none := by
  rcases htr.own_cases with h | h | h
  · rw [h.1, hwt]
  · exact absurd h.1 hmk
  · exact h.2.1

/-- the token is cleared by the thread it admitted, and taken from the head of the queue -/
theorem Trans.writeEvent_cases (htr : Trans c s t s') :
    s'.writeEvent = s.writeEvent ∨ ((s.loc t).pc = .wClrEv ∧ s'.writeEvent = none) ∨
    ((s.loc t).pc = .ePop ∧ ∃ e, s.waiters = e :: s'.waiters ∧ s'.writeEvent = some e) := by
  cases htr <;> first | exact .inl rfl | exact .inr (.inl ⟨‹_›, rfl⟩) | exact .inr (.inr ⟨‹_›, _, ‹_›, rfl⟩)

theorem Trans.writeEvent_same (htr : Trans c s t s') (h1 : (s.loc t).pc ≠ .wClrEv) (h2 : (s.loc t).pc ≠ .ePop) :
    s'.writeEvent = s.writeEvent :=
  htr.writeEvent_cases.resolve_right fun h => h.elim (fun h => h1 h.1) fun h => h2 h.1

theorem Trans.waiters_cases (htr : Trans c s t s') :
    s'.waiters = s.waiters ∨
    ((s.loc t).pc = .wAppend ∧ ∃ e, (s.loc t).ev = some e ∧ s'.waiters = s.waiters ++ [e]) ∨
    ((s.loc t).pc = .ePop ∧ ∃ e, s.waiters = e :: s'.waiters ∧ s'.writeEvent = some e) := by
  cases htr <;> first | exact .inl rfl | exact .inr (.inl ⟨‹_›, _, ‹_›, rfl⟩) | exact .inr (.inr ⟨‹_›, _, ‹_›, rfl⟩)

/-- `self._write_event.set()` -/
theorem Trans.evSet_eq (htr : Trans c s t s') :
    s'.evSet = if (s.loc t).pc = .eSet then s.writeEvent.toList ++ s.evSet else s.evSet := by
  cases htr <;> simp [*]

theorem Trans.evSet_mono (htr : Trans c s t s') {e : Ev} (he : e ∈ s.evSet) : e ∈ s'.evSet := by
  rw [htr.evSet_eq]; split
  · exact List.mem_append_right _ he
  · exact he

theorem Trans.nextEv_le (htr : Trans c s t s') : s.nextEv ≤ s'.nextEv := by
  cases htr <;> first | exact Nat.le_refl _ | exact Nat.le_succ _

theorem Trans.owner_eq (htr : Trans c s t s') {e : Ev} (he : e < s.nextEv) : s'.owner e = s.owner e := by
  cases htr <;> first | rfl | exact if_neg (Nat.ne_of_lt he)

/-- the ghost histories are logs: a step appends the thread it admits to `admitted` -/
theorem Trans.admitted_eq (htr : Trans c s t s') :
    s'.admitted = s.admitted ++ if (s.loc t).pc = .wMkTxn then [t] else [] := by
  cases htr <;> simp [*]

theorem Trans.mem_admitted (htr : Trans c s t s') {w : Tid} (hw : w ∈ s.admitted) : w ∈ s'.admitted :=
  htr.admitted_eq ▸ List.mem_append_left _ hw

/-- and to `arrivals` the thread that takes the lock in `writer()` for the first time -/
theorem Trans.arrivals_eq (htr : Trans c s t s') :
    s'.arrivals = s.arrivals ++ if (s.loc t).pc = .wAcq ∧ (s.loc t).ev = none then [t] else [] := by
  cases htr <;> simp [*]

/-- `self._versions.append(version)`, and `self._versions.pop()` when the pruning policy has raised -/
theorem Trans.versions_eq (htr : Trans c s t s') :
    s'.versions = if (s.loc t).pc = .cAppend then s.versions ++ [((s.loc t).vid, (s.loc t).snap)]
      else if (s.loc t).pc = .cUndo then s.versions.dropLast else s.versions := by
  cases htr <;> simp [*]

/-- `self.nodes = version.nodes` -/
theorem Trans.publish_eq (htr : Trans c s t s') :
    s'.nodes = (if (s.loc t).pc = .cNodes then (s.loc t).snap else s.nodes) ∧
    s'.committed = s.committed ++ if (s.loc t).pc = .cNodes then [t] else [] := by
  cases htr <;> simp [*]

theorem Trans.not_owner (htr : Trans c s t s') (ho : isOwner (s.loc t).pc = false) :
    s'.nodes = s.nodes ∧ s'.versions = s.versions ∧ s'.committed = s.committed := by
  have hne : ∀ {p}, isOwner p = true → (s.loc t).pc ≠ p := fun hp h => by rw [h, hp] at ho; cases ho
  obtain ⟨hn, hc⟩ := htr.publish_eq
  refine ⟨hn.trans (if_neg (hne rfl)), ?_, hc.trans (by rw [if_neg (hne rfl), List.append_nil])⟩
  rw [htr.versions_eq, if_neg (hne rfl), if_neg (hne rfl)]

theorem Trans.unlocked (htr : Trans c s t s') (hh : holdsLock (s.loc t).pc = false) (hl : s.lock ≠ none) :
    ∃ l, s' = s.setLoc t l := by
  -- the other transitions take the lock, which is not free, or start inside a critical section
  cases htr <;> first | exact ⟨_, rfl⟩ | exact absurd ‹s.lock = none› hl | (rw [‹(s.loc t).pc = _›] at hh; cases hh)

end Model.Writers
