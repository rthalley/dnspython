import Model.Cache
import Proofs.Cache
/-! C17: one lock, many threads, at two granularities.  In `Sys` a method is `acquire; body; release` with the body one
step; in `MSys` every statement of every thread is a step of its own and what protects the cache is only the lock
discipline of the code.  Each is shown equal to the sequential object directly (`sysInv_run`, `mInv_run`): the coarse
theorem also speaks of the order in which bodies ran and of program order, which the fine model does not record. -/
namespace Model.Cache

def keyOf (e : Nat × Op × Out) : Nat × Op := (e.1, e.2.1)

/-- what a thread has still to acquire the lock for -/
def remaining (t : Thread) : List Op := if t.phase = .holding then t.prog.tail else t.prog

/-- the acquisition whose body has not run yet: the operation the lock holder is about to run -/
def inflight {σ : Type} (y : Sys σ) : List (Nat × Op) :=
  match y.lock with
  | some i => if (y.threads i).phase = .holding then ((y.threads i).prog.take 1).map (i, ·) else []
  | none => []

/-- everything the lock guarantees, as one invariant of the system started from `s0` with programs `progs` -/
structure SysInv {σ : Type} (step : σ → Op → σ × Out) (s0 : σ) (progs : Nat → List Op) (y : Sys σ) : Prop where
  /-- the shared object is the sequential object after the bodies run so far, with the same results -/
  seq : runG step s0 (y.ran.map (fun e => e.2.1)) = (y.shared, y.ran.map (fun e => e.2.2))
  /-- every thread got exactly the results of its own operations in that sequential run -/
  outs : ∀ j, (y.threads j).outs = (y.ran.filter (fun e => e.1 = j)).map (fun e => e.2.2)
  /-- mutual exclusion: only the lock holder is inside a method -/
  idle : ∀ j, y.lock ≠ some j → (y.threads j).phase = .idle
  /-- bodies run in lock-acquisition order, at most one acquisition behind -/
  acq : y.acq = y.ran.map keyOf ++ inflight y
  /-- each thread's operations were acquired in its program order -/
  order : ∀ j, (y.acq.filter (fun e => e.1 = j)).map (fun e => e.2) ++ remaining (y.threads j) = progs j

theorem sysInv_init {σ : Type} (step : σ → Op → σ × Out) (s0 : σ) (progs : Nat → List Op) :
    SysInv step s0 progs (sysInit s0 progs) :=
  ⟨rfl, fun _ => rfl, fun _ _ => rfl, rfl, fun _ => rfl⟩

theorem SysInv.holder {σ : Type} {step : σ → Op → σ × Out} {s0 : σ} {progs : Nat → List Op} {y : Sys σ}
    (h : SysInv step s0 progs y) {i : Nat} (hp : (y.threads i).phase ≠ .idle) : y.lock = some i :=
  Decidable.byContradiction fun hne => hp (h.idle i hne)

theorem SysInv.free {σ : Type} {step : σ → Op → σ × Out} {s0 : σ} {progs : Nat → List Op} {y : Sys σ}
    (h : SysInv step s0 progs y) (hl : y.lock = none) : y.ran.map keyOf = y.acq := by
  simp [h.acq, inflight, hl]

theorem SysInv.seq_acq {σ : Type} {step : σ → Op → σ × Out} {s0 : σ} {progs : Nat → List Op} {y : Sys σ}
    (h : SysInv step s0 progs y) (hl : y.lock = none) :
    runG step s0 (y.acq.map (fun e => e.2)) = (y.shared, y.ran.map (fun e => e.2.2)) := by
  rw [← h.free hl, List.map_map]
  exact h.seq

theorem SysInv.ran_prefix {σ : Type} {step : σ → Op → σ × Out} {s0 : σ} {progs : Nat → List Op} {y : Sys σ}
    (h : SysInv step s0 progs y) : y.ran.map keyOf <+: y.acq :=
  h.acq ▸ List.prefix_append _ _

theorem upd_same (f : Nat → Thread) (i : Nat) (t : Thread) : upd f i t i = t := if_pos rfl
theorem upd_other (f : Nat → Thread) (i j : Nat) (t : Thread) (h : j ≠ i) : upd f i t j = f j := if_neg h

theorem upd_congr {α : Type} (g : Thread → α) {f : Nat → Thread} {i : Nat} {t : Thread} (ht : g t = g (f i)) (j : Nat) :
    g (upd f i t j) = g (f j) := by
  unfold upd
  split
  · next e => rw [e, ht]
  · rfl

theorem sysInv_step {σ : Type} (step : σ → Op → σ × Out) (s0 : σ) (progs : Nat → List Op) (y : Sys σ) (i : Nat)
    (h : SysInv step s0 progs y) : SysInv step s0 progs (sysStep step y i) := by
  unfold sysStep
  simp only
  split
  · exact h
  · -- acquire, unless the lock is taken
    next op rest hp hq =>
    split
    · exact h
    · next hl =>
      refine ⟨h.seq, ?_, ?_, by simp [inflight, upd_same, hq, ← h.free hl], ?_⟩ <;> dsimp only <;> intro j
      · refine (upd_congr (·.outs) ?_ j).trans (h.outs j); rfl
      · intro hj
        rw [upd_other _ _ _ _ fun e => hj (congrArg some e.symm)]; exact h.idle j (hl ▸ nofun)
      · -- the acquired operation moves from the head of what thread `i` has left to the end of what it has acquired
        have ho := h.order j
        rw [List.filter_append, List.map_append, List.append_assoc]
        by_cases hj : j = i
        · subst hj
          rw [upd_same]
          simpa [remaining, hp, hq] using ho
        · rw [upd_other _ _ _ _ hj]
          simpa [Ne.symm hj] using ho
  · exact h
  · -- the body runs
    next op rest hp hq =>
    have hlock := h.holder (by rw [hp]; decide)
    refine ⟨?_, ?_, ?_, by simp [h.acq, inflight, hlock, upd_same, hp, hq, keyOf], ?_⟩ <;> dsimp only
    · simp only [List.map_append, List.map_cons, List.map_nil]
      rw [runG_snoc, h.seq]
    all_goals intro j
    · rw [List.filter_append, List.map_append, ← h.outs j]
      by_cases hj : j = i
      · subst hj; rw [upd_same]; simp
      · rw [upd_other _ _ _ _ hj]; simp [Ne.symm hj]
    · intro hj
      rw [upd_other _ _ _ _ fun (e : j = i) => hj (e ▸ hlock)]; exact h.idle j hj
    · refine (congrArg (_ ++ ·) (upd_congr remaining ?_ j)).trans (h.order j)
      simp [remaining, hp, hq]
  · -- release
    next hp =>
    have hlock := h.holder (by rw [hp]; decide)
    refine ⟨h.seq, ?_, ?_, by simp [h.acq, inflight, hlock, hp], ?_⟩ <;> dsimp only <;> intro j
    · refine (upd_congr (·.outs) ?_ j).trans (h.outs j); rfl
    · intro _
      by_cases hj : j = i
      · rw [hj, upd_same]
      · rw [upd_other _ _ _ _ hj]; exact h.idle j fun e => hj (Option.some.inj (hlock.symm.trans e)).symm
    · refine (congrArg (_ ++ ·) (upd_congr remaining ?_ j)).trans (h.order j)
      simp [remaining, hp]

theorem sysInv_run {σ : Type} (step : σ → Op → σ × Out) (s0 : σ) (progs : Nat → List Op) (y : Sys σ)
    (sched : List Nat) (h : SysInv step s0 progs y) : SysInv step s0 progs (sysRun step y sched) := by
  induction sched generalizing y with
  | nil => exact h
  | cons i rest ih => exact ih _ (sysInv_step step s0 progs y i h)

theorem sysInv_reach {σ : Type} (step : σ → Op → σ × Out) (s0 : σ) (progs : Nat → List Op) (sched : List Nat) :
    SysInv step s0 progs (sysRun step (sysInit s0 progs) sched) :=
  sysInv_run step s0 progs _ sched (sysInv_init step s0 progs)

/-! ### the finer model: linearizable because of the lock discipline, which is an invariant of the code, not of the
semantics -/

variable {σ ρ : Type}

theorem disc_post_nil : disc (σ := σ) (ρ := ρ) .post [] = true := rfl
theorem disc_pre_nil : disc (σ := σ) (ρ := ρ) .pre [] = false := rfl
theorem disc_cs_nil : disc (σ := σ) (ρ := ρ) .cs [] = false := rfl

theorem disc_loc (p : Ph) (f : ρ → ρ) (k : List (Cmd σ ρ)) : disc p (.loc f :: k) = disc p k := by
  cases p <;> rfl

theorem disc_unique {p q : Ph} (k : List (Cmd σ ρ)) (hp : disc p k = true) (hq : disc q k = true) : p = q := by
  induction k generalizing p q with
  | nil => cases p <;> cases q <;> simp_all [disc]
  | cons c k ih =>
    cases c with
    | loc f => rw [disc_loc] at hp hq; exact ih hp hq
    | _ => cases p <;> cases q <;> simp_all [disc]

theorem not_post_of_disc {p : Ph} (k : List (Cmd σ ρ)) (hp : disc p k = true) (hne : p ≠ .post) :
    disc .post k = false :=
  Bool.eq_false_iff.mpr fun h => hne (disc_unique k hp h)

/-- registers after the remaining thread-local commands -/
def locRun : List (Cmd σ ρ) → ρ → ρ
  | [], r => r
  | .loc f :: k, r => locRun k (f r)
  | _ :: k, r => locRun k r

theorem solo_post (k : List (Cmd σ ρ)) (r : ρ) (s : σ) (h : disc .post k = true) : solo k r s = (locRun k r, s) := by
  induction k generalizing r with
  | nil => rfl
  | cons c k ih =>
    cases c with
    | loc f => exact ih (f r) h
    | _ => cases h

def Implements (step : σ → Op → σ × Out) (c : Call σ ρ) : Prop := ∀ s, callSem c s = step s c.op

/-- a call whose code keeps the lock discipline and, run alone, is the sequential operation it stands for -/
def Good (step : σ → Op → σ × Out) (c : Call σ ρ) : Prop := disc .pre c.code = true ∧ Implements step c

def seqS (step : σ → Op → σ × Out) (s0 : σ) (d : List (Nat × Op)) : σ := (runG step s0 (d.map (·.2))).1

/-- results the sequential run `d` hands to thread `j` -/
def outsOf (step : σ → Op → σ × Out) (s0 : σ) (d : List (Nat × Op)) (j : Nat) : List Out :=
  ((d.zip (runG step s0 (d.map (·.2))).2).filter (fun e => e.1.1 = j)).map (·.2)

/-- operations whose critical section is complete, in lock-acquisition order -/
def doneOps (y : MSys σ ρ) : List (Nat × Op) :=
  match y.lock with
  | none => y.acq
  | some _ => y.acq.dropLast

/-- the result a thread that has left its critical section is about to return -/
def pending (t : MThread σ ρ) : List Out :=
  match t.cur with
  | none => []
  | some r => if disc .post r.rest = true then [r.call.ret (locRun r.rest r.regs)] else []

structure MInv (step : σ → Op → σ × Out) (s0 : σ) (y : MSys σ ρ) : Prop where
  wfTodo : ∀ j, ∀ c ∈ (y.threads j).todo, Good step c
  wfCur : ∀ j r, (y.threads j).cur = some r → Good step r.call
  /-- the lock holder is inside its critical section and, from here, finishes exactly as if it had run alone from
  the sequential state; with the lock free the shared state *is* the sequential state -/
  lockSt : match y.lock with
    | none => y.shared = seqS step s0 y.acq
    | some i => ∃ r pre, (y.threads i).cur = some r ∧ disc .cs r.rest = true ∧ y.acq = pre ++ [(i, r.call.op)] ∧
        solo r.rest r.regs y.shared = solo r.call.code r.call.init (seqS step s0 pre)
  /-- **lock discipline as an invariant**: a thread that does not hold the lock is before its critical section
  (and has computed nothing that depends on shared state) or after it (only local commands left) -/
  others : ∀ j r, y.lock ≠ some j → (y.threads j).cur = some r →
    (disc .pre r.rest = true ∧ ∀ s, solo r.rest r.regs s = solo r.call.code r.call.init s) ∨ disc .post r.rest = true
  outs : ∀ j, (y.threads j).outs ++ pending (y.threads j) = outsOf step s0 (doneOps y) j

theorem updM_same (f : Nat → MThread σ ρ) (i : Nat) (t : MThread σ ρ) : updM f i t i = t := if_pos rfl
theorem updM_other (f : Nat → MThread σ ρ) (i j : Nat) (t : MThread σ ρ) (h : j ≠ i) : updM f i t j = f j := if_neg h

/-- outside its critical section: before it, with nothing computed yet that depends on shared state, or after it
(the two cases of `MInv.others`) -/
abbrev Outside (r : Running σ ρ) : Prop :=
  (disc .pre r.rest = true ∧ ∀ s, solo r.rest r.regs s = solo r.call.code r.call.init s) ∨ disc .post r.rest = true

theorem MInv.free {step : σ → Op → σ × Out} {s0 : σ} {y : MSys σ ρ} (h : MInv step s0 y) (hl : y.lock = none) :
    y.shared = seqS step s0 y.acq := by
  have := h.lockSt; rwa [hl] at this

theorem MInv.held {step : σ → Op → σ × Out} {s0 : σ} {y : MSys σ ρ} {i : Nat} (h : MInv step s0 y)
    (hl : y.lock = some i) : ∃ r pre, (y.threads i).cur = some r ∧ disc .cs r.rest = true ∧
      y.acq = pre ++ [(i, r.call.op)] ∧ solo r.rest r.regs y.shared = solo r.call.code r.call.init (seqS step s0 pre) := by
  have := h.lockSt; rwa [hl] at this

theorem outsOf_snoc (step : σ → Op → σ × Out) (s0 : σ) (d : List (Nat × Op)) (i : Nat) (op : Op) (j : Nat) :
    outsOf step s0 (d ++ [(i, op)]) j =
      outsOf step s0 d j ++ (if i = j then [(step (seqS step s0 d) op).2] else []) := by
  unfold outsOf seqS
  simp only [List.map_append, List.map_cons, List.map_nil, runG_snoc]
  rw [List.zip_append (by simp [runG_length])]
  simp only [List.zip_cons_cons, List.zip_nil_right, List.filter_append, List.map_append]
  congr 1
  by_cases h : i = j <;> simp [h]

theorem mInv_init (step : σ → Op → σ × Out) (s0 : σ) (progs : Nat → List (Call σ ρ))
    (hg : ∀ j, ∀ c ∈ progs j, Good step c) : MInv step s0 (mInit s0 progs) := by
  refine ⟨hg, fun j r h => by simp [mInit] at h, ?_, fun j r _ h => by simp [mInit] at h, fun j => ?_⟩
  · simp [mInit, seqS, runG]
  · simp [mInit, pending, outsOf, doneOps, runG]

theorem pending_eq_nil {t : MThread σ ρ} {r : Running σ ρ} {p : Ph} (hc : t.cur = some r) (hp : disc p r.rest = true)
    (hne : p ≠ .post) : pending t = [] := by
  simp [pending, hc, not_post_of_disc _ hp hne]

/-- Frame for one move of thread `i`: the other threads are untouched, so what remains to be shown concerns the lock,
the shared state and thread `i` alone. -/
theorem MInv.move {step : σ → Op → σ × Out} {s0 : σ} {y : MSys σ ρ} (h : MInv step s0 y) (i : Nat)
    (t' : MThread σ ρ) (sh' : σ) (lk' : Option Nat) (acq' : List (Nat × Op))
    (htodo : ∀ c ∈ t'.todo, Good step c)
    (hcur : ∀ r, t'.cur = some r → Good step r.call)
    (hlockSt : match lk' with
      | none => sh' = seqS step s0 acq'
      | some k => ∃ r pre, (updM y.threads i t' k).cur = some r ∧ disc .cs r.rest = true ∧ acq' = pre ++ [(k, r.call.op)] ∧
          solo r.rest r.regs sh' = solo r.call.code r.call.init (seqS step s0 pre))
    (hlk : ∀ j, j ≠ i → lk' ≠ some j → y.lock ≠ some j)
    (hoth : ∀ r, lk' ≠ some i → t'.cur = some r → Outside r)
    (houti : t'.outs ++ pending t' = outsOf step s0 (doneOps ⟨sh', lk', updM y.threads i t', acq'⟩) i)
    (houto : ∀ j, j ≠ i → outsOf step s0 (doneOps ⟨sh', lk', updM y.threads i t', acq'⟩) j = outsOf step s0 (doneOps y) j) :
    MInv step s0 ⟨sh', lk', updM y.threads i t', acq'⟩ := by
  refine ⟨fun j => ?_, fun j r => ?_, hlockSt, fun j r => ?_, fun j => ?_⟩ <;> dsimp only <;> by_cases hj : j = i
  · rw [hj, updM_same]; exact htodo
  · rw [updM_other _ _ _ _ hj]; exact h.wfTodo j
  · rw [hj, updM_same]; exact hcur r
  · rw [updM_other _ _ _ _ hj]; exact h.wfCur j r
  · rw [hj, updM_same]; exact hoth r
  · rw [updM_other _ _ _ _ hj]; exact fun hl => h.others j r (hlk j hj hl)
  · rw [hj, updM_same]; exact houti
  · rw [houto j hj, updM_other _ _ _ _ hj]; exact h.outs j

/-- … when a thread that does not hold the lock moves: lock, shared state and log stay -/
theorem MInv.local {step : σ → Op → σ × Out} {s0 : σ} {y : MSys σ ρ} (h : MInv step s0 y) (i : Nat) (t' : MThread σ ρ)
    (hnh : y.lock ≠ some i)
    (htodo : ∀ c ∈ t'.todo, Good step c) (hcur : ∀ r, t'.cur = some r → Good step r.call)
    (hoth : ∀ r, t'.cur = some r → Outside r)
    (hout : t'.outs ++ pending t' = (y.threads i).outs ++ pending (y.threads i)) :
    MInv step s0 { y with threads := updM y.threads i t' } := by
  refine h.move i t' _ _ _ htodo hcur ?_ (fun _ _ hl => hl) (fun r _ => hoth r) (hout.trans (h.outs i)) fun _ _ => rfl
  cases hlock : y.lock with
  | none => exact h.free hlock
  | some k =>
    obtain ⟨r, pre, h1, h2⟩ := h.held hlock
    exact ⟨r, pre, by rw [updM_other _ _ _ _ fun e => hnh (hlock.trans (congrArg some e))]; exact h1, h2⟩

/-- … when the lock holder executes a command inside its critical section -/
theorem MInv.advance {step : σ → Op → σ × Out} {s0 : σ} {y : MSys σ ρ} (h : MInv step s0 y) {i : Nat}
    (hlock : y.lock = some i) {c : Call σ ρ} {cmd : Cmd σ ρ} {k : List (Cmd σ ρ)} {regs regs' : ρ} {sh' : σ}
    (hcur : (y.threads i).cur = some ⟨c, cmd :: k, regs⟩)
    (hcs : disc .cs (cmd :: k) = disc .cs k) (hsolo : solo (cmd :: k) regs y.shared = solo k regs' sh') :
    MInv step s0 { y with shared := sh', threads := updM y.threads i { y.threads i with cur := some ⟨c, k, regs'⟩ } } := by
  obtain ⟨r, pre, h1, h2, h3, h4⟩ := h.held hlock
  rw [hcur] at h1
  cases h1
  have hcs' : disc .cs k = true := hcs.symm.trans h2
  have hg := h.wfCur i _ hcur
  refine h.move i _ _ _ _ (h.wfTodo i) ?_ ?_ (fun _ _ hl => hl) (fun r hl => absurd hlock hl) ?_ fun _ _ => rfl
  · rintro _ ⟨⟩; exact hg
  · rw [hlock]; exact ⟨⟨c, k, regs'⟩, pre, by rw [updM_same], hcs', h3, hsolo.symm.trans h4⟩
  · rw [pending_eq_nil rfl hcs' (by decide), ← pending_eq_nil hcur h2 (by decide)]; exact h.outs i

theorem MInv.holder_of_cur {step : σ → Op → σ × Out} {s0 : σ} {y : MSys σ ρ} (h : MInv step s0 y) {i : Nat}
    {r : Running σ ρ} (hr : (y.threads i).cur = some r) (hpre : disc .pre r.rest = false) (hpost : disc .post r.rest = false) :
    y.lock = some i := by
  apply Classical.byContradiction
  intro hne
  rcases h.others i r hne hr with ⟨h1, _⟩ | h2
  · rw [hpre] at h1; cases h1
  · rw [hpost] at h2; cases h2

theorem mInv_step (step : σ → Op → σ × Out) (s0 : σ) (y : MSys σ ρ) (i : Nat) (h : MInv step s0 y) :
    MInv step s0 (mStep y i) := by
  unfold mStep
  simp only
  split
  · -- no call in progress
    next hcur =>
    have hnh : y.lock ≠ some i := fun hl => by
      obtain ⟨r, _, h1, _⟩ := h.held hl
      rw [hcur] at h1; cases h1
    split
    · exact h
    · next c rest htodo =>
      have hg : Good step c := h.wfTodo i c (htodo ▸ List.mem_cons_self)
      refine h.local i _ hnh (fun c' hc' => h.wfTodo i c' (htodo ▸ List.mem_cons_of_mem _ hc')) ?_ ?_ ?_
      · rintro _ ⟨⟩; exact hg
      · rintro _ ⟨⟩; exact Or.inl ⟨hg.1, fun s => rfl⟩
      · simp [pending, hcur, not_post_of_disc _ hg.1]
  · -- the call is finished: return
    next c regs hcur =>
    have hnh : y.lock ≠ some i := fun hl => by
      obtain ⟨r, _, h1, h2, _⟩ := h.held hl
      rw [hcur] at h1; cases h1; cases h2
    refine h.local i _ hnh (h.wfTodo i) nofun nofun ?_
    simp [pending, hcur, disc, locRun]
  · -- acquire
    next c k regs hcur =>
    split
    · exact h
    · next hlock =>
      have hg := h.wfCur i _ hcur
      obtain ⟨hcs, hsolo⟩ | hpost := h.others i _ (by rw [hlock]; nofun) hcur
      · have hdone : doneOps ⟨y.shared, some i, updM y.threads i { y.threads i with cur := some ⟨c, k, regs⟩ },
            y.acq ++ [(i, c.op)]⟩ = doneOps y := by simp [doneOps, hlock]
        refine h.move i _ _ _ _ (h.wfTodo i) ?_ ?_ (fun j hj _ => by rw [hlock]; nofun) (fun _ hne => absurd rfl hne)
          ?_ fun _ _ => by rw [hdone]
        · rintro _ ⟨⟩; exact hg
        · exact ⟨⟨c, k, regs⟩, y.acq, by rw [updM_same], hcs, rfl, (hsolo _).trans (by rw [h.free hlock])⟩
        · rw [hdone, pending_eq_nil (r := ⟨c, k, regs⟩) rfl hcs (by decide), ← pending_eq_nil hcur hcs (by decide)]
          exact h.outs i
      · cases hpost
  · -- release
    next c k regs hcur =>
    have hlock : y.lock = some i := h.holder_of_cur hcur rfl rfl
    obtain ⟨r, pre, h1, h2, h3, h4⟩ := h.held hlock
    rw [hcur] at h1
    cases h1
    have hpost : disc .post k = true := h2
    have hg := h.wfCur i _ hcur
    -- run alone from the sequential state, the call ends in the present shared state with the pending result
    have himp : step (seqS step s0 pre) c.op = (y.shared, c.ret (locRun k regs)) := by
      rw [← hg.2, callSem, h4.symm.trans (solo_post k regs y.shared hpost)]
    have hdone : doneOps ⟨y.shared, none, updM y.threads i { y.threads i with cur := some ⟨c, k, regs⟩ }, y.acq⟩
        = pre ++ [(i, c.op)] := h3
    have hpre : doneOps y = pre := by simp [doneOps, hlock, h3]
    have ho := h.outs i
    rw [hpre, pending_eq_nil hcur h2 (by decide), List.append_nil] at ho
    refine h.move i _ _ _ _ (h.wfTodo i) ?_ ?_ (fun j hj _ => by rw [hlock]; exact fun e => hj (Option.some.inj e).symm)
      (fun r _ => ?_) ?_ fun j hj => ?_
    · rintro _ ⟨⟩; exact hg
    · show y.shared = seqS step s0 y.acq
      simp only [h3, seqS, List.map_append, List.map_cons, List.map_nil, runG_snoc]
      exact (congrArg Prod.fst himp).symm
    · rintro ⟨⟩; exact Or.inr hpost
    · rw [hdone, outsOf_snoc, if_pos rfl, himp, ← ho]
      simp [pending, hpost]
    · rw [hdone, outsOf_snoc, if_neg fun e => hj e.symm, List.append_nil, hpre]
  · -- shared access
    next c f k regs hcur =>
    exact h.advance (h.holder_of_cur hcur rfl rfl) hcur rfl rfl
  · -- thread-local command
    next c f k regs hcur =>
    by_cases hlock : y.lock = some i
    · exact h.advance hlock hcur rfl rfl
    · have hg := h.wfCur i _ hcur
      have ho := h.others i _ hlock hcur
      refine h.local i _ hlock (h.wfTodo i) ?_ ?_ ?_
      · rintro _ ⟨⟩; exact hg
      · rintro _ ⟨⟩; exact ho
      · simp [pending, hcur, disc_loc, locRun]

theorem mInv_run (step : σ → Op → σ × Out) (s0 : σ) (y : MSys σ ρ) (sched : List Nat) (h : MInv step s0 y) :
    MInv step s0 (mRun y sched) := by
  induction sched generalizing y with
  | nil => exact h
  | cons i rest ih => exact ih _ (mInv_step step s0 y i h)

theorem disc_codeC (op : Op) : disc .pre (codeC op) = true := by
  cases op <;> rfl

theorem disc_codeL (op : Op) : disc .pre (codeL op) = true := by
  cases op <;> rfl

/-- the three statements of `_maybe_clean`, run alone, are `maybeClean` -/
theorem solo_cleanC (k : List (Cmd CState Regs)) (r : Regs) (s : CState) :
    solo (cleanC ++ k) r s = solo k { r with now := s.now, flag := decide (s.nextCleaning ≤ s.now) } (maybeClean s) := by
  simp only [cleanC, List.cons_append, List.nil_append, solo, maybeClean]
  by_cases hc : s.nextCleaning ≤ s.now <;> simp [hc]

theorem impl_callC (op : Op) : Implements stepC (callC op) := by
  intro s
  cases op
  case get k =>
    simp only [callSem, callC, codeC, List.cons_append, List.nil_append, solo, solo_cleanC, stepC]
    cases dget (maybeClean s).data k with
    | none => rfl
    | some a => by_cases he : a.exp ≤ (maybeClean s).now <;> simp [he]
  case put k a =>
    simp only [callSem, callC, codeC, List.cons_append, List.nil_append, solo, solo_cleanC, stepC, id, regs0]
  all_goals rfl

theorem impl_callL (op : Op) : Implements stepL (callL op) := by
  intro s
  cases op
  case get k | hitsFor k =>
    cases hf : findNode s.ring k with
    | none => simp [callSem, callL, codeL, solo, stepL, regs0, hf]
    | some n => by_cases he : n.ans.exp ≤ s.now <;> simp [callSem, callL, codeL, solo, stepL, regs0, hf, he]
  all_goals rfl

theorem good_of_map {step : σ → Op → σ × Out} (call : Op → Call σ ρ) (h : ∀ op, Good step (call op))
    (progs : Nat → List Op) (j : Nat) : ∀ c ∈ (progs j).map call, Good step c := by
  intro c hc
  obtain ⟨op, _, rfl⟩ := List.mem_map.mp hc
  exact h op

theorem good_callC (op : Op) : Good stepC (callC op) := ⟨disc_codeC op, impl_callC op⟩
theorem good_callL (op : Op) : Good stepL (callL op) := ⟨disc_codeL op, impl_callL op⟩

end Model.Cache
