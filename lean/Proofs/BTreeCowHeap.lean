import Model.BTreeCow
import Proofs.BTreeShape
/-!
Mechanism level: heap primitives, the cells reachable from an address, the height of a well-formed tree of
cells, the frame lemma (a subtree depends only on the cells it reaches: `Kept`), and what an operation guarantees
(`Upd` / `RUpd`: which cells it may write, well-formedness without sharing, the node represented), established from a
frame condition and a count bound (`RUpd.of_grown`; `RUpd.of_writes` when the written cells are listed) or by
composition (`RUpd.trans`).

Sharing is excluded by `(reach …).Nodup`; the disjointness arguments are run on `List.count`, where
"no address occurs twice" turns membership facts into linear arithmetic.
-/
namespace Model.BTreeCow
open Model.BTree

@[simp] theorem size_wr (H : Heap) (a : Nat) (c : Cell) : (wr H a c).size = H.size := by simp [wr]

theorem rd_wr_same {H : Heap} {a : Nat} (c : Cell) (h : a < H.size) : rd (wr H a c) a = c := by
  simp [rd, wr, Array.getElem?_setIfInBounds_self_of_lt h]

theorem rd_wr_other {H : Heap} {a b : Nat} (c : Cell) (h : a ≠ b) : rd (wr H a c) b = rd H b := by
  simp [rd, wr, Array.getElem?_setIfInBounds_ne h]

theorem rd_wr (H : Heap) (a b : Nat) (c : Cell) (h : a < H.size) :
    rd (wr H a c) b = if b = a then c else rd H b := by
  by_cases hb : b = a
  · subst hb; simp [rd_wr_same c h]
  · simp [hb, rd_wr_other c (Ne.symm hb)]

@[simp] theorem size_alloc (H : Heap) (c : Cell) : (alloc H c).1.size = H.size + 1 := by simp [alloc]
@[simp] theorem alloc_snd (H : Heap) (c : Cell) : (alloc H c).2 = H.size := rfl

theorem rd_alloc_new (H : Heap) (c : Cell) : rd (alloc H c).1 H.size = c := by
  simp [rd, alloc]

theorem rd_alloc_old {H : Heap} {b : Nat} (c : Cell) (h : b < H.size) : rd (alloc H c).1 b = rd H b := by
  simp [rd, alloc, Array.getElem?_push_lt h, Array.getElem?_eq_getElem h]

theorem rd_alloc (H : Heap) (b : Nat) (c : Cell) (h : b ≤ H.size) :
    rd (alloc H c).1 b = if b = H.size then c else rd H b := by
  by_cases hb : b = H.size
  · subst hb; simp [rd_alloc_new]
  · simp [hb, rd_alloc_old c (show b < H.size by omega)]

theorem kidA_at {l r : List Nat} {x : Nat} {n : Nat} (h : l.length = n) : kidA (l ++ x :: r) n = x := by
  subst h; simp [kidA, List.getD]

theorem kidA_at_succ {l r : List Nat} {x y : Nat} {n : Nat} (h : l.length = n) : kidA (l ++ x :: y :: r) (n + 1) = y := by
  rw [show l ++ x :: y :: r = (l ++ [x]) ++ y :: r by simp]; exact kidA_at (by simp [h])

/-- the addresses of the subtree of height `h` at `a`, in preorder -/
def reach (H : Heap) : Nat → Nat → List Nat
  | 0, a => [a]
  | h + 1, a => a :: (rd H a).kids.flatMap (reach H h)

/-- the pointers of the subtree are valid, leaves sit exactly at height 0, and every internal cell has one
more child than elements -/
def HT (H : Heap) : Nat → Nat → Prop
  | 0, a => a < H.size ∧ (rd H a).leaf = true
  | h + 1, a => a < H.size ∧ (rd H a).leaf = false ∧ (rd H a).kids.length = (rd H a).elts.length + 1 ∧
      ∀ k ∈ (rd H a).kids, HT H h k

theorem reach_succ (H : Heap) (h a : Nat) : reach H (h + 1) a = a :: (rd H a).kids.flatMap (reach H h) := rfl
theorem absN_succ (H : Heap) (h a : Nat) :
    absN H (h + 1) a = .node (rd H a).elts ((rd H a).kids.map (absN H h)) := rfl

theorem absN_elts (H : Heap) (h a : Nat) : (absN H h a).elts = (rd H a).elts := by
  cases h <;> rfl

theorem HT_lt {H : Heap} {h a : Nat} (ht : HT H h a) : a < H.size := by
  cases h <;> exact ht.1

theorem HT_leaf {H : Heap} {h a : Nat} (ht : HT H h a) : (rd H a).leaf = decide (h = 0) := by
  cases h
  · simpa using ht.2
  · simpa using ht.2.1

theorem HT_len {H : Heap} {h a : Nat} (ht : HT H h a) (h0 : h ≠ 0) :
    (rd H a).kids.length = (rd H a).elts.length + 1 := by
  cases h
  · exact absurd rfl h0
  · exact ht.2.2.1

theorem HT_kid {H : Heap} {h a k : Nat} (ht : HT H (h + 1) a) (hk : k ∈ (rd H a).kids) : HT H h k :=
  ht.2.2.2 k hk

theorem self_mem_reach (H : Heap) (h a : Nat) : a ∈ reach H h a := by
  cases h <;> simp [reach]

theorem reach_kid_sub {H : Heap} {h a k : Nat} (hk : k ∈ (rd H a).kids) :
    ∀ x ∈ reach H h k, x ∈ reach H (h + 1) a := fun _ hx =>
  List.mem_cons_of_mem _ (List.mem_flatMap.mpr ⟨k, hk, hx⟩)

theorem reach_lt {H : Heap} : ∀ {h a : Nat}, HT H h a → ∀ x ∈ reach H h a, x < H.size := by
  intro h
  induction h with
  | zero => intro a ht x hx; rw [List.mem_singleton.mp hx]; exact ht.1
  | succ h ih =>
    intro a ht x hx
    simp only [reach, List.mem_cons, List.mem_flatMap] at hx
    rcases hx with rfl | ⟨k, hk, hx⟩
    · exact ht.1
    · exact ih (ht.2.2.2 k hk) x hx

theorem HT_first_kid {H : Heap} {h a : Nat} (ht : HT H (h + 1) a) :
    ∃ k ks, (rd H a).kids = k :: ks ∧ HT H h k := by
  cases hk : (rd H a).kids with
  | nil => have := ht.2.2.1; rw [hk] at this; simp at this
  | cons k ks => exact ⟨k, ks, rfl, HT_kid ht (by rw [hk]; simp)⟩

theorem reach_length_ge {H : Heap} : ∀ {h a : Nat}, HT H h a → h + 1 ≤ (reach H h a).length := by
  intro h
  induction h with
  | zero => intro a _; simp [reach]
  | succ h ih =>
    intro a ht
    obtain ⟨k, ks, hk, htk⟩ := HT_first_kid ht
    have := ih htk
    simp only [reach_succ, hk, List.flatMap_cons, List.length_cons, List.length_append]
    omega

theorem hHeight_of_HT {H : Heap} : ∀ {h a : Nat} (fuel : Nat), HT H h a → h ≤ fuel → hHeight H fuel a = h := by
  intro h
  induction h with
  | zero =>
    intro a fuel ht _
    cases fuel with
    | zero => rfl
    | succ f => simp [hHeight, ht.2]
  | succ h ih =>
    intro a fuel ht hf
    cases fuel with
    | zero => omega
    | succ f =>
      obtain ⟨k, ks, hk, htk⟩ := HT_first_kid ht
      simp [hHeight, ht.2.1, hk, kidA, ih f htk (by omega)]

/-- the fuel `heightOf` starts with suffices: an unshared tree of height `h` has more than `h` cells -/
theorem heightOf_of_HT {H : Heap} {h a : Nat} (ht : HT H h a) (nd : (reach H h a).Nodup) : heightOf H a = h := by
  apply hHeight_of_HT _ ht
  have h1 := reach_length_ge ht
  have h2 := nd.length_le_of_subset (l₂ := List.range H.size) fun x hx => List.mem_range.mpr (reach_lt ht x hx)
  rw [List.length_range] at h2
  omega

theorem height_absN {H : Heap} : ∀ {h a : Nat}, HT H h a → height (absN H h a) = h := by
  intro h
  induction h with
  | zero => intro a _; simp [absN, height]
  | succ h ih =>
    intro a ht
    obtain ⟨k, ks, hk, htk⟩ := HT_first_kid ht
    simp [absN_succ, hk, height, heightL, ih htk]

theorem shape_of_wf {t : Nat} {H : Heap} {h a : Nat} (hw : Wf t (absN H h a)) (ht : HT H h a) :
    Shape t h (absN H h a) := by
  obtain ⟨h0, hs0⟩ := hw.shape
  have e1 := height_of_shape hs0
  have e2 := height_absN ht
  have : h0 = h := by omega
  subst this; exact hs0

theorem HT_height_unique {H : Heap} {h1 h2 a : Nat} (t1 : HT H h1 a) (t2 : HT H h2 a) : h1 = h2 :=
  (hHeight_of_HT (h1 + h2) t1 (Nat.le_add_right ..)).symm.trans (hHeight_of_HT (h1 + h2) t2 (Nat.le_add_left ..))

/-- the subtree of height `h` at `a` reads in `H'` as in `H` -/
structure Kept (H H' : Heap) (h a : Nat) : Prop where
  abs : absN H' h a = absN H h a
  cells : reach H' h a = reach H h a
  ht : HT H' h a

theorem frame_kids {H H' : Heap} {h : Nat} {ks : List Nat} (hk : ∀ k ∈ ks, Kept H H' h k) :
    ks.map (absN H' h) = ks.map (absN H h) ∧ ks.flatMap (reach H' h) = ks.flatMap (reach H h) := by
  refine ⟨List.map_congr_left fun k hk' => (hk k hk').abs, ?_⟩
  rw [List.flatMap_def, List.flatMap_def]
  exact congrArg List.flatten (List.map_congr_left fun k hk' => (hk k hk').cells)

/-- the frame lemma: a subtree depends only on the cells it reaches -/
theorem frame {H H' : Heap} (hsize : H.size ≤ H'.size) : ∀ (h a : Nat), HT H h a →
    (∀ x ∈ reach H h a, rd H' x = rd H x) → Kept H H' h a := by
  intro h
  induction h with
  | zero =>
    intro a ht hsame
    have := hsame a (by simp [reach])
    exact ⟨by simp [absN, this], rfl, by have := ht.1; omega, by rw [this]; exact ht.2⟩
  | succ h ih =>
    intro a ht hsame
    have ha := hsame a (self_mem_reach H (h + 1) a)
    have hk := fun k hk => ih k (HT_kid ht hk) fun x hx => hsame x (reach_kid_sub hk x hx)
    obtain ⟨e1, e2⟩ := frame_kids hk
    refine ⟨by rw [absN_succ, absN_succ, ha, e1], by rw [reach_succ, reach_succ, ha, e2], by have := ht.1; omega,
      by rw [ha]; exact ht.2.1, by rw [ha]; exact ht.2.2.1, ?_⟩
    rw [ha]
    exact fun k hk' => (hk k hk').ht

/-- heaps that agree outside the addresses `W` -/
structure SameOff (W : List Nat) (H H' : Heap) : Prop where
  size : H.size ≤ H'.size
  same : ∀ x, x < H.size → x ∉ W → rd H' x = rd H x

theorem SameOff.refl (H : Heap) : SameOff [] H H := ⟨Nat.le_refl _, fun _ _ _ => rfl⟩

theorem SameOff.wr {W : List Nat} {H H' : Heap} (s : SameOff W H H') (a : Nat) (c : Cell) :
    SameOff (a :: W) H (wr H' a c) := by
  refine ⟨by simpa using s.size, ?_⟩
  intro x hx hn
  simp only [List.mem_cons, not_or] at hn
  rw [rd_wr_other c (Ne.symm hn.1)]
  exact s.same x hx hn.2

theorem SameOff.alloc {W : List Nat} {H H' : Heap} (s : SameOff W H H') (c : Cell) :
    SameOff W H (alloc H' c).1 := by
  refine ⟨by have := s.size; simp; omega, ?_⟩
  intro x hx hn
  rw [rd_alloc_old c (by have := s.size; omega)]
  exact s.same x hx hn

theorem frame_off {W : List Nat} {H H' : Heap} (s : SameOff W H H') {h a : Nat} (ht : HT H h a)
    (hdis : ∀ x ∈ reach H h a, x ∉ W) : Kept H H' h a :=
  frame s.size h a ht fun x hx => s.same x (reach_lt ht x hx) (hdis x hx)

theorem count_flatMap_cons (x : Nat) (f : Nat → List Nat) (l : List Nat) :
    List.count x (l.flatMap fun m => m :: f m) = List.count x l + List.count x (l.flatMap f) := by
  induction l with
  | nil => rfl
  | cons m l ih => simp only [List.flatMap_cons, List.count_append, List.count_cons, ih]; omega

theorem count_reach_succ (H : Heap) (h x : Nat) (l : List Nat) :
    List.count x (l.flatMap (reach H (h + 1))) =
      List.count x l + List.count x ((l.flatMap fun m => (rd H m).kids).flatMap (reach H h)) := by
  rw [List.flatMap_assoc]
  exact count_flatMap_cons x _ l

theorem count_reach_zero (H : Heap) (x : Nat) (l : List Nat) :
    List.count x (l.flatMap (reach H 0)) = List.count x l :=
  congrArg (List.count x) (List.flatMap_singleton' l)

theorem count_pos_of_mem {x : Nat} {l : List Nat} (h : x ∈ l) : 1 ≤ List.count x l :=
  List.count_pos_iff.mpr h

/-- What an in-place operation with creator token `c` on the subtree of height `h` at `a` guarantees: it writes
only cells of that subtree that `c` created (every other old cell is untouched), never changes a creator, creates
only cells of creator `c`, leaves a well-formed subtree without sharing whose cells are old cells of the subtree
or fresh ones, and the subtree now represents the persistent node `n'`. -/
structure Upd (c : Nat) (H H' : Heap) (h : Nat) (a : Nat) (n' : Node) : Prop where
  size : H.size ≤ H'.size
  same : ∀ x, x < H.size → (x ∉ reach H h a ∨ (rd H x).creator ≠ c) → rd H' x = rd H x
  creator : ∀ x, x < H.size → (rd H' x).creator = (rd H x).creator
  fresh : ∀ x, H.size ≤ x → x < H'.size → (rd H' x).creator = c
  ht : HT H' h a
  nodup : (reach H' h a).Nodup
  sub : ∀ x ∈ reach H' h a, x ∈ reach H h a ∨ H.size ≤ x
  abs : absN H' h a = n'

/-- like `Upd`, for an operation that may move the root pointer and change the height -/
structure RUpd (c : Nat) (H H' : Heap) (h root h' root' : Nat) (n' : Node) : Prop where
  size : H.size ≤ H'.size
  same : ∀ x, x < H.size → (x ∉ reach H h root ∨ (rd H x).creator ≠ c) → rd H' x = rd H x
  creator : ∀ x, x < H.size → (rd H' x).creator = (rd H x).creator
  fresh : ∀ x, H.size ≤ x → x < H'.size → (rd H' x).creator = c
  ht : HT H' h' root'
  nodup : (reach H' h' root').Nodup
  sub : ∀ x ∈ reach H' h' root', x ∈ reach H h root ∨ H.size ≤ x
  abs : absN H' h' root' = n'

theorem Upd.toRUpd {c : Nat} {H H' : Heap} {h a : Nat} {n : Node} (u : Upd c H H' h a n) :
    RUpd c H H' h a h a n :=
  ⟨u.size, u.same, u.creator, u.fresh, u.ht, u.nodup, u.sub, u.abs⟩

theorem RUpd.toUpd {c : Nat} {H H' : Heap} {h a : Nat} {n : Node} (u : RUpd c H H' h a h a n) :
    Upd c H H' h a n :=
  ⟨u.size, u.same, u.creator, u.fresh, u.ht, u.nodup, u.sub, u.abs⟩

theorem RUpd.trans {c : Nat} {H H1 H2 : Heap} {h r h1 r1 h2 r2 : Nat} {n1 n2 : Node}
    (u1 : RUpd c H H1 h r h1 r1 n1) (u2 : RUpd c H1 H2 h1 r1 h2 r2 n2) : RUpd c H H2 h r h2 r2 n2 := by
  refine ⟨Nat.le_trans u1.size u2.size, ?_, ?_, ?_, u2.ht, u2.nodup, ?_, u2.abs⟩
  · intro x hx hcond
    rw [← u1.same x hx hcond]
    apply u2.same x (by have := u1.size; omega)
    rcases hcond with hnr | hcr
    · left
      intro hmem
      rcases u1.sub x hmem with h' | h'
      · exact hnr h'
      · omega
    · right; rw [u1.creator x hx]; exact hcr
  · intro x hx
    rw [u2.creator x (by have := u1.size; omega), u1.creator x hx]
  · intro x hx1 hx2
    by_cases hlt1 : x < H1.size
    · rw [u2.creator x hlt1]; exact u1.fresh x hx1 hlt1
    · exact u2.fresh x (by omega) hx2
  · intro x hx
    rcases u2.sub x hx with h' | h'
    · exact u1.sub x h'
    · right; have := u1.size; omega

theorem Upd.refl {c : Nat} {H : Heap} {h a : Nat} (ht : HT H h a) (nd : (reach H h a).Nodup) :
    Upd c H H h a (absN H h a) :=
  ⟨Nat.le_refl _, fun _ _ _ => rfl, fun _ _ => rfl, fun x h1 h2 => by omega, ht, nd, fun x hx => Or.inl hx, rfl⟩

theorem Upd.trans {c : Nat} {H H1 H2 : Heap} {h a : Nat} {n1 n2 : Node}
    (u1 : Upd c H H1 h a n1) (u2 : Upd c H1 H2 h a n2) : Upd c H H2 h a n2 :=
  (u1.toRUpd.trans u2.toRUpd).toUpd

theorem Upd.congr_abs {c : Nat} {H H' : Heap} {h a : Nat} {n n' : Node} (u : Upd c H H' h a n) (e : n = n') :
    Upd c H H' h a n' := e ▸ u

/-- no address occurs in `l'` more often than in `l`, except that addresses from `N` on may occur once more: how
"old cells or fresh ones, and still no sharing" is said on `List.count` -/
def Grown (N : Nat) (l l' : List Nat) : Prop :=
  ∀ x, List.count x l' ≤ List.count x l + if N ≤ x then 1 else 0

theorem Grown.refl (N : Nat) (l : List Nat) : Grown N l l := fun _ => Nat.le_add_right ..

theorem Grown.fresh {N n : Nat} (hn : N ≤ n) (l : List Nat) : Grown N l (l ++ [n]) := by
  intro x
  rw [List.count_append]
  by_cases hx : n = x
  · subst hx; simp [hn]
  · simp [hx]

theorem RUpd.grown {c : Nat} {H H' : Heap} {h r h' r' : Nat} {n : Node} (u : RUpd c H H' h r h' r' n) :
    Grown H.size (reach H h r) (reach H' h' r') := by
  intro x
  have h1 := List.nodup_iff_count.mp u.nodup x
  by_cases hx : x ∈ reach H' h' r'
  · rcases u.sub x hx with h' | h'
    · have := count_pos_of_mem h'; omega
    · rw [if_pos h']; omega
  · rw [List.count_eq_zero.mpr hx]; omega

theorem RUpd.of_grown {c : Nat} {H H' : Heap} {h a h' a' : Nat} {n' : Node} (ht0 : HT H h a)
    (nd0 : (reach H h a).Nodup) (hsize : H.size ≤ H'.size)
    (same : ∀ x, x < H.size → (x ∉ reach H h a ∨ (rd H x).creator ≠ c) → rd H' x = rd H x)
    (creator : ∀ x, x < H.size → (rd H' x).creator = (rd H x).creator)
    (fresh : ∀ x, H.size ≤ x → x < H'.size → (rd H' x).creator = c) (ht : HT H' h' a')
    (hcount : Grown H.size (reach H h a) (reach H' h' a'))
    (abs : absN H' h' a' = n') : RUpd c H H' h a h' a' n' := by
  have hfresh0 : ∀ x, H.size ≤ x → List.count x (reach H h a) = 0 := fun x hx =>
    List.count_eq_zero.mpr fun hm => by have := reach_lt ht0 x hm; omega
  refine ⟨hsize, same, creator, fresh, ht, List.nodup_iff_count.mpr fun x => ?_, fun x hx => ?_, abs⟩
  · have h1 := List.nodup_iff_count.mp nd0 x
    have h2 := hcount x
    split at h2
    · rw [hfresh0 x ‹_›] at h2; exact h2
    · omega
  · have h1 := count_pos_of_mem hx
    have h2 := hcount x
    split at h2
    · exact Or.inr ‹_›
    · exact Or.inl (List.count_pos_iff.mp (by omega))

theorem RUpd.of_writes {c : Nat} {H H' : Heap} {h a h' a' : Nat} {n' : Node} {W : List Nat} (ht0 : HT H h a)
    (nd0 : (reach H h a).Nodup) (so : SameOff W H H')
    (hW : ∀ x ∈ W, x ∈ reach H h a ∧ (rd H x).creator = c ∧ (rd H' x).creator = c)
    (fresh : ∀ x, H.size ≤ x → x < H'.size → (rd H' x).creator = c) (ht : HT H' h' a')
    (hcount : Grown H.size (reach H h a) (reach H' h' a'))
    (abs : absN H' h' a' = n') : RUpd c H H' h a h' a' n' := by
  refine RUpd.of_grown ht0 nd0 so.size (fun x hx hc => so.same x hx fun hxW => ?_) (fun x hx => ?_) fresh ht hcount abs
  · rcases hc with hc | hc
    · exact hc (hW x hxW).1
    · exact hc (hW x hxW).2.1
  · by_cases hxW : x ∈ W
    · rw [(hW x hxW).2.2, (hW x hxW).2.1]
    · rw [so.same x hx hxW]

end Model.BTreeCow
