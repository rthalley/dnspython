import Proofs.DnssecBitmap
import Proofs.RdataTextFieldEnum
/-! Type bitmaps (NSEC / NSEC3 / CSYNC): the mnemonic list printed by `Bitmap.to_text` is read back by
`Bitmap.from_text` to the same windows, for every canonical window list (C05).  The exactness of `from_rdtypes`
(`fromRdtypes_exact`) comes from the C15 proofs; what is added here is that the canonical window list of a type set is
unique, and that printing enumerates exactly the types of the windows. -/
namespace Model
open Dnssec

theorem getD_lt (l : Bytes) (i : Nat) (hl : ∀ x ∈ l, x < 256) : l.getD i 0 < 256 := by
  rw [List.getD_eq_getElem?_getD]
  cases h : l[i]? with
  | none => simp
  | some v => simp; exact hl v (List.mem_of_getElem? h)

structure CanonW (w : Nat × Bytes) : Prop where
  win : w.1 < 256
  ne : w.2 ≠ []
  len : w.2.length ≤ 32
  last : w.2.getLast? ≠ some 0
  oct : ∀ x ∈ w.2, x < 256

def Canon (ws : List (Nat × Bytes)) : Prop := ws.Pairwise (fun a b => a.1 < b.1) ∧ ∀ w ∈ ws, CanonW w

theorem byte_ext (x y : Nat) (hx : x < 256) (hy : y < 256) (h : ∀ j, j < 8 → msbBit x j = msbBit y j) : x = y := by
  apply Nat.eq_of_testBit_eq
  intro i
  by_cases hi : i < 8
  · have := h (7 - i) (by omega)
    unfold msbBit at this
    have e : 7 - (7 - i) = i := by omega
    rw [e] at this; exact this
  · have h1 : x < 2 ^ i := Nat.lt_of_lt_of_le hx (by
      have : 2 ^ 8 ≤ 2 ^ i := Nat.pow_le_pow_right (by omega) (by omega)
      simpa using this)
    have h2 : y < 2 ^ i := Nat.lt_of_lt_of_le hy (by
      have : 2 ^ 8 ≤ 2 ^ i := Nat.pow_le_pow_right (by omega) (by omega)
      simpa using this)
    rw [Nat.testBit_lt_two_pow h1, Nat.testBit_lt_two_pow h2]

theorem exists_bit (x : Nat) (hx : x < 256) (h0 : x ≠ 0) : ∃ j, j < 8 ∧ msbBit x j = true := by
  apply Classical.byContradiction
  intro hc
  apply h0
  apply byte_ext x 0 hx (by omega)
  intro j hj
  rw [msbBit_zero]
  cases h : msbBit x j with
  | false => rfl
  | true => exact absurd ⟨j, hj, h⟩ hc

theorem getD_len_le (l : Bytes) (k : Nat) (h : l.length ≤ k) : l.getD k 0 = 0 := by
  rw [List.getD_eq_getElem?_getD, List.getElem?_eq_none h]; rfl

theorem ext_getD (a b : Bytes) (hl : a.length = b.length) (h : ∀ i, a.getD i 0 = b.getD i 0) : a = b := by
  apply List.ext_getElem hl
  intro i h1 h2
  have := h i
  simpa [List.getD_eq_getElem?_getD, List.getElem?_eq_getElem h1, List.getElem?_eq_getElem h2] using this

theorem type_parts (w k j : Nat) (hk : k < 32) (hj : j < 8) :
    (w * 256 + k * 8 + j) / 256 = w ∧ (w * 256 + k * 8 + j) % 256 / 8 = k ∧ (w * 256 + k * 8 + j) % 8 = j := by
  omega

theorem winHas_iff (w : Nat × Bytes) (k j : Nat) (hk : k < 32) (hj : j < 8) :
    winHas w (w.1 * 256 + k * 8 + j) ↔ msbBit (w.2.getD k 0) j = true := by
  obtain ⟨a, b, c⟩ := type_parts w.1 k j hk hj
  unfold winHas
  rw [a, b, c]
  simp

theorem getD_last_ne_zero (l : Bytes) (hne : l ≠ []) (h : l.getLast? ≠ some 0) : l.getD (l.length - 1) 0 ≠ 0 := by
  have hpos : 0 < l.length := List.length_pos_iff.mpr hne
  intro e
  apply h
  rw [List.getLast?_eq_getElem?, ← e, List.getD_eq_getElem?_getD, List.getElem?_eq_getElem (by omega)]
  rfl

theorem lt_length_of_msbBit {l : Bytes} {k j : Nat} (h : msbBit (l.getD k 0) j = true) : k < l.length := by
  apply Classical.byContradiction
  intro hc
  rw [getD_len_le _ _ (by omega), msbBit_zero] at h
  cases h

/-- a string of octets without a trailing zero octet is determined by its bits (a type-bitmap window, a WKS bitmap) -/
theorem bytes_ext_bits (a b : Bytes) (ha : ∀ x ∈ a, x < 256) (hb : ∀ x ∈ b, x < 256) (la : a.getLast? ≠ some 0)
    (lb : b.getLast? ≠ some 0) (h : ∀ k j, j < 8 → msbBit (a.getD k 0) j = msbBit (b.getD k 0) j) : a = b := by
  have hget : ∀ k, a.getD k 0 = b.getD k 0 := fun k => byte_ext _ _ (getD_lt _ _ ha) (getD_lt _ _ hb) (h k)
  -- the longer one would end in a zero octet
  have hlen : ∀ a b : Bytes, a.getLast? ≠ some 0 → (∀ k, a.getD k 0 = b.getD k 0) → a.length ≤ b.length := by
    intro a b la hg
    apply Classical.byContradiction
    intro hc
    exact getD_last_ne_zero a (fun e => by simp [e] at hc) la (by rw [hg, getD_len_le _ _ (by omega)])
  exact ext_getD _ _ (Nat.le_antisymm (hlen a b la hget) (hlen b a lb fun k => (hget k).symm)) hget

theorem canonW_has (w : Nat × Bytes) (h : CanonW w) : ∃ t, winHas w t := by
  have hpos : 0 < w.2.length := List.length_pos_iff.mpr h.ne
  have hne := getD_last_ne_zero w.2 h.ne h.last
  have hlt : w.2.getD (w.2.length - 1) 0 < 256 := getD_lt _ _ h.oct
  obtain ⟨j, hj, hb⟩ := exists_bit _ hlt hne
  exact ⟨w.1 * 256 + (w.2.length - 1) * 8 + j, (winHas_iff w _ j (by have := h.len; omega) hj).mpr hb⟩

theorem winHas_win (w : Nat × Bytes) (t : Nat) (h : winHas w t) : t / 256 = w.1 := h.1.symm

theorem bitmap_eq (a b : Nat × Bytes) (ha : CanonW a) (hb : CanonW b) (hw : a.1 = b.1)
    (h : ∀ t, winHas a t ↔ winHas b t) : a.2 = b.2 := by
  refine bytes_ext_bits _ _ ha.oct hb.oct ha.last hb.last fun k j hj => ?_
  by_cases hk : k < 32
  · have h1 := winHas_iff a k j hk hj
    have h2 := winHas_iff b k j hk hj
    rw [← hw] at h2
    exact Bool.eq_iff_iff.mpr (h1.symm.trans ((h _).trans h2))
  · rw [getD_len_le _ _ (by have := ha.len; omega), getD_len_le _ _ (by have := hb.len; omega)]

/-- a window of one canonical list, seen through the types of another canonical list with the same types -/
theorem canon_mem (A B : List (Nat × Bytes)) (hA : Canon A) (hB : Canon B) (h : ∀ t, bitmapHas A t ↔ bitmapHas B t) :
    ∀ w ∈ A, w ∈ B := by
  -- in a canonical list the window number of a type determines its window
  have uniq : ∀ {L : List (Nat × Bytes)}, Canon L → ∀ {u v}, u ∈ L → v ∈ L → u.1 = v.1 → u = v := by
    intro L hL u v hu hv e
    induction L with
    | nil => cases hu
    | cons x xs ih =>
      have hp := List.pairwise_cons.mp hL.1
      rcases List.mem_cons.mp hu with rfl | hu' <;> rcases List.mem_cons.mp hv with rfl | hv'
      · rfl
      · have := hp.1 v hv'; omega
      · have := hp.1 u hu'; omega
      · exact ih ⟨hp.2, fun w hw => hL.2 w (by simp [hw])⟩ hu' hv'
  intro w hw
  obtain ⟨t, ht⟩ := canonW_has w (hA.2 w hw)
  obtain ⟨v, hv, hvt⟩ := (h t).mp ⟨w, hw, ht⟩
  have hwv : w.1 = v.1 := (winHas_win w t ht).symm.trans (winHas_win v t hvt)
  have side : ∀ {L M : List (Nat × Bytes)}, Canon M → (∀ t, bitmapHas L t → bitmapHas M t) → ∀ {a b}, a ∈ L → b ∈ M →
      a.1 = b.1 → ∀ u, winHas a u → winHas b u := by
    intro L M hM hLM a b ha hb e u hu
    obtain ⟨b', hb', hbu⟩ := hLM u ⟨a, ha, hu⟩
    rwa [uniq hM hb hb' (by rw [← e, ← winHas_win a u hu, winHas_win b' u hbu])]
  have : w = v := Prod.ext hwv (bitmap_eq w v (hA.2 w hw) (hB.2 v hv) hwv fun u =>
    ⟨side hB (fun t => (h t).mp) hw hv hwv u, side hA (fun t => (h t).mpr) hv hw hwv.symm u⟩)
  exact this ▸ hv

theorem canon_ext (A B : List (Nat × Bytes)) (hA : Canon A) (hB : Canon B)
    (h : ∀ t, bitmapHas A t ↔ bitmapHas B t) : A = B := by
  have nd : ∀ {L : List (Nat × Bytes)}, Canon L → L.Nodup := fun hL => hL.1.imp fun hab e => by rw [e] at hab; omega
  refine List.Perm.eq_of_pairwise (le := fun a b => a.1 < b.1) (fun a b _ _ h1 h2 => by omega) hA.1 hB.1 ?_
  exact (List.perm_ext_iff_of_nodup (nd hA) (nd hB)).mpr fun w =>
    ⟨canon_mem A B hA hB h w, canon_mem B A hB hA (fun t => (h t).symm) w⟩
theorem mem_windowTypesFrom (w : Nat) (bm : Bytes) (i t : Nat) :
    t ∈ windowTypesFrom w i bm ↔ ∃ k j, k < bm.length ∧ j < 8 ∧ msbBit (bm.getD k 0) j = true ∧ t = w * 256 + (i + k) * 8 + j := by
  induction bm generalizing i with
  | nil => simp [windowTypesFrom]
  | cons byte rest ih =>
    simp only [windowTypesFrom, List.mem_append, List.mem_map, List.mem_filter, List.mem_range, ih]
    constructor
    · rintro (⟨j, ⟨hj, hb⟩, rfl⟩ | ⟨k, j, hk, hj, hb, rfl⟩)
      · exact ⟨0, j, by simp, hj, by simpa [msbBit] using hb, by simp⟩
      · refine ⟨k + 1, j, by simp; omega, hj, by simpa using hb, by omega⟩
    · rintro ⟨k, j, hk, hj, hb, rfl⟩
      cases k with
      | zero => exact Or.inl ⟨j, ⟨hj, by simpa [msbBit] using hb⟩, by simp⟩
      | succ k' =>
        refine Or.inr ⟨k', j, by simp at hk; omega, hj, by simpa using hb, by omega⟩

theorem mem_windowTypes (w : Nat × Bytes) (hlen : w.2.length ≤ 32) (t : Nat) : t ∈ windowTypes w ↔ winHas w t := by
  unfold windowTypes
  rw [mem_windowTypesFrom]
  constructor
  · rintro ⟨k, j, hk, hj, hb, rfl⟩
    have hk32 : k < 32 := by omega
    have := (winHas_iff w k j hk32 hj).mpr hb
    simpa using this
  · intro h
    have hw := h.1
    have hb := h.2
    refine ⟨t % 256 / 8, t % 8, lt_length_of_msbBit hb, by omega, hb, ?_⟩
    rw [hw]; omega

theorem windowTypes_le (w : Nat × Bytes) (h1 : w.1 < 256) (h2 : w.2.length ≤ 32) : ∀ t ∈ windowTypes w, t ≤ 65535 := by
  intro t ht
  unfold windowTypes at ht
  obtain ⟨k, j, hk, hj, _, rfl⟩ := (mem_windowTypesFrom _ _ _ _).mp ht
  omega

/-- the check `printRec` makes before it prints a type bitmap -/
theorem windowTypes_all_le (ws : List (Nat × Bytes)) (h : ∀ w ∈ ws, w.1 < 256 ∧ w.2.length ≤ 32) :
    (ws.all fun w => (windowTypes w).all fun t => decide (t ≤ 65535)) = true := by
  rw [List.all_eq_true]
  intro w hw
  rw [List.all_eq_true]
  intro t ht
  simpa using windowTypes_le w (h w hw).1 (h w hw).2 t ht

/-- a window list as `Bitmap.from_wire_parser`/`from_text` produce it and that text can express: canonical, and without
the bit of type 0 -/
def WfWins (ws : List (Nat × Bytes)) : Prop :=
  Canon ws ∧ ∀ w ∈ ws, w.1 = 0 → msbBit (w.2.getD 0 0) 0 = false

theorem allTypes_spec (ws : List (Nat × Bytes)) (h : WfWins ws) :
    (∀ t, t ∈ ws.flatMap windowTypes ↔ bitmapHas ws t) ∧ (∀ t ∈ ws.flatMap windowTypes, 0 < t ∧ t < 65536) := by
  have hmem : ∀ t, t ∈ ws.flatMap windowTypes ↔ bitmapHas ws t := by
    intro t
    simp only [List.mem_flatMap, bitmapHas]
    constructor
    · rintro ⟨w, hw, ht⟩
      exact ⟨w, hw, (mem_windowTypes w (h.1.2 w hw).len t).mp ht⟩
    · rintro ⟨w, hw, ht⟩
      exact ⟨w, hw, (mem_windowTypes w (h.1.2 w hw).len t).mpr ht⟩
  refine ⟨hmem, ?_⟩
  intro t ht
  obtain ⟨w, hw, hwt⟩ := (hmem t).mp ht
  have hc := h.1.2 w hw
  have h1 := hwt.1
  constructor
  · apply Classical.byContradiction
    intro h0
    have e : t = 0 := by omega
    subst e
    have hb : msbBit (w.2.getD (0 % 256 / 8) 0) (0 % 8) = true := hwt.2
    have h1' : w.1 = 0 := by simpa using h1
    have := h.2 w hw h1'
    have e : w.2.getD (0 % 256 / 8) 0 = w.2.getD 0 0 := rfl
    rw [e, show (0 % 8 = 0) from rfl, this] at hb; cases hb
  · have := hc.win
    omega

theorem fromRdtypes_windows (ws : List (Nat × Bytes)) (h : WfWins ws) : fromRdtypes (ws.flatMap windowTypes) = ws := by
  obtain ⟨hmem, hrange⟩ := allTypes_spec ws h
  obtain ⟨e1, e2, e3⟩ := fromRdtypes_exact (ws.flatMap windowTypes) hrange
  have hb := fromRdtypes_octets (ws.flatMap windowTypes)
  apply canon_ext _ _ ?_ h.1
  · intro t; rw [e1 t, hmem t]
  · refine ⟨e2, ?_⟩
    intro w hw
    obtain ⟨a, b, c, d⟩ := e3 w hw
    exact ⟨a, b, c, d, hb w hw⟩

theorem bitmap_types_parse (ts : List Nat) (h : ∀ t ∈ ts, 0 < t ∧ t < 65536) :
    parseTail.types (identToks (ts.map rdtypeToText)) = some ts := by
  rw [bitmapTypes_eq_mapM, identToks, List.map_map]
  refine mapM_map_eq_some _ _ ts fun t ht => ?_
  obtain ⟨h0, h1⟩ := h t ht
  obtain ⟨a, b, _⟩ := rdtype_rt t (by omega)
  have hne : t ≠ 0 := by omega
  simp [parseTypeTok, unescapeCP_plain_all _ b, a, hne]

theorem bitmap_types_range (toks : List Tok) :
    Returns (fun tys => ∀ t ∈ tys, 0 < t ∧ t < 65536) (parseTail.types toks) :=
  bitmapTypes_eq_mapM ▸ .mapM fun _ _ => .bind fun _ _ => .bind fun ty hty => .ite_none fun h0 =>
    .some ⟨by omega, by have := rdtypeFromText_le _ _ hty; omega⟩

/-- the text of a type bitmap and its tokens, one piece per window -/
def bitmapItems (ws : List (Nat × Bytes)) : List (Text × List Tok) :=
  ws.map fun w => (joinSep [32] ((windowTypes w).map rdtypeToText), identToks ((windowTypes w).map rdtypeToText))

theorem bitmap_tail_rt (vals : List FV) (ws : List (Nat × Bytes)) (h : WfWins ws) :
    (ws.all fun w => (windowTypes w).all fun t => decide (t ≤ 65535)) = true ∧
    bitmapText ws = ((bitmapItems ws).map (·.1)).flatMap ([32] ++ ·) ∧ (∀ p ∈ bitmapItems ws, Lexes p.1 p.2) ∧
    parseTail vals .bitmap ((bitmapItems ws).flatMap (·.2)) = some (some (.wl ws)) ∧
    HeadNotHash ((bitmapItems ws).flatMap (·.2)) := by
  obtain ⟨hmem, hrange⟩ := allTypes_spec ws h
  have hplain : ∀ t ∈ ws.flatMap windowTypes, rdtypeToText t ≠ [] ∧ Plain (rdtypeToText t) := by
    intro t ht
    obtain ⟨_, b, c⟩ := rdtype_rt t (by have := hrange t ht; omega)
    exact ⟨c, b⟩
  have htoks : (bitmapItems ws).flatMap (·.2) = identToks ((ws.flatMap windowTypes).map rdtypeToText) := by
    simp [bitmapItems, identToks, List.flatMap_map, List.map_flatMap]
  rw [htoks]
  refine ⟨windowTypes_all_le ws fun w hw => ⟨(h.1.2 w hw).win, (h.1.2 w hw).len⟩, ?_, ?_, ?_, ?_⟩
  · simp [bitmapText, bitmapItems, List.flatMap_map]
  · intro p hp
    obtain ⟨w, hw, rfl⟩ := List.mem_map.mp hp
    refine lexes_joinSep_chunks _ [32] blanks_space (by simp) fun ch hch => ?_
    obtain ⟨t, ht, rfl⟩ := List.mem_map.mp hch
    exact hplain t (List.mem_flatMap.mpr ⟨w, hw, ht⟩)
  · simp only [parseTail, bitmap_types_parse _ hrange, Option.map_some, fromRdtypes_windows ws h]
  · exact headNotHash_identToks _ fun ch hch => by
      obtain ⟨t, ht, rfl⟩ := List.mem_map.mp hch
      exact (hplain t ht).2
end Model
