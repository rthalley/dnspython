import Proofs.TsigDigest
import Proofs.TsigName
import Proofs.NameOrder3
/-! `validate`: decision list, and what the signing tail of `to_wire` (`appendTsig`) looks like to it. -/
namespace Model.Tsig
open Model

theorem canon_eq_of_nameEq (a b : Name) (h : nameEq a b = true) : Rfc8945.canon a = Rfc8945.canon b := by
  rw [← digestable_eq_canon, ← digestable_eq_canon, digestable, digestable, (NameOrder.nameEq_iff a b).mp h]

/-- in the order `validate` tests them -/
theorem validateV_spec (V : Verifier) (tbl : List AlgEntry) (wire : Bytes) (key : Key) (owner : Name) (rd : Rdata)
    (now : Nat) (rm : Bytes) (s : Nat) (ctx : Option Ctx) (multi : Bool) :
    validateV V tbl wire key owner rd now rm s ctx multi =
      if rd16 wire 10 = 0 then .error .formError
      else if rd.error ≠ 0 then .error (peerErr rd.error)
      else if absDiff rd.timeSigned now > rd.fudge then .error .badTime
      else if nameEq key.name owner = false then .error .badKey
      else if nameEq key.algorithm rd.algorithm = false then .error .badAlgorithm
      else match digest tbl (newWire wire s) key rd none rm ctx multi with
        | .error e => .error e
        | .ok c =>
          if V c rd.mac = false then .error .badSignature
          else match maybeStartDigest tbl key rd.mac multi with
            | .error e => .error e
            | .ok c' => .ok (c, c') := by
  unfold validateV
  simp only [ConstsC14.arcountOff, Bool.not_eq_true']
  rfl

theorem validateV_ok {V : Verifier} {tbl : List AlgEntry} {wire : Bytes} {key : Key} {owner : Name} {rd : Rdata}
    {now : Nat} {rm : Bytes} {s : Nat} {ctx : Option Ctx} {multi : Bool} {c : Ctx} {c' : Option Ctx}
    (h : validateV V tbl wire key owner rd now rm s ctx multi = .ok (c, c')) :
    rd16 wire 10 ≠ 0 ∧ rd.error = 0 ∧ absDiff rd.timeSigned now ≤ rd.fudge ∧ nameEq key.name owner = true
      ∧ nameEq key.algorithm rd.algorithm = true
      ∧ digest tbl (newWire wire s) key rd none rm ctx multi = .ok c ∧ V c rd.mac = true
      ∧ maybeStartDigest tbl key rd.mac multi = .ok c' := by
  rw [validateV_spec] at h
  obtain ⟨h1, h⟩ := of_ite_error_eq_ok h
  obtain ⟨h2, h⟩ := of_ite_error_eq_ok h
  obtain ⟨h3, h⟩ := of_ite_error_eq_ok h
  obtain ⟨h4, h⟩ := of_ite_error_eq_ok h
  obtain ⟨h5, h⟩ := of_ite_error_eq_ok h
  cases hd : digest tbl (newWire wire s) key rd none rm ctx multi with
  | error e => rw [hd] at h; cases h
  | ok c1 =>
    rw [hd] at h
    obtain ⟨h6, h⟩ := of_ite_error_eq_ok h
    cases hm : maybeStartDigest tbl key rd.mac multi with
    | error e => rw [hm] at h; cases h
    | ok c2 =>
      rw [hm] at h
      cases h
      exact ⟨h1, Decidable.not_not.mp h2, Nat.le_of_not_gt h3, (Bool.not_eq_false _).mp h4, (Bool.not_eq_false _).mp h5,
        rfl, (Bool.not_eq_false _).mp h6, rfl⟩

theorem setArcount_length (w : Bytes) (n : Nat) (h : 12 ≤ w.length) : (setArcount w n).length = w.length := by
  unfold setArcount; simp [u16]; omega

theorem appendTsig_split (body o : Bytes) (rd : Rdata) (hl : 12 ≤ body.length) :
    appendTsig body o rd = setArcount body (rd16 body 10 + 1) ++ tsigRR o rd := by
  unfold appendTsig setArcount
  rw [List.take_append_of_le_length (by omega), List.drop_append_of_le_length (by omega)]
  simp [List.append_assoc]

theorem appendTsig_length (body o : Bytes) (rd : Rdata) (h : 12 ≤ body.length) :
    (appendTsig body o rd).length = body.length + (tsigRR o rd).length := by
  rw [appendTsig_split body o rd h, List.length_append, setArcount_length _ _ h]

theorem setArcount_at (w : Bytes) (n : Nat) (hl : 12 ≤ w.length) (b : Bytes) : At (setArcount w n ++ b) 10 (Rfc8945.be 2 n) :=
  ⟨w.take 10, w.drop 12 ++ b, by simp only [setArcount, u16_eq_be, List.append_assoc], by simp; omega⟩

theorem setArcount_rd16_10 (w : Bytes) (n : Nat) (hl : 12 ≤ w.length) (hn : n < 65536) (b : Bytes) :
    rd16 (setArcount w n ++ b) 10 = n :=
  rd16_at (setArcount_at w n hl b) hn

theorem setArcount_getElem (w : Bytes) (n i : Nat) (hl : 12 ≤ w.length) (hi : i < 10 ∨ 12 ≤ i) :
    (setArcount w n)[i]? = w[i]? := by
  unfold setArcount
  rcases hi with hi | hi
  · rw [List.append_assoc, List.getElem?_append_left (by simp; omega)]
    exact List.getElem?_take_of_lt hi
  · rw [List.getElem?_append_right (by simp [u16]; omega)]
    simp only [List.length_append, List.length_take, u16, List.length_cons, List.length_nil, List.getElem?_drop]
    congr 1; omega

theorem rd16_appendTsig (body o : Bytes) (rd : Rdata) (hl : 12 ≤ body.length) (hc : rd16 body 10 + 1 < 65536) :
    rd16 (appendTsig body o rd) 10 = rd16 body 10 + 1 := by
  rw [appendTsig_split body o rd hl]
  exact setArcount_rd16_10 body _ hl hc _

theorem newWire_append (w junk : Bytes) (s : Nat) (hl : 12 ≤ w.length) (hs : s ≤ w.length) :
    newWire (w ++ junk) s = newWire w s := by
  unfold newWire slice
  simp only [ConstsC14.arcountOff, ConstsC14.arcountEnd]
  rw [rd16_append_left w junk 10 (by omega), List.take_append_of_le_length (by omega),
    List.take_append_of_le_length hs]

theorem validateV_append (V : Verifier) (tbl : List AlgEntry) (w junk : Bytes) (k : Key) (owner : Name) (rd : Rdata)
    (now : Nat) (rm : Bytes) (s : Nat) (ctx : Option Ctx) (multi : Bool) (hl : 12 ≤ w.length) (hs : s ≤ w.length) :
    validateV V tbl (w ++ junk) k owner rd now rm s ctx multi = validateV V tbl w k owner rd now rm s ctx multi := by
  rw [validateV_spec, validateV_spec, rd16_append_left w junk 10 (by omega), newWire_append w junk s hl hs]

theorem setArcount_setArcount (w : Bytes) (m n : Nat) (hl : 12 ≤ w.length) :
    setArcount (setArcount w m) n = setArcount w n := by
  have h1 : (setArcount w m).take 10 = w.take 10 := by
    unfold setArcount; rw [List.append_assoc, List.take_left' (by simp; omega)]
  have h2 : (setArcount w m).drop 12 = w.drop 12 := by
    unfold setArcount; rw [List.drop_left' (by simp [u16]; omega)]
  rw [setArcount, h1, h2, setArcount]

theorem setArcount_self (w : Bytes) (ho : OctetsOk w) (hl : 12 ≤ w.length) : setArcount w (rd16 w 10) = w := by
  have := (at_rd16 ho (p := 10) hl).drop
  rw [be_length] at this
  unfold setArcount
  rw [u16_eq_be, List.append_assoc, ← this, List.take_append_drop]

/-- what `validate` digests as the message: the received one cut at the TSIG RR, ARCOUNT rewritten -/
theorem newWire_eq_setArcount (w : Bytes) (s : Nat) (h : 12 ≤ s) :
    newWire w s = setArcount (w.take s) (rd16 w 10 - 1) := by
  unfold newWire setArcount slice
  rw [List.take_take, Nat.min_eq_left (by omega)]
  rfl

theorem newWire_length (w : Bytes) (s : Nat) (h12 : 12 ≤ s) (hs : s ≤ w.length) : (newWire w s).length = s := by
  rw [newWire_eq_setArcount w s h12, setArcount_length _ _ (by simp; omega), List.length_take, Nat.min_eq_left hs]

theorem newWire_getElem (w : Bytes) (s i : Nat) (h12 : 12 ≤ s) (hs : s ≤ w.length) (hi : i < 10 ∨ 12 ≤ i) (his : i < s) :
    (newWire w s)[i]? = w[i]? := by
  rw [newWire_eq_setArcount w s h12, setArcount_getElem _ _ i (by simp; omega) hi, List.getElem?_take_of_lt his]

theorem newWire_rd16_10 (w : Bytes) (s : Nat) (h12 : 12 ≤ s) (hs : s ≤ w.length) (hc : rd16 w 10 - 1 < 65536) :
    rd16 (newWire w s) 10 = rd16 w 10 - 1 := by
  have := setArcount_rd16_10 (w.take s) _ (by simp; omega) hc []
  rwa [List.append_nil, ← newWire_eq_setArcount w s h12] at this

/-- cut at the end of the body the signed message is the body with ARCOUNT raised; lowering it again restores the body -/
theorem newWire_appendTsig (body o : Bytes) (rd : Rdata) (hl : 12 ≤ body.length) (ho : OctetsOk body)
    (hc : rd16 body 10 + 1 < 65536) : newWire (appendTsig body o rd) body.length = body := by
  rw [newWire_eq_setArcount _ _ hl, rd16_appendTsig body o rd hl hc, appendTsig_split body o rd hl,
    ← setArcount_length body (rd16 body 10 + 1) hl, List.take_left, setArcount_setArcount _ _ _ hl, Nat.add_sub_cancel,
    setArcount_self body ho hl]

theorem lookupAlg_mem (tbl : List AlgEntry) (e : AlgEntry) (he : e ∈ tbl) : ∃ e', lookupAlg tbl e.name = some e' := by
  unfold lookupAlg
  have : (tbl.find? fun x => nameEq x.name e.name).isSome = true := by
    rw [List.find?_isSome]
    exact ⟨e, he, NameOrder.nameEq_refl e.name⟩
  exact Option.isSome_iff_exists.mp this

end Model.Tsig
