import Proofs.BTreeZoneStore
/-!
The specification of C20 (`isDelegSpec`, `isGlueSpec`, `flagsSpec`) in propositional form: the flags of a name
are determined by whether it is the apex, whether it owns NS, and whether a non-apex NS owner lies above it.
From this the *frame theorems*: a change of NS ownership at one name leaves the flags of every name off its
subtree as they were, and on the subtree they follow the new delegation status of that name (`flagsSpec_at`,
`flagsSpec_below`).
-/
namespace Model
namespace BTZ

/-- `a` owns an NS rdataset in `nodes` -/
def NS (nodes : Nodes) (a : Name) : Prop := ∃ nd, nget nodes a = some nd ∧ hasNS nd.rds = true

/-- some proper ancestor of `n`, other than the apex, owns NS -/
def NSAbove (cfg : Cfg) (nodes : Nodes) (n : Name) : Prop :=
  ∃ a, LC a ∧ NS nodes a ∧ properSub n a = true ∧ isOrigin cfg a = false

/-- an NS owner strictly between `m` and `name` -/
def NSBetween (nodes : Nodes) (m name : Name) : Prop :=
  ∃ a, LC a ∧ NS nodes a ∧ properSub m a = true ∧ properSub a name = true

theorem NS_iff_hasNS {nodes : Nodes} {a : Name} {nd : Node} (h : nget nodes a = some nd) :
    NS nodes a ↔ hasNS nd.rds = true :=
  ⟨fun ⟨nd1, h1, h2⟩ => by rw [h] at h1; cases h1; exact h2, fun h2 => ⟨nd, h, h2⟩⟩

theorem nsAt_iff {nodes : Nodes} {n : Name} : nsAt nodes n = true ↔ NS nodes n := by
  unfold nsAt NS
  cases h : nget nodes n <;> simp

theorem nsAbove_iff {cfg : Cfg} {nodes : Nodes} (h : NWF nodes) {n : Name} :
    nsAbove cfg nodes n = true ↔ NSAbove cfg nodes n := by
  unfold nsAbove NSAbove NS
  rw [List.any_eq_true]
  constructor
  · rintro ⟨e, he, hp⟩
    simp only [Bool.and_eq_true, Bool.not_eq_true'] at hp
    exact ⟨e.1, h.2 e he, ⟨e.2, mem_nget h he, hp.2⟩, hp.1.1, hp.1.2⟩
  · rintro ⟨a, ha, ⟨nd, hg, hns⟩, hp, ho⟩
    exact ⟨(a, nd), nget_some_mem h ha hg, by simp [hp, ho, hns]⟩

theorem isDelegSpec_iff {cfg : Cfg} {nodes : Nodes} (h : NWF nodes) {n : Name} :
    isDelegSpec cfg nodes n = true ↔ isOrigin cfg n = false ∧ NS nodes n ∧ ¬ NSAbove cfg nodes n := by
  unfold isDelegSpec
  simp only [Bool.and_eq_true, Bool.not_eq_true', ← nsAt_iff, ← nsAbove_iff h, Bool.not_eq_true, and_assoc]

theorem not_deleg_of_above {cfg : Cfg} {nodes : Nodes} (h : NWF nodes) {n : Name} (ha : NSAbove cfg nodes n) :
    isDelegSpec cfg nodes n = false :=
  Bool.eq_false_iff.mpr fun hd => ((isDelegSpec_iff h).mp hd).2.2 ha

theorem topmost_NS {cfg : Cfg} {nodes : Nodes} (h : NWF nodes) {n a : Name} (ha : LC a) (hns : NS nodes a)
    (hp : properSub n a = true) (ho : isOrigin cfg a = false) :
    ∃ d, LC d ∧ isDelegSpec cfg nodes d = true ∧ properSub n d = true ∧ NS nodes d := by
  by_cases hab : NSAbove cfg nodes a
  · obtain ⟨b, hb, hnsb, hpb, hob⟩ := hab
    exact topmost_NS h hb hnsb (properSub_trans hp hpb) hob
  · exact ⟨a, ha, (isDelegSpec_iff h).mpr ⟨ho, hns, hab⟩, hp, hns⟩
termination_by a.length
decreasing_by exact properSub_length hpb

theorem isGlueSpec_iff {cfg : Cfg} {nodes : Nodes} (h : NWF nodes) {n : Name} :
    isGlueSpec cfg nodes n = true ↔ NSAbove cfg nodes n := by
  unfold isGlueSpec
  rw [List.any_eq_true]
  constructor
  · rintro ⟨e, he, hp⟩
    simp only [Bool.and_eq_true] at hp
    obtain ⟨h1, h2, _⟩ := (isDelegSpec_iff h).mp hp.2
    exact ⟨e.1, h.2 e he, h2, hp.1, h1⟩
  · rintro ⟨a, ha, hns, hp, ho⟩
    obtain ⟨d, hd, hdel, hpd, ⟨nd, hg, _⟩⟩ := topmost_NS h ha hns hp ho
    exact ⟨(d, nd), nget_some_mem h hd hg, by simp [hpd, hdel]⟩

theorem mem_delegsSpec {cfg : Cfg} {nodes : Nodes} {n : Name} :
    n ∈ delegsSpec cfg nodes ↔ ∃ nd, (n, nd) ∈ nodes ∧ isDelegSpec cfg nodes n = true := by
  simp only [delegsSpec, List.mem_map, List.mem_filter]
  constructor
  · rintro ⟨e, ⟨hm, hd⟩, rfl⟩
    exact ⟨e.2, hm, hd⟩
  · rintro ⟨nd, hm, hd⟩
    exact ⟨(n, nd), ⟨hm, hd⟩, rfl⟩

theorem flags_ext {a b : Flags} (h1 : a.origin = b.origin) (h2 : a.deleg = b.deleg) (h3 : a.glue = b.glue) : a = b := by
  cases a; cases b; simp_all

theorem flagsSpec_congr {cfg : Cfg} {N N' : Nodes} (hN : NWF N) (hN' : NWF N') {m : Name}
    (hab : NSAbove cfg N' m ↔ NSAbove cfg N m) (hns : NS N' m ↔ NS N m) :
    flagsSpec cfg N' m = flagsSpec cfg N m := by
  refine flags_ext rfl ?_ ?_
  · show isDelegSpec cfg N' m = isDelegSpec cfg N m
    rw [Bool.eq_iff_iff, isDelegSpec_iff hN', isDelegSpec_iff hN, hab, hns]
  · show isGlueSpec cfg N' m = isGlueSpec cfg N m
    rw [Bool.eq_iff_iff, isGlueSpec_iff hN', isGlueSpec_iff hN, hab]

/-- NS ownership of every name but `name` is the same in `N` and `N'` -/
def SameNSExcept (N N' : Nodes) (name : Name) : Prop := ∀ a, LC a → a ≠ name → (NS N' a ↔ NS N a)

theorem NSAbove_congr {cfg : Cfg} {N N' : Nodes} {m : Name}
    (h : ∀ a, LC a → properSub m a = true → isOrigin cfg a = false → (NS N' a ↔ NS N a)) :
    NSAbove cfg N' m ↔ NSAbove cfg N m :=
  ⟨fun ⟨a, ha, hns, hp, ho⟩ => ⟨a, ha, (h a ha hp ho).mp hns, hp, ho⟩,
   fun ⟨a, ha, hns, hp, ho⟩ => ⟨a, ha, (h a ha hp ho).mpr hns, hp, ho⟩⟩

theorem NSAbove_frame {cfg : Cfg} {N N' : Nodes} {name m : Name} (hs : SameNSExcept N N' name)
    (hm : properSub m name = false) : NSAbove cfg N' m ↔ NSAbove cfg N m :=
  NSAbove_congr fun a ha hp _ => hs a ha fun e => by rw [e, hm] at hp; exact absurd hp (by decide)

theorem flagsSpec_same {cfg : Cfg} {N N' : Nodes} (hN : NWF N) (hN' : NWF N')
    (hall : ∀ a, LC a → (NS N' a ↔ NS N a)) (m : Name) (hm : LC m) :
    flagsSpec cfg N' m = flagsSpec cfg N m :=
  flagsSpec_congr hN hN' (NSAbove_congr fun a ha _ _ => hall a ha) (hall m hm)

theorem flagsSpec_elsewhere {cfg : Cfg} {N N' : Nodes} (hN : NWF N) (hN' : NWF N') {name : Name}
    (hs : SameNSExcept N N' name) (m : Name) (hm : LC m) (hne : m ≠ name) (hnb : properSub m name = false) :
    flagsSpec cfg N' m = flagsSpec cfg N m :=
  flagsSpec_congr hN hN' (NSAbove_frame hs hnb) (hs m hm hne)

theorem LC_apex (cfg : Cfg) : LC (apex cfg) := by
  unfold apex; split
  · exact LC_nil
  · exact LC_lowerName _

theorem not_origin_of_below {cfg : Cfg} {name m : Name} (hname : isSubdomain name (apex cfg) = true)
    (hm : properSub m name = true) (hlc : LC m) : isOrigin cfg m = false :=
  Bool.eq_false_iff.mpr fun h => by
    rw [(nameEq_eq hlc (LC_apex cfg)).mp h] at hm
    exact ne_of_properSub (properSub_of_properSub_of_sub hm hname) rfl

/-- the NS owners above a name `k` below `name`: those between the two, `name` itself, those above `name`
(the ancestors of `k` form a chain, so each is comparable with `name`) -/
theorem NSAbove_below {cfg : Cfg} {N : Nodes} {name k : Name} (hn : LC name)
    (hin : isSubdomain name (apex cfg) = true) (hk : properSub k name = true) :
    NSAbove cfg N k ↔ NSBetween N k name ∨ (isOrigin cfg name = false ∧ NS N name) ∨ NSAbove cfg N name := by
  constructor
  · rintro ⟨a, ha, hns, hp, ho⟩
    by_cases e : a = name
    · subst e; exact Or.inr (Or.inl ⟨ho, hns⟩)
    · rcases NameOrder.isSubdomain_chain (properSub_sub hp) (properSub_sub hk) with h | h
      · exact Or.inl ⟨a, ha, hns, hp, (properSub_iff_sub_ne ha hn).mpr ⟨h, e⟩⟩
      · exact Or.inr (Or.inr ⟨a, ha, hns, (properSub_iff_sub_ne hn ha).mpr ⟨h, Ne.symm e⟩, ho⟩)
  · rintro (⟨a, ha, hns, hp, hpn⟩ | ⟨ho, hns⟩ | ⟨a, ha, hns, hp, ho⟩)
    · exact ⟨a, ha, hns, hp, not_origin_of_below hin hpn ha⟩
    · exact ⟨name, hn, hns, hk, ho⟩
    · exact ⟨a, ha, hns, properSub_trans hk hp, ho⟩

theorem glue_below {cfg : Cfg} {N : Nodes} (hN : NWF N) {name k : Name} (hn : LC name)
    (hin : isSubdomain name (apex cfg) = true) (hk : properSub k name = true) :
    isGlueSpec cfg N k = true ↔
      NSBetween N k name ∨ isDelegSpec cfg N name = true ∨ isGlueSpec cfg N name = true := by
  rw [isGlueSpec_iff hN, isGlueSpec_iff hN, isDelegSpec_iff hN, NSAbove_below hn hin hk]
  by_cases h : NSAbove cfg N name <;> simp [h]

/-- the delegation status of `name` when it owns NS or not (`ns`), everything above it being as in `N` -/
def delegNow (cfg : Cfg) (N : Nodes) (name : Name) (ns : Bool) : Bool :=
  !isOrigin cfg name && ns && !isGlueSpec cfg N name

theorem isDelegSpec_eq {cfg : Cfg} {N : Nodes} (hN : NWF N) (n : Name) :
    isDelegSpec cfg N n = delegNow cfg N n (nsAt N n) := by
  unfold isDelegSpec delegNow
  rw [Bool.eq_iff_iff.mpr ((nsAbove_iff hN).trans (isGlueSpec_iff hN).symm)]

theorem NSBetween_congr {N N' : Nodes} {name k : Name} (hs : SameNSExcept N N' name) :
    NSBetween N' k name ↔ NSBetween N k name :=
  ⟨fun ⟨a, ha, hns, hp, hpn⟩ => ⟨a, ha, (hs a ha (ne_of_properSub hpn)).mp hns, hp, hpn⟩,
   fun ⟨a, ha, hns, hp, hpn⟩ => ⟨a, ha, (hs a ha (ne_of_properSub hpn)).mpr hns, hp, hpn⟩⟩

/-! The specification after a change of NS ownership at `name` only, in terms of the store before: nothing above
`name` moves, so `name` keeps its origin and glue flags and its delegation status follows its NS ownership; a name
below `name` is glue iff an NS owner lies between, or `name` is now a delegation point or glue. -/

theorem flagsSpec_at {cfg : Cfg} {N N' : Nodes} (hN : NWF N) (hN' : NWF N') {name : Name}
    (hs : SameNSExcept N N' name) :
    flagsSpec cfg N' name =
      ⟨isOrigin cfg name, delegNow cfg N name (nsAt N' name), isGlueSpec cfg N name⟩ := by
  have hgl : isGlueSpec cfg N' name = isGlueSpec cfg N name := by
    rw [Bool.eq_iff_iff, isGlueSpec_iff hN', isGlueSpec_iff hN, NSAbove_frame hs (properSub_irrefl name)]
  refine flags_ext rfl ?_ hgl
  show isDelegSpec cfg N' name = _
  rw [isDelegSpec_eq hN', delegNow, delegNow, hgl]

theorem flagsSpec_below {cfg : Cfg} {N N' : Nodes} (hN : NWF N) (hN' : NWF N') {name k : Name} (hn : LC name)
    (hin : isSubdomain name (apex cfg) = true) (hs : SameNSExcept N N' name) (hkl : LC k)
    (hk : properSub k name = true) :
    (isGlueSpec cfg N' k = true ↔ NSBetween N k name ∨ delegNow cfg N name (nsAt N' name) = true ∨
      isGlueSpec cfg N name = true) ∧
    (isDelegSpec cfg N' k = true ↔ NS N k ∧ ¬ isGlueSpec cfg N' k = true) := by
  have hat := flagsSpec_at (cfg := cfg) hN hN' hs
  constructor
  · have hd : isDelegSpec cfg N' name = _ := congrArg Flags.deleg hat
    have hg : isGlueSpec cfg N' name = _ := congrArg Flags.glue hat
    rw [glue_below hN' hn hin hk, NSBetween_congr hs, hd, hg]
  · rw [isDelegSpec_iff hN', isGlueSpec_iff hN', hs k hkl (ne_of_properSub hk)]
    simp [not_origin_of_below hin hk hkl]

end BTZ
end Model
