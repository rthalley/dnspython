import Model.RdataSchema
import Proofs.RdataName
/-! the RDATA schema codec (C02): big-endian numbers and `takeN`, `valid` by schema constructor, and encode-then-decode
for every well-formed schema, by induction on schemas -/
namespace Model

def OctetsOkB (b : Bytes) : Prop := ∀ x ∈ b, x < 256

theorem natBE_length (k n : Nat) : (natBE k n).length = k := by
  induction k generalizing n with
  | zero => simp [natBE]
  | succ k ih => simp [natBE, ih]

theorem beNat_append_single (b : Bytes) (x : Nat) : beNat (b ++ [x]) = beNat b * 256 + x := by
  simp [beNat, List.foldl_append]

theorem beNat_natBE (k n : Nat) (h : n < 256 ^ k) : beNat (natBE k n) = n := by
  induction k generalizing n with
  | zero => simp [natBE, beNat] at *; omega
  | succ k ih =>
    have h' : n / 256 < 256 ^ k := by
      apply Nat.div_lt_of_lt_mul
      rw [Nat.pow_succ] at h; omega
    simp [natBE, beNat_append_single, ih _ h']
    omega

theorem foldl_be_bound (b : Bytes) (h : OctetsOkB b) (acc : Nat) :
    b.foldl (fun acc x => acc * 256 + x) acc + 1 ≤ (acc + 1) * 256 ^ b.length := by
  induction b generalizing acc with
  | nil => simp
  | cons x xs ih =>
    have hx : x < 256 := h x (by simp)
    have hxs : OctetsOkB xs := fun y hy => h y (by simp [hy])
    have := ih hxs (acc * 256 + x)
    simp only [List.foldl_cons, List.length_cons, Nat.pow_succ]
    calc _ ≤ (acc * 256 + x + 1) * 256 ^ xs.length := this
      _ ≤ ((acc + 1) * 256) * 256 ^ xs.length := Nat.mul_le_mul_right _ (by omega)
      _ = (acc + 1) * (256 ^ xs.length * 256) := by rw [Nat.mul_assoc, Nat.mul_comm 256]

theorem beNat_lt (b : Bytes) (h : OctetsOkB b) : beNat b < 256 ^ b.length := by
  have := foldl_be_bound b h 0
  simp at this
  exact this

theorem takeN_append {n : Nat} (a tl pfx : Bytes) (h : a.length = n) :
    takeN n pfx (a ++ tl) = .ok (a, pfx ++ a, tl) := by
  subst h; simp [takeN]

theorem takeN_spec {n : Nat} {pfx rem b p r : Bytes} (h : takeN n pfx rem = .ok (b, p, r)) :
    rem = b ++ r ∧ b.length = n ∧ p = pfx ++ b := by
  unfold takeN at h
  split at h
  · cases h
    exact ⟨(List.take_append_drop n rem).symm, List.length_take_of_le ‹_›, rfl⟩
  · cases h

theorem OctetsOkB.take {b : Bytes} (h : OctetsOkB b) (n : Nat) : OctetsOkB (b.take n) :=
  fun x hx => h x (List.mem_of_mem_take hx)

theorem OctetsOkB.drop {b : Bytes} (h : OctetsOkB b) (n : Nat) : OctetsOkB (b.drop n) :=
  fun x hx => h x (List.mem_of_mem_drop hx)

theorem OctetsOkB.right {a b : Bytes} (h : OctetsOkB (a ++ b)) : OctetsOkB b :=
  fun x hx => h x (by simp [hx])

theorem OctetsOkB.left {a b : Bytes} (h : OctetsOkB (a ++ b)) : OctetsOkB a :=
  fun x hx => h x (by simp [hx])

section
variable {o : Option Name} {v : Val}

theorem valid_unit : valid .unit o v = true ↔ v = .unit := by
  cases v with
  | unit => exact iff_of_true rfl rfl
  | _ => exact ⟨nofun, nofun⟩

theorem valid_fail : valid .fail o v = false := by
  cases v <;> rfl

theorem valid_uint {k : Nat} : valid (.uint k) o v = true ↔ ∃ n, v = .nat n ∧ n < 256 ^ k := by
  cases v with
  | nat n => show decide (n < 256 ^ k) = true ↔ _; simp
  | _ => exact ⟨nofun, nofun⟩

theorem valid_fixed {n : Nat} : valid (.fixed n) o v = true ↔ ∃ b, v = .bytes b ∧ b.length = n := by
  cases v with
  | bytes b => show decide (b.length = n) = true ↔ _; simp
  | _ => exact ⟨nofun, nofun⟩

theorem valid_counted {k : Nat} : valid (.counted k) o v = true ↔ ∃ b, v = .bytes b ∧ b.length < 256 ^ k := by
  cases v with
  | bytes b => show decide (b.length < 256 ^ k) = true ↔ _; simp
  | _ => exact ⟨nofun, nofun⟩

theorem valid_rest : valid .rest o v = true ↔ ∃ b, v = .bytes b := by
  cases v with
  | bytes b => exact iff_of_true rfl ⟨b, rfl⟩
  | _ => exact ⟨nofun, nofun⟩

theorem valid_optCounted {k : Nat} : valid (.optCounted k) o v = true ↔ ∃ b, v = .bytes b ∧ b.length < 256 ^ k := by
  cases v with
  | bytes b => show decide (b.length < 256 ^ k) = true ↔ _; simp
  | _ => exact ⟨nofun, nofun⟩

theorem valid_name {rel : Bool} : valid (.name rel) o v = true ↔ ∃ n, v = .name n ∧ nameValid rel o n = true := by
  cases v with
  | name n => show nameValid rel o n = true ↔ _; simp
  | _ => exact ⟨nofun, nofun⟩

theorem valid_pair {a b : Schema} :
    valid (.pair a b) o v = true ↔ ∃ x y, v = .pair x y ∧ valid a o x = true ∧ valid b o y = true := by
  cases v with
  | pair x y =>
    exact ⟨fun h => ⟨x, y, rfl, Bool.and_eq_true_iff.1 h⟩, fun ⟨_, _, e, h⟩ => by cases e; exact Bool.and_eq_true_iff.2 h⟩
  | _ => exact ⟨nofun, nofun⟩

theorem valid_rep {s : Schema} : valid (.rep s) o v = true ↔ ∃ vs, v = .list vs ∧ ∀ x ∈ vs, valid s o x = true := by
  cases v with
  | list vs => show vs.all (valid s o) = true ↔ _; simp
  | _ => exact ⟨nofun, nofun⟩

theorem valid_sub {k : Nat} {s : Schema} :
    valid (.sub k s) o v = true ↔ valid s o v = true ∧ (enc s o v).length < 256 ^ k := by
  show (valid s o v && decide ((enc s o v).length < 256 ^ k)) = true ↔ _; simp

theorem valid_check {f : Val → Bool} {s : Schema} : valid (.check f s) o v = true ↔ valid s o v = true ∧ f v = true :=
  Bool.and_eq_true_iff (x := valid s o v)

theorem valid_bind {hdr : Schema} {sel : Val → Nat} {n : Nat} {alts : Nat → Schema} :
    valid (.bind hdr sel n alts) o v = true ↔
      ∃ x y, v = .pair x y ∧ valid hdr o x = true ∧ sel x < n ∧ valid (alts (sel x)) o y = true := by
  cases v with
  | pair x y =>
    show (valid hdr o x && decide (sel x < n) && valid (alts (sel x)) o y) = true ↔ _
    simp [and_assoc]
  | _ => exact ⟨nofun, nofun⟩

end

theorem valid_pair_uint {k : Nat} {s : Schema} {o : Option Name} {r : Val}
    (h : valid (.pair (.uint k) s) o r = true) :
    ∃ n r', r = .pair (.nat n) r' ∧ n < 256 ^ k ∧ valid s o r' = true := by
  obtain ⟨x, y, rfl, hx, hy⟩ := valid_pair.1 h
  obtain ⟨n, rfl, hn⟩ := valid_uint.1 hx
  exact ⟨n, y, rfl, hn, hy⟩

theorem minLen_le (o : Option Name) : ∀ (s : Schema) (v : Val), valid s o v = true → minLen s ≤ (enc s o v).length := by
  intro s v h
  induction s generalizing v with
  | uint k => obtain ⟨n, rfl, _⟩ := valid_uint.1 h; simp [minLen, enc, natBE_length]
  | fixed n => obtain ⟨b, rfl, hb⟩ := valid_fixed.1 h; simp [minLen, enc, hb]
  | counted k => obtain ⟨b, rfl, _⟩ := valid_counted.1 h; simp [minLen, enc, natBE_length]
  | name rel => obtain ⟨n, rfl, hn⟩ := valid_name.1 h; exact nameEnc_pos rel o n hn
  | pair a b iha ihb =>
    obtain ⟨x, y, rfl, hx, hy⟩ := valid_pair.1 h
    have := iha x hx
    have := ihb y hy
    simp only [minLen, enc, List.length_append]
    omega
  | sub k s _ => simp [minLen, enc, natBE_length]
  | check f s ih => simpa [minLen, enc] using ih v (valid_check.1 h).1
  | bind hdr sel n alts ih _ =>
    obtain ⟨x, y, rfl, hx, _⟩ := valid_bind.1 h
    have := ih x hx
    simp only [minLen, enc, List.length_append]
    omega
  | _ => simp [minLen]

theorem sd_wf : ∀ s : Schema, sd s = true → wf s = true := by
  intro s h
  induction s with
  | unit | fail | uint _ | fixed _ | counted _ | name _ => simp [wf, sdwf]
  | rest | optCounted _ => simp [sd, sdwf] at h
  | pair a b _ ihb =>
    simp [sd, wf, sdwf] at *
    exact ⟨h.1, ihb h.2⟩
  | rep s _ => simp [sd, sdwf] at h
  | sub k s _ => simpa only [sd, wf, sdwf] using h
  | check f s ih => simp [sd, wf, sdwf] at *; exact ih h
  | bind hdr sel n alts _ iha =>
    simp only [sd, wf, sdwf, Bool.and_eq_true] at *
    exact ⟨h.1, List.all_eq_true.2 fun i hi => iha i (List.all_eq_true.1 h.2 i hi)⟩

theorem all_range_get {n : Nat} {p : Nat → Bool} (hp : (List.range n).all p = true) (i : Nat) (hi : i < n) :
    p i = true := by
  rw [List.all_eq_true] at hp
  exact hp i (by simp [hi])

theorem repLoop_enc (o : Option Name) (s : Schema)
    (hs : ∀ v, valid s o v = true → ∀ pfx tl, dec s o pfx (enc s o v ++ tl) = .ok (v, pfx ++ enc s o v, tl))
    (hmin : 1 ≤ minLen s) :
    ∀ (vs : List Val), (∀ v ∈ vs, valid s o v = true) → ∀ (fuel : Nat) (pfx : Bytes),
      (vs.flatMap (enc s o)).length ≤ fuel →
      repLoop (dec s o) fuel pfx (vs.flatMap (enc s o)) = .ok (vs, pfx ++ vs.flatMap (enc s o), []) := by
  intro vs
  induction vs with
  | nil => intro _ fuel pfx _; simp [repLoop]
  | cons v vs ih =>
    intro hv fuel pfx hf
    have hv1 := hv v (by simp)
    have hlen := minLen_le o s v hv1
    simp only [List.flatMap_cons] at hf ⊢
    have hne : (enc s o v ++ vs.flatMap (enc s o)) ≠ [] := by
      intro h0; have := congrArg List.length h0
      rw [List.length_append, List.length_nil] at this; omega
    obtain ⟨x, xs, hx⟩ := List.exists_cons_of_ne_nil hne
    cases fuel with
    | zero => rw [List.length_append] at hf; omega
    | succ fuel =>
      rw [hx, repLoop, ← hx, hs v hv1 pfx _]
      simp only
      rw [ih (fun w hw => hv w (by simp [hw])) fuel _ (by rw [List.length_append] at hf; omega)]
      simp

/-- what `get_counted_bytes(k)` accepts: a `k`-octet length and as many octets -/
theorem dec_counted_iff {o : Option Name} {k : Nat} {pfx rem : Bytes} {v : Val} {p r : Bytes} :
    dec (.counted k) o pfx rem = .ok (v, p, r) ↔
      ∃ lb b, lb.length = k ∧ b.length = beNat lb ∧ rem = (lb ++ b) ++ r ∧ p = pfx ++ (lb ++ b) ∧ v = .bytes b := by
  simp only [dec]
  constructor
  · intro h
    split at h
    · cases h
    · rename_i lb p1 r1 h1
      split at h
      · cases h
      · rename_i b p2 r2 h2
        cases h
        obtain ⟨rfl, hk, rfl⟩ := takeN_spec h1
        obtain ⟨rfl, hb, rfl⟩ := takeN_spec h2
        exact ⟨lb, b, hk, hb, (List.append_assoc ..).symm, List.append_assoc .., rfl⟩
  · rintro ⟨lb, b, hk, hb, rfl, rfl, rfl⟩
    rw [List.append_assoc, takeN_append _ _ _ hk]
    simp only
    rw [takeN_append _ _ _ hb, List.append_assoc]

theorem counted_rt (o : Option Name) (k : Nat) (b pfx tl : Bytes) (h : b.length < 256 ^ k) :
    dec (.counted k) o pfx (natBE k b.length ++ b ++ tl) = .ok (.bytes b, pfx ++ (natBE k b.length ++ b), tl) :=
  dec_counted_iff.2 ⟨_, b, natBE_length k _, (beNat_natBE k _ h).symm, rfl, rfl, rfl⟩

theorem dec_optCounted_ne (o : Option Name) (k : Nat) (pfx rem : Bytes) (h : rem ≠ []) :
    dec (.optCounted k) o pfx rem = dec (.counted k) o pfx rem := by
  simp only [dec, h, if_false]

theorem rt_all (o : Option Name) (s : Schema) (v : Val) (hv : valid s o v = true) (pfx tl : Bytes) (hwf : wf s = true)
    (htl : tl = [] ∨ sd s = true) : dec s o pfx (enc s o v ++ tl) = .ok (v, pfx ++ enc s o v, tl) := by
  induction s generalizing v pfx tl with
  | unit =>
    rw [valid_unit.1 hv]
    simp only [dec, enc, List.nil_append, List.append_nil]
  | fail => simp [valid_fail] at hv
  | uint k =>
    obtain ⟨n, rfl, hn⟩ := valid_uint.1 hv
    simp only [dec, enc]
    rw [takeN_append _ _ _ (natBE_length k _)]
    simp only [beNat_natBE k _ hn]
  | fixed n =>
    obtain ⟨b, rfl, hb⟩ := valid_fixed.1 hv
    simp only [dec, enc]
    rw [takeN_append _ _ _ hb]
  | counted k =>
    obtain ⟨b, rfl, hb⟩ := valid_counted.1 hv
    exact counted_rt o k _ pfx tl hb
  | rest =>
    obtain ⟨b, rfl⟩ := valid_rest.1 hv
    obtain rfl : tl = [] := htl.resolve_right (by simp [sd, sdwf])
    simp only [dec, enc, List.append_nil]
  | optCounted k =>
    obtain ⟨b, rfl, hb⟩ := valid_optCounted.1 hv
    obtain rfl : tl = [] := htl.resolve_right (by simp [sd, sdwf])
    simp only [enc]
    by_cases hb0 : b = []
    · simp only [hb0, dec, if_true, List.append_nil]
    · rw [if_neg hb0, List.append_nil, dec_optCounted_ne o k pfx _ (by simp [hb0])]
      simpa using counted_rt o k b pfx [] hb
  | name rel =>
    obtain ⟨n, rfl, hn⟩ := valid_name.1 hv
    exact getName_enc rel o _ hn pfx tl
  | pair a b iha ihb =>
    -- the first component is followed by the second's encoding, so it must be self-delimiting either way
    simp only [wf, sd, sdwf, Bool.and_eq_true] at hwf htl
    obtain ⟨x, y, rfl, hx, hy⟩ := valid_pair.1 hv
    simp only [dec, enc, List.append_assoc]
    rw [iha x hx pfx _ (sd_wf a hwf.1) (.inr hwf.1)]
    simp only
    rw [ihb y hy _ tl hwf.2 (htl.imp_right And.right), List.append_assoc]
  | rep s ih =>
    obtain rfl : tl = [] := htl.resolve_right (by simp [sd, sdwf])
    simp only [wf, sdwf, Bool.and_eq_true, decide_eq_true_eq] at hwf
    obtain ⟨vs, rfl, hvs⟩ := valid_rep.1 hv
    simp only [dec, enc, List.append_nil]
    rw [repLoop_enc o s (fun v hv pfx tl => ih v hv pfx tl (sd_wf s hwf.1) (.inr hwf.1)) hwf.2 vs hvs _ pfx
      (Nat.le_refl _)]
  | sub k s ih =>
    -- the length prefix delimits the body, whatever follows
    simp only [wf, sdwf, Bool.and_eq_true] at hwf
    obtain ⟨hv, hlen⟩ := valid_sub.1 hv
    simp only [dec, enc]
    rw [List.append_assoc, takeN_append _ _ _ (natBE_length k _)]
    simp only [beNat_natBE k _ hlen]
    rw [takeN_append _ _ _ rfl]
    simp only
    have := ih v hv (pfx ++ natBE k (enc s o v).length) [] hwf.1 (.inl rfl)
    rw [List.append_nil] at this
    rw [this]
    simp
  | check f s ih =>
    obtain ⟨hv, hf⟩ := valid_check.1 hv
    simp only [dec, enc]
    rw [ih v hv pfx tl hwf htl]
    simp [hf]
  | bind hdr sel n alts ihh iha =>
    simp only [wf, sd, sdwf, Bool.and_eq_true] at hwf htl
    obtain ⟨x, y, rfl, hx, hlt, hy⟩ := valid_bind.1 hv
    simp only [dec, enc, List.append_assoc]
    rw [ihh x hx pfx _ (sd_wf hdr hwf.1) (.inr hwf.1)]
    simp only [hlt, if_true]
    rw [iha (sel x) y hy _ tl (all_range_get hwf.2 _ hlt) (htl.imp_right fun h => all_range_get h.2 _ hlt),
      List.append_assoc]

end Model
