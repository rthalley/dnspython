import Proofs.MessageCounts
import Proofs.RelSpec
/-! Compression soundness lifted from one name (`loop_sound`, C01) to every writer (`sound_spec`) and so to the whole
rendering (`render_sound`): every compression-table entry decodes, in the final buffer, to a name that `Rs.R` relates
to its key (equal up to ASCII case, or identical: the two instances of `RelSpec`). -/
namespace Model

variable {Rs : RelSpec}

/-- a name the renderer can write: absolute, possibly after appending the origin, within the DNS limits, and in the
class of names the relation `Rs` can handle -/
def NameOk (Rs : RelSpec) (origin : Option Name) (n : Name) : Prop :=
  ∃ full, wireName n origin = some full ∧ WfName full ∧ isAbs full = true ∧ Rs.Good full

theorem nameExt_sound (A : Bytes) (t : CTable) (n : Name) (origin : Option Name) (q : Bytes × CTable)
    (hok : NameOk Rs origin n) (hs : TableSound Rs.R A t) (h : nameExt A.length t n origin = some q) :
    TableSound Rs.R (A ++ q.1) (t ++ q.2) := by
  obtain ⟨full, hw, hwf, habs, hg⟩ := hok
  obtain ⟨_, hw', rfl⟩ := nameExt_some h
  cases hw.symm.trans hw'
  exact (Rs.sound A t full hwf habs hg hs).1

def RData.namesOk (Rs : RelSpec) (origin : Option Name) : RData → Prop
  | .raw _ => True
  | .name1 n => NameOk Rs origin n
  | .mx _ n => NameOk Rs origin n
  | .soa m r _ _ _ _ _ => NameOk Rs origin m ∧ NameOk Rs origin r

def RRset.namesOk (Rs : RelSpec) (origin : Option Name) (r : RRset) : Prop :=
  NameOk Rs origin r.name ∧ ∀ rd ∈ r.rdatas, rd.namesOk Rs origin

def Item.namesOk (Rs : RelSpec) (origin : Option Name) : Item → Prop
  | .q n _ _ => NameOk Rs origin n
  | .rr _ r => r.namesOk Rs origin

/-- writing names that are `NameOk` keeps the table decodable, in whatever buffer of the right length
(`x.namesOk Rs origin` unfolds to `x.namesAll (NameOk Rs origin)`, so the `namesOk` hypotheses are taken as they are) -/
theorem sound_spec (Rs : RelSpec) (origin : Option Name) : ExtSpec origin (NameOk Rs origin)
    fun off t b new => ∀ A : Bytes, A.length = off → TableSound Rs.R A t → TableSound Rs.R (A ++ b) (t ++ new) where
  bytes _ _ b A _ hs := by simpa using hs.mono b
  name hn h A hA hs := nameExt_sound A _ _ _ _ hn hs (hA ▸ h)
  seq h1 h2 A hA hs := by
    simpa [List.append_assoc] using h2 (A ++ _) (by rw [List.length_append, hA]) (h1 A hA hs)

def Message.namesOk (Rs : RelSpec) (m : Message) : Prop :=
  (∀ it ∈ m.items, it.namesOk Rs m.origin) ∧ (∀ t, m.tsig = some t → NameOk Rs m.origin t.name)

theorem rootOk (origin : Option Name) : NameOk Rs origin [[]] := by
  exact ⟨[[]], wireName_abs rfl origin, by decide, rfl, Rs.goodRoot⟩

theorem optRRset_namesOk (origin : Option Name) (o : EOpt) : (optRRset o).namesOk Rs origin := by
  refine ⟨rootOk origin, ?_⟩
  intro rd hrd
  simp [optRRset] at hrd
  subst hrd
  trivial

theorem tsigRRset_namesOk (origin : Option Name) (t : Tsig) (h : NameOk Rs origin t.name) : (tsigRRset t).namesOk Rs origin := by
  refine ⟨h, ?_⟩
  intro rd hrd
  simp [tsigRRset] at hrd
  subst hrd
  trivial

/-- the twelve header octets are written last and play no part: the three runs of `render_ok` keep the table decodable
in whatever buffer of the right length they are appended to -/
theorem render_sound (m : Message) (lim : Nat) (pt : Bool) (r : RState) (hok : m.namesOk Rs)
    (h : m.render lim pt = .ok r) : TableSound Rs.R r.out r.tbl ∧ TblBelow r := by
  obtain ⟨k, fl, b, opt', q, qo, qt, hR, -⟩ := render_ok h
  have hok2 : ∀ it ∈ optItems opt', it.namesOk Rs m.origin := by
    cases opt' with
    | none => exact fun _ hit => nomatch hit
    | some o => exact fun it hit => by cases List.mem_singleton.mp hit; exact optRRset_namesOk _ o
  have hok3 : ∀ it ∈ tsigItems m.tsig, it.namesOk Rs m.origin := by
    cases htsig : m.tsig with
    | none => exact fun _ hit => nomatch hit
    | some t => exact fun it hit => by cases List.mem_singleton.mp hit; exact tsigRRset_namesOk _ t (hok.2 t htsig)
  have s1 := (sound_spec Rs m.origin).items (fun it hit => hok.1 it (List.mem_of_mem_take hit)) hR.items.ext
    (hdrOf m.id fl r.counts) rfl (fun _ hp => nomatch hp)
  have s2 := (sound_spec Rs m.origin).items hok2 hR.opt.ext _ (by simp only [List.length_append, hdrOf_length]) s1
  have s3 := (sound_spec Rs m.origin).items hok3 hR.tsig.ext (hdrOf m.id fl r.counts ++ q.1 ++ qo.1)
    (by simp only [List.length_append, hdrOf_length]) (fun _ hp => nomatch hp)
  have n1 := (newIn_spec m.origin).items (fun it _ => it.namesAll_true) hR.items.ext
  have n2 := (newIn_spec m.origin).items (fun it _ => it.namesAll_true) hR.opt.ext
  have n3 := (newIn_spec m.origin).items (fun it _ => it.namesAll_true) hR.tsig.ext
  have hqt := hR.tsig.ext
  unfold TblBelow
  rw [hR.out, hR.tbl]
  cases htsig : m.tsig with
  | none =>
    rw [htsig] at hqt
    cases hqt
    refine ⟨by simpa using s2, fun p hp => ?_⟩
    rcases List.mem_append.mp hp with hp | hp
    · have := n1 p hp; simp [hdrOf_length]; omega
    · have := n2 p hp; simp [hdrOf_length]; omega
  | some t => exact ⟨by simpa using s3, fun p hp => by have := n3 p hp; simp [hdrOf_length]; omega⟩

end Model
