import Model.ZoneFile
import Proofs.ZoneFileInterp
/-! CNAME exclusivity is an invariant of every zone update the reader performs. -/
namespace Model

/-- a node never holds a CNAME-kind rdataset together with "other data" (a regular-kind rdataset) -/
def NodeOK (nd : Node) : Prop :=
  ¬ ((∃ r ∈ nd, classifyType r.rdtype = .cname) ∧ (∃ r ∈ nd, classifyType r.rdtype = .regular))

def ZoneOK (z : ZoneMap) : Prop := ∀ p ∈ z, NodeOK p.2

theorem nodeOK_nil : NodeOK [] := by simp [NodeOK]

theorem zoneOK_nil : ZoneOK [] := by simp [ZoneOK]

/-- `Node.replace_rdataset` (`delete_rdataset`, then `_append_rdataset` deleting the other side): what stays are the
rdatasets of other types whose kind may stand beside the new one -/
theorem nodeReplace_eq_filter (nd : Node) (rds : Rdataset) :
    nodeReplace nd rds =
      (nd.filter fun r => decide (r.rdtype ≠ rds.rdtype)).filter
        (fun r => kindsCoexist (classifyType r.rdtype) (classifyType rds.rdtype)) ++ [rds] := by
  unfold nodeReplace
  simp only
  congr 1
  split
  · rename_i h; rw [h]; rfl
  · cases classifyType rds.rdtype
    · exact List.filter_congr fun r _ => by cases classifyType r.rdtype <;> rfl
    · exact (List.filter_eq_self.mpr fun r _ => by cases classifyType r.rdtype <;> rfl).symm
    · exact List.filter_congr fun r _ => by cases classifyType r.rdtype <;> rfl

theorem mem_nodeReplace {nd : Node} {rds r : Rdataset} (h : r ∈ nodeReplace nd rds) :
    r = rds ∨ (r ∈ nd ∧ kindsCoexist (classifyType r.rdtype) (classifyType rds.rdtype) = true) := by
  rw [nodeReplace_eq_filter, List.mem_append, List.mem_filter, List.mem_filter] at h
  rcases h with ⟨⟨h, _⟩, hk⟩ | h
  · exact Or.inr ⟨h, hk⟩
  · exact Or.inl (List.mem_singleton.mp h)

/-- `Node.replace_rdataset` re-establishes exclusivity by itself -/
theorem nodeReplace_ok (nd : Node) (rds : Rdataset) (h : NodeOK nd) : NodeOK (nodeReplace nd rds) := by
  intro ⟨⟨a, ha, hac⟩, ⟨b, hb, hbr⟩⟩
  rcases mem_nodeReplace ha with rfl | ⟨ha, ka⟩ <;> rcases mem_nodeReplace hb with rfl | ⟨hb, kb⟩
  · rw [hac] at hbr; cases hbr
  · rw [hac, hbr] at kb; cases kb
  · rw [hac, hbr] at ka; cases ka
  · exact h ⟨⟨a, ha, hac⟩, ⟨b, hb, hbr⟩⟩

theorem zoneFind_ok (z : ZoneMap) (n : Name) (nd : Node) (hz : ZoneOK z) (h : zoneFind z n = some nd) : NodeOK nd := by
  unfold zoneFind at h
  cases hf : z.find? (fun p => nameEq p.1 n) with
  | none => simp [hf] at h
  | some p =>
    simp [hf] at h
    subst h
    exact hz p (List.mem_of_find?_eq_some hf)

theorem zonePut_ok (z : ZoneMap) (n : Name) (nd : Node) (hz : ZoneOK z) (hn : NodeOK nd) : ZoneOK (zonePut z n nd) := by
  unfold zonePut
  split
  · intro p hp
    simp only [List.mem_map] at hp
    obtain ⟨q, hq, rfl⟩ := hp
    split
    · exact hn
    · exact hz q hq
  · intro p hp
    simp only [List.mem_append, List.mem_singleton] at hp
    rcases hp with hp | hp
    · exact hz p hp
    · subst hp; exact hn

theorem zoneAdd_ok (z z' : ZoneMap) (eff : Option Name) (name : Name) (ttl ty : Nat) (rr : RR)
    (hz : ZoneOK z) (h : zoneAdd z eff name ttl ty rr = .ok z') : ZoneOK z' := by
  simp only [zoneAdd] at h
  split at h
  · cases h
  · split at h
    · cases h
    · simp only [Except.ok.injEq] at h
      subst h
      apply zonePut_ok _ _ _ hz
      apply nodeReplace_ok
      cases hf : zoneFind z name with
      | none => simpa using nodeOK_nil
      | some nd => simpa using zoneFind_ok z name nd hz hf

theorem addEntry_ok (z z' : ZoneMap) (eff : Option Name) (e : Entry) (hz : ZoneOK z)
    (h : addEntry z eff e = .ok z') : ZoneOK z' :=
  zoneAdd_ok z z' eff e.name e.ttl e.rdtype e.rr hz h

/-- the denotation of a trace only ever calls `txn.add` -/
theorem interpTrace_ok (t : Trace) (p : PState) (z z' : ZoneMap) (hz : ZoneOK z)
    (h : interpTrace t z = .ok (p, z')) : ZoneOK z' := by
  induction t generalizing z with
  | done _ => cases h; exact hz
  | err _ => cases h
  | entry eff e rest ih =>
    simp only [interpTrace] at h
    split at h
    · rename_i z1 hz1
      exact ih z1 (addEntry_ok z z1 eff e hz hz1) h
    · cases h

theorem readLoop_ok (fuel : Nat) (r r' : PState) (z z' : ZoneMap) (hz : ZoneOK z)
    (h : readLoop fuel r z = .ok (r', z')) : ZoneOK z' :=
  interpTrace_ok _ r' z z' hz (readLoop_eq_interp fuel r z ▸ h)

end Model
