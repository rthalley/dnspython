import Model.Dnssec
import Proofs.DnssecOrder
/-! C15: the walk of `_sign_zone_nsec` over the sorted names.  It visits exactly the names that are not beneath a
delegation (`visit_eq_secure`); its complete event sequence (which RRsets are handed to the signer, which NSEC
records are added, in which order) is a specification written over the visited names only (`fold_events`,
`walk_events`); the NSEC chain is the projection of that sequence to its NSEC records. -/
namespace Model
namespace Dnssec

/-! ## which names the walk visits

The only state the walk needs for that is the remembered delegation. -/

def visit (c : NsecConsts) (origin : Name) : Option Name → List ZNode → List ZNode
  | _, [] => []
  | d, z :: rest =>
    if skipTest d z.name then visit c origin d rest else z :: visit c origin (newDeleg c origin z) rest

theorem skipTest_of_sub {d : Option Name} {y z : Name} (h : isSubdomain y z = true) (hz : skipTest d z = true) :
    skipTest d y = true := by
  cases d with
  | none => cases hz
  | some dn =>
    obtain ⟨h1, h2⟩ := Bool.and_eq_true_iff.mp hz
    exact Bool.and_eq_true_iff.mpr ⟨h1, NameOrder.isSubdomain_trans h h2⟩

/-- a name between a cut and a name beneath that cut is beneath it too -/
theorem skipTest_between {d : Option Name} {z y : Name} (hd : ∀ dn ∈ d, cmpOrder dn z < 0) (hzy : cmpOrder z y < 0)
    (hy : skipTest d y = true) : skipTest d z = true := by
  cases d with
  | none => cases hy
  | some dn =>
    obtain ⟨h1, h2⟩ := Bool.and_eq_true_iff.mp hy
    exact Bool.and_eq_true_iff.mpr ⟨h1, NameOrder.isSubdomain_convex h2 (Int.le_of_lt (hd dn rfl)) (Int.le_of_lt hzy)⟩

/-- After `z` the walk skips what lies beneath `z` if `z` is a cut.  (The code also remembers a delegation whose name is
the empty name, but then its truthiness test never lets it skip: `isCut` has that test built in.) -/
theorem skipTest_newDeleg (c : NsecConsts) (origin : Name) (z : ZNode) (y : Name) :
    skipTest (newDeleg c origin z) y = (isCut c origin z && isSubdomain y z.name) := by
  unfold newDeleg isCut
  cases z.types.contains c.tNS && !(nameEq z.name origin) <;> rfl

/-- The walk read off the names still to come: with `d` the remembered cut, it keeps those that are neither beneath
`d` nor beneath a cut among themselves.  `d` sorts before all of them, so once one of them is not beneath `d` no later
one is (`skipTest_between`), and forgetting `d` there loses nothing. -/
theorem visit_filter (c : NsecConsts) (origin : Name) : ∀ (R : List ZNode) (d : Option Name),
    R.Pairwise (fun a b => cmpOrder a.name b.name < 0) → (∀ dn ∈ d, ∀ y ∈ R, cmpOrder dn y.name < 0) →
    visit c origin d R = R.filter fun z => !skipTest d z.name && !occluded c origin R z := by
  intro R
  induction R with
  | nil => intros; rfl
  | cons z rest ih =>
    intro d hs hd
    obtain ⟨hz, hrest⟩ := List.pairwise_cons.mp hs
    -- among `z :: rest` only `z` can be above a name of `rest`, and nothing is above `z`
    have hself : occluded c origin (z :: rest) z = false := by
      refine List.any_eq_false.mpr fun e he => ?_
      rcases List.mem_cons.mp he with rfl | he
      · cases subOf e e <;> simp
      · simp [subOf, not_sub_of_lt _ _ (hz e he)]
    have hocc : ∀ y ∈ rest, occluded c origin (z :: rest) y =
        (skipTest (newDeleg c origin z) y.name || occluded c origin rest y) := by
      intro y hy
      rw [occluded, List.any_cons, ← occluded, show subOf z y = false from not_sub_of_lt _ _ (hz y hy),
        skipTest_newDeleg]
      simp [subOf]
    simp only [visit, List.filter_cons]
    cases hb : skipTest d z.name with
    | true =>
      rw [if_pos rfl, ih d hrest fun dn hdn y hy => hd dn hdn y (List.mem_cons_of_mem _ hy)]
      simp only [Bool.not_true, Bool.false_and, Bool.false_eq_true, if_false]
      refine List.filter_congr fun y hy => ?_
      -- what is beneath the skipped `z` is beneath the remembered cut
      rw [hocc y hy]
      cases hy' : skipTest (newDeleg c origin z) y.name with
      | false => rfl
      | true =>
        rw [skipTest_newDeleg] at hy'
        rw [skipTest_of_sub (Bool.and_eq_true_iff.mp hy').2 hb]; rfl
    | false =>
      rw [if_neg Bool.false_ne_true, hself]
      refine (congrArg (z :: ·) ?_).trans (if_pos rfl).symm
      rw [ih _ hrest fun dn hdn y hy => by
        unfold newDeleg at hdn
        split at hdn
        · exact Option.some.inj hdn ▸ hz y hy
        · cases hdn]
      refine List.filter_congr fun y hy => ?_
      -- `z` follows the remembered cut without being beneath it: that cut's subtree has ended
      have : skipTest d y.name = false := Bool.eq_false_iff.mpr fun h =>
        Bool.false_ne_true (hb.symm.trans (skipTest_between (fun dn hdn => hd dn hdn z (List.mem_cons_self ..)) (hz y hy) h))
      rw [hocc y hy, this, Bool.not_or]; rfl

theorem visit_eq_secure (c : NsecConsts) (origin : Name) (L : List ZNode)
    (hs : L.Pairwise (fun a b => cmpOrder a.name b.name < 0)) : visit c origin none L = secure c origin L :=
  visit_filter c origin L none hs nofun

theorem getLast?_mem_tail_or {α} (V : List α) (z : α) (h : V.getLast? = some z) :
    V.head? = some z ∨ z ∈ V.tail := by
  cases V with
  | nil => simp at h
  | cons a as =>
    cases as with
    | nil => simp at h; left; simp [h]
    | cons b bs =>
      right
      rw [List.getLast?_cons_cons] at h
      simp only [List.tail_cons]
      exact List.mem_of_getLast? h

/-! ## specification (RFC 4035 §2.2: which RRsets of a zone are signed; RFC 4034 §4: the NSEC chain) -/

abbrev NsecRec := Name × Name × List (Nat × Bytes)

/-- the NSEC chain over a list of nodes: each points to the next, the last one to `last` (the origin);
type bitmap = the node's announced types (`nsecTypes`) plus RRSIG and NSEC -/
def chain (c : NsecConsts) (zo : Name) : List ZNode → Name → List NsecRec
  | [], _ => []
  | [z], last => [(z.name, last, fromRdtypes (nsecTypes c zo z ++ [c.tRRSIG, c.tNSEC]))]
  | z :: z' :: rest, last =>
    (z.name, z'.name, fromRdtypes (nsecTypes c zo z ++ [c.tRRSIG, c.tNSEC])) :: chain c zo (z' :: rest) last

def nsecsOf (es : List Evt) : List NsecRec :=
  es.filterMap fun e => match e with
    | .nsec o n w => some (o, n, w)
    | .sign _ _ => none

def bmOf (c : NsecConsts) (origin : Name) (v : ZNode) : List (Nat × Bytes) :=
  fromRdtypes (nsecTypes c origin v ++ [c.tRRSIG, c.tNSEC])

/-- the RRsets of a visited node that are handed to the signer: every RRset except RRSIGs; at a delegation point
only DS (the NS RRset and glue are not authoritative data of this zone) -/
def signSpec (c : NsecConsts) (origin : Name) (ws : Bool) (z : ZNode) : List Evt :=
  if ws then
    z.types.filterMap fun ty =>
      if ty = c.tRRSIG then none
      else if isCut c origin z && ty != c.tDS then none
      else some (Evt.sign z.name ty)
  else []

/-- the NSEC record of `p` pointing at `next`, and its signing -/
def linkSpec (c : NsecConsts) (origin : Name) (ws : Bool) (p : ZNode) (next : Name) : List Evt :=
  [Evt.nsec p.name next (bmOf c origin p)] ++ (if ws then [Evt.sign p.name c.tNSEC] else [])

def prevLink (c : NsecConsts) (origin : Name) (ws : Bool) (prev : Option ZNode) (next : Name) : List Evt :=
  match prev with
  | some p => linkSpec c origin ws p next
  | none => []

/-- the whole event sequence over the list of secure nodes: for each node its RRsets are signed, then the NSEC of
the previous secure node (now that its successor is known) is added and signed; at the end the last node's NSEC
points back to the origin -/
def eventsSpec (c : NsecConsts) (origin : Name) (ws : Bool) : Option ZNode → List ZNode → List Evt
  | prev, [] => prevLink c origin ws prev origin
  | prev, v :: vs => signSpec c origin ws v ++ prevLink c origin ws prev v.name ++ eventsSpec c origin ws (some v) vs

theorem optTruthy_newDeleg (c : NsecConsts) (origin : Name) (z : ZNode) :
    optTruthy (newDeleg c origin z) = isCut c origin z := by
  unfold newDeleg isCut optTruthy
  cases h1 : (z.types.contains c.tNS && !(nameEq z.name origin)) <;> simp

theorem signEvts_eq_spec (c : NsecConsts) (origin : Name) (ws : Bool) (z : ZNode) :
    signEvts c ws (newDeleg c origin z) z = signSpec c origin ws z := by
  unfold signEvts signSpec
  rw [optTruthy_newDeleg]

/-- a visited node whose NSEC is actually written: it is the node the zone holds under its name, and not empty -/
structure Good (nodes : List ZNode) (v : ZNode) : Prop where
  look : lookupNode nodes v.name = some v
  types : v.types ≠ []

theorem addNsec_full (c : NsecConsts) (origin : Name) (nodes : List ZNode) (ws : Bool) (v : ZNode) (next : Name)
    (g : Good nodes v) (hn : next ≠ []) :
    addNsec c origin nodes ws v.name next = linkSpec c origin ws v next := by
  have h1 : (v.types.length != 0) = true := by
    cases hv : v.types with
    | nil => exact absurd hv g.types
    | cons a as => rfl
  have h2 : truthy next = true := by
    cases hnx : next with
    | nil => exact absurd hnx hn
    | cons a as => rfl
  unfold addNsec
  rw [g.look]
  simp only [h1, h2, Bool.and_self, if_true, linkSpec, bmOf]

theorem linkFrom_spec (c : NsecConsts) (origin : Name) (nodes : List ZNode) (ws : Bool) (prev : Option ZNode)
    (next : Name) (hp : ∀ p ∈ prev, Good nodes p ∧ next ≠ []) :
    linkFrom c origin nodes ws (prev.map (·.name)) next = prevLink c origin ws prev next := by
  cases prev with
  | none => rfl
  | some p => exact addNsec_full c origin nodes ws p next (hp p rfl).1 (hp p rfl).2

/-- The walk over the names still to come, from any state: what it appends to `out` is the specification over the
names it visits.  The closing record is determined by `lastSecure`, so appending it to `out` lets one equation speak
for both fields of the state; skipped names leave the state untouched.  The previously visited node `prev` sorts
before the names still to come, so none of these is the empty name and the code finds every `next` truthy. -/
theorem fold_events (c : NsecConsts) (origin : Name) (nodes : List ZNode) (ws : Bool) (ho : origin ≠ []) :
    ∀ (L : List ZNode) (st : WalkSt) (prev : Option ZNode),
      L.Pairwise (fun a b => cmpOrder a.name b.name < 0) → (∀ z ∈ L, Good nodes z) →
      st.lastSecure = prev.map (·.name) → (∀ p ∈ prev, Good nodes p ∧ ∀ y ∈ L, cmpOrder p.name y.name < 0) →
      (L.foldl (walkStep c origin nodes ws) st).out ++
          linkFrom c origin nodes ws (L.foldl (walkStep c origin nodes ws) st).lastSecure origin =
        st.out ++ eventsSpec c origin ws prev (visit c origin st.delegation L) := by
  intro L
  induction L with
  | nil =>
    intro st prev _ _ hl hp
    simp only [List.foldl_nil, visit, eventsSpec, hl, linkFrom_spec c origin nodes ws prev origin fun p h => ⟨(hp p h).1, ho⟩]
  | cons z rest ih =>
    intro st prev hs hgood hl hp
    obtain ⟨hz, hrest⟩ := List.pairwise_cons.mp hs
    have hgr : ∀ y ∈ rest, Good nodes y := fun y hy => hgood y (List.mem_cons_of_mem _ hy)
    simp only [List.foldl_cons, walkStep, visit]
    cases skipTest st.delegation z.name with
    | true => exact ih st prev hrest hgr hl fun p h => ⟨(hp p h).1, fun y hy => (hp p h).2 y (List.mem_cons_of_mem _ hy)⟩
    | false =>
      simp only [Bool.false_eq_true, if_false]
      rw [ih _ (some z) hrest hgr rfl fun p h => Option.some.inj h ▸ ⟨hgood z (List.mem_cons_self ..), hz⟩, hl,
        linkFrom_spec c origin nodes ws prev z.name fun p h => ⟨(hp p h).1, fun e =>
          cmpOrder_nil_not_lt p.name (e ▸ (hp p h).2 z (List.mem_cons_self ..))⟩]
      simp only [eventsSpec, signEvts_eq_spec, List.append_assoc]

/-- The event sequence of the walk over any strictly sorted list `L` whose nodes the table `nodes` holds under their
names. -/
theorem walk_events (c : NsecConsts) (origin : Name) (nodes : List ZNode) (ws : Bool) (L : List ZNode)
    (hgood : ∀ z ∈ L, Good nodes z) (ho : origin ≠ [])
    (hs : L.Pairwise (fun a b => cmpOrder a.name b.name < 0)) :
    walkSorted c origin nodes ws L = eventsSpec c origin ws none (secure c origin L) := by
  rw [← visit_eq_secure c origin L hs]
  refine Eq.trans ?_ (fold_events c origin nodes ws ho L { delegation := none, lastSecure := none, out := [] } none
    hs hgood rfl nofun)
  simp only [walkSorted]
  generalize List.foldl (walkStep c origin nodes ws) _ L = st
  cases st.lastSecure with
  | none => exact (List.append_nil _).symm
  | some l => rfl

theorem nsecsOf_append (a b : List Evt) : nsecsOf (a ++ b) = nsecsOf a ++ nsecsOf b := by
  simp [nsecsOf, List.filterMap_append]

theorem nsecsOf_signSpec (c : NsecConsts) (origin : Name) (ws : Bool) (z : ZNode) :
    nsecsOf (signSpec c origin ws z) = [] := by
  unfold signSpec nsecsOf
  split
  · simp only [List.filterMap_filterMap, List.filterMap_eq_nil_iff]
    intro ty _
    split
    · rfl
    · split <;> rfl
  · rfl

theorem nsecsOf_linkSpec (c : NsecConsts) (origin : Name) (ws : Bool) (p : ZNode) (next : Name) :
    nsecsOf (linkSpec c origin ws p next) = [(p.name, next, bmOf c origin p)] := by
  cases ws <;> rfl

theorem nsecsOf_eventsSpec (c : NsecConsts) (origin : Name) (ws : Bool) :
    ∀ (V : List ZNode) (prev : Option ZNode),
      nsecsOf (eventsSpec c origin ws prev V) = chain c origin (prev.toList ++ V) origin := by
  intro V
  induction V with
  | nil =>
    intro prev
    cases prev with
    | none => rfl
    | some p => exact nsecsOf_linkSpec c origin ws p origin
  | cons v vs ih =>
    intro prev
    simp only [eventsSpec, nsecsOf_append, nsecsOf_signSpec, List.nil_append, ih (some v)]
    cases prev with
    | none => rfl
    | some p => simp only [prevLink, nsecsOf_linkSpec]; rfl

theorem mem_signSpec (c : NsecConsts) (origin : Name) (z : ZNode) (n : Name) (ty : Nat) :
    Evt.sign n ty ∈ signSpec c origin true z ↔
      n = z.name ∧ ty ∈ z.types ∧ ty ≠ c.tRRSIG ∧ (isCut c origin z = true → ty = c.tDS) := by
  simp only [signSpec, if_true, List.mem_filterMap, Option.ite_none_left_eq_some, Option.some.injEq, Evt.sign.injEq,
    Bool.and_eq_true, bne_iff_ne, not_and, Decidable.not_not]
  constructor
  · rintro ⟨t, ht, h1, h2, rfl, rfl⟩
    exact ⟨rfl, ht, h1, h2⟩
  · rintro ⟨rfl, ht, h1, h2⟩
    exact ⟨ty, ht, h1, h2, rfl, rfl⟩

theorem mem_prevLink (c : NsecConsts) (origin : Name) (prev : Option ZNode) (next : Name) (n : Name) (ty : Nat) :
    Evt.sign n ty ∈ prevLink c origin true prev next ↔ ∃ p ∈ prev.toList, n = p.name ∧ ty = c.tNSEC := by
  cases prev with
  | none => simp [prevLink]
  | some p => simp [prevLink, linkSpec]

theorem mem_eventsSpec (c : NsecConsts) (origin : Name) (n : Name) (ty : Nat) :
    ∀ (V : List ZNode) (prev : Option ZNode),
      Evt.sign n ty ∈ eventsSpec c origin true prev V ↔
        (∃ z ∈ prev.toList ++ V, n = z.name ∧ ty = c.tNSEC) ∨ ∃ z ∈ V, Evt.sign n ty ∈ signSpec c origin true z := by
  intro V
  induction V with
  | nil => intro prev; simp [eventsSpec, mem_prevLink]
  | cons v vs ih =>
    intro prev
    simp only [eventsSpec, List.mem_append, mem_prevLink, ih (some v), Option.toList_some, List.mem_cons,
      List.not_mem_nil, or_false, exists_or, or_and_right, exists_eq_left]
    -- the same five disjuncts on both sides, in another order
    grind

end Dnssec
end Model
