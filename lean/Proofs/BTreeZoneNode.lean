import Model.BTreeZone
/-!
The rdataset list of a node in the C20 model: the keys as dnspython builds them (`KeyWf`, `RdsOK`), `Node.replace_rdataset`
as "erase, filter by the CNAME / other-data exclusion, append" (`replaceRds_eq`), and whether the node owns NS after a
replace or a delete (`hasNS_replace`, `hasNS_erase`) — the one thing the derived state depends on.
-/
namespace Model
namespace BTZ

/-- rdataset keys as dnspython builds them: only signature types have a non-zero `covers` -/
def KeyWf (k : RdKey) : Prop := isNS k = true → k = (ConstsC20.nsType, 0)

/-- an rdataset list as `Node` keeps it: no duplicate key, and an NS key has covers = NONE -/
def RdsOK (rds : List RdKey) : Prop := rds.Nodup ∧ ∀ r ∈ rds, isNS r = true → r = (ConstsC20.nsType, 0)

theorem classify_ns : classify (ConstsC20.nsType, 0) = Kind.regular := by decide

theorem hasNS_iff {rds : List RdKey} : hasNS rds = true ↔ ∃ r ∈ rds, isNS r = true := List.any_eq_true

theorem RdsOK_nil : RdsOK [] := ⟨List.nodup_nil, by simp⟩

theorem RdsOK_erase {rds : List RdKey} (h : RdsOK rds) (k : RdKey) : RdsOK (rds.erase k) :=
  ⟨h.1.erase k, fun r hr => h.2 r (List.mem_of_mem_erase hr)⟩

theorem hasNS_erase {rds : List RdKey} (h : RdsOK rds) {k : RdKey} (hk : KeyWf k) :
    hasNS (rds.erase k) = if isNS k then false else hasNS rds := by
  rw [Bool.eq_iff_iff, hasNS_iff]
  simp only [List.Nodup.mem_erase_iff h.1]
  split
  · -- the only NS key is `k` itself
    rename_i hns
    simp only [Bool.false_eq_true, iff_false]
    rintro ⟨r, ⟨hne, hr⟩, hh⟩
    exact hne ((h.2 r hr hh).trans (hk hns).symm)
  · rename_i hns
    rw [hasNS_iff]
    exact ⟨fun ⟨r, hr, hh⟩ => ⟨r, hr.2, hh⟩, fun ⟨r, hr, hh⟩ => ⟨r, ⟨fun e => hns (e ▸ hh), hr⟩, hh⟩⟩

/-- the CNAME / other-data exclusion of `Node._append_rdataset`: whether `r` stays beside a new rdataset `k` -/
def keeps (k r : RdKey) : Bool :=
  match classify k with
  | .cname => classify r != .regular
  | .regular => classify r != .cname
  | .neutral => true

/-- `Node.replace_rdataset` without its emptiness test (filtering the empty list changes nothing) -/
theorem replaceRds_eq (rds : List RdKey) (k : RdKey) :
    replaceRds rds k = (rds.erase k).filter (keeps k) ++ [k] := by
  unfold replaceRds deleteRds appendRds keeps
  split
  · rename_i h; rw [List.isEmpty_iff.mp h]; rfl
  · cases classify k <;> simp only [List.filter_eq_self.mpr fun _ _ => rfl]

theorem hasNS_replace_self (rds : List RdKey) {k : RdKey} (hk : isNS k = true) : hasNS (replaceRds rds k) = true := by
  rw [replaceRds_eq, hasNS, List.any_append]; simp [hk]

theorem RdsOK_replace {rds : List RdKey} (h : RdsOK rds) {k : RdKey} (hk : KeyWf k) : RdsOK (replaceRds rds k) := by
  have he := RdsOK_erase h k
  have hnk : k ∉ rds.erase k := fun hm => ((List.Nodup.mem_erase_iff h.1).mp hm).1 rfl
  rw [replaceRds_eq]
  refine ⟨List.nodup_append.mpr ⟨he.1.filter _, by simp, fun a ha b hb => ?_⟩, fun r hr => ?_⟩
  · rw [List.mem_singleton.mp hb]; exact fun e' => hnk (e' ▸ (List.mem_filter.mp ha).1)
  · rcases List.mem_append.mp hr with hr | hr
    · exact he.2 r (List.mem_filter.mp hr).1
    · rw [List.mem_singleton.mp hr]; exact hk

theorem hasNS_replace {rds : List RdKey} (h : RdsOK rds) {k : RdKey} (hk : KeyWf k) :
    hasNS (replaceRds rds k) =
      if isNS k then true else if classify k = Kind.cname then false else hasNS rds := by
  have he := RdsOK_erase h k
  -- NS keys are of the regular kind: kept beside a regular or neutral key, dropped beside a CNAME
  have hkeep : ((rds.erase k).filter (keeps k)).any isNS =
      (!decide (classify k = Kind.cname) && (rds.erase k).any isNS) := by
    rw [List.any_filter, Bool.eq_iff_iff]
    simp only [List.any_eq_true, Bool.and_eq_true, Bool.not_eq_true', decide_eq_false_iff_not]
    have hreg : ∀ r ∈ rds.erase k, isNS r = true → (keeps k r = true ↔ ¬ classify k = Kind.cname) := fun r hr hh => by
      rw [keeps, he.2 r hr hh, classify_ns]; cases classify k <;> simp
    exact ⟨fun ⟨r, hr, h1, h2⟩ => ⟨(hreg r hr h2).mp h1, r, hr, h2⟩,
      fun ⟨h1, r, hr, h2⟩ => ⟨r, hr, (hreg r hr h2).mpr h1, h2⟩⟩
  unfold hasNS at *
  rw [replaceRds_eq, List.any_append, hkeep, List.any_cons, List.any_nil, Bool.or_false]
  have herase := hasNS_erase h hk
  unfold hasNS at herase
  rw [herase]
  cases isNS k <;> by_cases hc : classify k = Kind.cname <;> simp [hc]

end BTZ
end Model
