import Model.Tsig
import Proofs.BytesAt
import Proofs.TsigRfc
/-! Octet strings as the TSIG model writes and reads them.  Where a layout stands (`At`, Proofs/BytesAt) the readers
`rd16/rd32/rd48/slice` return what `be`/`u16`/`u32` wrote there; conversely, in a message of octets `< 256`, what the readers
return at `p` stands at `p`. -/
namespace Model.Tsig
open Model Rfc8945

theorem of_ite_error_eq_ok {ε α : Type} {c : Prop} [Decidable c] {e : ε} {x : Except ε α} {a : α}
    (h : (if c then .error e else x) = .ok a) : ¬ c ∧ x = .ok a := by
  by_cases hc : c
  · rw [if_pos hc] at h; cases h
  · rw [if_neg hc] at h; exact ⟨hc, h⟩

theorem be_length (k n : Nat) : (be k n).length = k := by
  induction k generalizing n with
  | zero => rfl
  | succ k ih => simp [be, ih]

theorem u16_eq_be (n : Nat) : u16 n = be 2 n := by
  simp [u16, be]

theorem u32_eq_be (n : Nat) : u32 n = be 4 n := by
  simp [u32, be, Nat.div_div_eq_div_mul]

theorem u16_length (n : Nat) : (u16 n).length = 2 := rfl
theorem u32_length (n : Nat) : (u32 n).length = 4 := rfl

theorem be_split (j k a b : Nat) (hb : b < 256 ^ k) : be (j + k) (a * 256 ^ k + b) = be j a ++ be k b := by
  induction k generalizing b with
  | zero => simp [be, show b = 0 by simpa using hb]
  | succ k ih =>
    have hd : (a * 256 ^ (k + 1) + b) / 256 = a * 256 ^ k + b / 256 := by
      rw [Nat.pow_succ, ← Nat.mul_assoc, Nat.add_comm, Nat.add_mul_div_right _ _ (by decide), Nat.add_comm]
    have hm : (a * 256 ^ (k + 1) + b) % 256 = b % 256 := by
      rw [Nat.pow_succ, ← Nat.mul_assoc, Nat.add_comm, Nat.add_mul_mod_self_right]
    have hb' : b / 256 < 256 ^ k := by
      rw [Nat.div_lt_iff_lt_mul (by decide), ← Nat.pow_succ]; exact hb
    rw [← Nat.add_assoc, be, be, hd, hm, ih _ hb', List.append_assoc]

theorem be_inj (k a b : Nat) (ha : a < 256 ^ k) (hb : b < 256 ^ k) (h : be k a = be k b) : a = b := by
  induction k generalizing a b with
  | zero => simp at ha hb; omega
  | succ k ih =>
    rw [Nat.pow_succ] at ha hb
    obtain ⟨h1, h2⟩ := List.append_inj h (by rw [be_length, be_length])
    have := ih _ _ (by omega) (by omega) h1
    simp at h2
    omega

theorem be_div_mod (j k n m : Nat) (hm : 256 ^ k = m) : be (j + k) n = be j (n / m) ++ be k (n % m) := by
  subst hm
  have := be_split j k (n / 256 ^ k) (n % 256 ^ k) (Nat.mod_lt _ (Nat.pow_pos (by decide)))
  rwa [Nat.div_add_mod'] at this

theorem timeEncoded_eq_be (t f : Nat) : timeEncoded t f = be 6 t ++ be 2 f := by
  have hc : ConstsC14.timeUpperMask = 2 ^ 16 - 1 ∧ ConstsC14.timeLowerMask = 2 ^ 32 - 1 ∧ ConstsC14.timeUpperShift = 32 := by
    decide
  have hu : ∀ n, u16 (n % 2 ^ 16) = u16 n := fun n => by simp [u16]; omega
  unfold timeEncoded
  rw [hc.1, hc.2.1, hc.2.2, Nat.and_two_pow_sub_one_eq_mod, Nat.and_two_pow_sub_one_eq_mod, Nat.shiftRight_eq_div_pow, hu,
    be_div_mod 2 4 t (2 ^ 32) rfl, u16_eq_be, u16_eq_be, u32_eq_be]

theorem rd16_congr (a b : Bytes) (i : Nat) (h0 : a[i]? = b[i]?) (h1 : a[i + 1]? = b[i + 1]?) : rd16 a i = rd16 b i := by
  simp only [rd16, List.getD_eq_getElem?_getD, h0, h1]

/-- `w'` carries the octets of `w` on `[a, b)` -/
def AgreeOn (w w' : Bytes) (a b : Nat) : Prop := ∀ i, a ≤ i → i < b → w'[i]? = w[i]?

theorem AgreeOn.mono {w w' : Bytes} {a b a' b' : Nat} (h : AgreeOn w w' a b) (ha : a ≤ a') (hb : b' ≤ b) :
    AgreeOn w w' a' b' := fun i h1 h2 => h i (Nat.le_trans ha h1) (Nat.lt_of_lt_of_le h2 hb)

theorem AgreeOn.append {w w' : Bytes} {a b c : Nat} (h1 : AgreeOn w w' a b) (h2 : AgreeOn w w' b c) : AgreeOn w w' a c :=
  fun i ha hc => if hb : i < b then h1 i ha hb else h2 i (Nat.le_of_not_lt hb) hc

/-- agreement on a non-empty range that lies inside `w` says that it lies inside `w'` too -/
theorem AgreeOn.le {w w' : Bytes} {a b : Nat} (h : AgreeOn w w' a b) (hab : a < b) (hb : b ≤ w.length) : b ≤ w'.length := by
  have e := h (b - 1) (by omega) (by omega)
  rw [List.getElem?_eq_getElem (show b - 1 < w.length by omega)] at e
  have := (List.getElem?_eq_some_iff.mp e).1
  omega

theorem AgreeOn.getD {w w' : Bytes} {a b : Nat} (h : AgreeOn w w' a b) (i : Nat) (ha : a ≤ i) (hb : i < b) :
    w'.getD i 0 = w.getD i 0 := by
  rw [List.getD_eq_getElem?_getD, List.getD_eq_getElem?_getD, h i ha hb]

theorem AgreeOn.rd16 {w w' : Bytes} {a b : Nat} (h : AgreeOn w w' a b) (i : Nat) (ha : a ≤ i) (hb : i + 2 ≤ b) :
    rd16 w' i = rd16 w i :=
  rd16_congr w' w i (h i ha (by omega)) (h (i + 1) (by omega) (by omega))

theorem rd16_append_left (w junk : Bytes) (i : Nat) (h : i + 2 ≤ w.length) : rd16 (w ++ junk) i = rd16 w i :=
  rd16_congr _ _ i (List.getElem?_append_left (by omega)) (List.getElem?_append_left (by omega))

theorem getD_drop (w : Bytes) (p i : Nat) : (w.drop p).getD i 0 = w.getD (p + i) 0 := by
  rw [List.getD_eq_getElem?_getD, List.getD_eq_getElem?_getD, List.getElem?_drop]

theorem rd16_drop (w : Bytes) (p i : Nat) : rd16 (w.drop p) i = rd16 w (p + i) := by
  unfold rd16; rw [getD_drop, getD_drop, Nat.add_assoc]

theorem _root_.Model.At.agreeOn {w w' x : Bytes} {p : Nat} (h : At w p x) (h' : At w' p x) : AgreeOn w w' p (p + x.length) := by
  have key : ∀ {v : Bytes}, At v p x → ∀ i, i < x.length → v[p + i]? = x[i]? := fun hv i hi => by
    rw [← List.getElem?_drop, hv.drop, List.getElem?_append_left hi]
  intro j hj hj'
  obtain ⟨i, rfl⟩ : ∃ i, j = p + i := ⟨j - p, by omega⟩
  rw [key h i (by omega), key h' i (by omega)]

theorem getD_at {w r : Bytes} {p c : Nat} (h : At w p (c :: r)) : w.getD p 0 = c := by
  have := getD_drop w p 0
  rwa [h.drop, Nat.add_zero, eq_comm] at this

theorem rd16_at {w : Bytes} {p n : Nat} (h : At w p (be 2 n)) (hn : n < 65536) : rd16 w p = n := by
  have : rd16 (be 2 n ++ w.drop (p + (be 2 n).length)) 0 = n := by simp [rd16, be]; omega
  rw [← this, ← h.drop, rd16_drop]; rfl

theorem rd32_at {w : Bytes} {p n : Nat} (h : At w p (be 4 n)) (hn : n < 4294967296) : rd32 w p = n := by
  rw [be_div_mod 2 2 n 65536 rfl, At.append, be_length] at h
  unfold rd32
  rw [rd16_at h.1 (by omega), rd16_at h.2 (Nat.mod_lt _ (by decide))]
  exact Nat.div_add_mod' n 65536

theorem rd48_at {w : Bytes} {p n : Nat} (h : At w p (be 6 n)) (hn : n < 281474976710656) : rd48 w p = n := by
  rw [be_div_mod 2 4 n 4294967296 rfl, At.append, be_length] at h
  unfold rd48
  rw [rd16_at h.1 (by omega), rd32_at h.2 (Nat.mod_lt _ (by decide))]
  exact Nat.div_add_mod' n 4294967296

theorem slice_at {w x : Bytes} {p q : Nat} (h : At w p x) (hq : q = p + x.length) : slice w p q = x := by
  obtain ⟨a, r, rfl, rfl⟩ := h
  subst hq
  unfold slice
  rw [← List.length_append, List.take_left' rfl, List.drop_left]

theorem slice_length (w : Bytes) (a b : Nat) (hb : b ≤ w.length) : (slice w a b).length = b - a := by
  unfold slice; simp; omega

theorem at_slice (w : Bytes) {a b : Nat} (hab : a ≤ b) (hb : b ≤ w.length) : At w a (slice w a b) := by
  refine .of_drop (r := w.drop b) (by omega) ?_
  unfold slice
  conv => lhs; rw [← List.take_append_drop b w]
  rw [List.drop_append_of_le_length (by simp; omega)]

def OctetsOk (w : Bytes) : Prop := ∀ x ∈ w, x < 256

theorem getD_lt (w : Bytes) (h : OctetsOk w) (i : Nat) : w.getD i 0 < 256 := by
  unfold List.getD
  cases hi : w[i]? with
  | none => simp
  | some x => simp; exact h x (List.mem_of_getElem? hi)

theorem rd16_lt (w : Bytes) (h : OctetsOk w) (i : Nat) : rd16 w i < 65536 := by
  have a := getD_lt w h i
  have b := getD_lt w h (i + 1)
  unfold rd16; omega

theorem rd32_lt (w : Bytes) (h : OctetsOk w) (i : Nat) : rd32 w i < 4294967296 := by
  have a := rd16_lt w h i
  have b := rd16_lt w h (i + 2)
  unfold rd32; omega

theorem rd48_lt (w : Bytes) (h : OctetsOk w) (i : Nat) : rd48 w i < 281474976710656 := by
  have a := rd16_lt w h i
  have b := rd32_lt w h (i + 2)
  unfold rd48; omega

/-- in messages of octets, fields that read alike are written alike -/
theorem rd16_inj (w w' : Bytes) (ho : OctetsOk w) (ho' : OctetsOk w') (i : Nat) (hl : i + 2 ≤ w.length ∧ i + 2 ≤ w'.length)
    (h : rd16 w' i = rd16 w i) : AgreeOn w w' i (i + 2) := by
  have a := getD_lt w ho i
  have b := getD_lt w ho (i + 1)
  have a' := getD_lt w' ho' i
  have b' := getD_lt w' ho' (i + 1)
  unfold rd16 at h
  intro j hj hj'
  have e : w'.getD j 0 = w.getD j 0 := by
    obtain rfl | rfl : j = i ∨ j = i + 1 := by omega
    · omega
    · omega
  have l : j < w.length := Nat.lt_of_lt_of_le hj' hl.1
  have l' : j < w'.length := Nat.lt_of_lt_of_le hj' hl.2
  rw [List.getD_eq_getElem?_getD, List.getD_eq_getElem?_getD, List.getElem?_eq_getElem l, List.getElem?_eq_getElem l'] at e
  rw [List.getElem?_eq_getElem l, List.getElem?_eq_getElem l']
  exact congrArg some e

theorem rd32_inj (w w' : Bytes) (ho : OctetsOk w) (ho' : OctetsOk w') (i : Nat) (hl : i + 4 ≤ w.length ∧ i + 4 ≤ w'.length)
    (h : rd32 w' i = rd32 w i) : AgreeOn w w' i (i + 4) := by
  have a := rd16_lt w ho i
  have b := rd16_lt w ho (i + 2)
  have a' := rd16_lt w' ho' i
  have b' := rd16_lt w' ho' (i + 2)
  unfold rd32 at h
  exact (rd16_inj w w' ho ho' i ⟨Nat.le_trans (Nat.le_add_right _ 2) hl.1, Nat.le_trans (Nat.le_add_right _ 2) hl.2⟩ (by omega)).append
    (rd16_inj w w' ho ho' (i + 2) hl (by omega))

/-- conversely, in a message of octets what the readers return stands there -/
theorem at_rd16 {w : Bytes} (ho : OctetsOk w) {p : Nat} (hp : p + 2 ≤ w.length) : At w p (be 2 (rd16 w p)) := by
  have a := getD_lt w ho p
  have b := getD_lt w ho (p + 1)
  have e : be 2 (rd16 w p) = [w.getD p 0, w.getD (p + 1) 0] := by
    have := be_split 1 1 (w.getD p 0) (w.getD (p + 1) 0) b
    rw [rd16, this, be, be, be, be, Nat.mod_eq_of_lt a, Nat.mod_eq_of_lt b]; rfl
  refine .of_drop (r := w.drop (p + 2)) (by omega) ?_
  rw [e, List.getD_eq_getElem?_getD, List.getD_eq_getElem?_getD, List.getElem?_eq_getElem (by omega), List.getElem?_eq_getElem (by omega),
    List.drop_eq_getElem_cons (by omega), List.drop_eq_getElem_cons (by omega)]
  rfl

theorem at_rd48 {w : Bytes} (ho : OctetsOk w) {p : Nat} (hp : p + 6 ≤ w.length) : At w p (be 6 (rd48 w p)) := by
  rw [rd48, be_split 2 4 _ _ (rd32_lt w ho _), rd32, be_split 2 2 _ _ (rd16_lt w ho _)]
  simp only [At.append, be_length]
  exact ⟨at_rd16 ho (by omega), at_rd16 ho (by omega), at_rd16 ho (by omega)⟩

end Model.Tsig
