import Proofs.ParseRR
/-! Parsing back a whole section.  `find_rrset` + `Rdataset.add` rebuild a well-formed record set from its records, so
every record set of a well-formed section comes back, in order. -/
namespace Model

variable {Rs : RelSpec}

/-- element-wise relation of two lists of equal length -/
inductive SimList {α : Type} (R : α → α → Prop) : List α → List α → Prop
  | nil : SimList R [] []
  | cons {a b : α} {as bs : List α} : R a b → SimList R as bs → SimList R (a :: as) (b :: bs)

theorem SimList.snoc {α : Type} {R : α → α → Prop} {as bs : List α} {a b : α} (h : SimList R as bs) (hab : R a b) :
    SimList R (as ++ [a]) (bs ++ [b]) := by
  induction h with
  | nil => exact SimList.cons hab SimList.nil
  | cons h1 _ ih => exact SimList.cons h1 ih

theorem SimList.length_eq {α : Type} {R : α → α → Prop} {as bs : List α} (h : SimList R as bs) : as.length = bs.length := by
  induction h with
  | nil => rfl
  | cons _ _ ih => simp [ih]

theorem SimList.mem_left {α : Type} {R : α → α → Prop} {as bs : List α} (h : SimList R as bs) {a : α} (ha : a ∈ as) :
    ∃ b ∈ bs, R a b := by
  induction h with
  | nil => simp at ha
  | cons h1 _ ih =>
    rcases List.mem_cons.mp ha with rfl | h'
    · exact ⟨_, by simp, h1⟩
    · obtain ⟨b, hb, hr⟩ := ih h'
      exact ⟨b, by simp [hb], hr⟩

theorem SimList.map {α : Type} {R : α → α → Prop} (f : α → α) (hf : ∀ a b, R a b → R (f a) (f b)) {l l' : List α}
    (h : SimList R l l') : SimList R (l.map f) (l'.map f) := by
  induction h with
  | nil => exact SimList.nil
  | cons hab _ ih => exact SimList.cons (hf _ _ hab) ih

theorem SimList.eq_of_forall {α : Type} {R : α → α → Prop} (hR : ∀ a b, R a b → a = b) {l l' : List α}
    (h : SimList R l l') : l = l' := by
  induction h with
  | nil => rfl
  | cons hab _ ih => rw [hR _ _ hab, ih]

def RRset.sim (Rs : RelSpec) (a b : RRset) : Prop :=
  Rs.R a.name b.name ∧ a.rdclass = b.rdclass ∧ a.rdtype = b.rdtype ∧ a.covers = b.covers ∧
    a.deleting = b.deleting ∧ a.ttl = b.ttl ∧ SimList (RData.sim Rs) a.rdatas b.rdatas

theorem eqv_of_sim {a a' b b' : RData} (ha : a'.sim Rs a) (hb : b'.sim Rs b) : a'.eqv b' = a.eqv b := by
  cases a <;> cases a' <;> simp only [RData.sim] at ha <;> (try exact ha.elim) <;>
    cases b <;> cases b' <;> simp only [RData.sim] at hb <;> (try exact hb.elim) <;> simp only [RData.eqv]
  · rw [ha, hb]
  · have h1 : lowerName _ = lowerName _ := Rs.toEqv ha
    have h2 : lowerName _ = lowerName _ := Rs.toEqv hb
    rw [h1, h2]
  · have h1 : lowerName _ = lowerName _ := Rs.toEqv ha.2
    have h2 : lowerName _ = lowerName _ := Rs.toEqv hb.2
    rw [ha.1, hb.1, h1, h2]
  · obtain ⟨a1, a2, a3, a4, a5, a6, a7⟩ := ha
    obtain ⟨b1, b2, b3, b4, b5, b6, b7⟩ := hb
    have h1 : lowerName _ = lowerName _ := Rs.toEqv a1
    have h2 : lowerName _ = lowerName _ := Rs.toEqv a2
    have h3 : lowerName _ = lowerName _ := Rs.toEqv b1
    have h4 : lowerName _ = lowerName _ := Rs.toEqv b2
    rw [h1, h2, h3, h4, a3, a4, a5, a6, a7, b3, b4, b5, b6, b7]

theorem rdCovers_of_sim {rdtype : Nat} {a a' : RData} (h : a'.sim Rs a) : rdCovers rdtype a' = rdCovers rdtype a := by
  cases a <;> cases a' <;> simp only [RData.sim] at h <;> (try exact h.elim) <;> simp [rdCovers]
  rw [h]

theorem updLast_append_last (p : RRset → Bool) (f : RRset → RRset) (L : List RRset) (x : RRset) (hx : p x = true) :
    updLast p f (L ++ [x]) = some (L ++ [f x]) := by
  induction L with
  | nil => simp [updLast, hx]
  | cons y rest ih => simp [updLast, ih]

theorem updLast_none (p : RRset → Bool) (f : RRset → RRset) (L : List RRset) (h : ∀ x ∈ L, p x = false) :
    updLast p f L = none := by
  induction L with
  | nil => rfl
  | cons y rest ih =>
    simp only [updLast]
    rw [ih (fun x hx => h x (by simp [hx]))]
    simp [h y (by simp)]

theorem sectionAdd_first (L : List RRset) (name : Name) (rdclass rdtype covers : Nat) (rd : RData) (ttl : Nat)
    (hnew : ∀ x ∈ L, keyMatch name rdclass rdtype covers none x = false) :
    sectionAdd L name rdclass rdtype covers none false (some (rd, ttl)) =
      L ++ [{ name := name, rdclass := rdclass, rdtype := rdtype, covers := covers, deleting := none, ttl := ttl,
              rdatas := [rd] }] := by
  unfold sectionAdd
  simp only [Bool.false_eq_true, if_false]
  rw [updLast_none _ _ L hnew]
  simp [rrsetAdd]

theorem sectionAdd_next (L : List RRset) (cur : RRset) (name : Name) (rd : RData)
    (hname : lowerName cur.name = lowerName name) (hdel : cur.deleting = none)
    (hne : cur.rdatas ≠ []) (hsing : cur.rdtype ∉ ConstsC03.singletons)
    (hfresh : ∀ x ∈ cur.rdatas, x.eqv rd = false) :
    sectionAdd (L ++ [cur]) name cur.rdclass cur.rdtype cur.covers none false (some (rd, cur.ttl)) =
      L ++ [{ cur with rdatas := cur.rdatas ++ [rd] }] := by
  unfold sectionAdd
  simp only [Bool.false_eq_true, if_false]
  have hk : keyMatch name cur.rdclass cur.rdtype cur.covers none cur = true := by
    simp [keyMatch, hname, hdel]
  rw [updLast_append_last _ _ L cur hk]
  simp only
  congr 2
  unfold rrsetAdd
  have h0 : ¬ cur.rdatas.length = 0 := by
    intro h; exact hne (List.length_eq_zero_iff.mp h)
  have hany : (cur.rdatas.any fun x => x.eqv rd) = false := by
    rw [List.any_eq_false]; intro x hx; simp [hfresh x hx]
  simp [h0, hsing, hany]

theorem parseSection_add (cfg : PCfg) (upd : Bool) (w : Bytes) (sec count : Nat) (a b : Nat) : ∀ (i : Nat) (st : PState),
    parseSection cfg upd w sec count (a + b) i st =
      match parseSection cfg upd w sec count a i st with
      | .error e => .error e
      | .ok st1 => parseSection cfg upd w sec count b (i + a) st1 := by
  induction a with
  | zero => intro i st; rw [Nat.zero_add, Nat.add_zero]; rfl
  | succ n ih =>
    intro i st
    rw [show n + 1 + b = (n + b) + 1 by omega]
    simp only [parseSection]
    cases parseRR cfg upd w sec count i st with
    | error e => rfl
    | ok st1 => exact (ih (i + 1) st1).trans (by rw [show i + 1 + n = i + (n + 1) by omega])

theorem readSections_add (cfg : PCfg) (upd : Bool) (w : Bytes) (nq n₁ n₂ c₃ a b : Nat) (st : PState) :
    readSections cfg upd w nq n₁ n₂ c₃ (a + b) st =
      match readSections cfg upd w nq n₁ n₂ c₃ a st with
      | .error e => .error e
      | .ok s => parseSection cfg upd w 3 c₃ b a s := by
  unfold readSections
  cases readToAuthority cfg upd w nq n₁ n₂ st with
  | error e => rfl
  | ok s => exact (parseSection_add ..).trans (by rw [Nat.zero_add])

theorem parseSection_one (cfg : PCfg) (upd : Bool) (w : Bytes) (sec count i : Nat) (st : PState) :
    parseSection cfg upd w sec count 1 i st = parseRR cfg upd w sec count i st := by
  simp only [parseSection]
  cases parseRR cfg upd w sec count i st <;> rfl

/-- the record set under construction at the end of a section agrees with what has been read so far -/
structure CurOk (Rs : RelSpec) (cur : RRset) (owner : Name) (rdclass rdtype cov ttl : Nat) (done : List RData) : Prop where
  name : Rs.R cur.name owner
  rdclass : cur.rdclass = rdclass
  rdtype : cur.rdtype = rdtype
  covers : cur.covers = cov
  deleting : cur.deleting = none
  ttl : cur.ttl = ttl
  rdatas : SimList (RData.sim Rs) cur.rdatas done

theorem keyMatch_name_congr (a b : Name) (h : lowerName a = lowerName b) (rdclass rdtype covers : Nat)
    (d : Option Nat) (x : RRset) : keyMatch a rdclass rdtype covers d x = keyMatch b rdclass rdtype covers d x := by
  simp [keyMatch, h]

theorem keyMatch_sim (n : Name) (rdclass rdtype covers : Nat) (d : Option Nat) (x x' : RRset) (h : x'.sim Rs x) :
    keyMatch n rdclass rdtype covers d x' = keyMatch n rdclass rdtype covers d x := by
  obtain ⟨h1, h2, h3, h4, h5, _, _⟩ := h
  simp only [keyMatch]
  rw [show lowerName x'.name = lowerName x.name from Rs.toEqv h1, h2, h3, h4, h5]

/-- what the end of the section holds while a record set is being read: nothing yet, its key being new in the section —
or the record set built from the records read so far -/
def Built (Rs : RelSpec) (owner : Name) (rdclass rdtype cov ttl : Nat) (L : List RRset) (done : List RData)
    (cs : List RRset) : Prop :=
  (done = [] ∧ cs = [] ∧ ∀ x ∈ L, keyMatch owner rdclass rdtype cov none x = false) ∨
    (done ≠ [] ∧ ∃ cur, cs = [cur] ∧ CurOk Rs cur owner rdclass rdtype cov ttl done)

/-- One more record of the set, whatever the case of its owner and of the names in its RDATA: `find_rrset` creates the
record set, or finds the one being built at the end of the section, and `add` appends the new rdata. -/
theorem Built.add {owner : Name} {rdclass rdtype cov ttl : Nat} {L cs : List RRset} {done : List RData}
    (hb : Built Rs owner rdclass rdtype cov ttl L done cs) {owner' : Name} {rd rd' : RData} (hown' : Rs.R owner' owner)
    (hsim : rd'.sim Rs rd) (hcov : rdCovers rdtype rd = cov) (hfresh : ∀ x ∈ done, x.eqv rd = false)
    (hsing : rdtype ∈ ConstsC03.singletons → done = []) :
    ∃ cur', sectionAdd (L ++ cs) owner' rdclass rdtype (rdCovers rdtype rd') none false (some (rd', ttl)) = L ++ [cur'] ∧
      CurOk Rs cur' owner rdclass rdtype cov ttl (done ++ [rd]) := by
  rw [rdCovers_of_sim hsim, hcov]
  rcases hb with ⟨rfl, rfl, hnew⟩ | ⟨hdne, cur, rfl, hcok⟩
  · refine ⟨⟨owner', rdclass, rdtype, cov, none, ttl, [rd']⟩, ?_, hown', rfl, rfl, rfl, rfl, rfl,
      SimList.cons hsim SimList.nil⟩
    rw [List.append_nil]
    apply sectionAdd_first
    intro x hx
    rw [keyMatch_name_congr owner' owner (Rs.toEqv hown')]
    exact hnew x hx
  · refine ⟨{ cur with rdatas := cur.rdatas ++ [rd'] }, ?_,
      hcok.name, hcok.rdclass, hcok.rdtype, hcok.covers, hcok.deleting, hcok.ttl, hcok.rdatas.snoc hsim⟩
    have hne : cur.rdatas ≠ [] := by
      intro he
      have := hcok.rdatas.length_eq
      rw [he] at this
      exact hdne (List.length_eq_zero_iff.mp this.symm)
    have hfr : ∀ x ∈ cur.rdatas, x.eqv rd' = false := by
      intro x hx
      obtain ⟨d, hd, hxd⟩ := hcok.rdatas.mem_left hx
      rw [eqv_of_sim hxd hsim]
      exact hfresh d hd
    rw [← hcok.rdclass, ← hcok.rdtype, ← hcok.covers, ← hcok.ttl]
    exact sectionAdd_next L cur owner' rd' ((Rs.toEqv hcok.name).trans (Rs.toEqv hown').symm) hcok.deleting hne
      (fun hmem => hdne (hsing (hcok.rdtype ▸ hmem))) hfr

/-- the records of one record set, the first `done` of them read already -/
theorem reads_rds {cfg : PCfg} (horg : cfg.origin = none) (hnorr : cfg.oneRRPerRRset = false)
    {owner : Name} {rdtype rdclass ttl cov : Nat} (hown : NameOk Rs none owner) (ht : rdtype < 65536)
    (hc : rdclass < 65536) (httl : ttl ≤ ConstsC03.ttlClampAbove)
    (hns : rdtype ≠ ConstsC03.typeOPT ∧ rdtype ≠ ConstsC03.typeTSIG) {sec : Nat} (count : Nat) (rest : List RData) :
    ∀ {t : CTable} {q : Bytes × CTable} (i : Nat) {st : PState} {L cs : List RRset} {done : List RData},
      st.section sec = L ++ cs → Built Rs owner rdclass rdtype cov ttl L done cs →
      (∀ rd ∈ rest, rd.valid Rs ∧ shapeOf rdtype = rd.shape ∧ rdCovers rdtype rd = cov) →
      (∀ rd ∈ rest, ∀ x ∈ done, x.eqv rd = false) → rest.Pairwise (fun a b => a.eqv b = false) →
      (rdtype ∈ ConstsC03.singletons → (done ++ rest).length ≤ 1) →
      rdsExt owner rdtype rdclass ttl none st.cur t rest = .ok q →
      Reads Rs t st.cur q.1 q.2 (fun W => parseSection cfg false W sec count rest.length i st) fun st' =>
        ∃ cs', Built Rs owner rdclass rdtype cov ttl L (done ++ rest) cs' ∧
          st' = ({ st with cur := st.cur + q.1.length } : PState).setSection sec (L ++ cs') := by
  induction rest with
  | nil =>
    intro t q i st L cs done hsec hb _ _ _ _ h
    cases h
    exact Reads.nil ⟨cs, by simpa using hb, by rw [← hsec]; exact (setSection_self st sec).symm⟩
  | cons rd rest ih =>
    intro t q i st L cs done hsec hb hall hfresh hpw hsing h
    obtain ⟨q1, q2, h1, h2, rfl⟩ := rdsExt_cons_ok h
    obtain ⟨hv, hshape, hcov⟩ := hall rd (by simp)
    refine (reads_rr horg (upd := false) (sec := sec) count i (rdclass' := rdclass) (deleting' := none) rfl hown hv hshape ht hc httl hns h1).seq
      (g := fun W s => parseSection cfg false W sec count rest.length (i + 1) s) ?_ _ (fun _ => rfl)
    rintro s hcs ⟨owner', rd', hown', hsim, rfl⟩
    obtain ⟨cur', hadd, hcok⟩ := hb.add (ttl := ttl) hown' hsim hcov (fun x hx => hfresh rd (by simp) x hx) (by
      intro hmem
      have := hsing hmem
      simp only [List.length_append, List.length_cons] at this
      exact List.length_eq_zero_iff.mp (by omega))
    rw [hsec, Bool.or_false, hnorr, hadd] at hcs ⊢
    rw [← hcs] at h2
    refine (ih (i + 1) (section_setSection ..) (Or.inr ⟨by simp, cur', rfl, hcok⟩) (fun x hx => hall x (by simp [hx]))
      (by
        intro x hx d hd
        rcases List.mem_append.mp hd with hd | hd
        · exact hfresh x (by simp [hx]) d hd
        · simp at hd; subst hd
          exact (List.pairwise_cons.mp hpw).1 x hx)
      (List.pairwise_cons.mp hpw).2 (by simpa using hsing) h2).mono ?_
    rintro s' - ⟨cs', hb', rfl⟩
    refine ⟨cs', by simpa using hb', ?_⟩
    rw [setSection_setSection, cur_setSection, List.length_append, Nat.add_assoc]

/-- what the library's own constructors guarantee of a record set in an answer/authority/additional section of a
non-update message, plus the field ranges `struct.pack` accepts -/
structure RRsetOk (Rs : RelSpec) (r : RRset) : Prop where
  name : NameOk Rs none r.name
  rdtype : r.rdtype < 65536
  rdclass : r.rdclass < 65536
  ttl : r.ttl ≤ ConstsC03.ttlClampAbove
  notSpecial : r.rdtype ≠ ConstsC03.typeOPT ∧ r.rdtype ≠ ConstsC03.typeTSIG
  deleting : r.deleting = none
  nonempty : r.rdatas ≠ []
  rds : ∀ rd ∈ r.rdatas, rd.valid Rs ∧ shapeOf r.rdtype = rd.shape ∧ rdCovers r.rdtype rd = r.covers
  distinct : r.rdatas.Pairwise (fun a b => a.eqv b = false)
  single : r.rdtype ∈ ConstsC03.singletons → r.rdatas.length ≤ 1

theorem reads_rrset {cfg : PCfg} (horg : cfg.origin = none) (hnorr : cfg.oneRRPerRRset = false) {r : RRset}
    (hr : RRsetOk Rs r) {t : CTable} {q : Bytes × CTable × Nat} {sec : Nat} (count i : Nat) {st : PState}
    (hnew : ∀ x ∈ st.section sec, keyMatch r.name r.rdclass r.rdtype r.covers none x = false)
    (h : rrsetExt st.cur t none r = .ok q) :
    Reads Rs t st.cur q.1 q.2.1 (fun W => parseSection cfg false W sec count q.2.2 i st) fun st' =>
      ∃ r', r'.sim Rs r ∧
        st' = ({ st with cur := st.cur + q.1.length } : PState).setSection sec (st.section sec ++ [r']) := by
  have hwc : r.wireClass = r.rdclass := by simp [RRset.wireClass, hr.deleting]
  rcases rrsetExt_ok h with ⟨he, _⟩ | ⟨_, q1, h1, rfl⟩
  · exact absurd he hr.nonempty
  rw [hwc] at h1
  refine (reads_rds horg hnorr hr.name hr.rdtype hr.rdclass hr.ttl hr.notSpecial count r.rdatas i (cs := []) (done := [])
    (List.append_nil _).symm (Or.inl ⟨rfl, rfl, hnew⟩) hr.rds (fun _ _ _ hx => nomatch hx) hr.distinct hr.single h1).mono ?_
  rintro s - ⟨cs', hb, rfl⟩
  rcases hb with ⟨he, _⟩ | ⟨_, cur', rfl, hcok⟩
  · exact absurd he hr.nonempty
  · exact ⟨cur', ⟨hcok.name, hcok.rdclass, hcok.rdtype, hcok.covers, by rw [hcok.deleting, hr.deleting], hcok.ttl,
      hcok.rdatas⟩, rfl⟩

/-- The record sets of a section are read back one after the other, in order.  `I rest st` is what the sets still to
come need of the state — of those already read, or of the question section —; the step for one record set
re-establishes it. -/
theorem reads_rrsets {cfg : PCfg} {upd : Bool} {sec : Nat} (count : Nat) {I : List RRset → PState → Prop}
    (step : ∀ (r : RRset) (rest : List RRset) (t : CTable) (q : Bytes × CTable × Nat) (i : Nat) (st : PState),
      I (r :: rest) st → rrsetExt st.cur t none r = .ok q →
      Reads Rs t st.cur q.1 q.2.1 (fun W => parseSection cfg upd W sec count q.2.2 i st) fun st' =>
        I rest st' ∧ ∃ r', r'.sim Rs r ∧
          st' = ({ st with cur := st.cur + q.1.length } : PState).setSection sec (st.section sec ++ [r']))
    (rs : List RRset) : ∀ (t : CTable) (q : Bytes × CTable) (i : Nat) (st : PState), I rs st →
      itemsExt none st.cur t (rs.map (Item.rr sec)) = .ok q →
      Reads Rs t st.cur q.1 q.2 (fun W => parseSection cfg upd W sec count (rrCount rs) i st) fun st' =>
        ∃ rs', SimList (RRset.sim Rs) rs' rs ∧
          st' = ({ st with cur := st.cur + q.1.length } : PState).setSection sec (st.section sec ++ rs') := by
  induction rs with
  | nil =>
    intro t q i st _ h
    cases h
    exact Reads.nil ⟨[], SimList.nil, by rw [List.append_nil]; exact (setSection_self st sec).symm⟩
  | cons r rest ih =>
    intro t q i st hI h
    obtain ⟨q1, q2, h1, h2, rfl⟩ := itemsExt_cons_ok h
    have hcnt : rrCount (r :: rest) = q1.2.2 + rrCount rest := by
      rw [itemExt_count h1]; simp [rrCount, itemCount]
    refine (step r rest t q1 i st hI h1).seq
      (g := fun W s => parseSection cfg upd W sec count (rrCount rest) (i + q1.2.2) s) ?_ _
      (fun W => by rw [hcnt, parseSection_add]; rfl)
    rintro s hcs ⟨hI', r', hsim, rfl⟩
    rw [← hcs] at h2
    refine (ih _ q2 _ _ hI' h2).mono ?_
    rintro s' - ⟨rs', hsims, rfl⟩
    refine ⟨r' :: rs', SimList.cons hsim hsims, ?_⟩
    rw [setSection_setSection, section_setSection, cur_setSection, List.length_append, Nat.add_assoc, List.append_assoc]
    rfl

/-- the invariant for ordinary sections: the record sets to come are well formed and none of their keys is in the
section yet -/
def FreshIn (Rs : RelSpec) (sec : Nat) (rest : List RRset) (st : PState) : Prop :=
  (∀ r ∈ rest, RRsetOk Rs r) ∧
    (∀ r ∈ rest, ∀ x ∈ st.section sec, keyMatch r.name r.rdclass r.rdtype r.covers none x = false) ∧
    rest.Pairwise (fun a b => keyMatch b.name b.rdclass b.rdtype b.covers none a = false)

theorem reads_rrset_fresh {cfg : PCfg} (horg : cfg.origin = none) (hnorr : cfg.oneRRPerRRset = false) {sec : Nat}
    (count : Nat) (r : RRset) (rest : List RRset) (t : CTable) (q : Bytes × CTable × Nat) (i : Nat) (st : PState)
    (hI : FreshIn Rs sec (r :: rest) st) (h : rrsetExt st.cur t none r = .ok q) :
    Reads Rs t st.cur q.1 q.2.1 (fun W => parseSection cfg false W sec count q.2.2 i st) fun st' =>
      FreshIn Rs sec rest st' ∧ ∃ r', r'.sim Rs r ∧
        st' = ({ st with cur := st.cur + q.1.length } : PState).setSection sec (st.section sec ++ [r']) := by
  obtain ⟨hok, hnewL, hpw⟩ := hI
  refine (reads_rrset horg hnorr (hok r (by simp)) count i (hnewL r (by simp)) h).mono ?_
  rintro s - ⟨r', hsim, rfl⟩
  refine ⟨⟨fun x hx => hok x (by simp [hx]), ?_, (List.pairwise_cons.mp hpw).2⟩, r', hsim, rfl⟩
  intro x hx y hy
  rw [section_setSection] at hy
  rcases List.mem_append.mp hy with hy | hy
  · exact hnewL x (by simp [hx]) y hy
  · simp at hy; subst hy
    rw [keyMatch_sim _ _ _ _ _ r y hsim]
    exact (List.pairwise_cons.mp hpw).1 x hx

end Model
