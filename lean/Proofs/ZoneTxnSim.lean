import Proofs.ZoneTxnNode
/-! The node map of a version simulates the flat finite map of the reference model (C10): the relation, its
preservation by the three stores, and the flattening of a well-formed zone as a starting point. -/
namespace Model.ZT
open Model

/-! ### association lists

The node map of a version (`nodesGet`), of the copy-on-write store (`pget`) and of a B-tree version (`bGet`), and
the reference map (`SZone.get`) are the same first-match look-up at four types; erasing is `filter` in all of them. -/

/-- `get` is first-match look-up in an association list -/
structure IsLookup {κ ν : Type} [DecidableEq κ] (get : List (κ × ν) → κ → Option ν) : Prop where
  nil : ∀ k, get [] k = none
  cons : ∀ k' x l k, get ((k', x) :: l) k = if k' = k then some x else get l k

namespace IsLookup
variable {κ ν : Type} [DecidableEq κ] {get : List (κ × ν) → κ → Option ν} (h : IsLookup get)
include h

theorem filter (f : κ → Bool) (l : List (κ × ν)) (k : κ) :
    get (l.filter fun e => f e.1) k = if f k then get l k else none := by
  induction l with
  | nil => rw [List.filter_nil, h.nil, ite_self]
  | cons e l ih =>
    obtain ⟨k', x⟩ := e
    rw [List.filter_cons, h.cons]
    by_cases hk : k' = k
    · subst hk; cases hf : f k' <;> simp [hf, h.cons, ih]
    · cases f k' <;> simp [h.cons, hk, ih]

theorem erase (l : List (κ × ν)) (k k' : κ) :
    get (l.filter fun e => decide (e.1 ≠ k)) k' = if k' = k then none else get l k' := by
  rw [h.filter (fun a => decide (a ≠ k))]
  by_cases hk : k' = k <;> simp [hk]

theorem set (l : List (κ × ν)) (k k' : κ) (x : ν) :
    get ((k, x) :: l.filter fun e => decide (e.1 ≠ k)) k' = if k' = k then some x else get l k' := by
  rw [h.cons, h.erase]
  by_cases hk : k' = k
  · rw [if_pos hk.symm, if_pos hk]
  · rw [if_neg (Ne.symm hk), if_neg hk, if_neg hk]

theorem mem_of_some {l : List (κ × ν)} {k : κ} {x : ν} (hx : get l k = some x) : (k, x) ∈ l := by
  induction l with
  | nil => rw [h.nil] at hx; cases hx
  | cons e l ih =>
    obtain ⟨k', y⟩ := e
    rw [h.cons] at hx
    split at hx
    · cases hx; subst k'; exact List.mem_cons_self ..
    · exact List.mem_cons_of_mem _ (ih hx)

theorem isSome_of_mem {l : List (κ × ν)} {k : κ} {x : ν} (hx : (k, x) ∈ l) : (get l k).isSome = true := by
  induction l with
  | nil => cases hx
  | cons e l ih =>
    obtain ⟨k', y⟩ := e
    rw [h.cons]
    split
    · rfl
    · rcases List.mem_cons.mp hx with hx | hx
      · cases hx; contradiction
      · exact ih hx

theorem append (a b : List (κ × ν)) (k : κ) : get (a ++ b) k = (get a k).or (get b k) := by
  induction a with
  | nil => rw [List.nil_append, h.nil, Option.none_or]
  | cons e a ih =>
    obtain ⟨k', x⟩ := e
    rw [List.cons_append, h.cons, h.cons, ih]
    split <;> rfl

omit h in
theorem map {ν' : Type} {get' : List (κ × ν') → κ → Option ν'} (h : IsLookup get) (h' : IsLookup get') (g : ν → ν')
    (l : List (κ × ν)) (k : κ) : get' (l.map fun e => (e.1, g e.2)) k = (get l k).map g := by
  induction l with
  | nil => rw [List.map_nil, h.nil, h'.nil, Option.map_none]
  | cons e l ih =>
    rw [List.map_cons, h.cons, h'.cons, ih]
    split <;> rfl

end IsLookup

/-- the rdataset the version holds for (owner key, type, covers) -/
def getM (cls : Nat) (v : Nodes) (k : Name) (t c : Nat) : Option Rdataset :=
  match nodesGet v k with
  | none => none
  | some nd => nd.find cls t c

def Inv (cls : Nat) (v : Nodes) : Prop := ∀ k nd, nodesGet v k = some nd → NodeInv cls nd

/-- the simulation relation: same rdataset under every key, same set of owner names -/
def Sim (cls : Nat) (v : Nodes) (z : SZone) : Prop :=
  (∀ k t c, getM cls v k t c = z.get (k, t, c)) ∧ (∀ k, (nodesGet v k).isSome = z.has k)

theorem nodesGet_lookup : IsLookup nodesGet := ⟨fun _ => rfl, fun _ _ _ _ => rfl⟩

theorem nodesGet_erase (v : Nodes) (k k' : Name) :
    nodesGet (nodesErase v k) k' = if k' = k then none else nodesGet v k' := nodesGet_lookup.erase v k k'

theorem nodesGet_set (v : Nodes) (k k' : Name) (nd : Node) :
    nodesGet (nodesSet v k nd) k' = if k' = k then some nd else nodesGet v k' := nodesGet_lookup.set v k k' nd

theorem getM_eq_find (cls : Nat) (v : Nodes) (k : Name) (t c : Nat) :
    getM cls v k t c = ((nodesGet v k).getD []).find cls t c := by
  unfold getM
  cases nodesGet v k <;> rfl

theorem getM_set (cls : Nat) (v : Nodes) (k k' : Name) (nd : Node) (t c : Nat) :
    getM cls (nodesSet v k nd) k' t c = if k' = k then nd.find cls t c else getM cls v k' t c := by
  unfold getM; rw [nodesGet_set]
  by_cases h : k' = k <;> simp only [h, if_true, if_false]

theorem getM_erase (cls : Nat) (v : Nodes) (k k' : Name) (t c : Nat) :
    getM cls (nodesErase v k) k' t c = if k' = k then none else getM cls v k' t c := by
  unfold getM; rw [nodesGet_erase]
  by_cases h : k' = k <;> simp only [h, if_true, if_false]

theorem Inv.getD {cls : Nat} {v : Nodes} (h : Inv cls v) (k : Name) : NodeInv cls ((nodesGet v k).getD []) := by
  cases hk : nodesGet v k with
  | none => exact NodeInv.nil cls
  | some nd => exact h k nd hk

theorem Inv.set {cls : Nat} {v : Nodes} (h : Inv cls v) (k : Name) (nd : Node) (hn : NodeInv cls nd) :
    Inv cls (nodesSet v k nd) := by
  intro k' nd' hk
  rw [nodesGet_set] at hk
  split at hk
  · cases hk; exact hn
  · exact h k' nd' hk

theorem Inv.erase {cls : Nat} {v : Nodes} (h : Inv cls v) (k : Name) : Inv cls (nodesErase v k) := by
  intro k' nd' hk
  rw [nodesGet_erase] at hk
  split at hk
  · cases hk
  · exact h k' nd' hk

theorem Inv.nil (cls : Nat) : Inv cls [] := fun _ _ h => nomatch h

theorem sget_lookup : IsLookup SZone.get := ⟨fun _ => rfl, fun _ _ _ _ => rfl⟩

theorem sget_filter (z : SZone) (f : Key → Bool) (k : Key) :
    SZone.get (z.filter (fun e => f e.1)) k = if f k then SZone.get z k else none := sget_lookup.filter f z k

theorem shas_iff (z : SZone) (n : Name) : SZone.has z n = true ↔ ∃ e ∈ z, e.1.1 = n := by
  unfold SZone.has; rw [List.any_eq_true]; simp

theorem shas_iff_get (z : SZone) (k : Name) : z.has k = true ↔ ∃ t c, (z.get (k, t, c)).isSome = true := by
  rw [shas_iff]
  constructor
  · rintro ⟨⟨⟨k', t, c⟩, r⟩, he, rfl⟩
    exact ⟨t, c, sget_lookup.isSome_of_mem he⟩
  · rintro ⟨t, c, h⟩
    obtain ⟨r, hr⟩ := Option.isSome_iff_exists.mp h
    exact ⟨_, sget_lookup.mem_of_some hr, rfl⟩

theorem sget_put (z : SZone) (k : Name) (r : Rdataset) (k' : Name) (t c : Nat) :
    (z.put k r).get (k', t, c) =
      if k' = k ∧ t = r.rdtype ∧ c = r.covers then some r
      else if k' = k ∧ SZone.excluded r.kind (classify t c) = true then none
      else z.get (k', t, c) := by
  unfold SZone.put
  rw [sget_lookup.cons, sget_filter z (fun key => !(decide (key.1 = k) &&
    (decide (key.2 = (r.rdtype, r.covers)) || SZone.excluded r.kind (classify key.2.1 key.2.2))))]
  by_cases h1 : k' = k ∧ t = r.rdtype ∧ c = r.covers
  · obtain ⟨rfl, rfl, rfl⟩ := h1
    rw [if_pos rfl, if_pos ⟨rfl, rfl, rfl⟩]
  · rw [if_neg fun e => h1 (by cases e; exact ⟨rfl, rfl, rfl⟩), if_neg h1]
    by_cases hk : k' = k
    · have htc : ¬(t, c) = (r.rdtype, r.covers) := fun e => h1 (by cases e; exact ⟨hk, rfl, rfl⟩)
      cases SZone.excluded r.kind (classify t c) <;> simp [hk, htc]
    · simp [hk]

theorem sget_delRds (z : SZone) (k : Name) (t c : Nat) (k' : Name) (t' c' : Nat) :
    (z.delRds k t c).get (k', t', c') = if k' = k ∧ t' = t ∧ c' = c then none else z.get (k', t', c') := by
  unfold SZone.delRds
  rw [sget_filter z (fun key => decide (key ≠ (k, t, c)))]
  by_cases h : k' = k ∧ t' = t ∧ c' = c <;> simp [h]

theorem sget_delName (z : SZone) (k k' : Name) (t c : Nat) :
    (z.delName k).get (k', t, c) = if k' = k then none else z.get (k', t, c) := by
  unfold SZone.delName
  rw [sget_filter z (fun key => decide (key.1 ≠ k))]
  by_cases h : k' = k <;> simp [h]

theorem node_ne_nil_iff {cls : Nat} {nd : Node} (hn : NodeInv cls nd) :
    nd ≠ [] ↔ ∃ t c, (nd.find cls t c).isSome = true := by
  constructor
  · intro h
    obtain ⟨x, hx⟩ := List.exists_mem_of_ne_nil _ h
    exact ⟨_, _, find_isSome_of_mem hx (hn.1 x hx)⟩
  · rintro ⟨t, c, h⟩ rfl
    cases h

theorem sim_iff {cls : Nat} {v : Nodes} {z : SZone} (hi : Inv cls v) :
    Sim cls v z ↔ (∀ k t c, getM cls v k t c = z.get (k, t, c)) ∧ ∀ k, nodesGet v k ≠ some [] := by
  refine and_congr_right fun hget => forall_congr' fun k => ?_
  have hz : z.has k = true ↔ ∃ t c, (getM cls v k t c).isSome = true := by
    simp only [hget]; exact shas_iff_get z k
  unfold getM at hz
  cases hq : nodesGet v k with
  | none =>
    rw [hq] at hz
    have : z.has k = false := Bool.eq_false_iff.mpr fun h => by obtain ⟨_, _, h⟩ := hz.mp h; cases h
    simp [this]
  | some nd =>
    rw [hq, ← node_ne_nil_iff (hi k nd hq)] at hz
    simp [hz]

theorem getM_put {cls : Nat} {v : Nodes} (hi : Inv cls v) (k : Name) {r : Rdataset} (hr : r.rdclass = cls)
    (k' : Name) (t c : Nat) :
    getM cls (nodesSet v k (((nodesGet v k).getD []).replace r)) k' t c =
      if k' = k ∧ t = r.rdtype ∧ c = r.covers then some r
      else if k' = k ∧ SZone.excluded r.kind (classify t c) = true then none
      else getM cls v k' t c := by
  rw [getM_set]
  by_cases hk : k' = k
  · subst hk
    rw [if_pos rfl, find_replace cls t c _ r (hi.getD k') hr, ← getM_eq_find]
    simp only [true_and]
  · simp only [hk, false_and, if_false]

theorem sim_put (cls : Nat) (v : Nodes) (z : SZone) (k : Name) (r : Rdataset)
    (hs : Sim cls v z) (hi : Inv cls v) (hr : r.rdclass = cls) :
    Sim cls (nodesSet v k (((nodesGet v k).getD []).replace r)) (z.put k r) ∧
      Inv cls (nodesSet v k (((nodesGet v k).getD []).replace r)) := by
  obtain ⟨hget, hne⟩ := (sim_iff hi).mp hs
  have hi' := hi.set k _ ((hi.getD k).replace r hr)
  refine ⟨(sim_iff hi').mpr ⟨fun k' t c => ?_, fun k' => ?_⟩, hi'⟩
  · rw [getM_put hi k hr, sget_put, hget]
  · rw [nodesGet_set]
    split
    · exact fun e => replace_ne_nil _ r (Option.some.inj e)
    · exact hne k'

theorem sim_delName (cls : Nat) (v : Nodes) (z : SZone) (k : Name) (hs : Sim cls v z) (hi : Inv cls v) :
    Sim cls (nodesErase v k) (z.delName k) ∧ Inv cls (nodesErase v k) := by
  obtain ⟨hget, hne⟩ := (sim_iff hi).mp hs
  refine ⟨(sim_iff (hi.erase k)).mpr ⟨fun k' t c => ?_, fun k' => ?_⟩, hi.erase k⟩
  · rw [getM_erase, sget_delName, hget]
  · rw [nodesGet_erase]
    split
    · exact nofun
    · exact hne k'

/-- the node map after `delete_rdataset` on the validated key (intended behaviour) -/
def delRdsM (cls : Nat) (v : Nodes) (k : Name) (t c : Nat) : Nodes :=
  let node' := ((nodesGet v k).getD []).delete cls t c
  if node'.length = 0 then nodesErase (nodesSet v k node') k else nodesSet v k node'

theorem nodesGet_delRdsM (cls : Nat) (v : Nodes) (k k' : Name) (t c : Nat) :
    nodesGet (delRdsM cls v k t c) k' =
      if k' = k then
        (if (((nodesGet v k).getD []).delete cls t c).length = 0 then none
         else some (((nodesGet v k).getD []).delete cls t c))
      else nodesGet v k' := by
  unfold delRdsM
  by_cases hl : (((nodesGet v k).getD []).delete cls t c).length = 0
  · simp only [hl, if_true]
    rw [nodesGet_erase, nodesGet_set]
    by_cases hk : k' = k <;> simp [hk]
  · simp only [hl, if_false]
    rw [nodesGet_set]

theorem getM_delRdsM {cls : Nat} {v : Nodes} (hi : Inv cls v) (k : Name) (t c : Nat) (k' : Name) (t' c' : Nat) :
    getM cls (delRdsM cls v k t c) k' t' c' =
      if k' = k ∧ t' = t ∧ c' = c then none else getM cls v k' t' c' := by
  -- an emptied node reads like no node, so the removal of the emptied node does not show
  have hread : getM cls (delRdsM cls v k t c) k' t' c' =
      getM cls (nodesSet v k (((nodesGet v k).getD []).delete cls t c)) k' t' c' := by
    unfold delRdsM
    dsimp only
    split
    · rename_i hl
      rw [getM_erase, getM_set, List.eq_nil_of_length_eq_zero hl]
      split <;> rfl
    · rfl
  rw [hread, getM_set]
  by_cases hk : k' = k
  · subst hk
    rw [if_pos rfl]
    by_cases htc : t' = t ∧ c' = c
    · obtain ⟨rfl, rfl⟩ := htc
      rw [if_pos ⟨rfl, rfl, rfl⟩, find_delete_same cls _ _ _ (hi.getD _)]
    · rw [if_neg fun h => htc h.2, find_delete_other cls t c t' c' _ htc, getM_eq_find]
  · rw [if_neg hk, if_neg fun h => hk h.1]

theorem sim_delRds (cls : Nat) (v : Nodes) (z : SZone) (k : Name) (t c : Nat)
    (hs : Sim cls v z) (hi : Inv cls v) :
    Sim cls (delRdsM cls v k t c) (z.delRds k t c) ∧ Inv cls (delRdsM cls v k t c) := by
  obtain ⟨hget, hne⟩ := (sim_iff hi).mp hs
  have hi' : Inv cls (delRdsM cls v k t c) := by
    unfold delRdsM
    have hn := (hi.getD k).delete t c
    dsimp only
    split
    · exact (hi.set k _ hn).erase k
    · exact hi.set k _ hn
  refine ⟨(sim_iff hi').mpr ⟨fun k' t' c' => ?_, fun k' => ?_⟩, hi'⟩
  · rw [getM_delRdsM hi, sget_delRds, hget]
  · rw [nodesGet_delRdsM]
    split
    · split
      · exact nofun
      · exact fun e => ‹¬ _› (by rw [Option.some.inj e]; rfl)
    · exact hne k'

/-! ### every well-formed concrete zone is simulated by its flattening, so the refinement applies to any initial zone -/

/-- a well-formed node map: owner keys pairwise distinct, no empty node, and in every node the zone's class
throughout and (type, covers) pairwise distinct — what loading through the public API produces -/
def WfZone (cls : Nat) (v : Nodes) : Prop :=
  v.Pairwise (fun a b => a.1 ≠ b.1) ∧ ∀ e ∈ v, e.2 ≠ [] ∧ NodeInv cls e.2

theorem sget_node (cls : Nat) (k0 : Name) (nd : Node) (h : ∀ r ∈ nd, r.rdclass = cls) (k : Name) (t c : Nat) :
    SZone.get (nd.map fun r => ((k0, r.rdtype, r.covers), r)) (k, t, c) =
      if k = k0 then nd.find cls t c else none := by
  induction nd with
  | nil => split <;> rfl
  | cons x xs ih =>
    rw [List.map_cons, sget_lookup.cons, ih fun r hr => h r (List.mem_cons_of_mem _ hr)]
    -- the head's key is the one asked for iff the owner is and the head matches (its class is the zone's)
    by_cases hm : k = k0 ∧ x.isMatch cls t c = true
    · obtain ⟨rfl, hm⟩ := hm
      obtain ⟨_, rfl, rfl⟩ := (isMatch_iff x cls t c).mp hm
      rw [if_pos rfl, if_pos rfl, find_cons_pos _ _ _ _ _ hm]
    · rw [if_neg fun e => hm (by
        cases e; exact ⟨rfl, (isMatch_iff ..).mpr ⟨h x (List.mem_cons_self ..), rfl, rfl⟩⟩)]
      split
      · rw [find_cons_neg _ _ _ _ _ fun hx => hm ⟨‹_›, hx⟩]
      · rfl

theorem flatten_cons (k0 : Name) (nd : Node) (rest : Nodes) :
    flatten ((k0, nd) :: rest) = (nd.map fun r => ((k0, r.rdtype, r.covers), r)) ++ flatten rest := by
  simp [flatten]

theorem mem_flatten {v : Nodes} {e : Key × Rdataset} (h : e ∈ flatten v) : ∃ x ∈ v, e.1.1 = x.1 := by
  unfold flatten at h
  rw [List.mem_flatMap] at h
  obtain ⟨x, hx, he⟩ := h
  rw [List.mem_map] at he
  obtain ⟨r, _, hr⟩ := he
  exact ⟨x, hx, by rw [← hr]⟩

theorem sget_flatten_absent (v : Nodes) (k0 : Name) (h : ∀ x ∈ v, k0 ≠ x.1) (t c : Nat) :
    SZone.get (flatten v) (k0, t, c) = none := by
  cases hg : SZone.get (flatten v) (k0, t, c) with
  | none => rfl
  | some r =>
    obtain ⟨x, hx, he⟩ := mem_flatten (sget_lookup.mem_of_some hg)
    exact absurd he (h x hx)

theorem shas_flatten_absent (v : Nodes) (k0 : Name) (h : ∀ x ∈ v, k0 ≠ x.1) : SZone.has (flatten v) k0 = false :=
  Bool.eq_false_iff.mpr fun hh => by
    obtain ⟨t, c, hg⟩ := (shas_iff_get _ _).mp hh
    rw [sget_flatten_absent v k0 h] at hg
    cases hg

theorem getM_flatten (cls : Nat) (v : Nodes) (h : WfZone cls v) (k : Name) (t c : Nat) :
    getM cls v k t c = (flatten v).get (k, t, c) := by
  induction v with
  | nil => rfl
  | cons e rest ih =>
    obtain ⟨k0, nd⟩ := e
    have hp := List.pairwise_cons.mp h.1
    have ih := ih ⟨hp.2, fun x hx => h.2 x (List.mem_cons_of_mem _ hx)⟩
    rw [flatten_cons, sget_lookup.append, sget_node cls k0 nd (h.2 _ (List.mem_cons_self ..)).2.1]
    unfold getM at ih ⊢
    rw [nodesGet_lookup.cons]
    by_cases hk : k0 = k
    · subst hk
      -- the owner key occurs once, so nothing of it is found further down
      rw [if_pos rfl, if_pos rfl, sget_flatten_absent rest k0 hp.1]
      exact Option.or_none.symm
    · rw [if_neg hk, if_neg (Ne.symm hk)]
      exact ih

theorem sim_flatten (cls : Nat) (v : Nodes) (h : WfZone cls v) : Sim cls v (flatten v) ∧ Inv cls v := by
  have hmem : ∀ k nd, nodesGet v k = some nd → nd ≠ [] ∧ NodeInv cls nd :=
    fun k nd hk => h.2 _ (nodesGet_lookup.mem_of_some hk)
  have hi : Inv cls v := fun k nd hk => (hmem k nd hk).2
  exact ⟨(sim_iff hi).mpr ⟨getM_flatten cls v h, fun k e => (hmem k [] e).1 rfl⟩, hi⟩

end Model.ZT
