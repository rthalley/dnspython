import Proofs.BTreeCursor
/-!
Layer L5: `next()` and `prev()` of an unparked cursor are navigation in the in-order listing: each returns
the element after (before) the position and moves past it, or stays on the boundary.  The two loops are one
function of the direction (`stepLoop`), and so is everything proved about them.
-/
namespace Model.BTree

/-- the `while True` loops of `next()` (`fwd = true`) and `prev()` (`fwd = false`) -/
def stepLoop (fwd : Bool) (h : Nat) : Nat → Cursor → Node → Cursor × Option Elt
  | 0, c, _ => (c, none)
  | k + 1, c, n =>
    let (n, i, ps) :=
      if c.recurse = true ∧ c.increasing = fwd then seekTo fwd h n c.idx c.parents else (n, c.idx, c.parents)
    if canRead fwd n i then
      let e := eltAt n.elts (if fwd then i else i - 1)
      ({ c with node := some n, idx := if fwd then i + 1 else i - 1, parents := ps, recurse := !n.isLeaf,
                increasing := fwd, pkey := some e.1, pread := true }, some e)
    else
      match ps with
      | (pn, pi) :: ps' =>
        stepLoop fwd h k { c with node := some pn, idx := pi, parents := ps', recurse := false, increasing := fwd } pn
      | [] => ({ c with node := none, idx := if fwd then 1 else 0, parents := [], recurse := false, increasing := fwd },
          none)

theorem nextLoop_eq (h : Nat) : ∀ (k : Nat) (c : Cursor) (n : Node), nextLoop h k c n = stepLoop true h k c n := by
  intro k
  induction k with
  | zero => intro c n; rfl
  | succ k ih => intro c n; simp only [nextLoop, stepLoop, seekTo, canRead, ih, if_true]; rfl

theorem prevLoop_eq (h : Nat) : ∀ (k : Nat) (c : Cursor) (n : Node), prevLoop h k c n = stepLoop false h k c n := by
  intro k
  induction k with
  | zero => intro c n; rfl
  | succ k ih =>
    intro c n
    simp only [prevLoop, stepLoop, seekTo, canRead, ih, Bool.false_eq_true, if_false, Bool.not_eq_true']; rfl

/-- the result `r` of a step of the cursor `c` in direction `fwd` at the cut `(D, R)`: the element next to the cut is
returned and the cursor rests on its other side (or nothing is returned and the cut stays, at an end of the listing) -/
def StepOk (t : Nat) (root : Node) (fwd : Bool) (c : Cursor) (D R : List Elt) (r : Cursor × Option Elt) : Prop :=
  r.2 = zhead fwd D R ∧ CurInv t root r.1 (zstep fwd D R).1 (zstep fwd D R).2 ∧ r.1.parked = c.parked

/-- the loop entered without a pending descent: the cursor is at a place with the flag of its direction (after
child `idx` going forward, before it going backward) -/
theorem stepLoop_up {t : Nat} {root : Node} (fwd : Bool) (H : Nat) : ∀ (k : Nat) (c : Cursor) (n : Node) (h : Nat)
    (D R : List Elt), ¬ (c.recurse = true ∧ c.increasing = fwd) → Pos t root h n c.idx fwd c.parents D R →
    c.parents.length + 1 ≤ k → StepOk t root fwd c D R (stepLoop fwd H k c n) := by
  intro k
  induction k with
  | zero => intro c n h D R _ _ hk; omega
  | succ k ih =>
    intro c n h D R hnr hp hk
    unfold stepLoop
    simp only [hnr, if_false]
    by_cases hr : canRead fwd n c.idx
    · obtain ⟨r1, r2⟩ := hp.read hr
      rw [if_pos hr]
      exact ⟨r1.symm, (curInv_some rfl).mpr ⟨⟨h, r2⟩, rfl⟩, rfl⟩
    · rw [if_neg hr]
      cases hps : c.parents with
      | nil =>
        rw [hps] at hp
        obtain ⟨e1, e2⟩ := hp.last hr
        unfold StepOk
        rw [e1, e2]
        refine ⟨rfl, ⟨rfl, rfl, hp.split, ?_⟩, rfl⟩
        cases fwd
        · exact Or.inl ⟨rfl, by simpa [zhead] using e1⟩
        · exact Or.inr ⟨rfl, by simpa [zhead] using e1⟩
      | cons pj ps' =>
        obtain ⟨pn, pj⟩ := pj
        rw [hps] at hp hk
        exact ih { c with node := some pn, idx := pj, parents := ps', recurse := false, increasing := fwd } pn (h + 1)
          D R (by simp) (hp.pop hr) (by simp at hk ⊢; omega)

/-- the loop entered after the descent `seekTo fwd` has been made -/
theorem stepLoop_leaf {t : Nat} {root : Node} {Hr : Nat} (hr : Shape t Hr root) (fwd : Bool) (H k : Nat) (c : Cursor)
    {ls : List Elt} {b : Bool} {D R : List Elt} (hnr : ¬ (c.recurse = true ∧ c.increasing = fwd))
    (hp : Pos t root 0 (.leaf ls) c.idx b c.parents D R) (hk : Hr + 1 ≤ k) :
    StepOk t root fwd c D R (stepLoop fwd H k c (.leaf ls)) :=
  stepLoop_up fwd H k c _ 0 D R hnr (hp.flag fwd (fun hl => nomatch hl)) (by have := pathOk_height hr hp.1; omega)

theorem stepLoop_spec {t : Nat} {root : Node} {Hr : Nat} (hr : Shape t Hr root) (fwd : Bool) (H : Nat) (hH : Hr ≤ H)
    (k : Nat) (c : Cursor) (n : Node) (D R : List Elt) (hn : c.node = some n)
    (hinv : CurInv t root c D R) (hk : c.parents.length + Hr + 1 ≤ k) :
    StepOk t root fwd c D R (stepLoop fwd H k c n) := by
  obtain ⟨⟨h, hp⟩, hrec⟩ := (curInv_some hn).mp hinv
  have hh := pathOk_height hr hp.1
  by_cases hdesc : c.recurse = true ∧ c.increasing = fwd
  · -- pending descent: the place is on the near side of child `idx` of an internal node
    obtain ⟨ls, i', ps', s1, s2⟩ := Pos.seek fwd h H n c.idx c.parents (by omega) (hdesc.2 ▸ hp)
    let c2 : Cursor := { c with idx := i', parents := ps', recurse := false }
    have hloop : stepLoop fwd H k c n = stepLoop fwd H k c2 (.leaf ls) := by
      cases k with
      | zero => omega
      | succ k =>
        unfold stepLoop
        simp [hdesc, s1, c2]
    rw [hloop]
    exact stepLoop_leaf hr fwd H k c2 (by simp [c2]) s2 (by omega)
  · -- the flag of the resting state is that of the direction
    refine stepLoop_up fwd H k c n h D R hdesc (hp.flag fwd fun hl => ?_) (by omega)
    rw [hl] at hrec
    cases hinc : c.increasing <;> cases fwd <;> simp_all

theorem maybeUnpark_unparked {c : Cursor} (root : Node) (h : c.parked = false) : c.maybeUnpark root = c := by
  simp [Cursor.maybeUnpark, h]

theorem curInv_congr {t : Nat} {root : Node} {c c' : Cursor} {done rest : List Elt}
    (h1 : c'.node = c.node) (h2 : c'.idx = c.idx) (h3 : c'.recurse = c.recurse)
    (h4 : c'.increasing = c.increasing) (h5 : c'.parents = c.parents) (h : CurInv t root c done rest) :
    CurInv t root c' done rest := by
  unfold CurInv at h ⊢
  rw [h1, h2, h3, h4, h5]
  exact h

/-- `next()` / `prev()` after the unpark step -/
def stepBody (fwd : Bool) (root : Node) (c1 : Cursor) : Cursor × Option Elt :=
  match c1.node with
  | none =>
    if c1.idx = (if fwd then 1 else 0) then (c1, none)
    else
      let (n, i, ps) := seekTo fwd (height root + 1) root (if fwd then 0 else root.elts.length) c1.parents
      stepLoop fwd (height root + 1) (ps.length + 2) { c1 with node := some n, idx := i, parents := ps } n
  | some n => stepLoop fwd (height root + 1) (c1.parents.length + (height root + 1) + 2) c1 n

theorem stepBody_spec {t : Nat} {root : Node} {Hr : Nat} (hr : Shape t Hr root) (fwd : Bool) (c1 : Cursor)
    (D R : List Elt) (hinv1 : CurInv t root c1 D R) : StepOk t root fwd c1 D R (stepBody fwd root c1) := by
  have hH := height_of_shape hr
  unfold stepBody
  cases hnode : c1.node with
  | none =>
    obtain ⟨hps, hrec, b, hidx, hp⟩ := curInv_none hr hnode hinv1
    by_cases hfar : c1.idx = (if fwd then 1 else 0)
    · -- at the edge of the direction: nothing to return
      obtain rfl : b = fwd := by cases b <;> cases fwd <;> simp_all
      obtain ⟨e1, e2⟩ := hp.last (by cases b <;> simp [canRead, edge])
      simp only [hfar, if_true, StepOk]
      rw [e1, e2]
      exact ⟨rfl, hinv1, trivial⟩
    · -- at the other edge: go to the first element in the direction
      obtain rfl : b = !fwd := by cases b <;> cases fwd <;> simp_all
      simp only [hfar, if_false, hps]
      obtain ⟨ls, i', ps', s1, s2⟩ := Pos.seek fwd Hr (height root + 1) root _ [] (by omega) hp
      have hedge : (if fwd then 0 else root.elts.length) = edge (!fwd) root := by cases fwd <;> rfl
      rw [hedge, s1]
      exact stepLoop_leaf hr fwd _ _ { c1 with node := some (.leaf ls), idx := i', parents := ps' } (by simp [hrec]) s2
        (by have := pathOk_height hr s2.1; simp at this ⊢; omega)
  | some n =>
    exact stepLoop_spec hr fwd (height root + 1) (by omega) _ c1 n D R hnode hinv1 (by omega)

/-- `next()` after the unpark step -/
def nextBody (root : Node) (c1 : Cursor) : Cursor × Option Elt := stepBody true root c1

theorem next_eq_body (c : Cursor) (root : Node) :
    c.next root = nextBody root { c.maybeUnpark root with pkey := none } := by
  simp only [Cursor.next, nextBody, stepBody, nextLoop_eq, seekTo, if_true]
  rfl

theorem nextBody_spec {t : Nat} {root : Node} {Hr : Nat} (hr : Shape t Hr root) (c1 : Cursor) (done rest : List Elt)
    (hinv1 : CurInv t root c1 done rest) :
    (nextBody root c1).2 = rest.head? ∧ CurInv t root (nextBody root c1).1 (done ++ rest.head?.toList) rest.tail ∧
    (nextBody root c1).1.parked = c1.parked :=
  stepBody_spec hr true c1 done rest hinv1

theorem next_spec {t : Nat} {root : Node} {Hr : Nat} (hr : Shape t Hr root) (c : Cursor) (done rest : List Elt)
    (hpk : c.parked = false) (hinv : CurInv t root c done rest) :
    (c.next root).2 = rest.head? ∧ CurInv t root (c.next root).1 (done ++ rest.head?.toList) rest.tail ∧
    (c.next root).1.parked = false := by
  rw [next_eq_body, maybeUnpark_unparked root hpk]
  have := nextBody_spec hr { c with pkey := none } done rest (curInv_congr rfl rfl rfl rfl rfl hinv)
  exact ⟨this.1, this.2.1, by rw [this.2.2]; exact hpk⟩

/-- `prev()` after the unpark step -/
def prevBody (root : Node) (c1 : Cursor) : Cursor × Option Elt := stepBody false root c1

theorem prev_eq_body (c : Cursor) (root : Node) :
    c.prev root = prevBody root { c.maybeUnpark root with pkey := none } := by
  simp only [Cursor.prev, prevBody, stepBody, prevLoop_eq, seekTo, Bool.false_eq_true, if_false]
  rfl

theorem prevBody_spec {t : Nat} {root : Node} {Hr : Nat} (hr : Shape t Hr root) (c1 : Cursor) (done rest : List Elt)
    (hinv1 : CurInv t root c1 done rest) :
    (prevBody root c1).2 = done.getLast? ∧
    CurInv t root (prevBody root c1).1 done.dropLast (done.getLast?.toList ++ rest) ∧
    (prevBody root c1).1.parked = c1.parked :=
  stepBody_spec hr false c1 done rest hinv1

theorem prev_spec {t : Nat} {root : Node} {Hr : Nat} (hr : Shape t Hr root) (c : Cursor) (done rest : List Elt)
    (hpk : c.parked = false) (hinv : CurInv t root c done rest) :
    (c.prev root).2 = done.getLast? ∧ CurInv t root (c.prev root).1 done.dropLast (done.getLast?.toList ++ rest) ∧
    (c.prev root).1.parked = false := by
  rw [prev_eq_body, maybeUnpark_unparked root hpk]
  have := prevBody_spec hr { c with pkey := none } done rest (curInv_congr rfl rfl rfl rfl rfl hinv)
  exact ⟨this.1, this.2.1, by rw [this.2.2]; exact hpk⟩

end Model.BTree
