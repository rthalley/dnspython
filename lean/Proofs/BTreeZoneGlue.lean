import Proofs.BTreeZoneRewrite
import Proofs.BTreeZoneWrite
/-!
`update_glue_flag` pointwise: the repaired walk as a single-key rewrite of the store (`reflag`, `fixedNode_flags`),
its effect on the index, and the fact that the walk as shipped coincides with the repaired one when no NS owner sits
strictly below the name (the guard that excludes D16).
-/
namespace Model
namespace BTZ

/-- the repaired step on the node at `k` -/
def fixedNode (N : Nodes) (name : Name) (b : Bool) (k : Name) (nd : Node) : Node :=
  (glueStepFixed (below N name) b (k, nd)).2

theorem fixedNode_rds (N : Nodes) (name : Name) (b : Bool) (k : Name) (nd : Node) :
    (fixedNode N name b k nd).rds = nd.rds := by
  unfold fixedNode glueStepFixed; split <;> rfl

theorem updateGlue_congr {v v' : Variant} (h : v.fixNested = v'.fixNested) (ver : Ver) (name : Name) (b : Bool) :
    updateGlue v ver name b = updateGlue v' ver name b := by
  unfold updateGlue; rw [h]

/-- the store with the nodes strictly below `name` rewritten by the repaired step -/
def reflag (N : Nodes) (name : Name) (b : Bool) : Nodes :=
  N.map (fun e => (e.1, if properSub e.1 name then fixedNode N name b e.1 e.2 else e.2))

theorem NWF_reflag {N : Nodes} (h : NWF N) (name : Name) (b : Bool) : NWF (reflag N name b) := NWF_map _ h

theorem rewritten_reflag {N : Nodes} (h : NWF N) {name : Name} (hn : LC name) (b : Bool) (r : Option Node) :
    Rewritten N (nset (reflag N name b) name r) name r (fixedNode N name b) :=
  rewritten_map_nset h hn _ (fixedNode_rds N name b) r

theorem updateGlue_fixed_nodes {v : Variant} (hv : v.fixNested = true) {ver : Ver} (hN : NWF ver.nodes)
    {name : Name} (hn : LC name) (b : Bool) :
    (updateGlue v ver name b).nodes = reflag ver.nodes name b := by
  rw [updateGlue_eq v hN hn, if_pos hv]; rfl

theorem updateGlue_fixed_delegs_true {v : Variant} (hv : v.fixNested = true) (ver : Ver) (name : Name) :
    (updateGlue v ver name true).delegs = ver.delegs.filter (fun d => !properSub d name) := by
  unfold updateGlue; simp [hv]

/-- the flags the repaired step gives a node below `name`: glue under a new cut or under an NS owner of the subtree;
a delegation point if it owns NS and is not glue -/
theorem fixedNode_flags {N : Nodes} (hN : NWF N) {name k : Name} (b : Bool) (nd : Node) :
    (fixedNode N name b k nd).flags.origin = false ∧
    ((fixedNode N name b k nd).flags.glue = true ↔ b = true ∨ NSBetween N k name) ∧
    ((fixedNode N name b k nd).flags.deleg = true ↔
      hasNS nd.rds = true ∧ ¬ (fixedNode N name b k nd).flags.glue = true) := by
  have hb : ((N.filter (fun e => properSub e.1 name)).any (fun a => properSub k a.1 && hasNS a.2.rds)) = true
      ↔ NSBetween N k name := by
    rw [List.any_eq_true]
    constructor
    · rintro ⟨e, he, hp⟩
      obtain ⟨hm, hpn⟩ := List.mem_filter.mp he
      simp only [Bool.and_eq_true] at hp
      exact ⟨e.1, hN.2 e hm, ⟨e.2, mem_nget hN hm, hp.2⟩, hp.1, hpn⟩
    · rintro ⟨a, ha, ⟨nda, hg, hns⟩, hp, hpn⟩
      exact ⟨(a, nda), List.mem_filter.mpr ⟨nget_some_mem hN ha hg, hpn⟩, by simp [hp, hns]⟩
  cases b with
  | true => simp [fixedNode, glueStepFixed]
  | false =>
    simp only [fixedNode, glueStepFixed, Bool.false_eq_true, if_false, false_or]
    exact ⟨trivial, hb, by simp⟩

/-- the walk with `is_glue = False` enters the topmost NS owners below `name` in the index -/
theorem updateGlue_fixed_delegs_false {v : Variant} (hv : v.fixNested = true) {ver : Ver} (hN : NWF ver.nodes)
    (hD : DWF ver.delegs) {name : Name} (hn : LC name) {a : Name} (ha : LC a) :
    a ∈ (updateGlue v ver name false).delegs ↔
      a ∈ ver.delegs ∨ (properSub a name = true ∧ NS ver.nodes a ∧ ¬ NSBetween ver.nodes a name) := by
  have hfl : ∀ (k : Name) (nd : Node), (fixedNode ver.nodes name false k nd).flags.deleg = true ↔
      hasNS nd.rds = true ∧ ¬ NSBetween ver.nodes k name := fun k nd => by
    obtain ⟨-, f2, f3⟩ := fixedNode_flags hN (name := name) (k := k) false nd
    rw [f3, f2]; simp
  rw [updateGlue_eq v hN hn, if_pos hv]
  simp only [Bool.false_eq_true, if_false]
  rw [(foldl_dins hD ?_).2]
  · refine or_congr_right ⟨?_, ?_⟩
    · rintro ⟨e, he, rfl⟩
      obtain ⟨he1, he2⟩ := List.mem_filter.mp he
      obtain ⟨e0, he0, rfl⟩ := List.mem_map.mp he1
      obtain ⟨hm, hp⟩ := List.mem_filter.mp he0
      obtain ⟨h1, h2⟩ := (hfl e0.1 e0.2).mp he2
      rw [glueStepFixed_fst]
      exact ⟨hp, ⟨e0.2, mem_nget hN hm, h1⟩, h2⟩
    · rintro ⟨hp, ⟨nd, hg, hns⟩, hnb⟩
      refine ⟨glueStepFixed (below ver.nodes name) false (a, nd), ?_, glueStepFixed_fst _ _ _⟩
      exact List.mem_filter.mpr ⟨List.mem_map.mpr ⟨(a, nd), List.mem_filter.mpr ⟨nget_some_mem hN ha hg, hp⟩, rfl⟩,
        (hfl a nd).mpr ⟨hns, hnb⟩⟩
  · intro e he
    obtain ⟨he1, _⟩ := List.mem_filter.mp he
    obtain ⟨e0, he0, rfl⟩ := List.mem_map.mp he1
    rw [glueStepFixed_fst]
    exact hN.2 e0 (List.mem_filter.mp he0).1

theorem updateGlue_guarded (v : Variant) {ver : Ver} (hN : NWF ver.nodes) {name : Name} (hn : LC name) (b : Bool)
    (h1 : ∀ e ∈ ver.nodes, properSub e.1 name = true →
      e.2.flags.origin = false ∧ e.2.flags.deleg = false ∧ hasNS e.2.rds = false)
    (h2 : ∀ d ∈ ver.delegs, properSub d name = false) :
    updateGlue v ver name b = updateGlue intended ver name b := by
  cases hv : v.fixNested with
  | true => exact updateGlue_congr (by rw [hv]; rfl) ver name b
  | false =>
    have hS : ∀ e ∈ below ver.nodes name,
        e.2.flags.origin = false ∧ e.2.flags.deleg = false ∧ hasNS e.2.rds = false :=
      fun e he => h1 e (List.mem_filter.mp he).1 (List.mem_filter.mp he).2
    -- the repaired step finds no NS owner above any element of the subtree ...
    have hany : ∀ k : Name, (below ver.nodes name).any (fun a => properSub k a.1 && hasNS a.2.rds) = false := by
      intro k
      rw [List.any_eq_false]
      intro a ha
      simp [(hS a ha).2.2]
    -- ... so the two steps agree on every element of the subtree
    have hstep : ∀ e ∈ below ver.nodes name, glueStep ver.changed b e = glueStepFixed (below ver.nodes name) b e := by
      intro e he
      obtain ⟨f1, f2, f3⟩ := hS e he
      obtain ⟨k, rds, o, d, g⟩ := e
      simp only at f1 f2 f3
      subst f1 f2
      cases b <;> simp only [glueStep, glueStepFixed, hany, f3] <;> split <;> simp
    rw [updateGlue_eq v hN hn, updateGlue_eq intended hN hn, if_neg (by simp [hv]), if_pos (by rfl)]
    congr 1
    · refine List.map_congr_left fun e he => ?_
      by_cases hp : properSub e.1 name = true
      · rw [if_pos hp, if_pos hp, hstep e (List.mem_filter.mpr ⟨he, hp⟩)]
      · rw [if_neg hp, if_neg hp]
    · cases b
      · -- and promotes none of them
        simp only [Bool.false_eq_true, if_false]
        have : ((below ver.nodes name).map (glueStepFixed (below ver.nodes name) false)).filter
            (fun e => e.2.flags.deleg) = [] := by
          rw [List.filter_eq_nil_iff]
          intro x hx
          obtain ⟨e, he, rfl⟩ := List.mem_map.mp hx
          simp [glueStepFixed, (hS e he).2.2]
        rw [this]; rfl
      · simp only [if_true]
        exact (List.filter_eq_self.mpr fun d hd => by simp [h2 d hd]).symm

theorem below_plain {cfg : Cfg} {N N1 : Nodes} {D c : List Name} (hg : Good cfg ⟨N, D, c⟩) (hN1 : NWF N1)
    {name : Name} (hz : isSubdomain name (apex cfg) = true) (hag : AgreeOff N N1 name)
    (hb : nsBelow N name = false) :
    (∀ e ∈ N1, properSub e.1 name = true →
      e.2.flags.origin = false ∧ e.2.flags.deleg = false ∧ hasNS e.2.rds = false) ∧
    (∀ d ∈ D, properSub d name = false) := by
  have hnb : ∀ e ∈ N, properSub e.1 name = true → hasNS e.2.rds = false := by
    intro e he hp
    unfold nsBelow at hb
    simpa [hp] using List.any_eq_false.mp hb e he
  have hnd : ∀ e ∈ N, properSub e.1 name = true → isDelegSpec cfg N e.1 = false := by
    intro e he hp
    refine Bool.eq_false_iff.mpr fun hh => ?_
    obtain ⟨_, ⟨nd, hgn, hh'⟩, _⟩ := (isDelegSpec_iff hg.wf).mp hh
    rw [mem_nget hg.wf he] at hgn; cases hgn
    rw [hnb e he hp] at hh'; cases hh'
  constructor
  · intro e he1 hp
    have he := hag.mem hg.wf hN1 (ne_of_properSub hp) he1
    rw [hg.flags e he]
    exact ⟨not_origin_of_below hz hp (hg.wf.2 e he), hnd e he hp, hnb e he hp⟩
  · intro d hd
    refine Bool.eq_false_iff.mpr fun hp => ?_
    obtain ⟨nd, hm, hdel⟩ := hg.mem_delegs.mp hd
    rw [hnd (d, nd) hm hp] at hdel; cases hdel

theorem updateGlue_eq_intended {v : Variant} {cfg : Cfg} {N N1 : Nodes} {D D1 c c1 : List Name} {name : Name}
    (hg : Good cfg ⟨N, D, c⟩) (hN1 : NWF N1) (hag : AgreeOff N N1 name) (hn : LC name)
    (hz : isSubdomain name (apex cfg) = true) (hguard : v.fixNested = true ∨ nsBelow N name = false)
    (hD1 : ∀ d ∈ D1, d = name ∨ d ∈ D) (b : Bool) :
    updateGlue v ⟨N1, D1, c1⟩ name b = updateGlue intended ⟨N1, D1, c1⟩ name b := by
  rcases hguard with h | h
  · exact updateGlue_congr (by rw [h]; rfl) _ _ _
  · obtain ⟨h1, h2⟩ := below_plain hg hN1 hz hag h
    apply updateGlue_guarded v hN1 hn b h1
    intro d hd
    rcases hD1 d hd with e | hd
    · rw [e]; exact properSub_irrefl name
    · exact h2 d hd

end BTZ
end Model
