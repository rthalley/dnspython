import Proofs.TsigBytes
import Proofs.NameOps
import Proofs.NameWire
/-! The fuel-driven name decoder of the TSIG reader model is C01's `fromWireAux` (given enough fuel, which
`nameFuel` always is), so the reader's name decoding rests on C01's theorems about `Dec`. -/
namespace Model.Tsig
open Model Model.NameOrder

/-- with `bp*(endp+1) + (endp - cur) + 1` steps of fuel the two decoders agree: every label step raises `cur`,
every pointer step lowers `bp` (and resets `cur` below it) -/
theorem nameAt_eq_fromWireAux (w : Bytes) (endp cur bp f : Nat) (acc : List Label) :
    ∀ fuel, bp * (endp + 1) + (endp - cur) + 1 ≤ fuel →
      nameAt w endp fuel cur bp f acc = fromWireAux w endp cur bp f acc := by
  -- in every branch the tests `fromWireAux` has passed decide the tests of `nameAt`; the two recursive branches
  -- are left with the fuel bound
  fun_induction fromWireAux w endp cur bp f acc with
    (intro fuel hf
     obtain ⟨fuel, rfl⟩ : ∃ k, fuel = k + 1 := ⟨fuel - 1, by omega⟩
     unfold nameAt
     simp only [List.getElem_eq_getD 0] at *
     simp only [*, and_self, if_true, if_false, ge_iff_le])
  | case3 cur bp f acc h h0 h1 h2 ih =>
    apply ih
    have : 0 < w.getD cur 0 := by omega
    omega
  | case5 cur bp f acc h h0 h1 h2 h3 h4 ih =>
    apply ih
    have hm : (w.getD cur 0 % 64 * 256 + w.getD (cur + 1) 0 + 1) * (endp + 1) ≤ bp * (endp + 1) :=
      Nat.mul_le_mul_right _ (by omega)
    rw [Nat.add_mul] at hm
    omega

theorem nameAt_fuel (w : Bytes) (endp cur f : Nat) (acc : List Label) :
    nameAt w endp (nameFuel w) cur cur f acc = fromWireAux w endp cur cur f acc := by
  by_cases h : cur < endp ∧ endp ≤ w.length
  · apply nameAt_eq_fromWireAux
    unfold nameFuel
    generalize w.length = L at *
    have h1 : cur * (endp + 1) ≤ L * (L + 1) := Nat.mul_le_mul (by omega) (by omega)
    have h2 : (L + 1) * (L + 2) = L * (L + 1) + 2 * L + 2 := by
      rw [Nat.mul_add (L + 1) L 2, Nat.mul_comm (L + 1) L]; omega
    omega
  · have hf : nameFuel w = (nameFuel w - 1) + 1 := by
      unfold nameFuel
      have : 0 < (w.length + 1) * (w.length + 2) := Nat.mul_pos (by omega) (by omega)
      omega
    rw [hf, fromWireAux]
    unfold nameAt
    simp only [h, if_false, dite_false]

/-- the decoder restricted to `[0, e)`, in C01's terms -/
theorem nameAt_ok_iff {w : Bytes} {e a p : Nat} {n : Name} :
    nameAt w e (nameFuel w) a a a [] = .ok (n, p) ↔ e ≤ w.length ∧ ∃ ls, Dec w a a ls p ∧ p ≤ e ∧ n = ls ++ [[]] := by
  rw [nameAt_fuel, fromWireAux_ok_iff]
  constructor
  · rintro ⟨he, ls, fwd, hd, hf, rfl, rfl⟩
    rw [Nat.max_eq_right (Nat.le_of_lt hd.fwd_le.1)]
    exact ⟨he, ls, hd, hf, rfl⟩
  · rintro ⟨he, ls, hd, hp, rfl⟩
    exact ⟨he, ls, p, hd, hp, rfl, (Nat.max_eq_right (Nat.le_of_lt hd.fwd_le.1)).symm⟩

theorem decodeName_ok (w : Bytes) (cur : Nat) (n : Name) (h : decodeName w cur = .ok n) :
    ∃ ls fwd, Dec w cur cur ls fwd ∧ n = ls ++ [[]] ∧ WfName n := by
  unfold decodeName at h
  split at h; · cases h
  rename_i n' p hrun
  obtain ⟨_, ls, hd, _, rfl⟩ := nameAt_ok_iff.mp hrun
  obtain ⟨rfl, hw⟩ := Model.wf_of_validate _ n h
  exact ⟨ls, p, hd, rfl, hw⟩

theorem decodeName_of_Dec (w : Bytes) (cur : Nat) (ls : List Label) (fwd : Nat) (hd : Dec w cur cur ls fwd)
    (hw : WfName (ls ++ [[]])) : decodeName w cur = .ok (ls ++ [[]]) := by
  unfold decodeName
  rw [nameAt_ok_iff.mpr ⟨Nat.le_refl _, ls, hd, hd.fwd_le.2, rfl⟩]
  exact Model.validate_of_wf _ hw

/-- the wire form of an absolute name of plain labels, wherever it stands, decodes to that name without a pointer -/
theorem Dec_at {w : Bytes} {a : Nat} {n : Name} {ls : List Label} (h : At w a (toWire n)) (hn : n = ls ++ [[]]) (hp : PlainLabels ls)
    (bp : Nat) : Dec w a bp ls (a + (toWire n).length) := by
  obtain ⟨A, r, rfl, rfl⟩ := h
  exact hn ▸ Dec_plain ls hp A r bp

theorem decodeName_toWire (n : Name) (hw : WfName n) (ha : isAbs n = true) (pre post : Bytes) :
    decodeName (pre ++ toWire n ++ post) pre.length = .ok n := by
  obtain ⟨ls, rfl, hp⟩ := abs_split n hw ha
  exact decodeName_of_Dec _ _ ls _ (Dec_plain ls hp pre post pre.length) hw

/-- an absolute name of plain labels: what the decoders return, and what `toWire` writes without a pointer -/
def AbsLabels (n : Name) : Prop := ∃ ls : List Label, n = ls ++ [[]] ∧ PlainLabels ls

theorem absLabels_of_wf (ls : List Label) (h : WfName (ls ++ [[]])) : AbsLabels (ls ++ [[]]) :=
  abs_split _ h (isAbs_append_abs rfl ls)

theorem absLabels_of_decode (w : Bytes) (cur : Nat) (n : Name) (h : decodeName w cur = .ok n) : AbsLabels n := by
  obtain ⟨ls, _, _, hn, hw⟩ := decodeName_ok w cur n h
  subst hn
  exact absLabels_of_wf ls hw

theorem absLabels_lower (n : Name) (h : AbsLabels n) : AbsLabels (lowerName n) := by
  obtain ⟨ls, rfl, hp⟩ := h
  refine ⟨ls.map lowerLabel, by simp [lowerName, lowerLabel], fun l hl => ?_⟩
  obtain ⟨l0, hl0, rfl⟩ := List.mem_map.mp hl
  simpa [lowerLabel] using hp l0 hl0

/-- the wire form of such a name decodes to it whatever follows (C01), so it is a prefix-free code -/
theorem toWire_prefix_free (a b : Name) (ha : AbsLabels a) (hb : AbsLabels b) (x y : Bytes)
    (h : toWire a ++ x = toWire b ++ y) : a = b ∧ x = y := by
  obtain ⟨la, rfl, hpa⟩ := ha
  obtain ⟨lb, rfl, hpb⟩ := hb
  have da := fromWireAux_of_Dec (Dec_plain la hpa [] x 0) 0 []
  have db := fromWireAux_of_Dec (Dec_plain lb hpb [] y 0) 0 []
  rw [List.nil_append, h] at da
  rw [List.nil_append, da] at db
  obtain rfl : la = lb := by simpa using (Prod.mk.inj (Except.ok.inj db)).1
  exact ⟨rfl, List.append_cancel_left h⟩

end Model.Tsig
