import Proofs.XfrConv
/-!
# Reading a response from the wire (`parseAnswer`): what it preserves

From the first SOA of a message on, every record becomes its own rrset, in order; before it (only in
messages of an AXFR that do not start with the SOA) records of the same owner and type merge.  Either way
the records of the message are preserved, and nothing ever moves across an SOA.  So the messages read are a
division of a transfer stream with the records sent, however the server cut them (`flatMap_parse_one_rr`,
`axfr_wire_run`).
-/
namespace Model.Xfr

theorem parseLoop_forced : ∀ (l : List RR) (acc : List RRset), parseLoop true acc l = acc ++ l.map single := by
  intro l
  induction l with
  | nil => intro acc; simp [parseLoop]
  | cons r rest ih => intro acc; simp [parseLoop, ih]

theorem clamp_of_ok {l : List RR} (h : TtlOk l) : l.map clampTtl = l := by
  induction l with
  | nil => rfl
  | cons r rest ih =>
    have hr : ¬ r.ttl > 2147483647 := Nat.not_lt.2 (h r (by simp))
    simp [clampTtl, hr, ih (fun x hx => h x (by simp [hx]))]

@[simp] theorem clampTtl_rdtype (r : RR) : (clampTtl r).rdtype = r.rdtype := by
  unfold clampTtl; split <;> rfl

/-- `one_rr_per_rrset=True` (IXFR) -/
theorem parse_one_rr (l : List RR) (h : TtlOk l) : parseAnswer true l = l.map single := by
  simp [parseAnswer, parseLoop_forced, clamp_of_ok h]

theorem parseLoop_append : ∀ (l m : List RR) (f : Bool) (acc : List RRset),
    parseLoop f acc (l ++ m) = parseLoop (f || l.any (fun r => r.rdtype == soaType)) (parseLoop f acc l) m := by
  intro l
  induction l with
  | nil => intro m f acc; simp [parseLoop]
  | cons r rest ih =>
    intro m f acc
    simp only [List.cons_append, parseLoop, List.any_cons]
    by_cases hf : (f || r.rdtype == soaType) = true
    · rw [if_pos hf, ih, ← Bool.or_assoc, hf]
      rfl
    · rw [if_neg hf]
      obtain ⟨h1, h2⟩ := Bool.or_eq_false_iff.1 (Bool.not_eq_true _ ▸ hf)
      rw [h1, h2]
      cases mergeLast acc r with
      | some acc' => exact ih m false acc'
      | none => exact ih m false _

/-- So records that follow the final SOA of a transfer in the same message still follow it for
`Inbound.process_message`. -/
theorem parse_keeps_order_from_soa (f : Bool) (l : List RR) (s : RR) (extra : List RR) (hs : s.rdtype = soaType) :
    parseAnswer f (l ++ s :: extra) =
      parseAnswer f l ++ single (clampTtl s) :: (extra.map clampTtl).map single := by
  unfold parseAnswer
  rw [List.map_append, List.map_cons, parseLoop_append]
  have : parseLoop (f || (l.map clampTtl).any fun r => r.rdtype == soaType) (parseLoop f [] (l.map clampTtl))
        (clampTtl s :: extra.map clampTtl) =
      parseLoop true (parseLoop f [] (l.map clampTtl) ++ [single (clampTtl s)]) (extra.map clampTtl) := by
    simp [parseLoop, hs]
  rw [this, parseLoop_forced]
  simp

theorem parse_from_soa (f : Bool) (s : RR) (rest : List RR) (hs : s.rdtype = soaType) (h : TtlOk (s :: rest)) :
    parseAnswer f (s :: rest) = single s :: rest.map single := by
  have := parse_keeps_order_from_soa f [] s rest hs
  have h1 : clampTtl s = s := by have := clamp_of_ok h; simp at this; exact this.1
  have h2 : rest.map clampTtl = rest := clamp_of_ok (fun x hx => h x (by simp [hx]))
  simpa [parseAnswer, parseLoop, h1, h2] using this


theorem mergeInto_ne_nil (rs : RRset) (r : RR) : (mergeInto rs r).rdatas ≠ [] := by
  unfold mergeInto
  dsimp only
  by_cases hs : isSingleton rs.rdtype = true
  · rw [if_pos hs]; exact List.cons_ne_nil _ _
  · rw [if_neg hs]
    by_cases hcon : rs.rdatas.contains r.rdata = true
    · rw [if_pos hcon]; intro h; rw [h] at hcon; cases hcon
    · rw [if_neg hcon]; simp

theorem recsOf_mergeInto {rs : RRset} {r : RR} (ho : rs.owner = r.owner) (ht : rs.rdtype = r.rdtype)
    (hne : rs.rdatas ≠ []) (hc : Coherent (recsOf rs ++ [r])) :
    recsOf (mergeInto rs r) ≃z (recsOf rs ++ [r]) := by
  obtain ⟨o, t, ttl, ds⟩ := rs
  cases ds with
  | nil => exact absurd rfl hne
  | cons d0 tl =>
    simp only at ho ht
    have hin : ∀ d ∈ d0 :: tl, (⟨o, t, d, ttl⟩ : RR) ∈ recsOf ⟨o, t, ttl, d0 :: tl⟩ ++ [r] := by
      intro d hd; simp only [List.mem_append, recsOf, List.mem_map]; exact Or.inl ⟨d, hd, rfl⟩
    have hr : r ∈ recsOf ⟨o, t, ttl, d0 :: tl⟩ ++ [r] := by simp
    have httl : ttl = r.ttl := hc.ttl_eq (hin d0 (by simp)) hr ho ht
    have hreq : (⟨o, t, r.rdata, ttl⟩ : RR) = r := RR.eq_of_fields ho ht rfl httl
    have hmin : min ttl r.ttl = ttl := by rw [← httl]; exact Nat.min_self _
    -- the rdatas after the merge: the old ones and the record's (a singleton type holds one rdata anyway)
    have hmem : ∀ d, d ∈ (mergeInto ⟨o, t, ttl, d0 :: tl⟩ r).rdatas ↔ d ∈ d0 :: tl ∨ d = r.rdata := by
      intro d
      unfold mergeInto
      dsimp only
      by_cases hs : isSingleton t = true
      · rw [if_pos hs, List.mem_singleton]
        exact ⟨Or.inr, fun h => h.elim (fun hd => hc.rdata_eq (hin d hd) hr ho ht hs) id⟩
      · rw [if_neg hs]
        by_cases hcon : (d0 :: tl).contains r.rdata = true
        · rw [if_pos hcon]
          exact ⟨Or.inl, fun h => h.elim id fun e => e ▸ List.contains_iff_mem.1 hcon⟩
        · rw [if_neg hcon, List.mem_append, List.mem_singleton]
    intro q
    simp only [recsOf, List.mem_map, List.mem_append, List.mem_singleton, hmem]
    simp only [mergeInto, hmin, or_and_right, exists_or, exists_eq_left, hreq, eq_comm]

/-- the rrset that takes the record in is the last of its owner and type; the records are those there were, and `r` -/
theorem mergeLast_equiv {r : RR} : ∀ {acc acc' : List RRset}, mergeLast acc r = some acc' →
    (∀ rs ∈ acc, rs.rdatas ≠ []) → Coherent (recsOfAll acc ++ [r]) → (∀ rs ∈ acc', rs.rdatas ≠ []) ∧ recsOfAll acc' ≃z (recsOfAll acc ++ [r])
  | [], _, h, _, _ => nomatch h
  | a :: rest, acc', h, hne, hc => by
    have hne' : ∀ rs ∈ rest, rs.rdatas ≠ [] := fun rs hrs => hne rs (List.mem_cons_of_mem _ hrs)
    rw [recsOfAll_cons] at hc ⊢
    unfold mergeLast at h
    cases hm : mergeLast rest r with
    | some rest' =>
      obtain rfl : a :: rest' = acc' := by simpa [hm] using h
      have ih := mergeLast_equiv hm hne'
        (hc.subset fun q hq => by rw [List.append_assoc]; exact List.mem_append_right _ hq)
      refine ⟨fun rs hrs => (List.mem_cons.1 hrs).elim (fun e => e ▸ hne a (by simp)) (ih.1 rs), fun q => ?_⟩
      rw [recsOfAll_cons, List.append_assoc, List.mem_append, List.mem_append, ih.2 q]
    | none =>
      rw [hm] at h
      by_cases hk : (a.owner == r.owner && a.rdtype == r.rdtype) = true
      · obtain rfl : mergeInto a r :: rest = acc' := by simpa [hk] using h
        simp only [Bool.and_eq_true, beq_iff_eq] at hk
        have hmi := recsOf_mergeInto hk.1 hk.2 (hne a (by simp))
          (hc.subset fun q hq => (List.mem_append.1 hq).elim
            (fun h => List.mem_append_left _ (List.mem_append_left _ h)) (List.mem_append_right _))
        refine ⟨fun rs hrs => (List.mem_cons.1 hrs).elim (fun e => e ▸ mergeInto_ne_nil a r) (hne' rs), fun q => ?_⟩
        rw [recsOfAll_cons, List.mem_append, hmi q]
        simp only [List.mem_append, or_right_comm]
      · simp [hk] at h

/-- The accumulator is followed as a set of records `W`. -/
theorem parseLoop_merge : ∀ (l : List RR) (acc : List RRset) (W : Zone), (∀ r ∈ l, r.rdtype ≠ soaType) →
    (∀ rs ∈ acc, rs.rdatas ≠ []) → recsOfAll acc ≃z W → Coherent (W ++ l) →
    (∀ rs ∈ parseLoop false acc l, rs.rdatas ≠ []) ∧ recsOfAll (parseLoop false acc l) ≃z (W ++ l) := by
  intro l
  induction l with
  | nil => intro acc W _ hne hW _; exact ⟨by simpa [parseLoop] using hne, by simpa [parseLoop] using hW⟩
  | cons r rest ih =>
    intro acc W hns hne hW hc
    have hr : (r.rdtype == soaType) = false := by simpa using hns r (by simp)
    simp only [parseLoop, Bool.false_or, hr, Bool.false_eq_true, if_false]
    have hstep : ∀ acc', (∀ rs ∈ acc', rs.rdatas ≠ []) → recsOfAll acc' ≃z (recsOfAll acc ++ [r]) →
        (∀ rs ∈ parseLoop false acc' rest, rs.rdatas ≠ []) ∧
          recsOfAll (parseLoop false acc' rest) ≃z (W ++ r :: rest) := fun acc' hne' hq => by
      simpa using ih acc' (W ++ [r]) (fun x hx => hns x (by simp [hx])) hne'
        (Zone.equiv_trans hq (Zone.equiv_append hW _)) (by simpa using hc)
    cases hm : mergeLast acc r with
    | none =>
      refine hstep (acc ++ [single r]) (fun rs hrs => ?_) (by rw [recsOfAll_append]; exact Zone.equiv_refl _)
      rcases List.mem_append.1 hrs with h | h
      · exact hne rs h
      · simp only [List.mem_singleton] at h; subst h; simp [single]
    | some acc' =>
      have me := mergeLast_equiv hm hne (hc.subset fun q hq => by
        simp only [List.mem_append, List.mem_cons, List.not_mem_nil, or_false] at hq ⊢
        exact hq.imp (hW q).1 Or.inl)
      exact hstep acc' me.1 me.2

/-- `hhdr`: what `Chunks.hdr` asks of the headers (no question, or the right one) -/
theorem Chunks.of_wire {c : Config} {b : Bool} {wms : List WireMsg}
    (hhdr : ∀ w ∈ wms, w.rcode = 0 ∧
      (w.question = [] ∨ ∃ o rest, c.origin = some o ∧ w.question = (o, c.rdtype) :: rest))
    (hfirst : ∀ w ∈ wms.head?, parseAnswer b w.recs ≠ []) :
    Chunks c (wms.flatMap fun w => parseAnswer b w.recs) (wms.map (readMsg b)) := by
  refine ⟨by simp [List.flatMap_map, readMsg], fun m hm => ?_, fun m hm => ?_⟩
  · obtain ⟨w, hw, rfl⟩ := List.mem_map.1 hm
    exact hhdr w hw
  · cases wms with
    | nil => simp at hm
    | cons w rest =>
      simp only [List.map_cons, List.head?_cons, Option.mem_def, Option.some.injEq] at hm
      subst hm
      exact hfirst w (by simp)

/-- records that hold no SOA are read as rrsets with the same records, merged or not -/
theorem parse_body (f : Bool) {o : Name} {l : List RR} (hl : ∀ r ∈ l, r.rdtype ≠ soaType ∧ isSubdomain r.owner o = true)
    (hc : Coherent l) (ht : TtlOk l) : BodyOk o (parseAnswer f l) ∧ recsOfAll (parseAnswer f l) ≃z l := by
  cases f with
  | true =>
    rw [parse_one_rr l ht, recsOfAll_singles]
    exact ⟨bodyOk_singles hl, Zone.equiv_refl _⟩
  | false =>
    have h : (∀ rs ∈ parseAnswer false l, rs.rdatas ≠ []) ∧ recsOfAll (parseAnswer false l) ≃z l := by
      simpa [parseAnswer, recsOfAll_nil, clamp_of_ok ht] using
        parseLoop_merge l [] [] (fun r hr => (hl r hr).1) (by simp) (Zone.equiv_refl _) (by simpa using hc)
    refine ⟨fun rs hrs => ?_, h.2⟩
    obtain ⟨d, hd⟩ := List.exists_mem_of_ne_nil _ (h.1 rs hrs)
    have := hl _ ((h.2 _).1 (List.mem_flatMap.2 ⟨rs, hrs, mem_recsOf.2 ⟨d, hd, rfl⟩⟩))
    exact ⟨this.1, this.2, h.1 rs hrs⟩

/-- The messages that carry the body `b` and the closing SOA `s` of an AXFR, each read with or without merging
(`ws` pairs the flag with the records), in any division: rrsets with the records of `b`, then `s`. -/
theorem parse_axfr_tail {o : Name} {s : RR} (hs : s.rdtype = soaType) : ∀ (ws : List (Bool × List RR)) (b : List RR),
    ws.flatMap (·.2) = b ++ [s] → (∀ r ∈ b, r.rdtype ≠ soaType ∧ isSubdomain r.owner o = true) → Coherent b →
    TtlOk (b ++ [s]) →
    ∃ b', BodyOk o b' ∧ recsOfAll b' ≃z b ∧ ws.flatMap (fun w => parseAnswer w.1 w.2) = b' ++ [single s] := by
  intro ws
  induction ws with
  | nil => intro b h; simp at h
  | cons w ws ih =>
    intro b hflat hok hco httl
    rw [List.flatMap_cons] at hflat
    -- the message holds a part of the body, and the SOA is still to come
    have part : ∀ a', b = w.2 ++ a' → ws.flatMap (·.2) = a' ++ [s] →
        ∃ b', BodyOk o b' ∧ recsOfAll b' ≃z b ∧
          (w :: ws).flatMap (fun w => parseAnswer w.1 w.2) = b' ++ [single s] := by
      rintro a' rfl hR
      have h1 := parse_body w.1 (fun r hr => hok r (List.mem_append_left _ hr))
        (hco.subset fun r hr => List.mem_append_left _ hr) fun r hr => httl r (by simp [hr])
      obtain ⟨b2, k1, k2, k3⟩ := ih a' hR (fun r hr => hok r (List.mem_append_right _ hr))
        (hco.subset fun r hr => List.mem_append_right _ hr) fun r hr => httl r (by
          rcases List.mem_append.1 hr with h | h <;> simp [h])
      refine ⟨parseAnswer w.1 w.2 ++ b2, fun rs hrs => (List.mem_append.1 hrs).elim (h1.1 rs) (k1 rs), fun q => ?_,
        by rw [List.flatMap_cons, k3, List.append_assoc]⟩
      rw [recsOfAll_append, List.mem_append, List.mem_append, h1.2 q, k2 q]
    rcases List.append_eq_append_iff.1 hflat with ⟨a', hb, hR⟩ | ⟨c', hw, hR⟩
    · exact part a' hb hR
    · cases c' with
      | nil => exact part [] (by simpa using hw.symm) (by simpa using hR.symm)
      | cons x xs =>
        -- the message ends with the SOA; what follows is empty
        obtain ⟨rfl, rfl, hR'⟩ : s = x ∧ xs = [] ∧ ws.flatMap (·.2) = [] := by simpa using hR
        have hnil : ws.flatMap (fun w => parseAnswer w.1 w.2) = [] := by
          rw [List.flatMap_eq_nil_iff] at hR' ⊢
          intro w' hw'; rw [hR' w' hw']; cases w'.1 <;> rfl
        have h1 := parse_body w.1 hok hco fun r hr => httl r (by simp [hr])
        refine ⟨_, h1.1, h1.2, ?_⟩
        rw [List.flatMap_cons, hnil, List.append_nil, hw, parse_keeps_order_from_soa w.1 b s [] hs, clampTtl,
          if_neg (Nat.not_lt.2 (httl s (by simp)))]
        rfl

/-- **An AXFR response cut into wire messages in any way**, each read with rrset merging: what `Inbound` is fed is a
division of the AXFR stream of a version that holds the records sent. -/
theorem axfr_wire_chunks {c : Config} (o : Name) (soa : Soa) (body : List RR) (wms : List WireMsg)
    (hflat : wms.flatMap (·.recs) = soaRec o soa :: (body ++ [soaRec o soa]))
    (hhdr : ∀ w ∈ wms, w.rcode = 0 ∧
      (w.question = [] ∨ ∃ o rest, c.origin = some o ∧ w.question = (o, c.rdtype) :: rest))
    (hfirst : ∀ w ∈ wms.head?, w.recs ≠ [])
    (hok : ∀ r ∈ body, r.rdtype ≠ soaType ∧ isSubdomain r.owner o = true)
    (hco : Coherent body) (httl : TtlOk (soaRec o soa :: (body ++ [soaRec o soa]))) :
    ∃ body', BodyOk o body' ∧ recsOfAll body' ≃z body ∧
      Chunks c (axfrStream o ⟨soa, body'⟩) (wms.map (readMsg false)) := by
  cases wms with
  | nil => simp at hflat
  | cons w1 ws =>
    cases hr : w1.recs with
    | nil => exact absurd hr (hfirst w1 rfl)
    | cons x r1 =>
      rw [List.flatMap_cons, hr, List.cons_append, List.cons.injEq] at hflat
      obtain ⟨rfl, hflat⟩ := hflat
      have ht1 : TtlOk r1 := fun r hr => httl r (List.mem_cons_of_mem _ (hflat ▸ List.mem_append_left _ hr))
      -- behind its SOA the first message is read one rrset per record
      have e1 : parseAnswer false w1.recs = soaRR o soa :: parseAnswer true r1 := by
        rw [hr, parse_from_soa false _ _ rfl fun r hr => (List.mem_cons.1 hr).elim (fun e => e ▸ httl _ (by simp)) (ht1 r),
          parse_one_rr r1 ht1]
        rfl
      obtain ⟨b', k1, k2, k3⟩ := parse_axfr_tail (o := o) (s := soaRec o soa) rfl
        ((true, r1) :: ws.map fun w => (false, w.recs)) body (by simpa [List.flatMap_map] using hflat) hok hco
        fun r hr => httl r (List.mem_cons_of_mem _ hr)
      refine ⟨b', k1, k2, ?_⟩
      have hs : (w1 :: ws).flatMap (fun w => parseAnswer false w.recs) = axfrStream o ⟨soa, b'⟩ := by
        rw [List.flatMap_cons, e1, axfrStream, List.cons_append]
        simp only [List.flatMap_cons, List.flatMap_map] at k3
        exact congrArg _ k3
      rw [← hs]
      exact Chunks.of_wire hhdr fun w hw => by
        obtain rfl : w1 = w := by simpa using hw
        rw [e1]; exact List.cons_ne_nil _ _

/-- **AXFR read from the wire converges, however the server cut the records into messages** (one message with both
SOAs included), each message with no question or the right one: the zone ends as the set of records sent. -/
theorem axfr_wire_run (o : Name) (soa : Soa) (body : List RR) (wms : List WireMsg) (z0 : Zone) (ser : Option Nat)
    (hflat : wms.flatMap (·.recs) = soaRec o soa :: (body ++ [soaRec o soa]))
    (hhdr : ∀ w ∈ wms, w.rcode = 0 ∧ (w.question = [] ∨ ∃ rest, w.question = (o, axfrType) :: rest))
    (hfirst : ∀ w ∈ wms.head?, w.recs ≠ [])
    (hok : ∀ r ∈ body, r.rdtype ≠ soaType ∧ isSubdomain r.owner o = true)
    (hco : Coherent (body ++ [soaRec o soa])) (httl : TtlOk (body ++ [soaRec o soa])) :
    (run true ⟨some o, axfrType, ser, false⟩ z0 (wms.map (readMsg false))).err = none ∧
      (run true ⟨some o, axfrType, ser, false⟩ z0 (wms.map (readMsg false))).zone ≃z (body ++ [soaRec o soa]) := by
  obtain ⟨body', hbok, hbody, hc⟩ := axfr_wire_chunks (c := ⟨some o, axfrType, ser, false⟩) o soa body wms hflat
    (fun w hw => ⟨(hhdr w hw).1, (hhdr w hw).2.imp_right fun ⟨rest, h⟩ => ⟨o, rest, rfl, h⟩⟩) hfirst hok
    (hco.subset fun r hr => List.mem_append_left _ hr)
    fun r hr => (List.mem_cons.1 hr).elim (fun e => e ▸ httl _ (by simp)) (httl r)
  have hzo : zoneOf o ⟨soa, body'⟩ ≃z (body ++ [soaRec o soa]) := Zone.equiv_append hbody _
  have h := run_converges rfl (axfr_flat o ⟨soa, body'⟩ z0 ser hbok (Coherent.congr hzo hco)) hbok hc
  exact ⟨h.1, Zone.equiv_trans h.2.1 hzo⟩

theorem flatMap_parse_one_rr : ∀ (wms : List WireMsg), TtlOk (wms.flatMap (·.recs)) →
    (wms.flatMap fun w => parseAnswer true w.recs) = (wms.flatMap (·.recs)).map single := by
  intro wms
  induction wms with
  | nil => intro _; rfl
  | cons w rest ih =>
    intro httl
    rw [List.flatMap_cons] at httl
    simp only [List.flatMap_cons, List.map_append]
    rw [parse_one_rr _ (fun r hr => httl r (List.mem_append.2 (Or.inl hr))),
      ih (fun r hr => httl r (List.mem_append.2 (Or.inr hr)))]

/-- **An IXFR response cut into wire messages in any way**, each read with `one_rr_per_rrset=True`: what `Inbound` is
fed is a division of the stream with one rrset per record. -/
theorem ixfr_wire_chunks {c : Config} {wms : List WireMsg} {recs : List RR}
    (hflat : wms.flatMap (·.recs) = recs) (httl : TtlOk recs)
    (hhdr : ∀ w ∈ wms, w.rcode = 0 ∧
      (w.question = [] ∨ ∃ o rest, c.origin = some o ∧ w.question = (o, c.rdtype) :: rest))
    (hfirst : ∀ w ∈ wms.head?, w.recs ≠ []) : Chunks c (recs.map single) (wms.map (readMsg true)) := by
  rw [← hflat, ← flatMap_parse_one_rr wms (by rw [hflat]; exact httl)]
  refine Chunks.of_wire hhdr fun w hw => ?_
  rw [parse_one_rr _ fun r hr => httl r (by rw [← hflat]; exact List.mem_flatMap.2 ⟨w, List.mem_of_mem_head? hw, hr⟩)]
  exact fun h => hfirst w hw (List.map_eq_nil_iff.1 h)

end Model.Xfr
