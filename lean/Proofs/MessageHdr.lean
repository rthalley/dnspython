import Model.MsgTypes
/-! Header-field codecs: `rcode.from_flags/to_flags`, `opcode.from_flags/to_flags`. -/
namespace Model

/-- `from_flags(*to_flags(v)) = v` for every rcode 0..4095, and the two halves stay inside the header's rcode nibble
and the top octet of the OPT ttl: the masks `0xF` and `0xFF0` are disjoint and together cover the twelve bits of `v`,
and the shift by 20 is undone by `from_flags`. -/
theorem rcode_table (v : Nat) (h : v < 4096) :
    rcodeFromFlags (v &&& 0xF) ((v &&& 0xFF0) <<< 20) = v ∧ (v &&& 0xF) < 16 ∧
      ((v &&& 0xFF0) <<< 20) % 16777216 = 0 ∧ ((v &&& 0xFF0) <<< 20) < 4294967296 := by
  have hle : v &&& 0xFF0 ≤ 0xFF0 := Nat.and_le_right
  have hlo : (v &&& 0xFF0) % 16 = 0 := by
    rw [← Nat.and_two_pow_sub_one_eq_mod _ 4, Nat.and_assoc]
    exact Nat.and_zero v
  refine ⟨?_, Nat.lt_succ_of_le Nat.and_le_right, ?_, ?_⟩
  · unfold rcodeFromFlags
    rw [Nat.shiftLeft_shiftRight, Nat.and_assoc, Nat.and_assoc, ← Nat.and_or_distrib_left]
    exact (Nat.and_two_pow_sub_one_eq_mod v 12).trans (Nat.mod_eq_of_lt h)
  · rw [Nat.shiftLeft_eq]; omega
  · rw [Nat.shiftLeft_eq]; omega

/-- a bit field of width `w` at position `k`: the mask takes nothing from a shifted value that fits, and shifting back
returns it -/
theorem field_roundtrip (v k w : Nat) (h : v < 2 ^ w) : ((v <<< k) &&& ((2 ^ w - 1) <<< k)) >>> k = v := by
  rw [← Nat.shiftLeft_and_distrib, Nat.shiftLeft_shiftRight, Nat.and_two_pow_sub_one_eq_mod, Nat.mod_eq_of_lt h]

/-- the opcode is the field of width 4 at bit 11 (mask `0x7800`), and `to_flags` sets no bit outside it -/
theorem opcode_table : ∀ v < 16, opcodeFromFlags (opcodeToFlags v) = v ∧ opcodeToFlags v &&& 0x87FF = 0 := by
  intro v hv
  unfold opcodeFromFlags opcodeToFlags
  rw [Nat.and_assoc, Nat.and_assoc, Nat.and_self]
  exact ⟨field_roundtrip v 11 4 hv, Nat.and_zero _⟩

end Model
