import Model.RdataIrregular
import Proofs.RdataCodec
/-! the record types with an object-level view (C02): for LOC, SVCB/HTTPS and OPT the view of a valid raw record
rebuilds a valid raw record with the same view; for APL, whose items keep IPv4/IPv6 addresses padded, the rebuilt raw
record has a view that rebuilds the same raw record again. -/
namespace Model

/-! ## LOC: sizes `base·10^exp`, coordinates as (degrees, minutes, seconds, milliseconds, hemisphere) -/

theorem locSize_fix : ∀ b, b < 256 → locSizeOk b = true →
    (locSizeOk (locEncodeSize (locDecodeSize b)) && decide (locEncodeSize (locDecodeSize b) < 256) &&
      locDecodeSize (locEncodeSize (locDecodeSize b)) == locDecodeSize b) = true := by
  decide +kernel

theorem dms_recompose (mag : Nat) :
    mag / 3600000 * 3600000 + mag % 3600000 / 60000 * 60000 + mag % 60000 / 1000 * 1000 + mag % 1000 = mag := by
  omega

theorem locCoord_wire (w : Nat) : locCoordWire (locCoord w) = w := by
  simp only [locCoord, locCoordWire, locCoord.seqV, Val.fst, Val.snd, Val.toNat, dms_recompose]
  by_cases hp : w ≥ 2147483648 <;> simp [hp] <;> omega

/-- full degrees leave no room for minutes, seconds or milliseconds -/
theorem locCoord_mag_le {d m s ms maxDeg : Nat} (hd : d ≤ maxDeg) (hm : m ≤ 59) (hs : s ≤ 59) (hms : ms ≤ 999)
    (h : d ≠ maxDeg ∨ (m = 0 ∧ s = 0) ∧ ms = 0) :
    d * 3600000 + m * 60000 + s * 1000 + ms ≤ maxDeg * 3600000 := by
  omega

theorem loc_shape (o : Option Name) (r : Val) (h : valid locSchema o r = true) :
    ∃ ver sz hp vp lat lon alt,
      r = seqV [.nat ver, .nat sz, .nat hp, .nat vp, .nat lat, .nat lon, .nat alt] ∧
      ver < 256 ∧ sz < 256 ∧ hp < 256 ∧ vp < 256 ∧ lat < 2 ^ 32 ∧ lon < 2 ^ 32 ∧ alt < 2 ^ 32 ∧
      locRawOk r = true := by
  obtain ⟨hs, hr⟩ := valid_check.1 h
  obtain ⟨ver, r1, rfl, h1, hs⟩ := valid_pair_uint hs
  obtain ⟨sz, r2, rfl, h2, hs⟩ := valid_pair_uint hs
  obtain ⟨hp, r3, rfl, h3, hs⟩ := valid_pair_uint hs
  obtain ⟨vp, r4, rfl, h4, hs⟩ := valid_pair_uint hs
  obtain ⟨lat, r5, rfl, h5, hs⟩ := valid_pair_uint hs
  obtain ⟨lon, r6, rfl, h6, hs⟩ := valid_pair_uint hs
  obtain ⟨alt, rfl, h7⟩ := valid_uint.1 hs
  exact ⟨ver, sz, hp, vp, lat, lon, alt, rfl, h1, h2, h3, h4, h5, h6, h7, hr⟩

theorem loc_pre_post (o : Option Name) (r v : Val) (h : valid locSchema o r = true) (hv : locPost r = some v) :
    valid locSchema o (locPre v) = true ∧ locPost (locPre v) = some v := by
  obtain ⟨ver, sz, hp, vp, lat, lon, alt, rfl, h1, h2, h3, h4, h5, h6, h7, hr⟩ := loc_shape o r h
  simp only [locPost, locCoord.seqV, seqV, Val.fst, Val.snd, Val.toNat, Option.some.injEq] at hv
  subst hv
  simp only [locRawOk, locCoord.seqV, seqV, Val.fst, Val.snd, Val.toNat, Bool.and_eq_true] at hr
  obtain ⟨⟨⟨⟨⟨⟨⟨hver, hla1⟩, hla2⟩, hlo1⟩, hlo2⟩, hs1⟩, hs2⟩, hs3⟩ := hr
  have f1 := locSize_fix sz h2 hs1
  have f2 := locSize_fix hp h3 hs2
  have f3 := locSize_fix vp h4 hs3
  simp only [Bool.and_eq_true, decide_eq_true_eq, beq_iff_eq] at f1 f2 f3
  have c1 := locCoord_wire lat
  have c2 := locCoord_wire lon
  constructor
  · simp only [locPre, locSchema, valid, validWith, Schema.seq, locCoord.seqV, seqV, Val.fst, Val.snd, Val.toNat,
      locRawOk, c1, c2, Bool.and_eq_true, decide_eq_true_eq]
    refine ⟨⟨by decide, f1.1.2, f2.1.2, f3.1.2, h5, h6, h7⟩, ?_⟩
    exact ⟨⟨⟨⟨⟨⟨⟨trivial, hla1⟩, hla2⟩, hlo1⟩, hlo2⟩, f1.1.1⟩, f2.1.1⟩, f3.1.1⟩
  · simp only [locPre, locPost, locCoord.seqV, seqV, Val.fst, Val.snd, Val.toNat, c1, c2, f1.2, f2.2, f3.2]

/-! ## SVCB / HTTPS: ascending keys, a repeated key keeps the last value, AliasMode has no parameters, mandatory keys
present, no-default-alpn needs alpn -/

def keyOf (p : Val) : Nat := p.fst.toNat

theorem dedupLast_sub : ∀ (ps : List Val), ∀ p ∈ dedupLast ps, p ∈ ps
  | [], _, h => h
  | [_], _, h => h
  | a :: b :: bs, p, h => by
    rw [dedupLast] at h
    split at h
    · exact List.mem_cons_of_mem _ (dedupLast_sub (b :: bs) p h)
    · rcases List.mem_cons.1 h with rfl | h'
      · exact List.mem_cons_self
      · exact List.mem_cons_of_mem _ (dedupLast_sub (b :: bs) p h')

theorem dedupLast_head_ge (lo : Nat) : ∀ ps, nonDecFrom lo ps = true → ∀ p ∈ dedupLast ps, lo ≤ keyOf p := by
  intro ps h p hp
  have hp' := dedupLast_sub ps p hp
  clear hp
  induction ps generalizing lo with
  | nil => simp at hp'
  | cons a as ih =>
    simp only [nonDecFrom, Bool.and_eq_true, decide_eq_true_eq] at h
    rcases List.mem_cons.1 hp' with rfl | h'
    · exact h.1
    · have := ih (a.fst.toNat) h.2 h'
      unfold keyOf at *; omega

theorem nonDecFrom_cons (lo : Nat) (p : Val) (ps : List Val) :
    nonDecFrom lo (p :: ps) = true ↔ lo ≤ p.fst.toNat ∧ nonDecFrom p.fst.toNat ps = true := by
  simp [nonDecFrom]

/-- the first key survives: of a run of equal keys the last parameter is kept -/
theorem dedupLast_head : ∀ (p : Val) (ps : List Val),
    ∃ q qs, dedupLast (p :: ps) = q :: qs ∧ q.fst.toNat = p.fst.toNat
  | p, [] => ⟨p, [], rfl, rfl⟩
  | p, q :: qs => by
    rw [dedupLast]
    split
    · rename_i he
      obtain ⟨q', qs', e, hk⟩ := dedupLast_head q qs
      exact ⟨q', qs', e, hk.trans he.symm⟩
    · exact ⟨p, _, rfl, rfl⟩

theorem dedupLast_idem : ∀ ps : List Val, dedupLast (dedupLast ps) = dedupLast ps
  | [] => rfl
  | [_] => rfl
  | p :: q :: qs => by
    rw [dedupLast]
    split
    · exact dedupLast_idem (q :: qs)
    · rename_i hne
      obtain ⟨q', qs', e, hk⟩ := dedupLast_head q qs
      rw [e, dedupLast, if_neg (hk ▸ hne), ← e, dedupLast_idem (q :: qs)]

theorem dedupLast_nonDec : ∀ (ps : List Val) (lo : Nat), nonDecFrom lo ps = true → nonDecFrom lo (dedupLast ps) = true
  | [], _, _ => rfl
  | [_], _, h => h
  | p :: q :: qs, lo, h => by
    rw [nonDecFrom_cons, nonDecFrom_cons] at h
    rw [dedupLast]
    split
    · rename_i he
      exact dedupLast_nonDec (q :: qs) lo ((nonDecFrom_cons ..).2 ⟨he ▸ h.1, h.2.2⟩)
    · exact (nonDecFrom_cons ..).2 ⟨h.1, dedupLast_nonDec (q :: qs) _ ((nonDecFrom_cons ..).2 h.2)⟩

theorem svcb_shape (o : Option Name) (r : Val) (h : valid svcbSchema o r = true) :
    ∃ prio t raw, r = .pair (.nat prio) (.pair (.name t) (.list raw)) ∧
      valid u16 o (.nat prio) = true ∧ valid nm o (.name t) = true ∧
      ∀ x ∈ raw, valid (.bind u16 svcbSel 8 (fun i => .sub 2 (svcbBody i))) o x = true := by
  obtain ⟨prio, b, rfl, h1, hb⟩ := valid_pair_uint h
  obtain ⟨c, d, rfl, h2, hd⟩ := valid_pair.1 hb
  obtain ⟨t, rfl, _⟩ := valid_name.1 h2
  obtain ⟨raw, rfl, h3⟩ := valid_rep.1 hd
  exact ⟨prio, t, raw, rfl, valid_uint.2 ⟨_, rfl, h1⟩, h2, h3⟩

theorem svcbPostCore_idem (prio : Nat) (raw ps : List Val) (h : svcbPostCore prio raw = some ps) :
    svcbPostCore prio ps = some ps ∧ ∀ p ∈ ps, p ∈ raw := by
  unfold svcbPostCore at h
  split at h
  · simp at h
  · rename_i hA
    split at h
    · simp at h
    · rename_i hB
      split at h
      · rename_i hC
        simp at h; subst h
        have hnd : nonDecFrom 0 raw = true := by simpa using hB
        have hdd := dedupLast_idem raw
        have hnd2 := dedupLast_nonDec raw 0 hnd
        refine ⟨?_, dedupLast_sub raw⟩
        have hA' : ¬(prio = 0 ∧ (!(dedupLast raw).isEmpty) = true) := by
          intro hh
          apply hA
          refine ⟨hh.1, ?_⟩
          cases raw with
          | nil => simp [dedupLast] at hh
          | cons x xs => simp
        unfold svcbPostCore
        simp only [hA', if_false, hnd2, hdd, Bool.not_true, Bool.false_eq_true, hC, if_true]
      · simp at h

theorem svcb_post_post (o : Option Name) (r w : Val) (h : valid svcbSchema o r = true) (hw : svcbPost r = some w) :
    valid svcbSchema o w = true ∧ svcbPost w = some w := by
  obtain ⟨prio, t, raw, rfl, h1, h2, h3⟩ := svcb_shape o r h
  simp only [svcbPost, Val.fst, Val.snd, Val.toNat, Val.toList, Option.map_eq_some_iff] at hw
  obtain ⟨ps, hps, rfl⟩ := hw
  obtain ⟨hid, hsub⟩ := svcbPostCore_idem prio raw ps hps
  exact ⟨valid_pair.2 ⟨_, _, rfl, h1, valid_pair.2 ⟨_, _, rfl, h2, valid_rep.2 ⟨_, rfl, fun x hx => h3 x (hsub x hx)⟩⟩⟩,
    by simp only [svcbPost, Val.fst, Val.snd, Val.toNat, Val.toList, hid, Option.map_some]⟩

theorem strip_cons (x : Nat) (xs : Bytes) :
    stripTrailingZeros (x :: xs) = if x = 0 ∧ stripTrailingZeros xs = [] then [] else x :: stripTrailingZeros xs := by
  rw [stripTrailingZeros]
  split <;> simp [*]

theorem strip_cons_ne {x : Nat} (hx : x ≠ 0) (xs : Bytes) :
    stripTrailingZeros (x :: xs) = x :: stripTrailingZeros xs := by
  rw [strip_cons, if_neg fun h => hx h.1]

theorem strip_decomp : ∀ b : Bytes, ∃ k, b = stripTrailingZeros b ++ List.replicate k 0
  | [] => ⟨0, rfl⟩
  | x :: xs => by
    obtain ⟨k, hk⟩ := strip_decomp xs
    rw [strip_cons]
    split
    · rename_i h
      rw [h.2] at hk
      exact ⟨k + 1, by rw [h.1, hk]; rfl⟩
    · exact ⟨k, by rw [List.cons_append, ← hk]⟩

theorem strip_idem : ∀ b : Bytes, stripTrailingZeros (stripTrailingZeros b) = stripTrailingZeros b
  | [] => rfl
  | x :: xs => by
    rw [strip_cons x xs]
    split
    · rfl
    · rw [strip_cons, strip_idem xs, if_neg ‹_›]

theorem strip_length_le (b : Bytes) : (stripTrailingZeros b).length ≤ b.length := by
  obtain ⟨k, hk⟩ := strip_decomp b
  have := congrArg List.length hk
  simp at this; omega

theorem strip_replicate_zero : ∀ k, stripTrailingZeros (List.replicate k 0) = []
  | 0 => rfl
  | k + 1 => by rw [List.replicate_succ, strip_cons, strip_replicate_zero k, if_pos ⟨rfl, rfl⟩]

theorem strip_append_zeros (b : Bytes) (k : Nat) :
    stripTrailingZeros (b ++ List.replicate k 0) = stripTrailingZeros b := by
  induction b with
  | nil => exact strip_replicate_zero k
  | cons x xs ih => rw [List.cons_append, strip_cons, ih, ← strip_cons]

/-! ## APL: `APLItem` keeps IPv4/IPv6 addresses padded and other families as they came; `to_wire` strips trailing
zero octets -/

theorem padTo_length {n : Nat} {b : Bytes} (h : b.length ≤ n) : (padTo n b).length = n := by
  simp [padTo]; omega

theorem pad_strip (n : Nat) (b : Bytes) (h : b.length = n) : padTo n (stripTrailingZeros b) = b := by
  obtain ⟨k, hk⟩ := strip_decomp b
  have hl := congrArg List.length hk
  simp at hl
  unfold padTo
  have : n - (stripTrailingZeros b).length = k := by omega
  rw [this]; exact hk.symm

theorem apl_item_shape (o : Option Name) (it : Val) (h : valid aplItemSchema o it = true) :
    ∃ fam px nl afd, it = .pair (.pair (.nat fam) (.pair (.nat px) (.nat nl))) (.bytes afd) ∧
      fam < 65536 ∧ px < 256 ∧ nl < 256 ∧ afd.length = nl % 128 := by
  obtain ⟨hdr, body, rfl, h1, _, h3⟩ := valid_bind.1 h
  obtain ⟨fam, r1, rfl, hf, h1⟩ := valid_pair_uint h1
  obtain ⟨px, r2, rfl, hp, h1⟩ := valid_pair_uint h1
  obtain ⟨nl, rfl, hn⟩ := valid_uint.1 h1
  obtain ⟨afd, rfl, ha⟩ := valid_fixed.1 h3
  exact ⟨fam, px, nl, afd, rfl, hf, hp, hn, ha⟩

theorem apl_item_valid (o : Option Name) (fam px nl : Nat) (afd : Bytes)
    (hf : fam < 65536) (hp : px < 256) (hn : nl < 256) (hl : afd.length = nl % 128) :
    valid aplItemSchema o (.pair (.pair (.nat fam) (.pair (.nat px) (.nat nl))) (.bytes afd)) = true :=
  valid_bind.2 ⟨_, _, rfl,
    valid_pair.2 ⟨_, _, rfl, valid_uint.2 ⟨_, rfl, hf⟩,
      valid_pair.2 ⟨_, _, rfl, valid_uint.2 ⟨_, rfl, hp⟩, valid_uint.2 ⟨_, rfl, hn⟩⟩⟩,
    Nat.mod_lt _ (by decide), valid_fixed.2 ⟨_, rfl, hl⟩⟩

theorem aplItemPre_seqV (fam px neg : Nat) (addr : Bytes) :
    aplItemPre (seqV [.nat fam, .nat px, .nat neg, .bytes addr]) =
      .pair (.pair (.nat fam) (.pair (.nat px) (.nat ((stripTrailingZeros addr).length + 128 * neg))))
        (.bytes (stripTrailingZeros addr)) := rfl

/-- the address as `APLItem.__init__` stores it: IPv4/IPv6 padded to 4/16 octets, other families as they came -/
def aplStored (fam : Nat) (afd : Bytes) : Bytes :=
  if fam = 1 then padTo 4 afd else if fam = 2 then padTo 16 afd else afd

/-- what `APLItem.__init__` asks of the prefix length and of the length of the address part -/
def aplAccepts (fam px len : Nat) : Prop :=
  if fam = 1 then len ≤ 4 ∧ px ≤ 32 else if fam = 2 then len ≤ 16 ∧ px ≤ 128 else len * 2 ≤ 127

theorem aplItemPost_raw {fam px nl : Nat} {afd : Bytes} {w : Val} :
    aplItemPost (.pair (.pair (.nat fam) (.pair (.nat px) (.nat nl))) (.bytes afd)) = some w ↔
      aplAccepts fam px afd.length ∧ seqV [.nat fam, .nat px, .nat (nl / 128), .bytes (aplStored fam afd)] = w := by
  show (if fam = 1 then _ else if fam = 2 then _ else _) = some w ↔ _
  unfold aplAccepts aplStored
  by_cases h1 : fam = 1
  · simp only [if_pos h1, Option.ite_none_right_eq_some, Option.some.injEq]
    rfl
  · by_cases h2 : fam = 2
    · simp only [if_neg h1, if_pos h2, Option.ite_none_right_eq_some, Option.some.injEq]
      rfl
    · simp only [if_neg h1, if_neg h2, Option.ite_none_right_eq_some, Option.some.injEq]
      rfl

theorem aplAccepts_mono {fam px len len' : Nat} (hl : len' ≤ len) (h : aplAccepts fam px len) : aplAccepts fam px len' := by
  unfold aplAccepts at *
  split
  · rw [if_pos ‹_›] at h; exact ⟨Nat.le_trans hl h.1, h.2⟩
  · rw [if_neg ‹_›] at h
    split
    · rw [if_pos ‹_›] at h; exact ⟨Nat.le_trans hl h.1, h.2⟩
    · rw [if_neg ‹_›] at h; omega

theorem strip_aplStored (fam : Nat) (afd : Bytes) : stripTrailingZeros (aplStored fam afd) = stripTrailingZeros afd := by
  unfold aplStored padTo
  split
  · exact strip_append_zeros ..
  · split
    · exact strip_append_zeros ..
    · rfl

theorem apl_item_fix (o : Option Name) (it w : Val) (h : valid aplItemSchema o it = true)
    (hw : aplItemPost it = some w) :
    valid aplItemSchema o (aplItemPre w) = true ∧
      ∃ w', aplItemPost (aplItemPre w) = some w' ∧ aplItemPre w' = aplItemPre w := by
  obtain ⟨fam, px, nl, afd, rfl, hf, hp, hn, hl⟩ := apl_item_shape o it h
  obtain ⟨hacc, rfl⟩ := aplItemPost_raw.1 hw
  have hs := strip_length_le afd
  -- whatever is stored, the raw item rebuilt from it carries the address part without its trailing zeros
  have hpre : ∀ a, stripTrailingZeros a = stripTrailingZeros afd →
      aplItemPre (seqV [.nat fam, .nat px, .nat (nl / 128), .bytes a]) =
        .pair (.pair (.nat fam) (.pair (.nat px) (.nat ((stripTrailingZeros afd).length + 128 * (nl / 128)))))
          (.bytes (stripTrailingZeros afd)) := fun a ha => by rw [aplItemPre_seqV, ha]
  rw [hpre _ (strip_aplStored fam afd)]
  refine ⟨apl_item_valid o _ _ _ _ hf hp (by omega) (by omega), _,
    aplItemPost_raw.2 ⟨aplAccepts_mono hs hacc, rfl⟩, ?_⟩
  rw [Nat.add_mul_div_left _ _ (by decide), Nat.div_eq_of_lt (by omega), Nat.zero_add]
  exact hpre _ ((strip_aplStored ..).trans (strip_idem afd))

/-- a stable view of the items is a stable view of the list: `mapOpt post` on the way up, `map pre` on the way down -/
theorem mapOpt_stable {P : Val → Prop} {post : Val → Option Val} {pre : Val → Val}
    (h : ∀ r w, P r → post r = some w → P (pre w) ∧ ∃ w', post (pre w) = some w' ∧ pre w' = pre w) :
    ∀ (rs ws : List Val), (∀ r ∈ rs, P r) → mapOpt post rs = some ws →
      (∀ x ∈ ws.map pre, P x) ∧ ∃ ws', mapOpt post (ws.map pre) = some ws' ∧ ws'.map pre = ws.map pre := by
  intro rs
  induction rs with
  | nil =>
    intro ws _ hw
    simp [mapOpt] at hw; subst hw
    exact ⟨by simp, [], by simp [mapOpt], rfl⟩
  | cons r rs ih =>
    intro ws hr hw
    simp only [mapOpt] at hw
    split at hw
    · rename_i y ys hy hys
      simp at hw; subst hw
      obtain ⟨hv, w', hp, he⟩ := h r y (hr r (by simp)) hy
      obtain ⟨hvs, ws', hps, hes⟩ := ih ys (fun x hx => hr x (by simp [hx])) hys
      refine ⟨?_, w' :: ws', ?_, ?_⟩
      · intro x hx
        simp only [List.map_cons, List.mem_cons] at hx
        rcases hx with rfl | hx
        · exact hv
        · exact hvs x hx
      · simp only [List.map_cons, mapOpt, hp, hps]
      · simp only [List.map_cons, he, hes]
    · simp at hw

theorem apl_pre_post (o : Option Name) (r w : Val) (h : valid (.rep aplItemSchema) o r = true)
    (hw : aplPost r = some w) :
    valid (.rep aplItemSchema) o (aplPre w) = true ∧ ∃ w', aplPost (aplPre w) = some w' ∧ aplPre w' = aplPre w := by
  obtain ⟨rs, rfl, hrs⟩ := valid_rep.1 h
  simp only [aplPost, Val.toList, Option.map_eq_some_iff] at hw
  obtain ⟨ws, hws, rfl⟩ := hw
  obtain ⟨hv, ws', hp, he⟩ := mapOpt_stable (apl_item_fix o) rs ws hrs hws
  exact ⟨valid_rep.2 ⟨_, rfl, hv⟩, .list ws', by simp only [aplPost, aplPre, Val.toList, hp, Option.map_some],
    by simp only [aplPre, Val.toList, he]⟩

/-! ## OPT: ECS address masked to the source prefix length, EDE text without trailing NULs -/

theorem isCont_ne_zero {c : Nat} (h : isCont c = true) : c ≠ 0 := by
  rintro rfl; cases h

/-- the test on the first continuation octet, whichever of its three forms applies, excludes NUL -/
theorem first_cont_ne_zero {p q : Prop} [Decidable p] [Decidable q] {lo hi lo' hi' b : Nat} (hlo : 0 < lo)
    (hlo' : 0 < lo')
    (h : (if p then decide (lo ≤ b) && decide (b ≤ hi) else if q then decide (lo' ≤ b) && decide (b ≤ hi')
      else isCont b) = true) : b ≠ 0 := by
  rintro rfl
  split at h
  · simp at h; omega
  · split at h
    · simp at h; omega
    · cases h

/-- No octet of a multi-octet sequence is NUL, so stripping trailing NULs never cuts into one: following the
decoder, each sequence is kept whole and only ASCII NULs at the very end go. -/
theorem utf8Ok_strip (b : Bytes) (h : utf8Ok b = true) : utf8Ok (stripNulAll b) = true := by
  unfold stripNulAll
  fun_induction utf8Ok b with
  | case1 => rfl
  | case2 a tl ha ih =>
    rw [strip_cons]
    split
    · rfl
    · unfold utf8Ok; rw [if_pos ha]; exact ih h
  | case3 a hna h1 b r ih =>
    simp only [Bool.and_eq_true] at h
    rw [strip_cons_ne (by omega), strip_cons_ne (isCont_ne_zero h.1), utf8Ok, if_neg hna, if_pos h1]
    simp only [h.1, ih h.2, Bool.and_self]
  | case5 a hna hn1 h2 b c r ih =>
    simp only [Bool.and_eq_true] at h
    rw [strip_cons_ne (by omega), strip_cons_ne (first_cont_ne_zero (by decide) (by decide) h.1.1),
      strip_cons_ne (isCont_ne_zero h.1.2), utf8Ok, if_neg hna, if_neg hn1, if_pos h2]
    simp only [h.1.1, h.1.2, ih h.2, Bool.and_self]
  | case7 a hna hn1 hn2 h3 b c d r ih =>
    simp only [Bool.and_eq_true] at h
    rw [strip_cons_ne (by omega), strip_cons_ne (first_cont_ne_zero (by decide) (by decide) h.1.1.1),
      strip_cons_ne (isCont_ne_zero h.1.1.2), strip_cons_ne (isCont_ne_zero h.1.2), utf8Ok, if_neg hna, if_neg hn1,
      if_neg hn2, if_pos h3]
    simp only [h.1.1.1, h.1.1.2, h.1.2, ih h.2, Bool.and_self]
  | case4 | case6 | case8 | case9 => cases h

theorem ecsMask_of_zero (src : Nat) (b : Bytes) (h : src % 8 = 0) : ecsMask src b = b := by
  simp [ecsMask, h]

theorem ecsMask_nil (src : Nat) : ecsMask src [] = [] := by
  unfold ecsMask; split <;> simp

theorem ecsMask_snoc (src : Nat) (init : Bytes) (last : Nat) (h : src % 8 ≠ 0) :
    ecsMask src (init ++ [last]) = init ++ [last / 2 ^ (8 - src % 8) * 2 ^ (8 - src % 8)] := by
  simp [ecsMask, h]

theorem ecsMask_length (src : Nat) (b : Bytes) : (ecsMask src b).length = b.length := by
  by_cases h : src % 8 = 0
  · rw [ecsMask_of_zero _ _ h]
  · rcases List.eq_nil_or_concat b with rfl | ⟨init, last, rfl⟩
    · rw [ecsMask_nil]
    · rw [List.concat_eq_append, ecsMask_snoc _ _ _ h]; simp

theorem ecsMask_idem (src : Nat) (b : Bytes) : ecsMask src (ecsMask src b) = ecsMask src b := by
  by_cases h : src % 8 = 0
  · rw [ecsMask_of_zero _ _ h, ecsMask_of_zero _ _ h]
  · rcases List.eq_nil_or_concat b with rfl | ⟨init, last, rfl⟩
    · rw [ecsMask_nil, ecsMask_nil]
    · rw [List.concat_eq_append, ecsMask_snoc _ _ _ h, ecsMask_snoc _ _ _ h]
      have hpos : 0 < 2 ^ (8 - src % 8) := Nat.pow_pos (by omega)
      rw [Nat.mul_div_cancel _ hpos]

theorem ecsOk_hdr (h : Val) (a b : Bytes) : ecsOk (.pair h (.bytes a)) = ecsOk (.pair h (.bytes b)) := rfl

theorem ite_lt {c : Prop} [Decidable c] {a b n : Nat} (ha : a < n) (hb : b < n) : (if c then a else b) < n := by
  split <;> assumption

theorem optSel_lt (v : Val) : optSel v < 7 := by
  unfold optSel
  repeat' apply ite_lt
  all_goals decide

def optItemSchema : Schema := .bind u16 optSel 7 (fun i => .sub 2 (optBody i))

theorem opt_item_shape (o : Option Name) (it : Val) (h : valid optItemSchema o it = true) :
    ∃ t body, it = .pair (.nat t) body ∧ t < 65536 ∧
      valid (optBody (optSel (.nat t))) o body = true ∧ (enc (optBody (optSel (.nat t))) o body).length < 65536 := by
  obtain ⟨x, body, rfl, h1, _, h3⟩ := valid_bind.1 h
  obtain ⟨t, rfl, ht⟩ := valid_uint.1 h1
  exact ⟨t, body, rfl, ht, valid_sub.1 h3⟩

theorem opt_item_valid (o : Option Name) (t : Nat) (body : Val) (ht : t < 65536)
    (hv : valid (optBody (optSel (.nat t))) o body = true)
    (hl : (enc (optBody (optSel (.nat t))) o body).length < 65536) :
    valid optItemSchema o (.pair (.nat t) body) = true :=
  valid_bind.2 ⟨_, _, rfl, valid_uint.2 ⟨_, rfl, ht⟩, optSel_lt _, valid_sub.2 ⟨hv, hl⟩⟩

theorem opt_item_fix (o : Option Name) (it : Val) (h : valid optItemSchema o it = true) :
    valid optItemSchema o (optItemPost it) = true ∧ optItemPost (optItemPost it) = optItemPost it := by
  obtain ⟨t, body, rfl, ht, hv, hl⟩ := opt_item_shape o it h
  by_cases h8 : t = 8
  · -- ECS: the address is masked; its length, which is all that `valid` and `enc` see of it, stays
    subst h8
    obtain ⟨hb, hok⟩ := valid_check.1 hv
    obtain ⟨hdr, addr, rfl, hh, hsl, ha⟩ := valid_bind.1 hb
    obtain ⟨fam, r1, rfl, hf, hh1⟩ := valid_pair_uint hh
    obtain ⟨src, r2, rfl, hsrc, hh2⟩ := valid_pair_uint hh1
    obtain ⟨ab, rfl, hab⟩ := valid_fixed.1 ha
    refine ⟨opt_item_valid o 8 _ ht ?_ ?_, ?_⟩
    · exact valid_check.2 ⟨valid_bind.2 ⟨_, _, rfl, hh, hsl,
        valid_fixed.2 ⟨_, rfl, (ecsMask_length src ab).trans hab⟩⟩, (ecsOk_hdr ..).trans hok⟩
    · have hl' : (enc (Schema.seq [u16, u8, u8]) o (.pair (.nat fam) (.pair (.nat src) r2)) ++ ab).length < 65536 := hl
      show (enc (Schema.seq [u16, u8, u8]) o _ ++ ecsMask src ab).length < 65536
      rwa [List.length_append, ecsMask_length, ← List.length_append]
    · simp [optItemPost, optItemPostWith, Val.fst, Val.snd, Val.toNat, Val.toBytes, ecsMask_idem]
  · by_cases h15 : t = 15
    · -- EDE: the text loses its trailing NULs, stays UTF-8 and gets no longer
      subst h15
      obtain ⟨cv, tv, rfl, hc, htv⟩ := valid_pair.1 hv
      obtain ⟨htv, hutf⟩ := valid_check.1 htv
      obtain ⟨txt, rfl⟩ := valid_rest.1 htv
      refine ⟨opt_item_valid o 15 _ ht ?_ ?_, ?_⟩
      · exact valid_pair.2 ⟨_, _, rfl, hc, valid_check.2 ⟨valid_rest.2 ⟨_, rfl⟩, utf8Ok_strip txt hutf⟩⟩
      · have hl' : (enc u16 o cv ++ txt).length < 65536 := hl
        show (enc u16 o cv ++ stripTrailingZeros txt).length < 65536
        have := strip_length_le txt
        rw [List.length_append] at hl' ⊢
        omega
      · simp [optItemPost, optItemPostWith, Val.fst, Val.snd, Val.toNat, Val.toBytes, stripNulAll, strip_idem]
    · have post_eq : optItemPost (.pair (.nat t) body) = .pair (.nat t) body := by
        simp [optItemPost, optItemPostWith, Val.fst, Val.toNat, h8, h15]
      rw [post_eq, post_eq]
      exact ⟨opt_item_valid o t body ht hv hl, rfl⟩

theorem opt_post_post (o : Option Name) (r w : Val) (h : valid optSchema o r = true) (hw : optPost r = some w) :
    valid optSchema o w = true ∧ optPost w = some w := by
  obtain ⟨rs, rfl, hrs⟩ := valid_rep.1 h
  obtain rfl : Val.list (rs.map optItemPost) = w := Option.some.inj hw
  refine ⟨valid_rep.2 ⟨_, rfl, fun x hx => ?_⟩, ?_⟩
  · obtain ⟨y, hy, rfl⟩ := List.mem_map.1 hx
    exact (opt_item_fix o y (hrs y hy)).1
  · simp only [optPost, Val.toList, List.map_map, Option.some.injEq, Val.list.injEq]
    exact List.map_congr_left fun y hy => (opt_item_fix o y (hrs y hy)).2

end Model
