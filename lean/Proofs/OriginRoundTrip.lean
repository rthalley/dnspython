import Proofs.OriginParse
import Proofs.ParseMessage
import Proofs.ParseUpdate
import Proofs.ParseCut
/-! Render with an origin, parse with the same origin: equal after relativisation — also when the rendering was truncated. -/
namespace Model

theorem RData.sim_relF (o : Name) {a b : RData} (h : a.sim eqvSpec b) :
    (a.mapNames (relF o)).sim eqvSpec (b.mapNames (relF o)) := by
  cases a <;> cases b <;> simp only [RData.sim] at h <;> (try exact h.elim) <;> simp only [RData.mapNames, RData.sim]
  · exact h
  · exact relF_congr o _ _ h
  · exact ⟨h.1, relF_congr o _ _ h.2⟩
  · obtain ⟨h1, h2, h3⟩ := h
    exact ⟨relF_congr o _ _ h1, relF_congr o _ _ h2, h3⟩

theorem RRset.sim_relF (o : Name) {a b : RRset} (h : a.sim eqvSpec b) :
    (a.mapNames (relF o)).sim eqvSpec (b.mapNames (relF o)) := by
  obtain ⟨h1, h2, h3, h4, h5, h6, h7⟩ := h
  exact ⟨relF_congr o _ _ h1, h2, h3, h4, h5, h6, SimList.map _ (fun _ _ h => RData.sim_relF o h) h7⟩

theorem Message.simT_relF (o : Name) {a b : Message} (h : a.simT eqvSpec b) :
    (a.mapNames (relF o)).simT eqvSpec (b.mapNames (relF o)) := by
  obtain ⟨h1, h2, h3, h4, h5, h6, h7, h8⟩ := h
  exact ⟨h1, h2, SimList.map _ (fun _ _ h => RRset.sim_relF o h) h3, SimList.map _ (fun _ _ h => RRset.sim_relF o h) h4,
    SimList.map _ (fun _ _ h => RRset.sim_relF o h) h5, SimList.map _ (fun _ _ h => RRset.sim_relF o h) h6, h7, h8⟩

/-- the message as it looks after a trip through the wire with origin `o`: every name of the four sections made
absolute against `o`, then relativized against `o` -/
def Message.relNorm (o : Name) (m : Message) : Message := (m.absolutize o).mapNames (relF o)

/-- what parsing without the origin returns comes back, with the origin, relativized -/
theorem parse_with_origin {cfg : PCfg} {o : Name} (ho : isAbs o = true) (horg : cfg.origin = none) {w : Bytes}
    {m0 X : Message} (hp : parseMessage cfg w = .ok m0) (hs : m0.simT eqvSpec X) :
    ∃ m', parseMessage { cfg with origin := some o } w = .ok m' ∧ m'.origin = some o ∧
      m'.simT eqvSpec (X.mapNames (relF o)) :=
  ⟨{ m0.mapNames (relF o) with origin := some o }, by rw [parseMessage_relF cfg o ho horg w, hp], rfl,
    Message.simT_relF o hs⟩

theorem parse_toWire_origin (m : Message) (o : Name) (hm : m.origin = some o) (ho : isAbs o = true) (lim : Nat) (w : Bytes)
    (hok : MsgOkP eqvSpec (m.absolutize o)) (h : m.toWire lim false = .ok w)
    (cfg : PCfg) (horg : cfg.origin = none) (hnorr : cfg.oneRRPerRRset = false) (hkey : cfg.hasKey = true) :
    ∃ m' opt', parseMessage { cfg with origin := some o } w = .ok m' ∧ m'.origin = some o ∧
      m'.simT eqvSpec { m.relNorm o with opt := opt' } ∧ OptPadRel m.pad m.opt opt' := by
  rw [← toWire_absolutize m o hm ho] at h
  obtain ⟨m0, opt', hp, hs, hrel⟩ := parse_toWire_pad (m.absolutize o) lim w hok h cfg horg hnorr hkey
  obtain ⟨m', hp', ho', hs'⟩ := parse_with_origin ho horg hp hs
  exact ⟨m', opt', hp', ho', hs', hrel⟩

theorem parse_toWire_update_origin (m : Message) (o : Name) (hm : m.origin = some o) (ho : isAbs o = true) (zc lim : Nat)
    (w : Bytes) (hok : UMsgOkT eqvSpec ((m.absolutize o).canonUpdate zc)) (h : m.toWire lim false = .ok w)
    (cfg : PCfg) (horg : cfg.origin = none) (hkey : cfg.hasKey = true) :
    ∃ m', parseMessage { cfg with origin := some o } w = .ok m' ∧ m'.origin = some o ∧
      m'.simT eqvSpec (((m.absolutize o).canonUpdate zc).mapNames (relF o)) := by
  rw [← toWire_absolutize m o hm ho] at h
  obtain ⟨m0, hp, hs⟩ := parse_toWire_update_canon (m.absolutize o) zc lim w hok h cfg horg hkey
  exact parse_with_origin ho horg hp hs

/-- a name the trip leaves alone: relative, or absolute and not at or below the origin -/
def NormalName (o n : Name) : Prop := isAbs n = false ∨ isSubdomain n o = false

theorem relF_absN_normal (o n : Name) (ho : isAbs o = true) (h : NormalName o n) : relF o (absN o n) = n := by
  by_cases hn : isAbs n = true
  · rcases h with h | h
    · rw [hn] at h; cases h
    · exact relF_absN_abs o n hn h
  · exact relF_absN_rel o n ho (by simpa using hn)

def RRset.Normal (o : Name) (r : RRset) : Prop := NormalName o r.name ∧ ∀ rd ∈ r.rdatas, ∀ n ∈ rd.names, NormalName o n

def Message.Normal (o : Name) (m : Message) : Prop :=
  (∀ r ∈ m.q, r.Normal o) ∧ (∀ r ∈ m.an, r.Normal o) ∧ (∀ r ∈ m.au, r.Normal o) ∧ (∀ r ∈ m.ad, r.Normal o)

instance (o n : Name) : Decidable (NormalName o n) := inferInstanceAs (Decidable (_ ∨ _))

instance (o : Name) (r : RRset) : Decidable (r.Normal o) := inferInstanceAs (Decidable (_ ∧ _))

instance (o : Name) (m : Message) : Decidable (m.Normal o) := inferInstanceAs (Decidable (_ ∧ _ ∧ _ ∧ _))

theorem RData.relNorm_normal (o : Name) (ho : isAbs o = true) (rd : RData) (h : ∀ n ∈ rd.names, NormalName o n) :
    (rd.mapNames (absN o)).mapNames (relF o) = rd := by
  cases rd with
  | raw b => rfl
  | name1 n => simp only [RData.mapNames]; rw [relF_absN_normal o n ho (h n (by simp [RData.names]))]
  | mx p n => simp only [RData.mapNames]; rw [relF_absN_normal o n ho (h n (by simp [RData.names]))]
  | soa a b _ _ _ _ _ =>
    simp only [RData.mapNames]
    rw [relF_absN_normal o a ho (h a (by simp [RData.names])), relF_absN_normal o b ho (h b (by simp [RData.names]))]

theorem map_id_of_forall {α : Type} (f : α → α) (l : List α) (h : ∀ a ∈ l, f a = a) : l.map f = l :=
  (List.map_congr_left h).trans (List.map_id l)

theorem RRset.relNorm_normal (o : Name) (ho : isAbs o = true) (r : RRset) (h : r.Normal o) :
    (r.mapNames (absN o)).mapNames (relF o) = r := by
  cases r with
  | mk name rdclass rdtype covers deleting ttl rdatas =>
    simp only [RRset.mapNames, List.map_map]
    rw [relF_absN_normal o name ho h.1]
    rw [map_id_of_forall (RData.mapNames (relF o) ∘ RData.mapNames (absN o)) rdatas (fun rd hrd => RData.relNorm_normal o ho rd (h.2 rd hrd))]

theorem Message.relNorm_normal (o : Name) (ho : isAbs o = true) (m : Message) (h : m.Normal o) :
    m.relNorm o = { m with origin := none } := by
  cases m with
  | mk id flags origin requestPayload pad q an au ad opt tsig =>
    obtain ⟨h1, h2, h3, h4⟩ := h
    simp only at h1 h2 h3 h4
    simp only [Message.relNorm, Message.absolutize, Message.mapNames, List.map_map]
    rw [map_id_of_forall (RRset.mapNames (relF o) ∘ RRset.mapNames (absN o)) q (fun r hr => RRset.relNorm_normal o ho r (h1 r hr)),
      map_id_of_forall (RRset.mapNames (relF o) ∘ RRset.mapNames (absN o)) an (fun r hr => RRset.relNorm_normal o ho r (h2 r hr)),
      map_id_of_forall (RRset.mapNames (relF o) ∘ RRset.mapNames (absN o)) au (fun r hr => RRset.relNorm_normal o ho r (h3 r hr)),
      map_id_of_forall (RRset.mapNames (relF o) ∘ RRset.mapNames (absN o)) ad (fun r hr => RRset.relNorm_normal o ho r (h4 r hr))]

theorem cut_absolutize (m : Message) (o : Name) (k : Nat) (tc : Bool) :
    (m.cut k tc).absolutize o = (m.absolutize o).cut k tc := by
  simp [Message.cut, Message.absolutize, List.map_take]

theorem parse_toWire_trunc_origin (m : Message) (o : Name) (hm : m.origin = some o) (ho : isAbs o = true) (lim : Nat) (w : Bytes)
    (hok : MsgOkP eqvSpec (m.absolutize o)) (h : m.toWire lim true = .ok w)
    (cfg : PCfg) (horg : cfg.origin = none) (hnorr : cfg.oneRRPerRRset = false) (hkey : cfg.hasKey = true) :
    ∃ m' opt', parseMessage { cfg with origin := some o } w = .ok m' ∧ m'.origin = some o ∧ OptPadRel m.pad m.opt opt' ∧
      (m'.simT eqvSpec { m.relNorm o with opt := opt' } ∨
        ∃ k, k < m.items.length ∧ m'.simT eqvSpec { (m.cut k (m.tcAt k)).relNorm o with opt := opt' }) := by
  rcases toWire_truncation m lim w h with h1 | ⟨k, hk, h2⟩
  · obtain ⟨m', opt', hp, hor, hs, hr⟩ := parse_toWire_origin m o hm ho lim w hok h1 cfg horg hnorr hkey
    exact ⟨m', opt', hp, hor, hr, Or.inl hs⟩
  · have hok2 : MsgOkP eqvSpec ((m.cut k (m.tcAt k)).absolutize o) := by
      rw [cut_absolutize]; exact hok.cut k _
    obtain ⟨m', opt', hp, hor, hs, hr⟩ := parse_toWire_origin (m.cut k (m.tcAt k)) o hm ho lim w hok2 h2 cfg horg hnorr hkey
    exact ⟨m', opt', hp, hor, hr, Or.inr ⟨k, hk, hs⟩⟩

end Model
