import Model.Versioned
/-! C11: the copy-on-write mechanism keeps committed versions untouched and fully frozen. -/
namespace Model.Versioned

def FrozenAt (heap : List Cell) (id : Nat) : Prop := ∃ c, heap[id]? = some c ∧ c.frozen = true

/-- `heap'` extends `heap` and agrees with it on every cell below `b` -/
def Below (b : Nat) (heap heap' : List Cell) : Prop :=
  heap.length ≤ heap'.length ∧ ∀ id, id < b → heap'[id]? = heap[id]?

theorem below_refl (b : Nat) (heap : List Cell) : Below b heap heap := ⟨Nat.le_refl _, fun _ _ => rfl⟩

theorem below_trans {b : Nat} {h1 h2 h3 : List Cell} (a : Below b h1 h2) (c : Below b h2 h3) : Below b h1 h3 :=
  ⟨Nat.le_trans a.1 c.1, fun id hid => (c.2 id hid).trans (a.2 id hid)⟩

theorem below_append (b : Nat) (heap t : List Cell) (hb : b ≤ heap.length) : Below b heap (heap ++ t) :=
  ⟨by simp, fun id hid => List.getElem?_append_left (by omega)⟩

theorem below_write (b : Nat) (heap : List Cell) (id c : Nat) (hid : b ≤ id) : Below b heap (writeCell heap id c) := by
  refine ⟨by simp [writeCell], fun j hj => ?_⟩
  unfold writeCell
  rw [List.getElem?_set_ne (by omega)]

theorem frozenAt_below {b : Nat} {heap heap' : List Cell} (h : Below b heap heap') {id : Nat} (hid : id < b)
    (hf : FrozenAt heap id) : FrozenAt heap' id := by
  obtain ⟨c, hc, hfc⟩ := hf
  exact ⟨c, by rw [h.2 id hid]; exact hc, hfc⟩

theorem cellContent_below {b : Nat} {heap heap' : List Cell} (h : Below b heap heap') {id : Nat} (hid : id < b) :
    cellContent heap' id = cellContent heap id := by
  unfold cellContent; rw [h.2 id hid]

theorem view_below {b : Nat} {heap heap' : List Cell} (h : Below b heap heap') (m : NMap) (hm : ∀ p ∈ m, p.2 < b) :
    view heap' m = view heap m := by
  unfold view
  apply List.map_congr_left
  intro p hp
  rw [cellContent_below h (hm p hp)]

theorem mem_nerase {m : NMap} {name : Nat} {p : Nat × Nat} : p ∈ nerase m name ↔ p ∈ m ∧ p.1 ≠ name := by
  simp [nerase]

theorem mem_nset {m : NMap} {name id : Nat} {p : Nat × Nat} :
    p ∈ nset m name id ↔ p = (name, id) ∨ (p ∈ m ∧ p.1 ≠ name) := by
  simp [nset, mem_nerase]

theorem nlookup_some {m : NMap} {name id : Nat} (h : nlookup m name = some id) : (name, id) ∈ m := by
  obtain ⟨p, hf, rfl⟩ := Option.map_eq_some_iff.mp h
  have hp : p.1 = name := by simpa using List.find?_some hf
  exact hp ▸ List.mem_of_find?_eq_some hf

theorem nlookup_none {m : NMap} {name : Nat} (h : nlookup m name = none) : ∀ p ∈ m, p.1 ≠ name :=
  fun p hp => by simpa using List.find?_eq_none.mp (Option.map_eq_none_iff.mp h) p hp

/-- the nodes of an open write transaction: a changed name has a node of its own, created in this transaction
(cell id ≥ `b`); an unchanged name still points to the frozen node of the version it was copied from -/
def WOk (b : Nat) (heap : List Cell) (x : Writer) : Prop :=
  b ≤ heap.length ∧ ∀ p ∈ x.nodes, p.2 < heap.length ∧
    ((p.1 ∈ x.changed ∧ b ≤ p.2) ∨ (p.1 ∉ x.changed ∧ p.2 < b ∧ FrozenAt heap p.2))

theorem wok_below {b : Nat} {heap heap' : List Cell} {x : Writer} (h : WOk b heap x) (hb : Below b heap heap') :
    WOk b heap' x := by
  refine ⟨Nat.le_trans h.1 hb.1, fun p hp => ?_⟩
  have := h.2 p hp
  refine ⟨Nat.lt_of_lt_of_le this.1 hb.1, ?_⟩
  rcases this.2 with h1 | ⟨h1, h2, h3⟩
  · exact Or.inl h1
  · exact Or.inr ⟨h1, h2, frozenAt_below hb h2 h3⟩

theorem wok_change {b : Nat} {heap : List Cell} {x : Writer} (h : WOk b heap x) (name : Nat) (nodes' : NMap)
    (hn : ∀ p ∈ nodes', (p.1 = name ∧ b ≤ p.2 ∧ p.2 < heap.length) ∨ (p ∈ x.nodes ∧ p.1 ≠ name)) :
    WOk b heap { x with nodes := nodes', changed := name :: x.changed } := by
  refine ⟨h.1, fun p hp => ?_⟩
  rcases hn p hp with ⟨e, h1, h2⟩ | ⟨hm, hne⟩
  · exact ⟨h2, Or.inl ⟨by simp [e], h1⟩⟩
  · have := h.2 p hm
    refine ⟨this.1, ?_⟩
    rcases this.2 with ⟨h1, h2⟩ | ⟨h1, h2, h3⟩
    · exact Or.inl ⟨List.mem_cons_of_mem _ h1, h2⟩
    · exact Or.inr ⟨by simp [hne, h1], h2, h3⟩

/-- a changed name's node is the transaction's own -/
theorem WOk.own {b : Nat} {heap : List Cell} {x : Writer} (h : WOk b heap x) {name id : Nat}
    (hl : nlookup x.nodes name = some id) (hc : name ∈ x.changed) : b ≤ id :=
  ((h.2 _ (nlookup_some hl)).2.resolve_right fun h' => h'.1 hc).2

/-- what the open transaction (base `b`) may do to heap and writer: cells below `b` stay as they are, the nodes stay
well-formed, the base is not touched -/
structure WStep (b : Nat) (hx hx' : List Cell × Writer) : Prop where
  below : Below b hx.1 hx'.1
  ok : WOk b hx'.1 hx'.2
  base : hx'.2.base = hx.2.base

theorem WStep.refl {b : Nat} {hx : List Cell × Writer} (h : WOk b hx.1 hx.2) : WStep b hx hx := ⟨below_refl _ _, h, rfl⟩

theorem WStep.trans {b : Nat} {h₁ h₂ h₃ : List Cell × Writer} (a : WStep b h₁ h₂) (c : WStep b h₂ h₃) : WStep b h₁ h₃ :=
  ⟨below_trans a.below c.below, c.ok, c.base.trans a.base⟩

/-- a new cell becomes the node of `name` -/
theorem wstep_fresh {b : Nat} {heap : List Cell} {x : Writer} (h : WOk b heap x) (name : Nat) (c : Cell) :
    WStep b (heap, x) (heap ++ [c], { x with nodes := nset x.nodes name heap.length, changed := name :: x.changed }) := by
  have hb := below_append b heap [c] h.1
  refine ⟨hb, wok_change (wok_below h hb) name _ fun p hp => ?_, rfl⟩
  rcases mem_nset.mp hp with e | hm
  · subst e; exact Or.inl ⟨rfl, h.1, by simp⟩
  · exact Or.inr hm

/-- a write to a cell of the transaction's own -/
theorem wstep_write {b : Nat} {heap : List Cell} {x : Writer} (h : WOk b heap x) {id : Nat} (hid : b ≤ id) (c : Nat) :
    WStep b (heap, x) (writeCell heap id c, x) :=
  ⟨below_write b heap id c hid, wok_below h (below_write b heap id c hid), rfl⟩

theorem cowName_ok (b : Nat) (heap : List Cell) (x : Writer) (name : Nat) (h : WOk b heap x) :
    WStep b (heap, x) ((cowName heap x name).1, (cowName heap x name).2.1) ∧ b ≤ (cowName heap x name).2.2 := by
  unfold cowName
  cases hl : nlookup x.nodes name with
  | none => exact ⟨wstep_fresh h name _, h.1⟩
  | some id =>
    simp only
    split
    · next hc => exact ⟨.refl h, h.own hl hc⟩
    · exact ⟨wstep_fresh h name _, h.1⟩

theorem flipOne_ok (b c : Nat) (hx : List Cell × Writer) (ename : Nat) (h : WOk b hx.1 hx.2) :
    WStep b hx (flipOne c hx ename) := by
  unfold flipOne
  cases hl : nlookup hx.2.nodes ename with
  | none => exact .refl h
  | some id =>
    simp only
    split
    · next hc => exact wstep_write h (h.own hl hc) c
    · exact wstep_fresh h ename _

theorem flipAll_ok (b c : Nat) (names : List Nat) (hx : List Cell × Writer) (h : WOk b hx.1 hx.2) :
    WStep b hx (names.foldl (flipOne c) hx) := by
  induction names generalizing hx with
  | nil => exact .refl h
  | cons n rest ih => exact (flipOne_ok b c hx n h).trans (ih _ (flipOne_ok b c hx n h).ok)

/-- while freezing: every node is frozen already or its name is still to be frozen -/
def FreezeInv (todo : List Nat) (hm : List Cell × NMap) : Prop :=
  ∀ p ∈ hm.2, p.2 < hm.1.length ∧ (FrozenAt hm.1 p.2 ∨ p.1 ∈ todo)

/-- at commit the names still to be frozen are the changed ones: the nodes of all others are frozen already -/
theorem WOk.freezeInv {b : Nat} {heap : List Cell} {x : Writer} (h : WOk b heap x) : FreezeInv x.changed (heap, x.nodes) :=
  fun p hp => ⟨(h.2 p hp).1, (h.2 p hp).2.elim (fun h1 => Or.inr h1.1) fun h3 => Or.inl h3.2.2⟩

theorem frozenAt_append (heap t : List Cell) (id : Nat) (h : FrozenAt heap id) : FrozenAt (heap ++ t) id := by
  obtain ⟨c, hc, hf⟩ := h
  exact ⟨c, by rw [List.getElem?_append_left (List.getElem?_eq_some_iff.mp hc).1]; exact hc, hf⟩

theorem freezeOne_ok (b n : Nat) (rest : List Nat) (hm : List Cell × NMap) (hb : b ≤ hm.1.length)
    (h : FreezeInv (n :: rest) hm) : Below b hm.1 (freezeOne hm n).1 ∧ FreezeInv rest (freezeOne hm n) := by
  unfold freezeOne
  cases hl : nlookup hm.2 n with
  | none =>
    exact ⟨below_refl _ _, fun p hp => ⟨(h p hp).1,
      (h p hp).2.imp_right fun h1 => (List.mem_cons.mp h1).resolve_left (nlookup_none hl p hp)⟩⟩
  | some id =>
    refine ⟨below_append b hm.1 _ hb, fun p hp => ?_⟩
    rcases mem_nset.mp hp with e | ⟨hmem, hne⟩
    · subst e
      exact ⟨by simp, Or.inl ⟨⟨true, cellContent hm.1 id⟩, by simp, rfl⟩⟩
    · exact ⟨by have := (h p hmem).1; simp; omega,
        (h p hmem).2.imp (frozenAt_append _ _ _) fun h1 => (List.mem_cons.mp h1).resolve_left hne⟩

theorem freezeAll_ok (b : Nat) (todo : List Nat) (hm : List Cell × NMap) (hb : b ≤ hm.1.length) (h : FreezeInv todo hm) :
    Below b hm.1 (todo.foldl freezeOne hm).1 ∧ FreezeInv [] (todo.foldl freezeOne hm) := by
  induction todo generalizing hm with
  | nil => exact ⟨below_refl _ _, h⟩
  | cons n rest ih =>
    have h1 := freezeOne_ok b n rest hm hb h
    have h2 := ih (freezeOne hm n) (Nat.le_trans hb h1.1.1) h1.2
    exact ⟨below_trans h1.1 h2.1, h2.2⟩

/-- the committed versions of `s` are still there in `s'`, in order, and show the same views -/
def Keeps (s s' : CowState) : Prop :=
  s.versions <+: s'.versions ∧ ∀ m ∈ s.versions, view s'.heap m = view s.heap m

theorem Keeps.refl (s : CowState) : Keeps s s := ⟨List.prefix_refl _, fun _ _ => rfl⟩

theorem Keeps.trans {s₁ s₂ s₃ : CowState} (a : Keeps s₁ s₂) (b : Keeps s₂ s₃) : Keeps s₁ s₃ :=
  ⟨a.1.trans b.1, fun m hm => (b.2 m (a.1.subset hm)).trans (a.2 m hm)⟩

structure CowInv (s : CowState) : Prop where
  /-- every node of every committed version is frozen -/
  frozen : ∀ m ∈ s.versions, ∀ p ∈ m, p.2 < s.heap.length ∧ FrozenAt s.heap p.2
  /-- committed versions only point to cells older than the open transaction -/
  writer : ∀ x, s.w = some x → WOk x.base s.heap x ∧ ∀ m ∈ s.versions, ∀ p ∈ m, p.2 < x.base

theorem cowInv_init : CowInv cowInit where
  frozen := by
    intro m hm p hp
    simp [cowInit] at hm
    subst hm
    cases hp
  writer := by
    intro x hx
    simp [cowInit] at hx

theorem cow_step (s : CowState) (op : CowOp) (h : CowInv s) : CowInv (cowStep s op) ∧ Keeps s (cowStep s op) := by
  -- the operation does nothing (no transaction open, or one already open, or nothing to delete)
  have idle : CowInv s ∧ Keeps s s := ⟨h, .refl s⟩
  -- committed versions live below the open transaction's base, where a later heap agrees with this one
  have old : ∀ (heap' : List Cell) (x : Writer), s.w = some x → Below x.base s.heap heap' →
      ∀ m ∈ s.versions, ∀ p ∈ m, p.2 < heap'.length ∧ FrozenAt heap' p.2 := by
    intro heap' x hx hb m hm p hp
    have := h.frozen m hm p hp
    exact ⟨Nat.lt_of_lt_of_le this.1 hb.1, frozenAt_below hb ((h.writer x hx).2 m hm p hp) this.2⟩
  have keep : ∀ (x : Writer) (hx' : List Cell × Writer), s.w = some x → WStep x.base (s.heap, x) hx' →
      CowInv { s with heap := hx'.1, w := some hx'.2 } ∧ Keeps s { s with heap := hx'.1, w := some hx'.2 } := by
    intro x hx' hx hs
    have hwr := h.writer x hx
    refine ⟨⟨old hx'.1 x hx hs.below, fun y hy => ?_⟩, List.prefix_refl _, fun m hm => view_below hs.below m (hwr.2 m hm)⟩
    cases hy
    rw [hs.base]; exact ⟨hs.ok, hwr.2⟩
  have rollback : CowInv (cowStep s .rollback) ∧ Keeps s (cowStep s .rollback) :=
    ⟨⟨h.frozen, fun y hy => nomatch hy⟩, .refl s⟩
  cases hw : s.w with
  | none =>
    cases op with
    | begin repl =>
      simp only [cowStep, hw]
      refine ⟨⟨h.frozen, fun y hy => ?_⟩, .refl s⟩
      cases hy
      -- the new transaction starts from the latest committed version, all of whose nodes are frozen
      refine ⟨⟨Nat.le_refl _, fun p hp => ?_⟩, fun m hm p hp => (h.frozen m hm p hp).1⟩
      simp only at hp
      by_cases hr : repl
      · simp [hr] at hp
      · simp only [hr, Bool.false_eq_true, if_false] at hp
        cases hl : s.versions.getLast? with
        | none => rw [hl] at hp; simp at hp
        | some m =>
          rw [hl] at hp
          have := h.frozen m (List.mem_of_getLast? hl) p hp
          exact ⟨this.1, Or.inr ⟨by simp, this.1, this.2⟩⟩
    | rollback => exact rollback
    | _ => simpa only [cowStep, hw] using idle
  | some x =>
    have hwr := h.writer x hw
    cases op with
    | begin repl => simpa only [cowStep, hw] using idle
    | rollback => exact rollback
    | put name c =>
      simp only [cowStep, hw]
      have h1 := cowName_ok x.base s.heap x name hwr.1
      exact keep x _ hw (h1.1.trans (wstep_write h1.1.ok h1.2 c))
    | del name =>
      simp only [cowStep, hw]
      cases hl : nlookup x.nodes name with
      | none => exact idle
      | some id =>
        exact keep x (s.heap, { x with nodes := nerase x.nodes name, changed := name :: x.changed }) hw
          ⟨below_refl _ _, wok_change hwr.1 name _ fun p hp => Or.inr (mem_nerase.mp hp), rfl⟩
    | flip names c =>
      simp only [cowStep, hw]
      exact keep x _ hw (flipAll_ok x.base c names (s.heap, x) hwr.1)
    | commit =>
      simp only [cowStep, hw]
      by_cases hc : x.changed = []
      · simp only [hc, if_true]
        exact ⟨⟨h.frozen, fun y hy => nomatch hy⟩, .refl s⟩
      · simp only [hc, if_false]
        have hf := freezeAll_ok x.base x.changed (s.heap, x.nodes) hwr.1.1 hwr.1.freezeInv
        refine ⟨⟨fun m hm p hp => ?_, fun y hy => nomatch hy⟩, List.prefix_append _ _,
          fun m hm => view_below hf.1 m (hwr.2 m hm)⟩
        rcases List.mem_append.mp hm with hm | hm
        · exact old _ x hw hf.1 m hm p hp
        · cases List.mem_singleton.mp hm
          exact ⟨(hf.2 p hp).1, (hf.2 p hp).2.resolve_right List.not_mem_nil⟩

theorem cow_run (s : CowState) (ops : List CowOp) (h : CowInv s) : CowInv (cowRun s ops) ∧ Keeps s (cowRun s ops) := by
  induction ops generalizing s with
  | nil => exact ⟨h, .refl s⟩
  | cons op rest ih =>
    have h1 := cow_step s op h
    have h2 := ih (cowStep s op) h1.1
    exact ⟨h2.1, h1.2.trans h2.2⟩

end Model.Versioned
