import Proofs.RdataTextEsc
import Proofs.RdataTextNum
/-! Hex blobs, `_wordbreak` chunking, `concatenate_remaining_identifiers`, what the text layer asks of an alphabet codec
(`BlobOk`; `binascii` meets it) and the generic `\# len hex` form (C05). -/
namespace Model

theorem joinSep_singleton (sep x : List Nat) : joinSep sep [x] = x := rfl

/-- `_wordbreak` joins the chunks; `chunksOf` already returns the data whole for chunk size 0 -/
theorem wordbreak_eq (data : List Nat) (chunk : Nat) (sep : List Nat) :
    wordbreak data chunk sep = joinSep sep (chunksOf chunk data) := by
  unfold wordbreak
  split
  · rename_i h
    subst h
    rw [chunksOf]
    by_cases hd : data = [] <;> simp [hd, joinSep]
  · rfl

theorem chunksOf_flatten (n : Nat) (s : List Nat) : (chunksOf n s).flatten = s := by
  fun_induction chunksOf n s with
  | case1 => simp
  | case2 s hs => simp
  | case3 s hs hn ih => simp [ih]

theorem chunksOf_mem (n : Nat) (s : List Nat) : ∀ ch ∈ chunksOf n s, ch ≠ [] ∧ ∀ c ∈ ch, c ∈ s := by
  fun_induction chunksOf n s with
  | case1 => intro ch hch; simp at hch
  | case2 s hs => intro ch hch; simp at hch; subst hch; exact ⟨hs, fun c hc => hc⟩
  | case3 s hs hn ih =>
    intro ch hch
    simp at hch
    rcases hch with e | hmem
    · subst e
      exact ⟨fun e => (List.take_eq_nil_iff.mp e).elim hn hs, fun c hc => List.mem_of_mem_take hc⟩
    · obtain ⟨a, b⟩ := ih ch hmem
      exact ⟨a, fun c hc => List.mem_of_mem_drop (b c hc)⟩

theorem chunksOf_two_cons (a b : Nat) (rest : List Nat) : chunksOf 2 (a :: b :: rest) = [a, b] :: chunksOf 2 rest := by
  rw [chunksOf]; simp

def identToks (chunks : List (List Nat)) : List Tok := chunks.map fun s => ⟨.ident, s⟩

theorem lexes_joinSep_chunks (chunks : List (List Nat)) (sep : List Nat) (hsep : blanks sep) (hne : sep ≠ [])
    (h : ∀ ch ∈ chunks, ch ≠ [] ∧ Plain ch) : Lexes (joinSep sep chunks) (identToks chunks) := by
  have := lexes_joinSep_map hsep hne id (fun ch => [⟨.ident, ch⟩]) chunks fun ch hch => lexes_plain ch (h ch hch).1 (h ch hch).2
  rwa [List.map_id, ← List.map_eq_flatMap] at this

/-- a lossless chunking style: the separator is blank and non-empty (or chunking is off) -/
def ChunkOk (chunk : Nat) (sep : List Nat) : Prop := chunk = 0 ∨ (blanks sep ∧ sep ≠ [])

theorem lexes_wordbreak (data : List Nat) (hp : Plain data) (chunk : Nat) (sep : List Nat) (hc : ChunkOk chunk sep) :
    Lexes (wordbreak data chunk sep) (identToks (chunksOf chunk data)) := by
  rw [wordbreak_eq]
  have hmem := chunksOf_mem chunk data
  have hpl : ∀ ch ∈ chunksOf chunk data, ch ≠ [] ∧ Plain ch :=
    fun ch hch => ⟨(hmem ch hch).1, fun c hcc => hp c ((hmem ch hch).2 c hcc)⟩
  rcases hc with h0 | ⟨hb, hne⟩
  · -- at most one chunk: the separator is never printed
    subst h0
    rw [chunksOf]
    by_cases hd : data = []
    · simpa [hd, joinSep, identToks] using lexes_nil
    · simpa [hd, joinSep, identToks] using lexes_plain data hd hp
  · exact lexes_joinSep_chunks _ sep hb hne hpl

theorem plain_joinSep (sep : List Nat) (hs : Plain sep) (l : List (List Nat)) (h : ∀ ch ∈ l, Plain ch) :
    Plain (joinSep sep l) := by
  cases l with
  | nil => nofun
  | cons x rest =>
    rw [joinSep_cons]
    refine plain_append _ _ (h x (by simp)) fun c hc => ?_
    obtain ⟨y, hy, hc⟩ := List.mem_flatMap.mp hc
    exact plain_append _ _ hs (h y (by simp [hy])) c hc

theorem plain_wordbreak (data : List Nat) (hp : Plain data) (n : Nat) (sep : List Nat) (hs : Plain sep) :
    Plain (wordbreak data n sep) := by
  rw [wordbreak_eq]
  exact plain_joinSep sep hs _ fun ch hch c hc => hp c ((chunksOf_mem n data ch hch).2 c hc)

theorem concatIdents_go_plain (chunks : List (List Nat)) (h : ∀ ch ∈ chunks, Plain ch) :
    concatIdents.go (identToks chunks) = some chunks.flatten := by
  induction chunks with
  | nil => simp [identToks, concatIdents.go]
  | cons c cs ih =>
    have hc := h c (by simp)
    have := ih (fun x hx => h x (by simp [hx]))
    simp only [identToks, List.map_cons] at this ⊢
    simp [concatIdents.go, unescapeCP_plain_all c hc, this]

/-- the case of no tokens is the general case: the loop returns the empty string -/
theorem concatIdents_eq (allowEmpty : Bool) (toks : List Tok) :
    concatIdents allowEmpty toks =
      (concatIdents.go toks).bind fun s => if !allowEmpty && s.isEmpty then none else some s := by
  cases toks with
  | nil => cases allowEmpty <;> rfl
  | cons t ts => simp only [concatIdents]; cases concatIdents.go (t :: ts) <;> rfl

theorem concatIdents_chunks (allowEmpty : Bool) (data : List Nat) (hp : Plain data) (chunk : Nat)
    (hne : allowEmpty = true ∨ data ≠ []) :
    concatIdents allowEmpty (identToks (chunksOf chunk data)) = some data := by
  have hmem := chunksOf_mem chunk data
  rw [concatIdents_eq, concatIdents_go_plain _ fun ch hch c hcc => hp c ((hmem ch hch).2 c hcc), chunksOf_flatten]
  rcases hne with ha | hd
  · simp [ha]
  · simp [hd]

theorem hexDigitVal_lower (d : Nat) (h : d < 16) : hexDigitVal (hexDigitLower d) = some d := by
  revert d; decide

theorem unhexlify_hexlify (d : Bytes) (hd : ∀ x ∈ d, x < 256) : unhexlify (hexlify d) = some d := by
  induction d with
  | nil => rfl
  | cons x xs ih =>
    have hx := hd x (by simp)
    have e : hexlify (x :: xs) = hexDigitLower (x / 16) :: hexDigitLower (x % 16) :: hexlify xs := by
      simp [hexlify]
    rw [e, unhexlify, hexDigitVal_lower _ (by omega), hexDigitVal_lower _ (by omega), ih (fun y hy => hd y (by simp [hy]))]
    simp; omega

theorem unhexlify_length (s : List Nat) : Returns (fun b => 2 * b.length = s.length) (unhexlify s) := by
  induction s using unhexlify.induct with
  | case1 => exact .some rfl
  | case2 x => exact .none
  | case3 a b' rest x y r hr hy hx ih =>
    simp only [unhexlify, hx, hy, hr]
    exact .some (by have := ih r hr; simp only [List.length_cons]; omega)
  | case4 a b' rest hno ih =>
    intro b h
    simp only [unhexlify] at h
    cases h

def isHexL (x : Nat) : Bool := (decide (48 ≤ x) && decide (x ≤ 57)) || (decide (97 ≤ x) && decide (x ≤ 102))

theorem hexDigitLower_isHexL (d : Nat) (h : d < 16) : isHexL (hexDigitLower d) = true := by
  revert d; decide

theorem isHexL_plain (x : Nat) (h : isHexL x = true) : isDelim x = false ∧ x ≠ 92 := by
  simp [isHexL] at h
  simp [isDelim]
  omega

theorem hexlify_isHexL (s : Bytes) (hs : ∀ x ∈ s, x < 256) : ∀ c ∈ hexlify s, isHexL c = true := by
  intro c hc
  simp only [hexlify, List.mem_flatMap, List.mem_cons, List.mem_nil_iff, or_false] at hc
  obtain ⟨x, hx, rfl | rfl⟩ := hc <;> exact hexDigitLower_isHexL _ (by have := hs x hx; omega)

theorem hexlify_plain (d : Bytes) (hd : ∀ x ∈ d, x < 256) : Plain (hexlify d) :=
  fun c hc => isHexL_plain c (hexlify_isHexL d hd c hc)

theorem hexlify_length (s : Bytes) : (hexlify s).length = 2 * s.length := by
  induction s with
  | nil => rfl
  | cons x xs ih => simp [hexlify] at ih ⊢; omega

theorem hexlify_eq_nil (d : Bytes) : hexlify d = [] ↔ d = [] := by
  cases d <;> simp [hexlify]

/-- what the text layer needs of an alphabet codec (`binascii`, `base64`): decoding inverts encoding, no encoded character
is a delimiter or a backslash, and only the empty string encodes to nothing -/
structure BlobOk (c : BlobCodec) : Prop where
  rt : ∀ d, (∀ x ∈ d, x < 256) → c.dec (c.enc d) = some d
  plain : ∀ d, (∀ x ∈ d, x < 256) → Plain (c.enc d)
  nil : ∀ d, c.enc d = [] ↔ d = []

theorem BlobOk.ne_nil {c : BlobCodec} (h : BlobOk c) {d : Bytes} (hd : d ≠ []) : c.enc d ≠ [] := mt (h.nil d).mp hd

theorem hex_ok : BlobOk hexCodec := ⟨unhexlify_hexlify, hexlify_plain, hexlify_eq_nil⟩

theorem natToDec_plain (n : Nat) : Plain (natToDec n) := by
  intro c hc
  have := natToDec_digits n c hc
  simp [isDelim]; omega

theorem natToOct_plain (n : Nat) : Plain (natToOct n) := by
  intro c hc
  have := natToOct_digits n c hc
  simp [isDelim]; omega

theorem lexes_backslash_hash : Lexes [92, 35] [⟨.ident, [92, 35]⟩] :=
  lexes_ident [92, 35] (by simp) (.esc (by decide) .nil)

theorem printGeneric_lexes (st : Style) (data : Bytes) (hd : ∀ x ∈ data, x < 256) (hc : ChunkOk st.hexChunk st.hexSep) :
    Lexes (printGeneric st data)
      ([⟨.ident, [92, 35]⟩, ⟨.ident, natToDec data.length⟩] ++ identToks (chunksOf st.hexChunk (hexlify data))) := by
  have h2 := lexes_plain (natToDec data.length) (natToDec_ne_nil _) (natToDec_plain _)
  have h3 := lexes_wordbreak (hexlify data) (hexlify_plain data hd) st.hexChunk st.hexSep hc
  simpa [printGeneric] using
    lexes_append blanks_space (by simp) lexes_backslash_hash (lexes_append blanks_space (by simp) h2 h3)

theorem parseGeneric_tokens (data : Bytes) (hd : ∀ x ∈ data, x < 256) (chunk : Nat) :
    parseGeneric ([⟨.ident, [92, 35]⟩, ⟨.ident, natToDec data.length⟩] ++ identToks (chunksOf chunk (hexlify data)))
      = some data := by
  have hcat := concatIdents_chunks true (hexlify data) (hexlify_plain data hd) chunk (Or.inl rfl)
  simp only [List.cons_append, List.nil_append, parseGeneric]
  simp [unescapeCP_plain_all _ (natToDec_plain data.length), pyInt10_natToDec, hcat, unhexlify_hexlify data hd]

theorem generic_unknown_roundtrip (st : Style) (env : PEnv) (data : Bytes) (hd : ∀ x ∈ data, x < 256)
    (hc : ChunkOk st.hexChunk st.hexSep) :
    fromTextRdata none env (printGeneric st data) = some (.generic data) := by
  unfold fromTextRdata
  rw [lexLine_of_lexes _ _ (printGeneric_lexes st data hd hc)]
  simp only [parseGeneric_tokens data hd st.hexChunk, Option.map_some]

end Model
