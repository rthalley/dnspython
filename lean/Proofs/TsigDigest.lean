import Proofs.TsigBytes
/-! The octets the model of `_digest` feeds to the MAC, compared with the RFC 8945 composition. -/
namespace Model.Tsig
open Model Rfc8945

theorem lowerOctet_eq_fold (c : Nat) : lowerOctet c = fold c := rfl

theorem digestable_eq_canon (n : Name) : digestable n = canon n := by
  unfold digestable canon toWire lowerName lowerLabel
  induction n with
  | nil => rfl
  | cons l rest ih =>
    simp only [List.map_cons, List.flatMap_cons, List.flatten_cons, List.length_map]
    rw [ih]
    rfl

theorem newWire_eq_stripTsig (w : Bytes) (s : Nat) : newWire w s = stripTsig w s := by
  unfold newWire stripTsig slice rd16
  simp [ConstsC14.arcountOff, ConstsC14.arcountEnd, u16_eq_be]

/-- the variables of §4.3.3 as the model of `_digest` sees them -/
def varsOf (key : Key) (rd : Rdata) (time : Option Nat) : Vars :=
  { name := key.name, alg := key.algorithm, time := time.getD rd.timeSigned, fudge := rd.fudge,
    error := rd.error, other := rd.other }

theorem getContext_ok (tbl : List AlgEntry) (key : Key) (c : Ctx) (h : getContext tbl key = .ok c) :
    c.secret = key.secret ∧ c.data = [] := by
  unfold getContext at h
  split at h
  · cases h; exact ⟨rfl, rfl⟩
  · cases h

/-- a MAC field is never empty and opens with the length of the MAC -/
theorem macPrefix_inj (a b : Bytes) (h : (if a = [] then [] else macField a) = (if b = [] then [] else macField b)) :
    a = b := by
  have hne : ∀ m : Bytes, macField m ≠ [] := fun m e => by
    have := congrArg List.length e
    rw [macField, List.length_append, be_length, List.length_nil] at this
    omega
  by_cases ea : a = [] <;> by_cases eb : b = []
  · rw [ea, eb]
  · rw [if_pos ea, if_neg eb] at h
    exact absurd h.symm (hne b)
  · rw [if_neg ea, if_pos eb] at h
    exact absurd h (hne a)
  · rw [if_neg ea, if_neg eb] at h
    exact List.append_inj_right h (by rw [be_length, be_length])

/-- `first` in `_digest`: no running context is in use -/
theorem first_of_single_or_none {multi : Bool} {ctx : Option Ctx} (h : multi = false ∨ ctx = none) :
    (if multi then ctx else none) = none := by
  rcases h with rfl | rfl <;> simp

/-- `_digest`, first form (no running context) -/
theorem digest_first_iff (tbl : List AlgEntry) (wire : Bytes) (key : Key) (rd : Rdata) (time : Option Nat)
    (rm : Bytes) (ctx : Option Ctx) (multi : Bool) (c : Ctx) (hfirst : (if multi then ctx else none) = none) :
    digest tbl wire key rd time rm ctx multi = .ok c ↔
      ∃ c0, getContext tbl key = .ok c0 ∧ rd.other.length ≤ ConstsC14.otherMax
        ∧ c = { c0 with data := (if rm = [] then [] else macField rm) ++ message rd.originalId wire
                  ++ variables (varsOf key rd time) } := by
  unfold digest
  rw [hfirst]
  cases hc : getContext tbl key with
  | error e => simp
  | ok c0 =>
    have hd := (getContext_ok tbl key c0 hc).2
    by_cases ho : rd.other.length > ConstsC14.otherMax
    · simp only [ho, if_true, reduceCtorEq, false_iff, not_exists, not_and]
      intro _ _ h; omega
    · have : (if rm ≠ [] then (c0.update (u16 rm.length)).update rm else c0)
          = { c0 with data := if rm = [] then [] else macField rm } := by
        cases c0; cases hd
        by_cases hr : rm = [] <;> simp [hr, Ctx.update, macField, u16_eq_be]
      simp only [ho, if_false, this, Except.ok.injEq, Nat.not_lt.mp ho, true_and, exists_eq_left']
      simp only [Ctx.update, message, variables, varsOf, timeEncoded_eq_be, digestable_eq_canon, u16_eq_be,
        u32_eq_be, ConstsC14.msgIdLen, ConstsC14.classAny, List.append_assoc, eq_comm]

theorem digest_first_data (tbl : List AlgEntry) (wire : Bytes) (key : Key) (rd : Rdata) (time : Option Nat)
    (rm : Bytes) (ctx : Option Ctx) (multi : Bool) (c : Ctx)
    (hfirst : (if multi then ctx else none) = none)
    (h : digest tbl wire key rd time rm ctx multi = .ok c) :
    c.data = (if rm = [] then [] else macField rm) ++ message rd.originalId wire ++ variables (varsOf key rd time) := by
  obtain ⟨c0, _, _, rfl⟩ := (digest_first_iff tbl wire key rd time rm ctx multi c hfirst).mp h
  rfl

/-- `_digest`, later form (`ctx and multi`) -/
theorem digest_later_eq (tbl : List AlgEntry) (wire : Bytes) (key : Key) (rd : Rdata) (time : Option Nat)
    (rm : Bytes) (c0 : Ctx) :
    digest tbl wire key rd time rm (some c0) true =
      if rd.other.length > ConstsC14.otherMax then .error .valueError
      else .ok { c0 with data := c0.data ++ message rd.originalId wire ++ timers (varsOf key rd time) } := by
  simp [digest, Ctx.update, message, timers, varsOf, timeEncoded_eq_be, u16_eq_be, ConstsC14.msgIdLen]

theorem digest_later_data (tbl : List AlgEntry) (wire : Bytes) (key : Key) (rd : Rdata) (time : Option Nat)
    (rm : Bytes) (c0 c : Ctx)
    (h : digest tbl wire key rd time rm (some c0) true = .ok c) :
    c.data = c0.data ++ message rd.originalId wire ++ timers (varsOf key rd time) := by
  rw [digest_later_eq] at h
  cases (of_ite_error_eq_ok h).2
  rfl

theorem digest_later_ctx (tbl : List AlgEntry) (wire : Bytes) (key : Key) (rd : Rdata) (time : Option Nat)
    (rm : Bytes) (c0 c : Ctx)
    (h : digest tbl wire key rd time rm (some c0) true = .ok c) :
    c.secret = c0.secret ∧ c.hash = c0.hash ∧ c.size = c0.size := by
  rw [digest_later_eq] at h
  cases (of_ite_error_eq_ok h).2
  exact ⟨rfl, rfl, rfl⟩

theorem maybeStart_multi (tbl : List AlgEntry) (key : Key) (mac : Bytes) (r : Option Ctx)
    (h : maybeStartDigest tbl key mac true = .ok r) : ∃ c, r = some c ∧ c.data = macField mac := by
  unfold maybeStartDigest at h
  rw [if_pos rfl] at h
  cases hc : getContext tbl key with
  | error e => rw [hc] at h; cases h
  | ok c0 =>
    rw [hc] at h
    cases h
    exact ⟨_, rfl, by simp [Ctx.update, macField, u16_eq_be, (getContext_ok tbl key c0 hc).2]⟩

theorem maybeStart_single (tbl : List AlgEntry) (key : Key) (mac : Bytes) (r : Option Ctx)
    (h : maybeStartDigest tbl key mac false = .ok r) : r = none := by
  cases h; rfl

/-- `sign`: the MAC of what `_digest` was fed, and the context `_maybe_start_digest` starts with it -/
theorem sign_eq_ok_iff {H : Hmac} {tbl : List AlgEntry} {wire : Bytes} {key : Key} {rd : Rdata} {time : Nat} {rm : Bytes}
    {ctx : Option Ctx} {multi : Bool} {rd' : Rdata} {c' : Option Ctx} :
    sign H tbl wire key rd time rm ctx multi = .ok (rd', c') ↔
      ∃ c, digest tbl wire key rd (some time) rm ctx multi = .ok c ∧ maybeStartDigest tbl key (c.sign H) multi = .ok c'
        ∧ rd' = { rd with timeSigned := time, mac := c.sign H } := by
  unfold sign
  cases digest tbl wire key rd (some time) rm ctx multi with
  | error e => simp
  | ok c => cases hm : maybeStartDigest tbl key (c.sign H) multi <;> simp [hm, eq_comm, and_comm]

end Model.Tsig
