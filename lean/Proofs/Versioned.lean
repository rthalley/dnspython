import Model.Versioned
/-! C11: the pruning loop, `least_kept`, the state invariant of the version deque, and what an open reader holds.  The
last two are proved against the seven kinds of move an operation can make (`Move`, `step_move`), not against `step`. -/
namespace Model.Versioned

theorem pruneLoop_suffix (p : Policy) (least : Nat) (vs : List Ver) : pruneLoop p least vs <:+ vs := by
  fun_induction pruneLoop p least vs
  case case1 => exact List.suffix_refl _
  case case2 v rest _ ih => exact ih.trans (List.suffix_cons v rest)
  case case3 => exact List.suffix_refl _

theorem mem_pruneLoop (p : Policy) (least : Nat) (vs : List Ver) (v : Ver) (hv : v ∈ vs) (hl : least ≤ v.id) :
    v ∈ pruneLoop p least vs := by
  fun_induction pruneLoop p least vs
  case case1 => exact hv
  case case2 x rest hc ih =>
    rcases List.mem_cons.mp hv with e | hm
    · subst e; omega
    · exact ih hm
  case case3 => exact hv

/-- nothing prunable is left at the front -/
def FrontKept (p : Policy) (least : Nat) : List Ver → Prop
  | [] => True
  | v :: rest => ¬ (v.id < least ∧ prunable p (rest.length + 1) v = true)

theorem pruneLoop_front (p : Policy) (least : Nat) (vs : List Ver) : FrontKept p least (pruneLoop p least vs) := by
  fun_induction pruneLoop p least vs
  case case1 => trivial
  case case2 ih => exact ih
  case case3 hc => exact hc

/-- for a policy that is not monotone, versions behind the first refusal stay even if the policy would accept them -/
theorem pruneLoop_longest (p : Policy) (least : Nat) (vs : List Ver) (S : List Ver) (hS : S <:+ vs)
    (hF : FrontKept p least S) : S.length ≤ (pruneLoop p least vs).length := by
  fun_induction pruneLoop p least vs
  case case1 => exact hS.length_le
  case case2 v rest hc ih =>
    rcases List.suffix_cons_iff.mp hS with e | hs
    · subst e; exact absurd hc hF
    · exact ih hs
  case case3 => exact hS.length_le

/-- with readers, `least_kept` is the least pinned id (without, it is the newest id by definition) -/
theorem leastKept_isLeast {rs : List (Nat × Ver)} (vs : List Ver) (hne : rs ≠ []) :
    (∃ r ∈ rs, leastKept rs vs = r.2.id) ∧ ∀ r ∈ rs, leastKept rs vs ≤ r.2.id := by
  obtain ⟨x, xs, rfl⟩ := List.exists_cons_of_ne_nil hne
  have h : ((x :: xs).map (·.2.id)).min? = some (leastKept (x :: xs) vs) := by
    simp only [leastKept, List.map_cons, List.min?_cons', List.foldl_map]
  obtain ⟨hm, hle⟩ := List.min?_eq_some_iff.mp h
  obtain ⟨r, hr, e⟩ := List.mem_map.mp hm
  exact ⟨⟨r, hr, e.symm⟩, fun r hr => hle _ (List.mem_map_of_mem hr)⟩

theorem leastKept_le (rs : List (Nat × Ver)) (vs : List Ver) (r : Nat × Ver) (hr : r ∈ rs) :
    leastKept rs vs ≤ r.2.id :=
  (leastKept_isLeast vs (List.ne_nil_of_mem hr)).2 r hr

theorem leastKept_append_le (rs : List (Nat × Ver)) (vs : List Ver) (r : Nat × Ver) (hne : rs ≠ []) :
    leastKept (rs ++ [r]) vs ≤ leastKept rs vs := by
  obtain ⟨r0, h0, e⟩ := (leastKept_isLeast vs hne).1
  exact e ▸ leastKept_le _ vs r0 (List.mem_append_left _ h0)

/-- without readers `least_kept` looks at the newest version only, with readers at no version at all -/
theorem leastKept_congr (rs : List (Nat × Ver)) {vs vs' : List Ver} (h : vs.getLast? = vs'.getLast?) :
    leastKept rs vs = leastKept rs vs' := by
  cases rs with
  | nil => simp only [leastKept, newestId, h]
  | cons x xs => rfl

structure PreInv (s : State) : Prop where
  last : ∃ v, s.versions.getLast? = some v ∧ v.id = s.history.length
  suffix : s.versions <:+ s.history
  ids : s.history.map (fun v => v.id) = List.range' 1 s.history.length
  wr : ∀ w, s.writer = some w → w = s.history.length + 1
  pins : ∀ r ∈ s.readers, r.2 ∈ s.versions

def Stable (s : State) : Prop := FrontKept s.policy (leastKept s.readers s.versions) s.versions

structure Inv (s : State) : Prop where
  pre : PreInv s
  stable : Stable s

theorem id_le_of_mem_history {s : State} (h : PreInv s) {v : Ver} (hv : v ∈ s.history) : v.id ≤ s.history.length := by
  have : v.id ∈ s.history.map (fun v => v.id) := List.mem_map_of_mem hv
  rw [h.ids] at this
  have := List.mem_range'_1.mp this
  omega

theorem newestId_eq {s : State} (h : PreInv s) : newestId s.versions = s.history.length := by
  obtain ⟨v, hv, hid⟩ := h.last
  simp [newestId, hv, hid]

theorem getLast?_of_suffix {α : Type} {l₁ l₂ : List α} (h : l₁ <:+ l₂) (hne : l₁ ≠ []) : l₁.getLast? = l₂.getLast? := by
  obtain ⟨t, rfl⟩ := h
  rw [List.getLast?_append, List.getLast?_eq_some_getLast hne, Option.some_or]

theorem versions_ne_nil {s : State} (h : PreInv s) : s.versions ≠ [] := by
  obtain ⟨v, hv, _⟩ := h.last
  intro e; rw [e] at hv; simp at hv

/-- the newest one, or any pinned one -/
theorem exists_kept {s : State} (h : PreInv s) : ∃ v ∈ s.versions, leastKept s.readers s.versions ≤ v.id := by
  cases hr : s.readers with
  | nil =>
    obtain ⟨v, hv, hid⟩ := h.last
    exact ⟨v, List.mem_of_getLast? hv, by simp only [leastKept]; rw [newestId_eq h, hid]; exact Nat.le_refl _⟩
  | cons r rest =>
    have hm : r ∈ s.readers := by rw [hr]; exact List.mem_cons_self
    exact ⟨r.2, h.pins r hm, hr ▸ leastKept_le s.readers s.versions r hm⟩

theorem prune_inv (s : State) (h : PreInv s) : Inv (prune s) := by
  obtain ⟨k, hk, hkl⟩ := exists_kept h
  have hsuf := pruneLoop_suffix s.policy (leastKept s.readers s.versions) s.versions
  have hmem := mem_pruneLoop s.policy (leastKept s.readers s.versions) s.versions k hk hkl
  have hne : pruneLoop s.policy (leastKept s.readers s.versions) s.versions ≠ [] := List.ne_nil_of_mem hmem
  have hlast := getLast?_of_suffix hsuf hne
  have hpre : PreInv (prune s) := by
    refine ⟨?_, hsuf.trans h.suffix, h.ids, h.wr, fun r hr => ?_⟩
    · simp only [prune]; rw [hlast]; exact h.last
    · exact mem_pruneLoop _ _ _ r.2 (h.pins r hr) (leastKept_le s.readers s.versions r hr)
  refine ⟨hpre, ?_⟩
  unfold Stable
  rw [show leastKept (prune s).readers (prune s).versions = leastKept s.readers s.versions from
    leastKept_congr s.readers hlast]
  exact pruneLoop_front _ _ _

theorem stable_of_least_le {p : Policy} {l l' : Nat} {vs : List Ver} (h : FrontKept p l vs) (hle : l' ≤ l) :
    FrontKept p l' vs := by
  cases vs with
  | nil => trivial
  | cons v rest =>
    simp only [FrontKept] at h ⊢
    intro hc; exact h ⟨by omega, hc.2⟩

theorem open_inv (s : State) (h : Inv s) (hd : Nat) (v : Ver) (hv : v ∈ s.versions) :
    Inv { s with readers := s.readers ++ [(hd, v)] } := by
  refine ⟨{ h.pre with pins := fun r hr => ?_ }, ?_⟩
  · rcases List.mem_append.mp hr with hm | hm
    · exact h.pre.pins r hm
    · cases List.mem_singleton.mp hm; exact hv
  · unfold Stable
    simp only
    refine stable_of_least_le h.stable ?_
    by_cases hr : s.readers = []
    · rw [hr]; simp only [List.nil_append, leastKept, List.foldl_nil]
      rw [newestId_eq h.pre]
      exact id_le_of_mem_history h.pre (h.pre.suffix.subset hv)
    · exact leastKept_append_le s.readers s.versions (hd, v) hr

theorem mem_of_find?_rev {vs : List Ver} {q : Ver → Bool} {v : Ver} (h : vs.reverse.find? q = some v) : v ∈ vs :=
  List.mem_reverse.mp (List.mem_of_find?_eq_some h)

theorem removeReader_sublist (rs : List (Nat × Ver)) (hd : Nat) : (removeReader rs hd).Sublist rs := by
  fun_induction removeReader rs hd with
  | case1 => exact .slnil
  | case2 x xs => exact .cons _ (.refl _)
  | case3 _ _ _ _ ih => exact .cons_cons _ ih

theorem nextId_eq {s : State} (h : PreInv s) : nextId s.versions = s.history.length + 1 := by
  obtain ⟨v, hv, hid⟩ := h.last
  simp [nextId, hv, hid]

/-- `PreInv` does not mention the policy, and pruning re-establishes `Stable` under the new one -/
theorem setPolicy_inv (s : State) (p : Policy) (h : Inv s) : Inv (prune { s with policy := p }) :=
  prune_inv _ { h.pre with }

theorem endWrite_inv (s : State) (h : Inv s) : Inv { s with writer := none } :=
  ⟨{ h.pre with wr := fun _ hw => nomatch hw }, h.stable⟩

/-- What one operation can do to the state: the thirteen operations make seven kinds of move.  Only `closed` has to
know the operation (which handle went). -/
inductive Move (s : State) : Op → State → Prop
  | stay {op : Op} : Move s op s
  | opened {op : Op} (hd : Nat) {v : Ver} (hv : v ∈ s.versions) : Move s op { s with readers := s.readers ++ [(hd, v)] }
  | closed (hd : Nat) : Move s (.close hd) (prune { s with readers := removeReader s.readers hd })
  | wopen {op : Op} : Move s op { s with writer := some (nextId s.versions) }
  | committed {op : Op} {w : Nat} (hw : s.writer = some w) (c : Nat) (sn : Option Nat) :
    Move s op (prune { s with versions := s.versions ++ [⟨w, c, sn⟩], history := s.history ++ [⟨w, c, sn⟩], writer := none })
  | endWrite {op : Op} : Move s op { s with writer := none }
  | policy {op : Op} (p : Policy) : Move s op (prune { s with policy := p })

theorem step_move (s : State) (op : Op) : Move s op (step s op).1 := by
  cases op with
  | openLatest hd =>
    simp only [step]; split
    · next hv => exact .opened hd (List.mem_of_getLast? hv)
    · exact .stay
  | openId hd _ | openSerial hd _ =>
    simp only [step]; split
    · next hv => exact .opened hd (mem_of_find?_rev hv)
    · exact .stay
  | close hd =>
    simp only [step]; split
    · exact .closed hd
    · exact .stay
  | wopen =>
    simp only [step]; split
    · exact .stay
    · exact .wopen
  | commit c sn changed =>
    simp only [step]; split
    · exact .stay
    · next hw =>
      split
      · exact .committed hw c sn
      · exact .endWrite
  | rollback =>
    simp only [step]; split
    · exact .stay
    · exact .endWrite
  | setMax n =>
    cases n with
    | none => exact .policy _
    | some m => simp only [step]; split; exact .stay; exact .policy _
  | setPolicy p => cases p <;> exact .policy _
  | setModp _ _ | setPred _ => exact .policy _
  | openBoth _ _ _ => exact .stay
  | observe hd => simp only [step]; split <;> exact .stay

theorem Move.inv {s s' : State} {op : Op} (m : Move s op s') (h : Inv s) : Inv s' := by
  cases m with
  | stay => exact h
  | opened hd hv => exact open_inv s h hd _ hv
  | closed hd =>
    exact prune_inv _ { h.pre with pins := fun r hr => h.pre.pins r ((removeReader_sublist s.readers hd).subset hr) }
  | wopen => exact ⟨{ h.pre with wr := fun w hw => Option.some.inj hw ▸ nextId_eq h.pre }, h.stable⟩
  | @committed _ w hw c sn =>
    -- the new version gets the id the writer was given, `|history| + 1`, at the end of deque and history
    have hwid := h.pre.wr w hw
    refine prune_inv _ ⟨⟨⟨w, c, sn⟩, by simp, by simp [hwid]⟩, ?_, ?_, fun _ hw' => (nomatch hw'),
      fun r hr => List.mem_append_left _ (h.pre.pins r hr)⟩
    · obtain ⟨t, ht⟩ := h.pre.suffix
      exact ⟨t, by rw [← ht, List.append_assoc]⟩
    · simp only [List.map_append, List.map_cons, List.map_nil, List.length_append, List.length_cons,
        List.length_nil]
      rw [h.pre.ids, hwid, List.range'_concat]
      simp [Nat.add_comm]
  | endWrite => exact endWrite_inv s h
  | policy p => exact setPolicy_inv s p h

theorem inv_init : Inv init := by
  refine ⟨⟨⟨⟨1, 0, none⟩, rfl, rfl⟩, List.suffix_refl _, rfl, fun w hw => by simp [init] at hw, fun r hr => by cases hr⟩, ?_⟩
  simp [Stable, init, FrontKept, leastKept, newestId]

theorem inv_run (s : State) (ops : List Op) (h : Inv s) : Inv (run s ops).1 := by
  induction ops generalizing s with
  | nil => exact h
  | cons op rest ih => simp only [run]; exact ih _ ((step_move s op).inv h)

theorem inv_reach (ops : List Op) : Inv (run init ops).1 := inv_run init ops inv_init

theorem findReader_cons (x : Nat × Ver) (rs : List (Nat × Ver)) (hd : Nat) :
    findReader (x :: rs) hd = if x.1 = hd then some x.2 else findReader rs hd := by
  by_cases h : x.1 = hd <;> simp [findReader, List.find?, h]

/-- a handle finds its first reader: one registered later under the same handle is not seen -/
theorem findReader_append (rs : List (Nat × Ver)) (hd : Nat) (x : Nat × Ver) :
    findReader (rs ++ [x]) hd = (findReader rs hd).or (if x.1 = hd then some x.2 else none) := by
  induction rs with
  | nil => simp [findReader]
  | cons y rs ih => rw [List.cons_append, findReader_cons, findReader_cons, ih]; split <;> rfl

theorem findReader_remove (rs : List (Nat × Ver)) (hd hd' : Nat) (hne : hd' ≠ hd) :
    findReader (removeReader rs hd') hd = findReader rs hd := by
  fun_induction removeReader rs hd' with
  | case1 => rfl
  | case2 x xs => rw [findReader_cons, if_neg hne]
  | case3 x xs hd' hx ih => rw [findReader_cons, findReader_cons, ih hne]

/-- a search from the newest end of a deque sorted by id stops at the newest match -/
theorem find_rev_newest {vs : List Ver} {q : Ver → Bool} {v : Ver} (hinc : vs.Pairwise (fun a b => a.id < b.id))
    (h : vs.reverse.find? q = some v) : ∀ w ∈ vs, q w = true → w.id ≤ v.id := by
  obtain ⟨_, as, bs, he, hall⟩ := List.find?_eq_some_iff_append.mp h
  have he' : vs = bs.reverse ++ v :: as.reverse := by simpa using congrArg List.reverse he
  intro w hw hq
  rw [he'] at hw hinc
  rcases List.mem_append.mp hw with hm | hm
  · exact Nat.le_of_lt ((List.pairwise_append.mp hinc).2.2 w hm v List.mem_cons_self)
  · rcases List.mem_cons.mp hm with e | hm'
    · exact e ▸ Nat.le_refl _
    · exact absurd hq (by simpa using hall w (List.mem_reverse.mp hm'))

theorem find_rev_none {vs : List Ver} {q : Ver → Bool} (h : vs.reverse.find? q = none) : ∀ w ∈ vs, q w = false := by
  intro w hw
  have := List.find?_eq_none.mp h w (List.mem_reverse.mpr hw)
  simpa using this

def closes (hd : Nat) : Op → Bool
  | .close h => decide (h = hd)
  | _ => false

/-- a reader stays registered under its handle until that handle is closed -/
theorem Move.reader_kept {s s' : State} {op : Op} (m : Move s op s') {hd : Nat} {v : Ver} (hc : closes hd op = false)
    (h : findReader s.readers hd = some v) : findReader s'.readers hd = some v := by
  cases m with
  | opened hd' hv => exact (findReader_append _ _ _).trans (by rw [h]; rfl)
  | closed hd' => exact (findReader_remove _ _ _ (by simpa [closes] using hc)).trans h
  | _ => exact h

theorem reader_kept_run (s : State) (ops : List Op) (hd : Nat) (v : Ver) (hc : ∀ op ∈ ops, closes hd op = false)
    (h : findReader s.readers hd = some v) : findReader (run s ops).1.readers hd = some v := by
  induction ops generalizing s with
  | nil => exact h
  | cons op rest ih =>
    simp only [run]
    exact ih _ (fun o ho => hc o (List.mem_cons_of_mem _ ho)) ((step_move s op).reader_kept (hc op (by simp)) h)

end Model.Versioned
