import Proofs.RdataTextField
/-! Mnemonic fields (C05): the generic `IntEnum` round trip over the generated tables (algorithms — `Algorithm.make` is the
same function —, DSYNC schemes, TSIG rcodes), record types with their dashed spelling, certificate types, KEY flags /
protocol; and the other direction: whatever these readers return fits the wire field (`TablesFit`, `enumFromText_le`). -/
namespace Model

theorem lookupName_mem (k : List Nat) (l : List (List Nat × Nat)) (w : Nat) (h : lookupName k l = some w) : (k, w) ∈ l := by
  induction l with
  | nil => simp [lookupName] at h
  | cons p ps ih =>
    obtain ⟨a, v⟩ := p
    unfold lookupName at h
    by_cases ha : a = k
    · simp [ha] at h; subst h; subst ha; simp
    · simp [ha] at h; exact List.mem_cons_of_mem _ (ih h)

theorem lookupName_none (k : List Nat) (tbl : List (List Nat × Nat)) (h : ∀ p ∈ tbl, p.1 ≠ k) : lookupName k tbl = none := by
  induction tbl with
  | nil => rfl
  | cons p ps ih =>
    obtain ⟨a, v⟩ := p
    have ha : a ≠ k := h (a, v) (by simp)
    simp [lookupName, ha, ih (fun q hq => h q (by simp [hq]))]

theorem lookupVal_mem (v : Nat) (l : List (Nat × List Nat)) (t : List Nat) (h : lookupVal v l = some t) : (v, t) ∈ l := by
  induction l with
  | nil => simp [lookupVal] at h
  | cons p ps ih =>
    obtain ⟨a, x⟩ := p
    unfold lookupVal at h
    by_cases ha : a = v
    · simp [ha] at h; subst h; subst ha; simp
    · simp [ha] at h; exact List.mem_cons_of_mem _ (ih h)

theorem upper_digits (ds : List Nat) (h : ∀ c ∈ ds, 48 ≤ c ∧ c ≤ 57) : ds.map upperC' = ds := by
  have : ∀ c ∈ ds, upperC' c = c := by
    intro c hc; have := h c hc; unfold upperC'
    have : ¬ (97 ≤ c ∧ c ≤ 122) := by omega
    simp [this]
  conv => rhs; rw [← List.map_id ds]
  exact List.map_congr_left this

/-- the generic `IntEnum` round trip.  Obligations on the generated tables (all decidable):
`texts` entries are plain, upper-case stable and found in `names` with their value; a name of the shape
prefix+digits carries the value it spells; the prefix is upper-case stable. -/
def EnumOk (texts : List (Nat × List Nat)) (names : List (List Nat × Nat)) (pfx : List Nat) (max : Nat) : Prop :=
  (∀ p ∈ texts, p.2 ≠ [] ∧ Plain p.2 ∧ enumFromText names pfx max p.2 = some p.1) ∧
  (∀ p ∈ names, (p.1.take pfx.length = pfx ∧ (p.1.drop pfx.length).all isDigit = true) → decVal (p.1.drop pfx.length) = p.2) ∧
  pfx.map upperC' = pfx ∧ Plain pfx

instance (texts names pfx max) : Decidable (EnumOk texts names pfx max) := by unfold EnumOk; exact inferInstance

theorem enumFromText_number (names : List (List Nat × Nat)) (pfx : List Nat) (max : Nat)
    (hnames : ∀ p ∈ names, (p.1.take pfx.length = pfx ∧ (p.1.drop pfx.length).all isDigit = true) → decVal (p.1.drop pfx.length) = p.2)
    (hpfx : pfx.map upperC' = pfx) (v : Nat) (hv : v ≤ max) :
    enumFromText names pfx max (pfx ++ natToDec v) = some v := by
  unfold enumFromText
  have hu : (pfx ++ natToDec v).map upperC' = pfx ++ natToDec v := by
    rw [List.map_append, hpfx, upper_digits _ (natToDec_digits v)]
  simp only [hu]
  have htake : (pfx ++ natToDec v).take pfx.length = pfx := by simp
  have hdrop : (pfx ++ natToDec v).drop pfx.length = natToDec v := by simp
  cases hl : lookupName (pfx ++ natToDec v) names with
  | some w =>
    have hm := lookupName_mem _ _ _ hl
    have := hnames _ hm ⟨htake, by rw [hdrop]; exact natToDec_all_isDigit v⟩
    simp only [hdrop, decVal_natToDec] at this
    simp [this]
  | none =>
    simp [htake, hdrop, natToDec_isEmpty, natToDec_all_isDigit, decVal_natToDec, hv]

theorem enum_rt (texts : List (Nat × List Nat)) (names : List (List Nat × Nat)) (pfx : List Nat) (max : Nat)
    (hok : EnumOk texts names pfx max) (v : Nat) (hv : v ≤ max) :
    enumFromText names pfx max (enumToText texts pfx v) = some v ∧ Plain (enumToText texts pfx v) ∧ enumToText texts pfx v ≠ [] := by
  obtain ⟨h1, h2, h3, h4⟩ := hok
  unfold enumToText
  cases hl : lookupVal v texts with
  | some t =>
    have hm := lookupVal_mem _ _ _ hl
    obtain ⟨a, b, c⟩ := h1 _ hm
    exact ⟨c, b, a⟩
  | none =>
    exact ⟨enumFromText_number names pfx max h2 h3 v hv, plain_append _ _ (h4) (natToDec_plain v),
      fun e => natToDec_ne_nil v (List.append_eq_nil_iff.mp e).2⟩

/-- obligations on the generated tables: every mnemonic value fits its wire field -/
structure TablesFit : Prop where
  alg : ∀ p ∈ ConstsC05.algMnemonics, p.2 ≤ 255
  type : ∀ p ∈ ConstsC05.typeNames, p.2 ≤ 65535
  scheme : ∀ p ∈ ConstsC05.schemeNames, p.2 ≤ 255
  ctype : ∀ p ∈ ConstsC05.ctypeByName, p.2 ≤ 65535
  keyFlag : ∀ p ∈ ConstsC05.keyFlagNames, p.2 < 65536
  keyProto : ∀ p ∈ ConstsC05.keyProtoNames, p.2 ≤ 255
  rcode : ∀ p ∈ ConstsC05.rcodeNames, p.2 ≤ 4095
  ttl : Consts.maxTTL < 4294967296

theorem tablesFit : TablesFit := by
  constructor <;> decide +kernel

/-- a member's value, or a number that passed the comparison with `max` -/
theorem enumFromText_le (names : List (List Nat × Nat)) (pfx : List Nat) (max : Nat) (hn : ∀ p ∈ names, p.2 ≤ max)
    (s : List Nat) : Returns (· ≤ max) (enumFromText names pfx max s) := by
  unfold enumFromText
  dsimp only
  split
  · rename_i v hv
    exact .some (hn _ (lookupName_mem _ _ _ hv))
  · exact .ite_some fun _ => .ite_some fun h => .some h

theorem algEnumOk : EnumOk ConstsC05.algTexts ConstsC05.algMnemonics [] 255 := by decide +kernel
/-- `Algorithm.make` is `IntEnum.make` for the algorithm table: the model writes the same function twice, with its own
copy of the lookup and of the upper-casing -/
theorem algoFromText_eq : algoFromText = enumFromText ConstsC05.algMnemonics [] 255 := by
  have hl : ∀ k l, lookupAssoc k l = lookupName k l := by
    intro k l
    induction l with
    | nil => rfl
    | cons p ps ih => simp only [lookupName, lookupAssoc, ih]
  funext s
  unfold algoFromText enumFromText
  simp only [hl, show upperC = upperC' from rfl, List.length_nil, List.take_zero, List.drop_zero, true_and]
  cases lookupName (s.map upperC') ConstsC05.algMnemonics with
  | some v => rfl
  | none => simp only [Bool.and_eq_true]   -- `&&` in one, `∧` in the other

theorem algoFromText_natToDec (v : Nat) (hv : v ≤ 255) : algoFromText (natToDec v) = some v :=
  algoFromText_eq ▸ enumFromText_number _ [] 255 algEnumOk.2.1 rfl v hv

theorem algoFromText_le (s : List Nat) : Returns (· ≤ 255) (algoFromText s) :=
  algoFromText_eq ▸ enumFromText_le _ [] 255 tablesFit.alg s

theorem schemeEnumOk : EnumOk ConstsC05.schemeTexts ConstsC05.schemeNames [] 255 := by decide +kernel

theorem rcodeEnumOk : EnumOk ConstsC05.rcodeTsigTexts ConstsC05.rcodeNames [] 4095 := by decide +kernel

/-- obligations on `RdataType`: every printed mnemonic is plain and is read back as its value (also through the dashed
spelling); a member named TYPE+digits carries that number -/
def TypeTableOk : Prop :=
  (∀ p ∈ ConstsC05.typeTexts, p.2 ≠ [] ∧ Plain p.2 ∧ rdtypeFromText p.2 = some p.1) ∧
  (∀ p ∈ ConstsC05.typeNames, (p.1.take ConstsC05.typePrefix.length = ConstsC05.typePrefix ∧
      (p.1.drop ConstsC05.typePrefix.length).all isDigit = true) → decVal (p.1.drop ConstsC05.typePrefix.length) = p.2) ∧
  ConstsC05.typePrefix.map upperC' = ConstsC05.typePrefix ∧ Plain ConstsC05.typePrefix ∧
  ConstsC05.typePrefix.contains 45 = false

instance : Decidable TypeTableOk := by unfold TypeTableOk; exact inferInstance

theorem typeTableOk : TypeTableOk := by decide +kernel

theorem rdtype_rt (v : Nat) (hv : v ≤ 65535) :
    rdtypeFromText (rdtypeToText v) = some v ∧ Plain (rdtypeToText v) ∧ rdtypeToText v ≠ [] := by
  obtain ⟨h1, h2, h3, h4, h5⟩ := typeTableOk
  unfold rdtypeToText enumToText
  cases hl : lookupVal v ConstsC05.typeTexts with
  | some t =>
    have hm := lookupVal_mem _ _ _ hl
    obtain ⟨a, b, c⟩ := h1 _ hm
    exact ⟨c, b, a⟩
  | none =>
    have hnum := enumFromText_number [] ConstsC05.typePrefix 65535 (by intro p hp; simp at hp) h3 v hv
    have hu : (ConstsC05.typePrefix ++ natToDec v).map upperC' = ConstsC05.typePrefix ++ natToDec v := by
      rw [List.map_append, h3, upper_digits _ (natToDec_digits v)]
    have hno45 : (ConstsC05.typePrefix ++ natToDec v).contains 45 = false := by
      have := natToDec_no 45 (by omega) v
      simp only [List.contains_eq_mem, List.mem_append, decide_eq_false_iff_not] at h5 ⊢
      intro h; rcases h with h | h
      · exact h5 h
      · exact this h
    refine ⟨?_, plain_append _ _ (h4) (natToDec_plain v),
      fun e => natToDec_ne_nil v (List.append_eq_nil_iff.mp e).2⟩
    · unfold rdtypeFromText
      simp only [hu, hno45, Bool.false_eq_true, if_false]
      cases hn : lookupName (ConstsC05.typePrefix ++ natToDec v) ConstsC05.typeNames with
      | some w =>
        have hm := lookupName_mem _ _ _ hn
        have := h2 _ hm ⟨by simp, by simp [natToDec_all_isDigit]⟩
        simp [decVal_natToDec] at this
        simp [this]
      | none => simpa using hnum

theorem rdtypeFromText_le (s : List Nat) : Returns (· ≤ 65535) (rdtypeFromText s) := by
  have hnum := enumFromText_le [] ConstsC05.typePrefix 65535 nofun s
  have htbl : ∀ k, Returns (· ≤ 65535) (lookupName k ConstsC05.typeNames) := fun k v hv =>
    tablesFit.type _ (lookupName_mem _ _ _ hv)
  unfold rdtypeFromText
  dsimp only
  split
  · rename_i v hv
    exact .some (htbl _ v hv)
  · split
    · rename_i v hv
      exact .ite (fun _ => .some (Returns.ite_some (fun _ => htbl _) v hv)) fun _ => hnum
    · exact hnum

def CtypeOk : Prop :=
  (∀ p ∈ ConstsC05.ctypeByValue, p.2 ≠ [] ∧ Plain p.2 ∧ lookupName p.2 ConstsC05.ctypeByName = some p.1) ∧
  (∀ p ∈ ConstsC05.ctypeByName, p.1.all isDigit = false)

instance : Decidable CtypeOk := by unfold CtypeOk; exact inferInstance
theorem ctypeOk : CtypeOk := by decide +kernel

theorem field_ctype (st : Style) (env : PEnv) (v : Nat) (hv : v ≤ 65535) :
    ∃ text, FieldRT st env .ctype (.n v) text ⟨.ident, text⟩ := by
  obtain ⟨h1, h2⟩ := ctypeOk
  cases hl : lookupVal v ConstsC05.ctypeByValue with
  | some t =>
    have hm := lookupVal_mem _ _ _ hl
    obtain ⟨a, b, c⟩ := h1 _ hm
    have hp := b
    refine ⟨t, tokRT_plain a hp (by simp [printField, enumToText, hl]) ?_⟩
    simp [parseField, parseFieldExtra, unescapeCP_plain_all _ hp, c]
  | none =>
    have hp := natToDec_plain v
    refine ⟨natToDec v, tokRT_plain (natToDec_ne_nil v) hp (by simp [printField, enumToText, hl]) ?_⟩
    have hn : lookupName (natToDec v) ConstsC05.ctypeByName = none := by
      apply lookupName_none
      intro p hp' e
      have := h2 p hp'
      rw [e, natToDec_all_isDigit] at this
      exact Bool.noConfusion this
    have hle : ¬ v > 65535 := by omega
    simp [parseField, parseFieldExtra, unescapeCP_plain_all _ hp, hn, pyInt10_natToDec, hle]

/-- `as_uint16` / `as_uint8` of a raw KEY token -/
theorem keyDirect_le (M : Nat) (t : Tok) :
    Returns (· ≤ M) (if t.kind ≠ .ident then none
      else match pyInt 10 t.val with
        | some (neg, n) => if (neg ∧ n ≠ 0) ∨ n > M then none else some n
        | none => none) :=
  .ite_none fun _ => .match_int fun _ _ => .ite_none fun _ => .some (by omega)

/-- the `|`-separated KEY flag mnemonics are or-ed together: 16-bit values stay 16-bit -/
theorem keyFlags_fold_lt (ps : List (List Nat)) (acc : Option Nat) (hacc : Returns (· < 65536) acc) :
    Returns (· < 65536) (ps.foldl (fun acc p => match acc, lookupName p ConstsC05.keyFlagNames with
        | some a, some v => some (a ||| v)
        | _, _ => none) acc) := by
  induction ps generalizing acc with
  | nil => exact hacc
  | cons p ps ih =>
    refine ih _ ?_
    dsimp only
    split
    · rename_i a0 v0 _ hv
      exact .some (Nat.or_lt_two_pow (n := 16) (hacc _ rfl) (tablesFit.keyFlag _ (lookupName_mem _ _ _ hv)))
    · exact .none

theorem field_keyFlags (st : Style) (env : PEnv) (v : Nat) (hv : v ≤ 65535) :
    FieldRT st env .keyFlags (.n v) (natToDec v) ⟨.ident, natToDec v⟩ := by
  have hp := natToDec_plain v
  refine tokRT_plain (natToDec_ne_nil v) hp rfl ?_
  have hle : ¬ v > 65535 := by omega
  simp [parseField, parseFieldExtra, pyInt10_natToDec, hle]

theorem field_keyProto (st : Style) (env : PEnv) (v : Nat) (hv : v ≤ 255) :
    FieldRT st env .keyProto (.n v) (natToDec v) ⟨.ident, natToDec v⟩ := by
  have hp := natToDec_plain v
  refine tokRT_plain (natToDec_ne_nil v) hp rfl ?_
  have hle : ¬ v > 255 := by omega
  simp [parseField, parseFieldExtra, pyInt10_natToDec, hle]

end Model
