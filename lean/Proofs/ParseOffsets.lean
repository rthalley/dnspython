import Model.Parse
/-! C04: where the parser stands after each reader of `Model.Parse` (`posOf`), and the invariant of the message
reader's loops that follows: positions and every recorded offset lie inside the message. -/
namespace Model

/-- the parser position a result carries, on success and on failure alike -/
def posOf {ε α : Type} : Except (ε × Nat) (α × Nat) → Nat
  | .ok (_, f) => f
  | .error (_, f) => f

theorem posOf_ok {ε α : Type} {r : Except (ε × Nat) (α × Nat)} {b : Nat} (h : posOf r ≤ b) {a : α} {f : Nat}
    (hr : r = .ok (a, f)) : f ≤ b := by subst hr; exact h

theorem posOf_error {ε α : Type} {r : Except (ε × Nat) (α × Nat)} {b : Nat} (h : posOf r ≤ b) {e : ε} {f : Nat}
    (hr : r = .error (e, f)) : f ≤ b := by subst hr; exact h

/-- every branch of the name reader leaves `furthest` at a maximum of positions it has checked against `end` -/
theorem fwF_pos (w : Bytes) (endp cur bp f : Nat) (acc : List Label) :
    posOf (fromWireAuxF w endp cur bp f acc) ≤ max f endp := by
  fun_induction fromWireAuxF w endp cur bp f acc
  case case3 ih => exact Nat.le_trans ih (by omega)
  case case5 ih => exact Nat.le_trans ih (by omega)
  all_goals simp only [posOf]; omega

theorem pGetName_pos (w : Bytes) (endp cur fur : Nat) : posOf (pGetName w endp cur fur) ≤ max fur endp := by
  have hb := fwF_pos w endp cur cur fur []
  unfold pGetName
  split
  · rename_i he; rwa [he] at hb
  · rename_i hn
    rw [hn] at hb
    split <;> exact hb

theorem pGetBytes_pos (w : Bytes) (endp cur k : Nat) : posOf (pGetBytes w endp cur k) ≤ max cur endp := by
  unfold pGetBytes
  split <;> simp only [posOf] <;> omega

theorem txtLoop_bounds (w : Bytes) (endp fuel cur count : Nat) (hc : cur ≤ endp) :
    (∀ e f, txtLoop w endp fuel cur count = .error (e, f) → f ≤ endp) ∧
    (∀ c, txtLoop w endp fuel cur count = .ok c → c ≤ endp) := by
  fun_induction txtLoop w endp fuel cur count
  case case4 cur _ _ e hb =>
    have := posOf_error (pGetBytes_pos w endp cur 1) hb
    exact ⟨fun e' f h => by cases h; omega, fun c h => nomatch h⟩
  case case5 cur _ _ lb c1 hb1 e hb =>
    have h1 := posOf_ok (pGetBytes_pos w endp cur 1) hb1
    have := posOf_error (pGetBytes_pos w endp c1 (be lb)) hb
    exact ⟨fun e' f h => by cases h; omega, fun c h => nomatch h⟩
  case case6 cur _ _ lb c1 hb1 x c2 hb2 ih =>
    have h1 := posOf_ok (pGetBytes_pos w endp cur 1) hb1
    have h2 := posOf_ok (pGetBytes_pos w endp c1 (be lb)) hb2
    exact ih (by omega)
  all_goals exact ⟨fun e f h => by cases h <;> exact hc, fun c h => by cases h <;> exact hc⟩

theorem pBody_bounds (w : Bytes) (kind : BodyKind) (cur rdlen : Nat) (e : String) (f : Nat)
    (h : pBody w kind cur rdlen = .error (e, f)) : f ≤ cur + rdlen := by
  cases kind <;> simp only [pBody] at h
  case fixed n =>
    by_cases hn : rdlen = n
    · simp [hn] at h
    · rw [if_neg hn] at h; cases h; exact Nat.le_refl _
  case name =>
    have hp := pGetName_pos w (cur + rdlen) cur cur
    cases hn : pGetName w (cur + rdlen) cur with
    | error err =>
      have := posOf_error hp hn
      simp only [hn] at h; cases h; omega
    | ok p =>
      have := posOf_ok hp hn
      simp only [hn] at h; split at h <;> cases h; omega
  case txt =>
    have ht := txtLoop_bounds w (cur + rdlen) (rdlen + 1) cur 0 (by omega)
    cases hl : txtLoop w (cur + rdlen) (rdlen + 1) cur 0 with
    | error err => simp only [hl] at h; cases h; exact ht.1 _ _ hl
    | ok c => simp only [hl] at h; split at h <;> cases h; exact ht.2 _ hl
  case generic => simp at h
  case unsupported => cases h; omega

/-- the invariant of the section loop: parser positions and every recorded offset are inside the message -/
def RInv (w : Bytes) (s : RState) : Prop :=
  s.cur ≤ w.length ∧ s.fur ≤ w.length ∧ ∀ p ∈ s.errs, p.2 ≤ w.length

def ROut.Inv (w : Bytes) : ROut → Prop
  | .ok s => RInv w s
  | .raised _ s => RInv w s
  | .unsupported => True

theorem RInv.move {w : Bytes} {s : RState} (hs : RInv w s) {a b : Nat} (ha : a ≤ w.length) (hb : b ≤ w.length)
    (k : List Nat) : RInv w { s with cur := a, fur := b, counts := k } :=
  ⟨ha, hb, hs.2.2⟩

theorem RInv.record {w : Bytes} {s : RState} (hs : RInv w s) {a b f : Nat} (ha : a ≤ w.length) (hb : b ≤ w.length)
    (e : String) (hf : f ≤ w.length) : RInv w { s with cur := a, fur := b, errs := s.errs ++ [(e, f)] } :=
  ⟨ha, hb, List.forall_mem_append.2 ⟨hs.2.2, List.forall_mem_singleton.2 hf⟩⟩

theorem RInv.name_pos {w : Bytes} {s : RState} (hs : RInv w s) : posOf (pGetName w w.length s.cur s.fur) ≤ w.length :=
  Nat.le_trans (pGetName_pos w w.length s.cur s.fur) (Nat.max_le.2 ⟨hs.2.1, Nat.le_refl _⟩)

theorem pGetBytes_inside {w : Bytes} {c : Nat} (hc : c ≤ w.length) (k : Nat) : posOf (pGetBytes w w.length c k) ≤ w.length :=
  Nat.le_trans (pGetBytes_pos w w.length c k) (Nat.max_le.2 ⟨hc, Nat.le_refl _⟩)

theorem restricted_body_error {w : Bytes} {kind : BodyKind} {c2 rdlen : Nat} {e : String} {f : Nat} (hc2 : c2 ≤ w.length)
    (h : (if rdlen > w.length - c2 then Except.error ("FormError", c2) else pBody w kind c2 rdlen) = .error (e, f)) :
    f ≤ w.length := by
  split at h
  · cases h; exact hc2
  · have := pBody_bounds w kind c2 rdlen e f h; omega

theorem restricted_body_ok {w : Bytes} {kind : BodyKind} {c2 rdlen : Nat} {u : Unit} (hc2 : c2 ≤ w.length)
    (h : (if rdlen > w.length - c2 then Except.error ("FormError", c2) else pBody w kind c2 rdlen) = .ok u) :
    c2 + rdlen ≤ w.length := by
  split at h
  · cases h
  · omega

theorem readSection_inv (w : Bytes) (cont : Bool) (sec n : Nat) (s : RState) (hs : RInv w s) :
    (readSection w cont sec n s).Inv w := by
  fun_induction readSection w cont sec n s
  case case1 => exact hs
  case case2 hn =>
    have hf := posOf_error hs.name_pos hn
    exact hs.move hf hf _
  case case3 hn _ _ hb =>
    have hf := posOf_error (pGetBytes_inside (posOf_ok hs.name_pos hn) 10) hb
    exact hs.move hf hf _
  case case4 | case5 => trivial
  all_goals have hc2 := posOf_ok (pGetBytes_inside (posOf_ok hs.name_pos (by assumption)) 10) (by assumption)
  case case6 hbody ih =>
    exact ih (hs.move (restricted_body_ok hc2 hbody) (restricted_body_ok hc2 hbody) _)
  case case7 e f hbody _ _ =>
    have hf := restricted_body_error hc2 hbody
    exact hs.record hf hf e hf
  case case8 e f hbody _ hle ih =>
    have hf := restricted_body_error hc2 hbody
    exact ih (hs.record (by omega) hf e hf)
  case case9 e f hbody _ =>
    have hf := restricted_body_error hc2 hbody
    exact hs.move hf hf _

theorem readQuestions_inv (w : Bytes) (n : Nat) (s : RState) (hs : RInv w s) :
    (readQuestions w n s).Inv w := by
  fun_induction readQuestions w n s
  case case1 => exact hs
  case case2 hn =>
    have hf := posOf_error hs.name_pos hn
    exact hs.move hf hf _
  case case3 hn _ _ hb =>
    have hf := posOf_error (pGetBytes_inside (posOf_ok hs.name_pos hn) 4) hb
    exact hs.move hf hf _
  case case4 hn _ _ hb ih =>
    have hc2 := posOf_ok (pGetBytes_inside (posOf_ok hs.name_pos hn) 4) hb
    exact ih (hs.move hc2 hc2 _)

end Model
