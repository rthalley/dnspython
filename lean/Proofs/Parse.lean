import Proofs.ParseOffsets
/-! C04: `_WireReader.read` as a chain of loops (`readAll`) whose way of ending
`readFinish` turns into a message or an exception, and what that chain does under the two error modes. -/
namespace Model

/-- what `_WireReader.read` makes of the way its loops ended: under `continue_on_error` an exception that
escaped them is recorded at the parser position it left -/
def readFinish (cont : Bool) : ROut → ReadResult
  | .unsupported => .unsupported
  | .ok s => .message s.counts s.errs
  | .raised e s => if cont then .message s.counts (s.errs ++ [(e, s.cur)]) else .exc e

def ROut.bind : ROut → (RState → ROut) → ROut
  | .ok s, f => f s
  | r, _ => r

/-- the loops of `read` one after the other, the first that does not end normally ending the chain -/
def readAll (w : Bytes) (o : ReadOpts) : ROut :=
  (readQuestions w (be ((w.drop 4).take 2)) { cur := 12, fur := 12, errs := [], counts := [0, 0, 0, 0] }).bind fun s1 =>
  if o.questionOnly then .ok s1
  else (readSection w o.cont 1 (be ((w.drop 6).take 2)) s1).bind fun s2 =>
    (readSection w o.cont 2 (be ((w.drop 8).take 2)) s2).bind fun s3 =>
    (readSection w o.cont 3 (be ((w.drop 10).take 2)) s3).bind fun s4 =>
    if !o.ignoreTrailing ∧ s4.cur ≠ w.length then .raised "TrailingJunk" s4 else .ok s4

theorem readMsg_eq (w : Bytes) (o : ReadOpts) :
    readMsg w o =
      if w.length < 12 then .exc "ShortHeader"
      else if be ((w.drop 2).take 2) / 2048 % 16 = 5 then .unsupported
      else readFinish o.cont (readAll w o) := by
  unfold readMsg readAll
  by_cases hlen : w.length < 12
  · rw [if_pos hlen, if_pos hlen]
  rw [if_neg hlen, if_neg hlen]
  by_cases hop : be ((w.drop 2).take 2) / 2048 % 16 = 5
  · simp only [hop, if_true]
  simp only [hop, if_false]
  -- a loop that does not end normally ends `read` and the chain alike, with `readFinish` of its outcome
  cases readQuestions w (be ((w.drop 4).take 2)) { cur := 12, fur := 12, errs := [], counts := [0, 0, 0, 0] } with
  | ok s1 =>
    simp only [ROut.bind]
    split
    · rfl
    cases readSection w o.cont 1 (be ((w.drop 6).take 2)) s1 with
    | ok s2 =>
      simp only
      cases readSection w o.cont 2 (be ((w.drop 8).take 2)) s2 with
      | ok s3 =>
        simp only
        cases readSection w o.cont 3 (be ((w.drop 10).take 2)) s3 with
        | ok s4 => simp only; split <;> rfl
        | _ => rfl
      | _ => rfl
    | _ => rfl
  | _ => rfl

theorem ROut.ok_bind (s : RState) (f : RState → ROut) : (ROut.ok s).bind f = f s := rfl

theorem ROut.bind_eq_ok {r : ROut} {f : RState → ROut} {s : RState} (h : r.bind f = .ok s) :
    ∃ s1, r = .ok s1 ∧ f s1 = .ok s := by
  cases r with
  | ok s1 => exact ⟨s1, rfl, h⟩
  | _ => cases h

theorem ROut.Inv.bind {w : Bytes} {r : ROut} {f : RState → ROut} (hr : r.Inv w)
    (hf : ∀ s, RInv w s → (f s).Inv w) : (r.bind f).Inv w := by
  cases r with
  | ok s => exact hf s hr
  | _ => exact hr

theorem readAll_inv (w : Bytes) (o : ReadOpts) (hlen : 12 ≤ w.length) : (readAll w o).Inv w := by
  refine (readQuestions_inv w _ _ ⟨hlen, hlen, by simp⟩).bind fun s1 h1 => ?_
  split
  · exact h1
  refine (readSection_inv w _ _ _ _ h1).bind fun s2 h2 => (readSection_inv w _ _ _ _ h2).bind fun s3 h3 =>
    (readSection_inv w _ _ _ _ h3).bind fun s4 h4 => ?_
  split <;> exact h4

theorem readFinish_offsets {w : Bytes} {cont : Bool} {r : ROut} (hr : r.Inv w) {c : List Nat} {errs : List (String × Nat)}
    (h : readFinish cont r = .message c errs) : ∀ p ∈ errs, p.2 ≤ w.length := by
  cases r with
  | unsupported => cases h
  | ok s => cases h; exact hr.2.2
  | raised e s =>
    cases cont <;> cases h
    exact List.forall_mem_append.2 ⟨hr.2.2, List.forall_mem_singleton.2 hr.1⟩

theorem readFinish_cont_ne_exc (r : ROut) (e : String) : readFinish true r ≠ .exc e := by
  cases r <;> nofun

theorem readFinish_clean {cont : Bool} {r : ROut} {c : List Nat} (h : readFinish cont r = .message c []) :
    ∃ s, r = .ok s ∧ s.counts = c ∧ s.errs = [] := by
  cases r with
  | unsupported => cases h
  | ok s => injection h with h1 h2; exact ⟨s, rfl, h1, h2⟩
  | raised e s =>
    cases cont
    · cases h
    · injection h with _ h; simp at h

/-- A section read to its end with nothing on record started with nothing on record (what is recorded stays) and met
no failing record body, which is where the two modes part: strict mode raises it, continue mode records it. -/
theorem readSection_nil {w : Bytes} {c : Bool} (c' : Bool) {sec n : Nat} {s s' : RState}
    (h : readSection w c sec n s = .ok s') (hs : s'.errs = []) :
    s.errs = [] ∧ readSection w c' sec n s = .ok s' := by
  fun_induction readSection w c sec n s
  case case1 => cases h; exact ⟨hs, rfl⟩
  case case6 hn _ _ hb _ _ _ hsp _ hk _ hbody ih =>
    refine ⟨(ih h).1, ?_⟩
    rw [readSection, hn]
    simp only [hb]
    rw [if_neg hsp, if_neg hk]
    split
    · exact (ih h).2
    · next heq => cases hbody.symm.trans heq
  case case8 ih => exact absurd (ih h).1 (by simp)
  all_goals cases h

/-- nothing was recorded in any section (what is recorded stays), and such a section does not depend on the mode -/
theorem readAll_clean_mode {w : Bytes} {c it qo : Bool} (c' : Bool) {s : RState}
    (hr : readAll w ⟨c, it, qo⟩ = .ok s) (he : s.errs = []) : readAll w ⟨c', it, qo⟩ = .ok s := by
  unfold readAll at hr ⊢
  obtain ⟨s1, h0, hr⟩ := ROut.bind_eq_ok hr
  rw [h0, ROut.ok_bind]
  by_cases hqo : qo = true
  · simpa only [hqo, if_true] using hr
  simp only [hqo] at hr ⊢
  obtain ⟨s2, h1, hr⟩ := ROut.bind_eq_ok hr
  obtain ⟨s3, h2, hr⟩ := ROut.bind_eq_ok hr
  obtain ⟨s4, h3, hr⟩ := ROut.bind_eq_ok hr
  have h4 : s4 = s := by split at hr <;> cases hr; rfl
  subst h4
  obtain ⟨e3, h3⟩ := readSection_nil c' h3 he
  obtain ⟨e2, h2⟩ := readSection_nil c' h2 e3
  rw [(readSection_nil c' h1 e2).2, ROut.ok_bind, h2, ROut.ok_bind, h3, ROut.ok_bind]
  exact hr

theorem readMsg_clean_mode (w : Bytes) (c c' it qo : Bool) (cnt : List Nat)
    (h : readMsg w { cont := c, ignoreTrailing := it, questionOnly := qo } = .message cnt []) :
    readMsg w { cont := c', ignoreTrailing := it, questionOnly := qo } = .message cnt [] := by
  rw [readMsg_eq] at h ⊢
  by_cases hlen : w.length < 12
  · rwa [if_pos hlen] at h ⊢
  rw [if_neg hlen] at h ⊢
  by_cases hop : be ((w.drop 2).take 2) / 2048 % 16 = 5
  · rwa [if_pos hop] at h ⊢
  rw [if_neg hop] at h ⊢
  obtain ⟨s, hr, hc, he⟩ := readFinish_clean h
  rw [readAll_clean_mode c' hr he, ← hc, ← he]
  rfl

end Model
