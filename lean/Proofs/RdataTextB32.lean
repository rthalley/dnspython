import Proofs.RdataTextField
/-! The model's base32hex codec and the NSEC3 `next` field printed with it: decoding the encoded form gives the octets
back, and the encoded form is one identifier token (C05). -/
namespace Model

theorem b32Val_b32Char (v : Nat) (h : v < 32) : b32Val (b32Char v) = some v := by
  unfold b32Char
  by_cases h10 : v < 10
  · simp only [h10, if_true]; unfold b32Val
    have a : ¬ (97 ≤ 48 + v ∧ 48 + v ≤ 122) := by omega
    have b : 48 ≤ 48 + v ∧ 48 + v ≤ 57 := by omega
    simp only [a, if_false, b, and_self, if_true]; congr 1; omega
  · simp only [h10, if_false]; unfold b32Val
    have a : 97 ≤ 87 + v ∧ 87 + v ≤ 122 := by omega
    have b : ¬ (48 ≤ 87 + v - 32 ∧ 87 + v - 32 ≤ 57) := by omega
    have c : 65 ≤ 87 + v - 32 ∧ 87 + v - 32 ≤ 86 := by omega
    simp only [a, and_self, if_true, b, if_false, c]; congr 1; omega

theorem b32Acc_cons (v : Nat) (h : v < 32) (cs : List Nat) (acc : Nat) :
    b32Acc (b32Char v :: cs) acc = b32Acc cs (acc * 32 + v) := by
  simp [b32Acc, b32Val_b32Char v h]

/-- `be5` reads off the five base-256 digits; the base-32 groups below are the same number written out in base 32 -/
theorem be5_bytes (a b c d e : Nat) (ha : a < 256) (hb : b < 256) (hc : c < 256) (hd : d < 256) (he : e < 256) :
    be5 (a * 4294967296 + b * 16777216 + c * 65536 + d * 256 + e) = [a, b, c, d, e] := by
  unfold be5
  simp only [List.cons.injEq, and_true]
  refine ⟨?_, ?_, ?_, ?_, ?_⟩ <;> omega

theorem be5_take (n x a b c d e : Nat) (ha : a < 256) (hb : b < 256) (hc : c < 256) (hd : d < 256) (he : e < 256)
    (hx : x = a * 4294967296 + b * 16777216 + c * 65536 + d * 256 + e) : (be5 x).take n = [a, b, c, d, e].take n := by
  rw [hx, be5_bytes a b c d e ha hb hc hd he]

/-- the eight 5-bit groups of five octets, read in base 32, are the five octets read in base 256 (for all naturals: each
octet is put together again from its quotient and remainder) -/
theorem b32_regroup (a b c d e : Nat) :
    (((((((0 * 32 + a / 8) * 32 + (a % 8 * 4 + b / 64)) * 32 + b / 2 % 32) * 32 + (b % 2 * 16 + c / 16)) * 32 +
      (c % 16 * 2 + d / 128)) * 32 + d / 4 % 32) * 32 + (d % 4 * 8 + e / 32)) * 32 + e % 32 =
    a * 4294967296 + b * 16777216 + c * 65536 + d * 256 + e := by
  omega

theorem quantum5 (a b c d e : Nat) (ha : a < 256) (hb : b < 256) (hc : c < 256) (hd : d < 256) (he : e < 256) :
    be5 ((((((((0 * 32 + a / 8) * 32 + (a % 8 * 4 + b / 64)) * 32 + b / 2 % 32) * 32 + (b % 2 * 16 + c / 16)) * 32 +
      (c % 16 * 2 + d / 128)) * 32 + d / 4 % 32) * 32 + (d % 4 * 8 + e / 32)) * 32 + e % 32) = [a, b, c, d, e] :=
  be5_take 5 _ a b c d e ha hb hc hd he (b32_regroup a b c d e)

/-! A final group of 1–4 octets: the digits present, shifted up by the missing ones, are the groups of the octets followed
by zero octets. -/

theorem partial1 (a : Nat) (ha : a < 256) :
    (be5 (((0 * 32 + a / 8) * 32 + a % 8 * 4) * 32 ^ (8 - 2))).take ((43 - 5 * (8 - 2)) / 8) = [a] :=
  be5_take _ _ a 0 0 0 0 ha (by decide) (by decide) (by decide) (by decide)
    (Eq.trans (by simp [Nat.mul_assoc]) (b32_regroup a 0 0 0 0))

theorem partial2 (a b : Nat) (ha : a < 256) (hb : b < 256) :
    (be5 (((((0 * 32 + a / 8) * 32 + (a % 8 * 4 + b / 64)) * 32 + b / 2 % 32) * 32 + b % 2 * 16) * 32 ^ (8 - 4))).take
      ((43 - 5 * (8 - 4)) / 8) = [a, b] :=
  be5_take _ _ a b 0 0 0 ha hb (by decide) (by decide) (by decide) (Eq.trans (by simp [Nat.mul_assoc]) (b32_regroup a b 0 0 0))

theorem partial3 (a b c : Nat) (ha : a < 256) (hb : b < 256) (hc : c < 256) :
    (be5 ((((((0 * 32 + a / 8) * 32 + (a % 8 * 4 + b / 64)) * 32 + b / 2 % 32) * 32 + (b % 2 * 16 + c / 16)) * 32 +
      c % 16 * 2) * 32 ^ (8 - 5))).take ((43 - 5 * (8 - 5)) / 8) = [a, b, c] :=
  be5_take _ _ a b c 0 0 ha hb hc (by decide) (by decide) (Eq.trans (by simp [Nat.mul_assoc]) (b32_regroup a b c 0 0))

theorem partial4 (a b c d : Nat) (ha : a < 256) (hb : b < 256) (hc : c < 256) (hd : d < 256) :
    (be5 ((((((((0 * 32 + a / 8) * 32 + (a % 8 * 4 + b / 64)) * 32 + b / 2 % 32) * 32 + (b % 2 * 16 + c / 16)) * 32 +
      (c % 16 * 2 + d / 128)) * 32 + d / 4 % 32) * 32 + d % 4 * 8) * 32 ^ (8 - 7))).take ((43 - 5 * (8 - 7)) / 8) = [a, b, c, d] :=
  be5_take _ _ a b c d 0 ha hb hc hd (by decide) (Eq.trans (by simp) (b32_regroup a b c d 0))

theorem mul_add_lt {x y p q : Nat} (hx : x < p) (hy : y < q) : x * q + y < p * q :=
  calc x * q + y < x * q + q := Nat.add_lt_add_left hy _
    _ = (x + 1) * q := (Nat.succ_mul x q).symm
    _ ≤ p * q := Nat.mul_le_mul_right q hx

/-- the eight 5-bit groups of five octets: a quotient, a remainder, or `hi * 2^k + lo` with both parts bounded -/
theorem b32_groups_lt (a b c d e : Nat) (ha : a < 256) (hb : b < 256) (hc : c < 256) (hd : d < 256) (he : e < 256) :
    a / 8 < 32 ∧ a % 8 * 4 + b / 64 < 32 ∧ b / 2 % 32 < 32 ∧ b % 2 * 16 + c / 16 < 32 ∧ c % 16 * 2 + d / 128 < 32 ∧
      d / 4 % 32 < 32 ∧ d % 4 * 8 + e / 32 < 32 ∧ e % 32 < 32 :=
  ⟨Nat.div_lt_of_lt_mul (n := 8) ha, mul_add_lt (p := 8) (Nat.mod_lt a (by decide)) (Nat.div_lt_of_lt_mul (n := 64) hb),
    Nat.mod_lt _ (by decide), mul_add_lt (p := 2) (Nat.mod_lt b (by decide)) (Nat.div_lt_of_lt_mul (n := 16) hc),
    mul_add_lt (p := 16) (Nat.mod_lt c (by decide)) (Nat.div_lt_of_lt_mul (n := 128) hd), Nat.mod_lt _ (by decide),
    mul_add_lt (p := 4) (Nat.mod_lt d (by decide)) (Nat.div_lt_of_lt_mul (n := 32) he), Nat.mod_lt e (by decide)⟩

theorem b32Acc_map (ds : List Nat) (h : ∀ d ∈ ds, d < 32) (acc : Nat) :
    b32Acc (ds.map b32Char) acc = some (ds.foldl (fun x d => x * 32 + d) acc) := by
  induction ds generalizing acc with
  | nil => rfl
  | cons d ds ih =>
    rw [List.map_cons, b32Acc_cons d (h d (by simp)), ih (fun x hx => h x (by simp [hx]))]
    rfl

theorem b32_go_partial (f : Nat) (s : List Nat) (acc : Nat) (hne : s ≠ []) (hlt : s.length < 8)
    (hk : ¬ (s.length = 1 ∨ s.length = 3 ∨ s.length = 6)) (ha : b32Acc s 0 = some acc) :
    b32hexDecode.go (f + 1) s =
      some ((be5 (acc * 32 ^ (8 - s.length))).take ((43 - 5 * (8 - s.length)) / 8)) := by
  simp only [b32hexDecode.go, hne, if_false, show ¬ s.length ≥ 8 by omega, hk, ha]

theorem b32_go_quantum (f : Nat) (q rest : List Nat) (acc : Nat) (r : Bytes) (hq : q.length = 8)
    (ha : b32Acc q 0 = some acc) (hr : b32hexDecode.go f rest = some r) :
    b32hexDecode.go (f + 1) (q ++ rest) = some (be5 acc ++ r) := by
  have hne : q ++ rest ≠ [] := fun h => by simp [List.append_eq_nil_iff.mp h |>.1] at hq
  have hlen : (q ++ rest).length ≥ 8 := by simp [hq]
  simp only [b32hexDecode.go, hne, if_false, hlen, if_true, List.take_left' hq, List.drop_left' hq, ha, hr]

def B32C (c : Nat) : Prop := (48 ≤ c ∧ c ≤ 57) ∨ (97 ≤ c ∧ c ≤ 118)

theorem b32Char_range (ds : List Nat) (h : ∀ d ∈ ds, d < 32) : ∀ c ∈ ds.map b32Char, B32C c := by
  intro c hc
  obtain ⟨d, hd, rfl⟩ := List.mem_map.mp hc
  have := h d hd
  unfold b32Char B32C
  split <;> omega

/-- along the encoder's clauses: every character is `b32Char` of a 5-bit group (in a final group the missing octets count
as zero), and the decoder's loop gives the octets back -/
theorem b32_enc (s : Bytes) (hs : ∀ x ∈ s, x < 256) :
    (∀ c ∈ b32hexEncode s, B32C c) ∧ ∀ f, s.length ≤ f → b32hexDecode.go (f + 1) (b32hexEncode s) = some s := by
  have z : 0 < 256 := by decide
  fun_induction b32hexEncode s with
  | case1 => exact ⟨nofun, fun f _ => by simp [b32hexDecode.go]⟩
  | case2 a =>
    have ha := hs a (by simp)
    have hg : ∀ d ∈ [a / 8, a % 8 * 4], d < 32 := by simpa using b32_groups_lt a 0 0 0 0 ha z z z z
    exact ⟨b32Char_range _ hg, fun f _ => (b32_go_partial f _ _ (List.cons_ne_nil _ _) (by simp) (by simp)
      (b32Acc_map _ hg 0)).trans (congrArg some (partial1 a ha))⟩
  | case3 a b =>
    have ⟨ha, hb⟩ : a < 256 ∧ b < 256 := by simpa using hs
    have hg : ∀ d ∈ [a / 8, a % 8 * 4 + b / 64, b / 2 % 32, b % 2 * 16], d < 32 := by
      simpa using b32_groups_lt a b 0 0 0 ha hb z z z
    exact ⟨b32Char_range _ hg, fun f _ => (b32_go_partial f _ _ (List.cons_ne_nil _ _) (by simp) (by simp)
      (b32Acc_map _ hg 0)).trans (congrArg some (partial2 a b ha hb))⟩
  | case4 a b c =>
    have ⟨ha, hb, hc⟩ : a < 256 ∧ b < 256 ∧ c < 256 := by simpa using hs
    have hg : ∀ d ∈ [a / 8, a % 8 * 4 + b / 64, b / 2 % 32, b % 2 * 16 + c / 16, c % 16 * 2], d < 32 := by
      simpa using b32_groups_lt a b c 0 0 ha hb hc z z
    exact ⟨b32Char_range _ hg, fun f _ => (b32_go_partial f _ _ (List.cons_ne_nil _ _) (by simp) (by simp)
      (b32Acc_map _ hg 0)).trans (congrArg some (partial3 a b c ha hb hc))⟩
  | case5 a b c d =>
    have ⟨ha, hb, hc, hd⟩ : a < 256 ∧ b < 256 ∧ c < 256 ∧ d < 256 := by simpa using hs
    have hg : ∀ x ∈ [a / 8, a % 8 * 4 + b / 64, b / 2 % 32, b % 2 * 16 + c / 16, c % 16 * 2 + d / 128, d / 4 % 32,
        d % 4 * 8], x < 32 := by simpa using b32_groups_lt a b c d 0 ha hb hc hd z
    exact ⟨b32Char_range _ hg, fun f _ => (b32_go_partial f _ _ (List.cons_ne_nil _ _) (by simp) (by simp)
      (b32Acc_map _ hg 0)).trans (congrArg some (partial4 a b c d ha hb hc hd))⟩
  | case6 a b c d e rest ih =>
    have ⟨ha, hb, hc, hd, he, hrest⟩ : a < 256 ∧ b < 256 ∧ c < 256 ∧ d < 256 ∧ e < 256 ∧ ∀ y ∈ rest, y < 256 := by
      simpa using hs
    have hg : ∀ x ∈ [a / 8, a % 8 * 4 + b / 64, b / 2 % 32, b % 2 * 16 + c / 16, c % 16 * 2 + d / 128, d / 4 % 32,
        d % 4 * 8 + e / 32, e % 32], x < 32 := by simpa using b32_groups_lt a b c d e ha hb hc hd he
    obtain ⟨ir, ig⟩ := ih hrest
    refine ⟨fun x hx => (List.mem_append.mp (hx : x ∈ _ ++ b32hexEncode rest)).elim (b32Char_range _ hg x) (ir x), fun f hf => ?_⟩
    obtain ⟨f', rfl⟩ : ∃ f', f = f' + 1 := ⟨f - 1, by simp at hf; omega⟩
    exact (b32_go_quantum (f' + 1) _ _ _ _ rfl (b32Acc_map _ hg 0) (ig f' (by simp at hf; omega))).trans
      (congrArg (fun l => some (l ++ rest)) (quantum5 a b c d e ha hb hc hd he))

theorem b32hexEncode_length (s : Bytes) : s.length ≤ (b32hexEncode s).length := by
  fun_induction b32hexEncode s <;> simp <;> omega

theorem b32_roundtrip (s : Bytes) (hs : ∀ x ∈ s, x < 256) : b32hexDecode (b32hexEncode s) = some s := by
  obtain ⟨hr, hgo⟩ := b32_enc s hs
  unfold b32hexDecode
  have hlast : ¬ (b32hexEncode s).getLast? = some 61 := by
    intro h
    have := hr 61 (List.mem_of_getLast? h)
    unfold B32C at this; omega
  simp only [hlast, if_false]
  exact hgo _ (b32hexEncode_length s)

theorem b32hexEncode_ne_nil (s : Bytes) (h : s ≠ []) : b32hexEncode s ≠ [] := by
  match s, h with
  | [_], _ => simp [b32hexEncode]
  | [_, _], _ => simp [b32hexEncode]
  | [_, _, _], _ => simp [b32hexEncode]
  | [_, _, _, _], _ => simp [b32hexEncode]
  | _ :: _ :: _ :: _ :: _ :: _, _ => simp [b32hexEncode]

/-- the NSEC3 `next` field (`base64.b32*` itself is external; `b32hexEncode`/`b32hexDecode` stand for it) -/
theorem field_b32hex (st : Style) (env : PEnv) (s : Bytes) (hs : ∀ x ∈ s, x < 256) (hne : s ≠ []) (hl : s.length ≤ 255) :
    FieldRT st env .b32hex (.b s) (b32hexEncode s) ⟨.ident, b32hexEncode s⟩ := by
  have hr : ∀ c ∈ b32hexEncode s, (48 ≤ c ∧ c ≤ 57) ∨ (97 ≤ c ∧ c ≤ 118) := (b32_enc s hs).1
  have hp : Plain (b32hexEncode s) := by
    intro c hc
    have := hr c hc
    simp [isDelim]; omega
  refine tokRT_plain (b32hexEncode_ne_nil s hne) hp rfl ?_
  have h128 : (b32hexEncode s).any (fun c => decide (c ≥ 128)) = false := by
    rw [List.any_eq_false]
    intro c hc
    have := hr c hc
    simp; omega
  have hle : ¬ s.length > 255 := by omega
  simp [parseField, parseFieldExtra, unescapeCP_plain_all _ hp, h128, b32_roundtrip s hs, hle]

end Model
