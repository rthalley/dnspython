import Proofs.RenderShape
/-! Header counts: what `write_header` writes equals the number of records rendered per section. -/
namespace Model

theorem rrCount_eq_length (l : List RRset) (h : ∀ r ∈ l, r.rdatas.length ≤ 1) : rrCount l = l.length := by
  induction l with
  | nil => rfl
  | cons r rest ih =>
    have h1 := h r (List.mem_cons_self ..)
    have h2 := ih fun x hx => h x (List.mem_cons_of_mem _ hx)
    simp only [rrCount, List.map_cons, List.sum_cons, List.length_cons] at h2 ⊢
    omega

theorem writeHeader_take (s : RState) :
    s.writeHeader.out.take 12 = u16 s.id ++ u16 s.flags ++ u16 s.counts.c0 ++ u16 s.counts.c1 ++ u16 s.counts.c2
      ++ u16 s.counts.c3 := by
  simp [RState.writeHeader, u16]

theorem addRRset_additional {s : RState} {r : RRset} {s' : RState} (hr : r.rdatas.length = 1)
    (h : stepToExcept (s.addRRset ConstsC03.secADDITIONAL r) = .ok s') :
    s'.counts = { s.counts with c3 := s.counts.c3 + 1 } ∧ s'.id = s.id ∧ s'.flags = s.flags := by
  obtain ⟨_, _, _, _, rfl⟩ := addRRset_ok h
  simp [Counts.bump, secADD, hr]

theorem toWire_counts (m : Message) (lim : Nat) (w : Bytes) (h : m.toWire lim false = .ok w) :
    w.take 12 = u16 m.id ++ u16 m.flags ++ u16 m.q.length ++ u16 (rrCount m.an) ++ u16 (rrCount m.au)
      ++ u16 (rrCount m.ad + (if m.opt.isSome then 1 else 0) + (if m.tsig.isSome then 1 else 0)) := by
  obtain ⟨q, opt', qo, qt, -, hrel, -, -, rfl⟩ := toWire_items m lim w h
  rw [← hrel.isSome, ← optItems_length, ← tsigItems_length]
  simp only [List.append_assoc]
  exact List.take_left' (hdrOf_length ..)

end Model
