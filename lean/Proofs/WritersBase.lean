import Proofs.WritersTrans
/-!
Invariants of the writer-admission model: the basic ones (lock holder, transaction owner), and the frame lemmas they give:
while another thread holds the lock, a step changes only the moving thread's locals (`Trans.held`); while another thread
owns the open transaction, a step publishes nothing (`Trans.other_owner`); the lock holder moves towards the release
(`InvLock.holder_progress`).
-/
namespace Model.Writers
variable {c : Cfg} {s s' : State} {t u : Tid}

structure InvLock (s : State) : Prop where
  /-- exactly the thread recorded in `lock` is inside a `with self._version_lock` block -/
  lock : ∀ t, holdsLock (s.loc t).pc = true ↔ s.lock = some t
  /-- exactly the thread recorded in `_write_txn` is between admission and the end of its transaction -/
  own : ∀ t, isOwner (s.loc t).pc = true ↔ s.writeTxn = some t
  /-- the admission test was passed with no open transaction, and nothing changed since (the lock is held) -/
  mkTxn : ∀ t, (s.loc t).pc = .wMkTxn → s.writeTxn = none

theorem invLock_init : InvLock init := by
  constructor <;> intro t <;> simp [init]

theorem InvLock.lock_at {p : Pc} (hL : InvLock s) (hpc : (s.loc t).pc = p) (hp : holdsLock p = true := by rfl) :
    s.lock = some t :=
  (hL.lock t).mp (hpc ▸ hp)

theorem InvLock.own_at {p : Pc} (hL : InvLock s) (hpc : (s.loc t).pc = p) (hp : isOwner p = true := by rfl) :
    s.writeTxn = some t :=
  (hL.own t).mp (hpc ▸ hp)

theorem InvLock.lock_ne (hL : InvLock s) (hp : holdsLock (s.loc t).pc = false) : s.lock ≠ some t := by
  intro h; rw [(hL.lock t).mpr h] at hp; cases hp

theorem InvLock.own_ne (hL : InvLock s) (hp : isOwner (s.loc t).pc = false) : s.writeTxn ≠ some t := by
  intro h; rw [(hL.own t).mpr h] at hp; cases hp

theorem InvLock.not_owner (hL : InvLock s) (hwt : s.writeTxn = none) (t : Tid) : isOwner (s.loc t).pc = false :=
  Bool.eq_false_iff.mpr fun h => by rw [(hL.own t).mp h] at hwt; cases hwt

theorem InvLock.owner_unique (hL : InvLock s) (hu : isOwner (s.loc u).pc = true) (ht : isOwner (s.loc t).pc = true) : u = t :=
  Option.some.inj (((hL.own u).mp hu).symm.trans ((hL.own t).mp ht))

/-- the moving thread is outside its critical sections and cannot enter one -/
theorem Trans.held (hL : InvLock s) (htr : Trans c s t s') (hl : s.lock = some u) (hut : u ≠ t) : ∃ l, s' = s.setLoc t l :=
  htr.unlocked (Bool.eq_false_iff.mpr fun hh => hut (Option.some.inj (hl.symm.trans ((hL.lock t).mp hh)))) (hl ▸ nofun)

/-- the form in which the clauses of the invariants about a thread inside a critical section use it: `u` is found
there after the step -/
theorem Trans.other_locked (hL : InvLock s) (htr : Trans c s t s') (hut : u ≠ t)
    (hl : holdsLock (s'.loc u).pc = true) : ∃ l, s' = s.setLoc t l :=
  htr.held hL ((hL.lock u).mp (htr.loc_ne hut ▸ hl)) hut

theorem InvLock.holder_stable (hL : InvLock s) (hl : s.lock = some u) (hne : t ≠ u) (htr : Trans c s t s') :
    s'.lock = some u ∧ s'.loc u = s.loc u := by
  obtain ⟨l, rfl⟩ := htr.held hL hl hne.symm
  exact ⟨hl, if_neg hne.symm⟩

/-- every step of the lock holder uses up `lockFuel`, and the lock is given up exactly when none is left -/
theorem InvLock.holder_progress (hL : InvLock s) (hl : s.lock = some t) (htr : Trans c s t s') :
    lockFuel (s'.loc t).pc < lockFuel (s.loc t).pc ∧
    ((s'.lock = some t ∧ 0 < lockFuel (s'.loc t).pc) ∨ (s'.lock = none ∧ lockFuel (s'.loc t).pc = 0)) := by
  have hh := (hL.lock t).mpr hl
  refine ⟨lockFuel_succ _ hh _ htr.pc_mem, ?_⟩
  rcases htr.lock_cases with h | h | h
  · exact .inl ⟨h.1.trans hl, (lockFuel_pos_iff _).mpr (h.2.trans hh)⟩
  · rw [hl] at h; cases h.1
  · exact .inr ⟨h.2.1, Nat.eq_zero_of_not_pos fun h0 => by rw [(lockFuel_pos_iff _).mp h0] at h; cases h.2.2⟩

theorem Trans.other_owner (hL : InvLock s) (htr : Trans c s t s') (hut : u ≠ t) (ho : isOwner (s.loc u).pc = true) :
    s'.nodes = s.nodes ∧ s'.versions = s.versions ∧ s'.committed = s.committed := by
  refine htr.not_owner ?_
  cases ht : isOwner (s.loc t).pc
  · rfl
  · exact absurd (hL.owner_unique ho ht) hut

theorem invLock_trans {c : Cfg} {s s' : State} {t : Tid} (h : InvLock s) (htr : Trans c s t s') : InvLock s' where
  -- the record and the program point of `t` change together (`lock_cases`, `own_cases`); no step touches the record
  -- of another thread: taking the lock needs it free, and only `t` itself gives it up
  lock u := by
    have ht := h.lock t
    by_cases hu : u = t
    · subst hu; rcases htr.lock_cases with h1 | h1 | h1 <;> simp_all
    · have := h.lock u
      rw [htr.loc_ne hu]
      rcases htr.lock_cases with h1 | h1 | h1 <;> grind
  own u := by
    have ht := h.own t
    by_cases hu : u = t
    · subst hu; rcases htr.own_cases with h1 | h1 | h1 <;> simp_all
    · have := h.own u
      have := h.mkTxn t
      rw [htr.loc_ne hu]
      rcases htr.own_cases with h1 | h1 | h1 <;> grind
  mkTxn u hpc := by
    by_cases hu : u = t
    · subst hu
      cases htr <;> simp only [setLoc_loc, if_true, reduceCtorEq] at hpc
      case wTestOk h0 _ => exact h0
    · obtain ⟨l, rfl⟩ := htr.other_locked h hu (by rw [hpc]; rfl)
      rw [setLoc_loc, if_neg hu] at hpc
      exact h.mkTxn u hpc

end Model.Writers
