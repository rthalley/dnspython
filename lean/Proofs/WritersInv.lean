import Proofs.WritersQueue
import Proofs.WritersSerial
/-! The combined inductive invariant `Inv` and its proof (`reach_inv`); what it says about when a thread can move
(`holder_enabled`, `free_enabled`, together `enabled_or_blocked`); executions from a given state (`ReachFrom`) and runs of a schedule. -/
namespace Model.Writers
variable {c : Cfg} {n : Nat} {s s' : State} {t : Tid}

structure Inv (c : Cfg) (n : Nat) (s : State) : Prop where
  lk : InvLock s
  ev : InvEv s
  q : InvQ s
  ser : InvSer c s
  arr : InvArr s
  /-- a reader thread only ever is at reader program points -/
  rd : ∀ t, c.role t = .reader → readerPc (s.loc t).pc = true
  /-- threads outside the pool never move -/
  pool : ∀ t, n ≤ t → (s.loc t).pc = .idle

theorem inv_init (c : Cfg) (n : Nat) : Inv c n init :=
  ⟨invLock_init, invEv_init, invQ_init, invSer_init c, invArr_init, fun _ _ => rfl, fun _ _ => rfl⟩

theorem readerPc_trans (h : ∀ u, c.role u = .reader → readerPc (s.loc u).pc = true) (htr : Trans c s t s') :
    ∀ u, c.role u = .reader → readerPc (s'.loc u).pc = true := by
  intro u hu
  by_cases hut : u = t
  · subst hut
    by_cases hi : (s.loc u).pc = .idle
    · rcases htr.start hi with h1 | h1
      · exact absurd hu h1.1
      · rw [h1.2]; rfl
    · exact readerPc_succ _ (h u hu) hi _ htr.pc_mem
  · rw [htr.loc_ne hut]; exact h u hu

theorem inv_trans (h : Inv c n s) (ht : t < n) (htr : Trans c s t s') : Inv c n s' :=
  ⟨invLock_trans h.lk htr, invEv_trans h.lk h.ev htr, invQ_trans h.lk h.ev h.q htr, invSer_trans h.lk h.ser htr, invArr_trans h.arr htr,
    readerPc_trans h.rd htr,
    fun u hu => (htr.loc_ne (Nat.ne_of_gt (Nat.lt_of_lt_of_le ht hu))).symm ▸ h.pool u hu⟩

theorem reach_inv (h : Reach c n s) : Inv c n s := by
  induction h with
  | init => exact inv_init c n
  | step t _ ht hs ih => exact inv_trans ih ht (step_trans hs)

theorem lt_of_not_idle (h : Inv c n s) {u : Tid} (hp : (s.loc u).pc ≠ .idle) : u < n := by
  rcases Nat.lt_or_ge u n with h1 | h1
  · exact h1
  · exact absurd (h.pool u h1) hp

/-- inside a critical section only `wAppend`, `ePop` and `eSet` have a condition -/
theorem holder_enabled (h : Inv c n s) {u : Tid} (hl : s.lock = some u) : enabled s u := by
  have hh := (h.lk.lock u).mpr hl
  unfold enabled
  cases hpc : (s.loc u).pc <;> simp only [hpc] at hh ⊢ <;> first | trivial | cases hh | skip
  case wAppend => exact (h.ev.app u hpc).1
  case ePop => exact (h.ev.pop u hpc).1
  case eSet => obtain ⟨_, e, he, _⟩ := h.ev.setE u hpc; rw [he]; nofun

theorem free_enabled (h : Inv c n s) {u : Tid} (hl : s.lock = none) (hd : (s.loc u).pc ≠ .done)
    (hw : (s.loc u).pc = .wWait → ∃ e, (s.loc u).ev = some e ∧ e ∈ s.evSet) : enabled s u := by
  have hh := h.lk.lock u
  rw [hl] at hh
  unfold enabled
  cases hpc : (s.loc u).pc <;> simp [hpc] at hh hd hw ⊢ <;> first | exact hl | exact hw

theorem enabled_or_blocked (hi : Inv c n s) {u : Tid} (hd : (s.loc u).pc ≠ .done)
    (hw : s.lock = none → (s.loc u).pc = .wWait → ∃ e, (s.loc u).ev = some e ∧ e ∈ s.evSet) :
    enabled s u ∨ ∃ v, s.lock = some v ∧ v ≠ u := by
  rcases hl : s.lock with _ | v
  · exact .inl (free_enabled hi hl hd (hw hl))
  · by_cases hv : v = u
    · subst hv; exact .inl (holder_enabled hi hl)
    · exact .inr ⟨v, rfl, hv⟩

theorem reader_enabled (hi : Inv c n s) {r : Tid} (hp : readerPc (s.loc r).pc = true) (hd : (s.loc r).pc ≠ .done) :
    enabled s r ∨ ∃ v, s.lock = some v ∧ v ≠ r :=
  enabled_or_blocked hi hd fun _ hw => by rw [hw] at hp; cases hp

/-- executions that start in `s` -/
inductive ReachFrom (c : Cfg) (n : Nat) (s : State) : State → Prop
  | refl : ReachFrom c n s s
  | step {s1 s2 : State} (t : Tid) : ReachFrom c n s s1 → t < n → step c s1 t = some s2 → ReachFrom c n s s2

theorem reach_of_reachFrom (h : Reach c n s) (h' : ReachFrom c n s s') : Reach c n s' := by
  induction h' with
  | refl => exact h
  | step t _ ht hs ih => exact .step t ih ht hs

theorem arrivals_mono (h : ReachFrom c n s s') : ∃ l, s'.arrivals = s.arrivals ++ l := by
  induction h with
  | refl => exact ⟨[], by simp⟩
  | step t _ _ hs ih =>
    obtain ⟨l1, h1⟩ := ih
    obtain ⟨l2, h2⟩ := arrivals_trans (step_trans hs)
    exact ⟨l1 ++ l2, by rw [h2, h1, List.append_assoc]⟩

theorem reach_of_run {c : Cfg} {n : Nat} : ∀ (sched : List Tid) {s s' : State}, Reach c n s → (∀ t ∈ sched, t < n) →
    run c s sched = some s' → Reach c n s'
  | [], _, _, hr, _, h => by cases h; exact hr
  | t :: ts, s, _, hr, hlt, h => by
    simp only [run] at h
    cases hs : step c s t with
    | none => rw [hs] at h; cases h
    | some s1 =>
      rw [hs] at h
      exact reach_of_run ts (.step t hr (hlt t List.mem_cons_self) hs) (fun u hu => hlt u (List.mem_cons_of_mem _ hu)) h

end Model.Writers
