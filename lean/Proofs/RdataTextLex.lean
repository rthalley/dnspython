import Model.RdataText
/-! The tokenizer automaton on printed text (C05).  Its transitions are listed once (`LexStep`) and composed (`Runs`): the body of
an identifier (`IdentText`, built by the two identifier steps) is a run that accumulates the body (so is that of a quoted
string, see RdataTextEsc).  `Lexes s toks` says that `s`, followed by a blank or the end of the line, yields `toks`; it holds
of an identifier body, of a plain identifier, and of such texts joined by blanks. -/
namespace Model

/-- obligations on the constants of `dns/tokenizer.py`: the model's delimiter test is the code's `_DELIMITERS` set,
and inside quotes only `"` delimits (`_QUOTING_DELIMITERS`) -/
theorem isDelim_generated (c : Nat) : isDelim c = decide (c ∈ ConstsC05.delimiters) := by
  -- both sides are the same seven equalities, listed in a different order
  rw [Bool.eq_iff_iff]
  simp only [isDelim, ConstsC05.delimiters, List.mem_cons, List.mem_nil_iff, or_false, Bool.or_eq_true, beq_iff_eq,
    decide_eq_true_eq]
  omega

theorem quotingDelimiters_generated : ConstsC05.quotingDelimiters = [34] := by decide

/-- reading `s` takes the tokenizer from mode `m` at parenthesis depth `ml` to mode `m'` at depth `ml'` and emits `out` -/
def Runs (m : LMode) (ml : Nat) (s : List Nat) (out : List Tok) (m' : LMode) (ml' : Nat) : Prop :=
  ∀ rest, lexGo m ml (s ++ rest) = (lexGo m' ml' rest).map (out ++ ·)

theorem Runs.nil (m : LMode) (ml : Nat) : Runs m ml [] [] m ml := by
  intro rest; simp

theorem Runs.trans {m₁ m₂ m₃ : LMode} {l₁ l₂ l₃ : Nat} {s t : List Nat} {o p : List Tok}
    (h₁ : Runs m₁ l₁ s o m₂ l₂) (h₂ : Runs m₂ l₂ t p m₃ l₃) : Runs m₁ l₁ (s ++ t) (o ++ p) m₃ l₃ := by
  intro rest
  rw [List.append_assoc, h₁, h₂]
  cases lexGo m₃ l₃ rest <;> simp

/-- the transitions of the tokenizer that printed text exercises: mode and depth, the character read, the tokens emitted,
the next mode and depth.  (Not among them: parentheses, comments, newlines, and the first character of an identifier,
for which see `lexGo_ws_ident`.) -/
inductive LexStep : LMode → Nat → Nat → List Tok → LMode → Nat → Prop
  | blank {ml c} : c = 32 ∨ c = 9 → LexStep .ws ml c [] .ws ml
  | openQuote {ml} : LexStep .ws ml 34 [] (.quote []) ml
  | quoteChar {acc ml c} : c ≠ 34 → c ≠ 10 → c ≠ 92 → LexStep (.quote acc) ml c [] (.quote (acc ++ [c])) ml
  | quoteBs {acc ml} : LexStep (.quote acc) ml 92 [] (.quoteEsc (acc ++ [92])) ml
  | quoteEsc {acc ml c} : LexStep (.quoteEsc acc) ml c [] (.quote (acc ++ [c])) ml
  | closeQuote {acc ml} : LexStep (.quote acc) ml 34 [⟨.quoted, acc⟩] .ws ml
  | identChar {acc ml c} : isDelim c = false → c ≠ 92 → LexStep (.ident acc) ml c [] (.ident (acc ++ [c])) ml
  | identBs {acc ml} : LexStep (.ident acc) ml 92 [] (.identEsc (acc ++ [92])) ml
  | identEsc {acc ml c} : c ≠ 10 → LexStep (.identEsc acc) ml c [] (.ident (acc ++ [c])) ml
  | identEnd {acc c} : c = 32 ∨ c = 9 → LexStep (.ident acc) 0 c [⟨.ident, acc⟩] .ws 0

theorem LexStep.runs {m m' : LMode} {ml ml' c : Nat} {out : List Tok} (h : LexStep m ml c out m' ml') :
    Runs m ml [c] out m' ml' := by
  intro rest
  cases h with
  | blank hc => simp [lexGo, wsChar, hc]
  | identEnd hc => rcases hc with rfl | rfl <;> simp [lexGo, wsChar, isDelim]
  | identChar hd h92 => simp [lexGo, hd, h92]
  | identBs => simp [lexGo, isDelim]
  | _ => simp [lexGo, wsChar, *]

/-- an identifier body: no unescaped delimiter, every backslash followed by a character other than newline -/
inductive IdentText : List Nat → Prop
  | nil : IdentText []
  | char {c : Nat} {s : List Nat} : isDelim c = false → c ≠ 92 → IdentText s → IdentText (c :: s)
  | esc {c : Nat} {s : List Nat} : c ≠ 10 → IdentText s → IdentText (92 :: c :: s)

theorem IdentText.append {a b : List Nat} (ha : IdentText a) (hb : IdentText b) : IdentText (a ++ b) := by
  induction ha with
  | nil => exact hb
  | char hd h92 _ ih => exact .char hd h92 ih
  | esc h10 _ ih => exact .esc h10 ih

theorem IdentText.runs {s : List Nat} (h : IdentText s) (acc : List Nat) (ml : Nat) :
    Runs (.ident acc) ml s [] (.ident (acc ++ s)) ml := by
  induction h generalizing acc with
  | nil => simpa using Runs.nil (.ident acc) ml
  | char hd h92 _ ih => simpa using (LexStep.identChar hd h92).runs.trans (ih _)
  | esc h10 _ ih => simpa using (LexStep.identBs.runs.trans (LexStep.identEsc h10).runs).trans (ih _)

def blanks (s : List Nat) : Prop := ∀ c ∈ s, c = 32 ∨ c = 9

theorem Runs.ws_blanks (ml : Nat) (s : List Nat) (hs : blanks s) : Runs .ws ml s [] .ws ml := by
  induction s with
  | nil => exact .nil _ _
  | cons c cs ih => exact (LexStep.blank (hs c (by simp))).runs.trans (ih fun x hx => hs x (by simp [hx]))

/-- the text that follows a token: end of input or a blank -/
def SepStart (rest : List Nat) : Prop := rest = [] ∨ ∃ c r, rest = c :: r ∧ (c = 32 ∨ c = 9)

/-- `Lexes s toks`: printed text `s`, when followed by the end of the line or a blank, yields exactly `toks`
and leaves the tokenizer between tokens. -/
def Lexes (s : List Nat) (toks : List Tok) : Prop :=
  ∀ rest, SepStart rest → lexGo .ws 0 (s ++ rest) = (lexGo .ws 0 rest).map (toks ++ ·)

theorem lexes_nil : Lexes [] [] := by
  intro rest _; simp

/-- between tokens a character that does not delimit starts an identifier: the scan goes on as in identifier mode with
nothing accumulated -/
theorem lexGo_ws_ident (c : Nat) (hc : isDelim c = false) (ml : Nat) (cs : List Nat) :
    lexGo .ws ml (c :: cs) = lexGo (.ident []) ml (c :: cs) := by
  have hw : wsChar ml c = .go (if c = 92 then .identEsc [92] else .ident [c]) ml := by
    simp only [isDelim, Bool.or_eq_false_iff, beq_eq_false_iff_ne, ne_eq] at hc
    obtain ⟨⟨⟨⟨⟨⟨h32, h9⟩, h10⟩, h59⟩, h40⟩, h41⟩, h34⟩ := hc
    simp only [wsChar, h32, h9, h10, h59, h40, h41, h34, or_self, if_false]
    split <;> rfl
  simp only [lexGo, hw, hc, Bool.false_eq_true, if_false, List.nil_append]
  split <;> rfl

/-- an identifier ends at the end of the line or at the blank that follows, which is then skipped as any blank is -/
theorem lexes_ident (s : List Nat) (hne : s ≠ []) (hb : IdentText s) : Lexes s [⟨.ident, s⟩] := by
  intro rest hrest
  have hrun := hb.runs [] 0
  obtain ⟨c, cs, rfl⟩ := List.exists_cons_of_ne_nil hne
  have hc : isDelim c = false := by
    cases hb with
    | char hd _ _ => exact hd
    | esc _ _ => decide
  rw [List.cons_append, lexGo_ws_ident c hc, ← List.cons_append]
  rcases hrest with rfl | ⟨d, r, rfl, hd⟩
  · simpa [lexGo] using hrun []
  · rw [show lexGo .ws 0 (d :: r) = lexGo .ws 0 r by simpa using (LexStep.blank (ml := 0) hd).runs r]
    simpa using (hrun.trans (LexStep.identEnd hd).runs) r

/-- a plain identifier: no delimiter and no backslash, so the tokenizer returns it as it stands and `Token.unescape`
leaves it alone -/
def Plain (s : List Nat) : Prop := ∀ c ∈ s, isDelim c = false ∧ c ≠ 92

instance (s : List Nat) : Decidable (Plain s) := by unfold Plain; exact inferInstance

theorem plain_cons {c : Nat} {s : List Nat} (hc : isDelim c = false ∧ c ≠ 92) (hs : Plain s) : Plain (c :: s) := by
  intro x hx
  rcases List.mem_cons.mp hx with rfl | h
  · exact hc
  · exact hs x h

theorem plain_append (a b : List Nat) (ha : Plain a) (hb : Plain b) : Plain (a ++ b) := by
  intro c hc
  rcases List.mem_append.mp hc with h | h
  · exact ha c h
  · exact hb c h

theorem identText_plain (s : List Nat) (h : Plain s) : IdentText s := by
  induction s with
  | nil => exact .nil
  | cons c cs ih => exact .char (h c (by simp)).1 (h c (by simp)).2 (ih fun x hx => h x (by simp [hx]))

theorem lexes_plain (s : List Nat) (hne : s ≠ []) (h : Plain s) : Lexes s [⟨.ident, s⟩] :=
  lexes_ident s hne (identText_plain s h)

theorem lexes_append {a b sep : List Nat} {ta tb : List Tok} (hsep : blanks sep) (hne : sep ≠ [])
    (ha : Lexes a ta) (hb : Lexes b tb) : Lexes (a ++ (sep ++ b)) (ta ++ tb) := by
  intro rest hrest
  have hs : SepStart (sep ++ (b ++ rest)) := by
    cases sep with
    | nil => exact absurd rfl hne
    | cons c cs => exact Or.inr ⟨c, cs ++ (b ++ rest), rfl, hsep c (by simp)⟩
  rw [List.append_assoc, List.append_assoc, ha _ hs, Runs.ws_blanks 0 sep hsep, hb rest hrest]
  cases lexGo .ws 0 rest <;> simp

theorem blanks_space : blanks [32] := by intro c hc; simp at hc; exact Or.inl hc

/-- `sep.join` without the special case for a single item -/
theorem joinSep_cons (sep x : List Nat) (xs : List (List Nat)) :
    joinSep sep (x :: xs) = x ++ xs.flatMap (sep ++ ·) := by
  induction xs generalizing x with
  | nil => simp [joinSep]
  | cons y ys ih => rw [joinSep, ih] <;> simp

/-- pieces joined by single spaces: after the first, each piece brings its own leading blank (how `printRec` writes a
type bitmap after the fields) -/
theorem joinSep_append_items (fs ts : List Text) (h : fs ≠ []) :
    joinSep [32] (fs ++ ts) = joinSep [32] fs ++ ts.flatMap ([32] ++ ·) := by
  cases fs with
  | nil => exact absurd rfl h
  | cons x fs => rw [List.cons_append, joinSep_cons, joinSep_cons, List.flatMap_append, List.append_assoc]

theorem lexes_joinSep_map {α : Type} {sep : List Nat} (hsep : blanks sep) (hne : sep ≠ []) (f : α → List Nat)
    (g : α → List Tok) (xs : List α) (h : ∀ x ∈ xs, Lexes (f x) (g x)) :
    Lexes (joinSep sep (xs.map f)) (xs.flatMap g) := by
  cases xs with
  | nil => exact lexes_nil
  | cons x xs =>
    rw [List.map_cons, joinSep_cons, List.flatMap_cons]
    have hx := h x (by simp)
    replace h : ∀ y ∈ xs, Lexes (f y) (g y) := fun y hy => h y (by simp [hy])
    -- what has been printed so far, with its tokens, is the running item
    generalize f x = a, g x = ta at hx
    induction xs generalizing a ta with
    | nil => simpa using hx
    | cons y ys ih =>
      simpa using ih (fun z hz => h z (by simp [hz])) (a ++ (sep ++ f y)) (ta ++ g y)
        (lexes_append hsep hne hx (h y (by simp)))

theorem lexes_joinSep (items : List (List Nat × List Tok)) (h : ∀ p ∈ items, Lexes p.1 p.2) :
    Lexes (joinSep [32] (items.map (·.1))) (items.flatMap (·.2)) :=
  lexes_joinSep_map blanks_space (by simp) _ _ items h

theorem lexLine_of_lexes (s : List Nat) (toks : List Tok) (h : Lexes s toks) : lexLine s = some toks := by
  have := h [] (Or.inl rfl)
  simpa [lexLine, lexGo] using this

end Model
