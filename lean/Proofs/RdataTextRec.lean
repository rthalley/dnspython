import Proofs.RdataTextName
import Proofs.RdataTextB64
import Proofs.RdataTextIP6
import Proofs.RdataTextUtf8
import Proofs.RdataTextFieldHex
import Proofs.RdataTextFieldEnum
import Proofs.RdataTextSigtime
import Proofs.RdataTextBitmap
import Proofs.RdataTextB32
import Proofs.RdataTextApl
import Proofs.RdataTextWks
/-! Records: fields joined by spaces, tails, and the schema-generic round trip through `dns.rdata.from_text` (C05). -/
namespace Model

/-- per-field conditions of the exact round trip; every kind has its clause, the final `False` is for a value that
has not the shape of its kind -/
def FieldOk (st : Style) (env : PEnv) : FK → FV → Prop
  | .uint max, .n v => v ≤ max
  | .ttl, .n v => v ≤ Consts.maxTTL
  | .algo, .n v => v ≤ 255
  | .name, .nm n => NameFieldOk st env n
  | .cstr maxTok maxBytes true, .b s =>
    (∀ c ∈ s, c < 256) ∧ (∀ m, maxTok = some m → s.length ≤ m) ∧ (∀ m, maxBytes = some m → s.length ≤ m)
  | .cstr maxTok maxBytes false, .b s =>
    s ≠ [] ∧ (∀ c ∈ s, isAlnumC c = true) ∧ (∀ m, maxTok = some m → s.length ≤ m) ∧ (∀ m, maxBytes = some m → s.length ≤ m)
  | .ip4, .b a => ∃ x0 x1 x2 x3, a = [x0, x1, x2, x3] ∧ x0 < 256 ∧ x1 < 256 ∧ x2 < 256 ∧ x3 < 256
  | .ip6, .b a => a.length = 16 ∧ ∀ x ∈ a, x < 256
  | .salt, .b s => (∀ x ∈ s, x < 256) ∧ s.length ≤ 255
  | .oct16, .n v => v ≤ 65535
  | .eui n, .b s => (∀ x ∈ s, x < 256) ∧ s.length = n ∧ 0 < n
  | .hex16x4, .b s => s.length = 8 ∧ ∀ x ∈ s, x < 256
  | .nsap, .b s => ∀ x ∈ s, x < 256
  | .rdtype, .n v => v ≤ 65535
  | .algoName, .n v => v ≤ 255
  | .scheme, .n v => v ≤ 255
  | .ctype, .n v => v ≤ 65535
  | .keyFlags, .n v => v ≤ 65535
  | .keyProto, .n v => v ≤ 255
  | .sigtime, .n v => v < 4294967296
  | .b32hex, .b s => (∀ x ∈ s, x < 256) ∧ s ≠ [] ∧ s.length ≤ 255
  | .hexOne, .b s => (∀ x ∈ s, x < 256) ∧ s ≠ [] ∧ s.length ≤ 255
  | .b64One, .b s => (∀ x ∈ s, x < 256) ∧ s ≠ [] ∧ s.length ≤ 65535
  | .rcode, .n v => v ≤ 4095
  | .gpos lim, .b s => s.length ≤ 255 ∧ gposCheck lim s = true
  | .nameRaw, .nm n => WfName n ∧ OctetsOk n ∧ chooseRelativity n st.origin st.relativize = .ok n
  | _, _ => False

theorem field_rt (st : Style) (env : PEnv) (k : FK) (v : FV) (h : FieldOk st env k v) :
    ∃ text tok, FieldRT st env k v text tok := by
  -- one case per clause of `FieldOk`, in its order; the last is the catch-all `False`
  revert h
  fun_cases FieldOk st env k v with
  | case1 max v => exact fun h => ⟨_, _, field_uint st env max v h⟩
  | case2 v => exact fun h => ⟨_, _, field_ttl st env v h⟩
  | case3 v => exact fun h => ⟨_, _, fieldRT_num (fun _ => rfl) (fun _ => rfl) ⟨algoFromText_natToDec v h, natToDec_plain v, natToDec_ne_nil v⟩⟩
  | case4 n => exact fun h => (field_name st env n h).elim fun _ ht => ⟨_, _, ht⟩
  | case5 mt mb s => exact fun h => ⟨_, _, field_cstr_quoted st env mt mb s h.1 h.2.1 h.2.2⟩
  | case6 mt mb s => exact fun h => ⟨_, _, field_cstr_bare st env mt mb s h.1 h.2.1 h.2.2.1 h.2.2.2⟩
  | case7 a =>
    rintro ⟨x0, x1, x2, x3, rfl, h0, h1, h2, h3⟩
    exact (field_ip4 st env x0 x1 x2 x3 h0 h1 h2 h3).elim fun _ ht => ⟨_, _, ht⟩
  | case8 a => exact fun h => (field_ip6 st env a h.1 h.2).elim fun _ ht => ⟨_, _, ht⟩
  | case9 s => exact fun h => (field_salt st env s h.1 h.2).elim fun _ ht => ⟨_, _, ht⟩
  | case10 v => exact fun h => ⟨_, _, field_oct16 st env v h⟩
  | case11 n s => exact fun h => ⟨_, _, field_eui st env n s h.1 h.2.1 h.2.2⟩
  | case12 s =>
    intro h
    obtain ⟨a, b, c, d, e, f, g, i, rfl⟩ := list8 s h.1
    have hb := h.2
    exact (field_hex16x4 st env a b c d e f g i (hb a (by simp)) (hb b (by simp)) (hb c (by simp))
      (hb d (by simp)) (hb e (by simp)) (hb f (by simp)) (hb g (by simp)) (hb i (by simp))).elim fun _ ht => ⟨_, _, ht⟩
  | case13 s => exact fun h => ⟨_, _, field_nsap st env s h⟩
  | case14 v => exact fun h => ⟨_, _, fieldRT_num (fun _ => rfl) (fun _ => rfl) (rdtype_rt v h)⟩
  | case15 v => exact fun h => ⟨_, _, fieldRT_num (fun _ => rfl) (fun _ => rfl) (enum_rt _ _ _ _ algEnumOk v h)⟩
  | case16 v => exact fun h => ⟨_, _, fieldRT_num (fun _ => rfl) (fun _ => rfl) (enum_rt _ _ _ _ schemeEnumOk v h)⟩
  | case17 v => exact fun h => (field_ctype st env v h).elim fun _ ht => ⟨_, _, ht⟩
  | case18 v => exact fun h => ⟨_, _, field_keyFlags st env v h⟩
  | case19 v => exact fun h => ⟨_, _, field_keyProto st env v h⟩
  | case20 v => exact fun h => ⟨_, _, fieldRT_num (fun _ => rfl) (fun _ => rfl) (sigtime_rt v h)⟩
  | case21 s => exact fun h => ⟨_, _, field_b32hex st env s h.1 h.2.1 h.2.2⟩
  | case22 s => exact fun h => ⟨_, _, fieldRT_blob hex_ok (fun _ => rfl) (fun _ => rfl) h.1 h.2.1 h.2.2⟩
  | case23 s => exact fun h => ⟨_, _, fieldRT_blob b64_ok (fun _ => rfl) (fun _ => rfl) h.1 h.2.1 h.2.2⟩
  | case24 v => exact fun h => ⟨_, _, fieldRT_num (fun _ => rfl) (fun _ => rfl) (enum_rt _ _ _ _ rcodeEnumOk v h)⟩
  | case25 lim s => exact fun h => ⟨_, _, field_gpos st env lim s h.1 h.2⟩
  | case26 n => exact fun h => (field_nameRaw st env n h.1 h.2.1 h.2.2).elim fun _ ht => ⟨_, _, ht⟩
  | case27 => exact False.elim

def FieldsOk (st : Style) (env : PEnv) : List FK → List FV → Prop
  | [], [] => True
  | k :: ks, v :: vs => FieldOk st env k v ∧ FieldsOk st env ks vs
  | _, _ => False

theorem fields_rt (st : Style) (env : PEnv) (ks : List FK) (vs : List FV) (h : FieldsOk st env ks vs) :
    ∃ items : List (Text × List Tok),
      printFields st ks vs = some (items.map (·.1)) ∧ (∀ p ∈ items, Lexes p.1 p.2) ∧
      (∀ rest, parseFields env ks (items.flatMap (·.2) ++ rest) = some (vs, rest)) ∧
      (∀ rest, HeadNotHash rest → HeadNotHash (items.flatMap (·.2) ++ rest)) ∧ (ks ≠ [] → items ≠ []) := by
  induction ks generalizing vs with
  | nil =>
    cases vs with
    | nil => exact ⟨[], rfl, nofun, fun _ => rfl, fun _ h => h, fun h => absurd rfl h⟩
    | cons v vs => simp [FieldsOk] at h
  | cons k ks ih =>
    cases vs with
    | nil => simp [FieldsOk] at h
    | cons v vs =>
      obtain ⟨hk, hrest⟩ := h
      obtain ⟨text, tok, hp, hl, hpa, hnh⟩ := field_rt st env k v hk
      obtain ⟨items, ip, il, ipa, -, -⟩ := ih vs hrest
      exact ⟨(text, [tok]) :: items, by simp [printFields, hp, ip], List.forall_mem_cons.mpr ⟨hl, il⟩,
        fun rest => by simp [parseFields, hpa, ipa rest], fun _ _ => headNotHash_cons _ _ hnh, fun _ => List.cons_ne_nil _ _⟩

/-- the gateway / relay value agrees with its type: nothing; an address text as `inet_aton` accepts it (stored and printed
as written, e.g. what `inet_ntoa` produced when the record came from wire); a name that round-trips -/
def GatewayOk (st : Style) (env : PEnv) (kind : Nat) (addr : List Nat) (nm : Name) : Prop :=
  (kind = 0 ∧ addr = [] ∧ nm = []) ∨
  (kind = 1 ∧ nm = [] ∧ addr ≠ [] ∧ Plain addr ∧ (ip4Aton addr).isSome = true) ∨
  (kind = 2 ∧ nm = [] ∧ addr ≠ [] ∧ Plain addr ∧ (ip6Aton addr).isSome = true) ∨
  (kind = 3 ∧ addr = [] ∧ NameFieldOk st env nm)

theorem gateway_tok (st : Style) (env : PEnv) (kind : Nat) (addr : List Nat) (nm : Name) (h : GatewayOk st env kind addr nm) :
    ∃ g, TokRT (fun p : List Nat × Name => gatewayText st kind p.1 p.2) (parseGatewayTok env kind) (addr, nm) g ⟨.ident, g⟩ := by
  rcases h with ⟨rfl, rfl, rfl⟩ | ⟨rfl, rfl, hne, hp, hv⟩ | ⟨rfl, rfl, hne, hp, hv⟩ | ⟨rfl, rfl, hn⟩
  · have hp : Plain [46] := by intro c hc; simp at hc; subst hc; decide
    exact ⟨[46], tokRT_plain (by simp) hp rfl (by simp [parseGatewayTok, asString, unescapeCP_plain_all _ hp])⟩
  · exact ⟨addr, tokRT_plain hne hp (by simp [gatewayText]) (by simp [parseGatewayTok, asString, unescapeCP_plain_all _ hp, hv])⟩
  · exact ⟨addr, tokRT_plain hne hp (by simp [gatewayText]) (by simp [parseGatewayTok, asString, unescapeCP_plain_all _ hp, hv])⟩
  · obtain ⟨t, hp, hl, hpa, hnh⟩ := name_rt st env nm hn
    exact ⟨t, by simp [gatewayText, hp], hl, by simp [parseGatewayTok, hpa], hnh⟩

theorem gatewayOk_wire4 (st : Style) (env : PEnv) (a b c d : Nat) (ha : a < 256) (hb : b < 256) (hc : c < 256) (hd : d < 256) :
    ∃ t, ip4Ntoa [a, b, c, d] = some t ∧ GatewayOk st env 1 t [] := by
  obtain ⟨t, ht, hat, hpl, hne⟩ := ip4_text a b c d ha hb hc hd
  exact ⟨t, ht, Or.inr (Or.inl ⟨rfl, rfl, hne, hpl, by simp [hat]⟩)⟩

theorem gatewayOk_wire6 (st : Style) (env : PEnv) (a : Bytes) (hlen : a.length = 16) (ha : ∀ x ∈ a, x < 256) :
    ∃ t, ip6Ntoa a = some t ∧ GatewayOk st env 2 t [] := by
  obtain ⟨t, ht, hch, hat⟩ := ip6_text a hlen ha
  exact ⟨t, ht, Or.inr (Or.inr (Or.inl ⟨rfl, rfl, ip6Aton_ne_nil t a hat, plain_of_addrCh t hch, by simp [hat]⟩))⟩

def TailOk (st : Style) (env : PEnv) (vals : List FV) : TK → Option FV → Prop
  | .none, none => True
  | .hex, some (.b d) => d ≠ [] ∧ (∀ x ∈ d, x < 256) ∧ ChunkOk st.hexChunk st.hexSep
  | .b64 fixed0, some (.b d) => d ≠ [] ∧ (∀ x ∈ d, x < 256) ∧ ChunkOk (if fixed0 then 0 else st.b64Chunk) st.b64Sep
  | .txt, some (.bl ss) => ss ≠ [] ∧ ∀ s ∈ ss, (∀ c ∈ s, c < 256) ∧ s.length ≤ 255
  | .optCstr, some (.b s) => (∀ c ∈ s, c < 256) ∧ s.length ≤ 255
  | .keyB64, some (.b d) =>
    (keyIsNoKey vals = true ∧ d = []) ∨
    (keyIsNoKey vals = false ∧ d ≠ [] ∧ (∀ x ∈ d, x < 256) ∧ ChunkOk st.b64Chunk st.b64Sep)
  | .bitmap, some (.wl ws) => WfWins ws
  | .names, some (.nl ns) => ∀ n ∈ ns, NameFieldOk st env n
  | .b64Opt, some (.b d) => (∀ x ∈ d, x < 256) ∧ d.length ≤ 65535
  | .tsigOther, some (.b d) => (∀ x ∈ d, x < 256) ∧ vals[7]? = some (.n d.length)
  | .apl, some (.apl items) => ∀ it ∈ items, AplItemOk it
  | .wks, some (.wks addr proto bm) =>
    (∃ x0 x1 x2 x3, addr = [x0, x1, x2, x3] ∧ x0 < 256 ∧ x1 < 256 ∧ x2 < 256 ∧ x3 < 256) ∧ proto ≤ 255 ∧
    (∀ x ∈ bm, x < 256) ∧ bm.getLast? ≠ some 0 ∧ bm.length ≤ 8192
  | .gateway ti ai, some (.gw kind addr nm key) =>
    vals[ti]? = some (.n kind) ∧ GatewayOk st env kind addr nm ∧
    (match ai with
     | none => key = []
     | some i => ∃ alg, vals[i]? = some (.n alg) ∧ (key = [] → alg = 0) ∧ (∀ x ∈ key, x < 256) ∧ ChunkOk st.b64Chunk st.b64Sep)
  | _, _ => False

/-- what a tail round trip consists of: the printed pieces, each lexed to its tokens, which together parse back -/
def TailRT (st : Style) (env : PEnv) (vals : List FV) (tk : TK) (tail : Option FV) (items : List (List Nat × List Tok)) : Prop :=
  printTail st tk tail = some (items.map (·.1)) ∧ (∀ p ∈ items, Lexes p.1 p.2) ∧
  parseTailE env vals tk (items.flatMap (·.2)) = some tail ∧ HeadNotHash (items.flatMap (·.2))

theorem tailRT_nil {st : Style} {env : PEnv} {vals : List FV} {tk : TK} {tail : Option FV}
    (hp : printTail st tk tail = some []) (hpa : parseTailE env vals tk [] = some tail) : TailRT st env vals tk tail [] :=
  ⟨hp, nofun, hpa, headNotHash_nil⟩

theorem tailRT_one {st : Style} {env : PEnv} {vals : List FV} {tk : TK} {tail : Option FV} (t : List Nat) (toks : List Tok)
    (hp : printTail st tk tail = some [t]) (hl : Lexes t toks) (hpa : parseTailE env vals tk toks = some tail)
    (hh : HeadNotHash toks) : TailRT st env vals tk tail [(t, toks)] :=
  ⟨hp, by simpa using hl, by simpa using hpa, by simpa using hh⟩

theorem tail_rt (st : Style) (env : PEnv) (vals : List FV) (tk : TK) (tail : Option FV) (h : TailOk st env vals tk tail)
    (hnb : tk ≠ .bitmap) : ∃ items, TailRT st env vals tk tail items := by
  -- one case per clause of `TailOk`, in its order
  revert h
  fun_cases TailOk st env vals tk tail with
  | case1 => exact fun _ => ⟨[], tailRT_nil rfl rfl⟩
  | case2 d =>
    rintro ⟨hne, hd, hc⟩
    obtain ⟨hl, hcat, hdec, hnh⟩ := blob_chunks hex_ok d hd false (Or.inr hne) _ _ hc
    exact ⟨_, tailRT_one _ _ rfl hl (by simp [parseTailE, parseTail, hcat, hdec]) hnh⟩
  | case3 fixed0 d =>
    rintro ⟨hne, hd, hc⟩
    obtain ⟨hl, hcat, hdec, hnh⟩ := blob_chunks b64_ok d hd false (Or.inr hne) _ _ hc
    exact ⟨_, tailRT_one _ _ rfl hl (by simp [parseTailE, parseTail, hcat, hdec]) hnh⟩
  | case4 ss =>
    rintro ⟨hne, hs⟩
    -- one quoted token per string, in the octet or the Unicode form (`txt_is_utf8`)
    let E : Bytes → List Nat := fun s => txtElement st.txtUtf8 ConstsC05.unicodeEscaped Consts.rdataEscaped s
    have hE : ∀ s ∈ ss, Lexes (quote (E s)) [⟨.quoted, E s⟩] ∧ unescapeBytes (E s) = some s :=
      fun s hsm => txtElement_rt st.txtUtf8 s (hs s hsm).1
    have hlex := lexes_joinSep_toks ss (fun s => quote (E s)) (fun s => ⟨.quoted, E s⟩) fun s hsm => (hE s hsm).1
    have hp : parseTxt (ss.map fun s => ⟨.quoted, E s⟩) = some ss :=
      parseTxt_eq_mapM ▸ mapM_map_eq_some _ _ ss fun s hsm => by
        simp [parseTxtTok, (hE s hsm).2, Nat.not_lt.mpr (hs s hsm).2]
    refine ⟨_, tailRT_one _ _ rfl hlex (by simp [parseTailE, parseTail, hp, hne]) ?_⟩
    cases ss with
    | nil => exact absurd rfl hne
    | cons s rest => exact headNotHash_cons _ _ (Or.inl rfl)
  | case5 s =>
    rintro ⟨ho, hl⟩
    by_cases he : s = []
    · subst he
      exact ⟨[], tailRT_nil rfl rfl⟩
    · obtain ⟨hlex, hu⟩ := charstring_tok s ho
      have hle : ¬ s.length > 255 := by omega
      exact ⟨_, tailRT_one (quote (escapifyR s)) [⟨.quoted, escapifyR s⟩] (by simp [printTail, he]) hlex
        (by simp [parseTailE, parseTail, hu, bytesMax, hle]) (headNotHash_cons _ _ (Or.inl rfl))⟩
  | case6 d =>
    rintro (⟨hk, rfl⟩ | ⟨hk, hne, hd, hc⟩)
    · exact ⟨_, tailRT_one [] [] (by simp [printTail, b64Encode, wordbreak, chunksOf, joinSep]) lexes_nil
        (by simp [parseTailE, parseTail, hk]) headNotHash_nil⟩
    · obtain ⟨hl, hcat, hdec, hnh⟩ := blob_chunks b64_ok d hd false (Or.inr hne) _ _ hc
      exact ⟨_, tailRT_one _ _ rfl hl (by simp [parseTailE, parseTail, hk, hcat, hdec]) hnh⟩
  | case7 ws => exact absurd rfl hnb
  | case8 ns =>
    intro h
    obtain ⟨items, a, b, c, d⟩ := seq_rt (fun n => (nameToStyled n st.origin st.relativize).toOption)
      (fun t => asName t env.origin env.relativize env.relTo) ns fun n hn =>
        (name_rt st env n (h n hn)).imp fun t ⟨hp, r⟩ => ⟨_, congrArg Except.toOption hp, r⟩
    exact ⟨items, by simpa [printTail, printNames_eq_mapM] using a, b, by simp [parseTailE, parseNames_eq_mapM, c], d⟩
  | case9 d =>
    rintro ⟨h, hlen⟩
    have hle : ¬ d.length > 65535 := by omega
    by_cases hd0 : d = []
    · subst hd0
      exact ⟨[], tailRT_nil rfl (by simp [parseTailE, parseTail, concatIdents, b64Decode])⟩
    · have hp := b64Encode_plain d
      have hn : b64Encode d ≠ [] := fun e => hd0 ((b64Encode_eq_nil d).mp e)
      exact ⟨_, tailRT_one (b64Encode d) [⟨.ident, b64Encode d⟩] (by simp [printTail, hd0]) (lexes_plain _ hn hp)
        (by simp [parseTailE, parseTail, concatIdents, concatIdents.go, unescapeCP_plain_all _ hp, b64_roundtrip d h, hle])
        (headNotHash_cons _ _ (notHash_plain _ hp))⟩
  | case10 d =>
    rintro ⟨hd, hv⟩
    by_cases hd0 : d = []
    · subst hd0
      simp at hv
      exact ⟨[], tailRT_nil rfl (by simp [parseTailE, parseTail, hv])⟩
    · have hp := b64Encode_plain d
      have hn : b64Encode d ≠ [] := fun e => hd0 ((b64Encode_eq_nil d).mp e)
      have hlen : d.length ≠ 0 := fun e => hd0 (List.eq_nil_of_length_eq_zero e)
      exact ⟨_, tailRT_one (b64Encode d) [⟨.ident, b64Encode d⟩] (by simp [printTail, hd0]) (lexes_plain _ hn hp)
        (by simp [parseTailE, parseTail, hv, hlen, unescapeCP_plain_all _ hp, b64_roundtrip d hd])
        (headNotHash_cons _ _ (notHash_plain _ hp))⟩
  | case11 items =>
    exact fun h => (seq_rt _ _ items fun it hit => aplItem_rt it (h it hit)).imp fun its ⟨a, b, c, d⟩ =>
      ⟨by simpa [printTail, printAplItems_eq_mapM] using a, b, by simp [parseTailE, parseTail, parseApl_eq_mapM, c], d⟩
  | case12 addr proto bm =>
    rintro ⟨⟨x0, x1, x2, x3, rfl, h0, h1, h2, h3⟩, hpr, hb, hl, hlen⟩
    obtain ⟨t, ht, hat, hpl, hne⟩ := ip4_text x0 x1 x2 x3 h0 h1 h2 h3
    have hplp := natToDec_plain proto
    have hports := parseWksPorts_print (wksPorts bm) [] (wksPorts_le bm hlen)
    rw [wks_ports_fold bm hb hl] at hports
    have hgt : ¬ proto > 255 := by omega
    refine ⟨[(t, [⟨.ident, t⟩]), (natToDec proto, [⟨.ident, natToDec proto⟩]),
      (joinSep [32] ((wksPorts bm).map natToDec), (wksPorts bm).map fun p => ⟨.ident, natToDec p⟩)], by simp [printTail, ht], ?_, ?_,
      headNotHash_cons _ _ (notHash_plain t hpl)⟩
    · simp only [List.forall_mem_cons]
      exact ⟨lexes_plain t hne hpl, lexes_plain _ (natToDec_ne_nil proto) hplp,
        lexes_joinSep_toks _ _ _ fun p _ => lexes_plain _ (natToDec_ne_nil p) (natToDec_plain p), nofun⟩
    · simp [parseTailE, parseTail, parseWks, asString, unescapeCP_plain_all _ hpl, unescapeCP_plain_all _ hplp, hat,
        natToDec_ne_nil proto, natToDec_all_isDigit proto, decVal_natToDec, hgt, hports, truncateBitmap_id bm hl]
  | case13 ti ai kind addr nm key =>
    rintro ⟨hty, hg, hkey⟩
    obtain ⟨g, hgt, hlex, hparse, hnh⟩ := gateway_tok st env kind addr nm hg
    cases ai with
    | none =>
      simp only at hkey; subst hkey
      exact ⟨_, tailRT_one g [⟨.ident, g⟩] (by simp [printTail, hgt]) hlex (by simp [parseTailE, parseGateway, hty, hparse])
        (headNotHash_cons _ _ hnh)⟩
    | some i =>
      obtain ⟨alg, halg, h0, hd, hc⟩ := hkey
      obtain ⟨hl, hcat, hdec, -⟩ := blob_chunks b64_ok key hd (alg == 0) (by
        by_cases hk : key = []
        · left; simp [h0 hk]
        · exact Or.inr hk) st.b64Chunk st.b64Sep hc
      refine ⟨[(g, [⟨.ident, g⟩]), (wordbreak (b64Encode key) st.b64Chunk st.b64Sep,
          identToks (chunksOf st.b64Chunk (b64Encode key)))], by simp [printTail, hgt], ?_, ?_, headNotHash_cons _ _ hnh⟩
      · simp only [List.forall_mem_cons]
        exact ⟨hlex, hl, nofun⟩
      · simp [parseTailE, parseGateway, hty, hparse, halg, hcat, hdec]
  | case14 => exact False.elim

theorem isGenericStart_false (toks : List Tok) (h : HeadNotHash toks) : isGenericStart toks = false := by
  cases toks with
  | nil => rfl
  | cons t ts =>
    have := h t rfl
    simp only [isGenericStart]
    rcases this with hq | hv
    · simp [hq]
    · by_cases hval : t.val = [92, 35]
      · exact absurd rfl (hv 35 [] hval)
      · simp [hval]

/-- `dns.rdata.from_text` on a line that does not start with `\#`: the type's own syntax -/
theorem fromTextRdata_text {tn : String} {sch : Schema} {env : PEnv} {text : Text} {toks : List Tok}
    (hsch : schemaOf tn = some sch) (hl : lexLine text = some toks) (hg : isGenericStart toks = false) :
    fromTextRdata (some tn) env text = (parseRec sch env toks).map fun p => .known p.1 p.2 := by
  simp [fromTextRdata, hl, hsch, hg]

theorem parseRec_of_fromTextRdata {tn : String} {sch : Schema} {env : PEnv} {text : Text} {toks : List Tok} {vals : List FV}
    {tail : Option FV} (hsch : schemaOf tn = some sch) (hl : lexLine text = some toks) (hg : isGenericStart toks = false)
    (h : fromTextRdata (some tn) env text = some (.known vals tail)) : parseRec sch env toks = some (vals, tail) := by
  rw [fromTextRdata_text hsch hl hg] at h
  obtain ⟨⟨v, t⟩, hp, e⟩ := Option.map_eq_some_iff.mp h
  cases e
  exact hp

/-- a known type written in the generic syntax: `from_text` returns only a value that it decoded from the data given and
that re-encodes to them -/
theorem fromTextRdata_generic {tn : String} {sch : Schema} {env : PEnv} {text : Text} {toks : List Tok} {vals : List FV}
    {tail : Option FV} (hsch : schemaOf tn = some sch) (hl : lexLine text = some toks) (hg : isGenericStart toks = true)
    (h : fromTextRdata (some tn) env text = some (.known vals tail)) :
    ∃ data, parseGeneric toks = some data ∧ decRec tn sch data (wireOrigin env) = some (vals, tail) ∧
      encRec tn sch (wireOrigin env) vals tail = some data := by
  simp only [fromTextRdata, hl, hsch, hg, if_true] at h
  split at h
  · cases h
  · split at h
    · cases h
    · rename_i data hp
      split at h
      · cases h
      · rename_i v t hd
        split at h
        · rename_i w he
          split at h
          · rename_i e
            cases h
            exact ⟨data, hp, hd, e ▸ he⟩
          · cases h
        · cases h

theorem record_roundtrip (tn : String) (sch : Schema) (hsch : schemaOf tn = some sch) (st : Style) (env : PEnv)
    (vals : List FV) (tail : Option FV) (hf : FieldsOk st env sch.fields vals) (ht : TailOk st env vals sch.tail tail)
    (hbf : sch.tail = .bitmap → sch.fields ≠ []) (hchk : sch.check vals tail = true) :
    ∃ text, printRec sch st vals tail = some text ∧ fromTextRdata (some tn) env text = some (.known vals tail) := by
  obtain ⟨fi, fp, fl, fpa, fnh, fne⟩ := fields_rt st env sch.fields vals hf
  -- the tail: its printed items, their tokens, and the parse
  have key : ∃ ti : List (Text × List Tok),
      printRec sch st vals tail = some (joinSep [32] (fi.map (·.1) ++ ti.map (·.1))) ∧ (∀ p ∈ ti, Lexes p.1 p.2) ∧
      parseTailE env vals sch.tail (ti.flatMap (·.2)) = some tail ∧ HeadNotHash (ti.flatMap (·.2)) := by
    by_cases hb : sch.tail = .bitmap
    · rw [hb] at ht
      cases tail with
      | none => simp [TailOk] at ht
      | some v =>
        cases v <;> simp only [TailOk] at ht <;> try exact ht.elim
        rename_i ws
        obtain ⟨hall, htext, hlex, hparse, hhead⟩ := bitmap_tail_rt vals ws ht
        have hfne : fi.map (·.1) ≠ [] := fun e => fne (hbf hb) (List.map_eq_nil_iff.mp e)
        refine ⟨bitmapItems ws, ?_, hlex, by rw [hb]; simpa [parseTailE] using hparse, hhead⟩
        simp only [printRec, hb, hall, if_true, fp, Option.map_some]
        rw [htext, joinSep_append_items _ _ hfne]
    · obtain ⟨ti, tp, tl, tpa, tnh⟩ := tail_rt st env vals sch.tail tail ht hb
      exact ⟨ti, printRec_of_tail hb fp tp, tl, tpa, tnh⟩
  obtain ⟨ti, hprint, tl, tpa, tnh⟩ := key
  have hlex := lexes_joinSep (fi ++ ti) (List.forall_mem_append.mpr ⟨fl, tl⟩)
  rw [List.map_append, List.flatMap_append] at hlex
  refine ⟨_, hprint, ?_⟩
  rw [fromTextRdata_text hsch (lexLine_of_lexes _ _ hlex) (isGenericStart_false _ (fnh _ tnh))]
  simp [parseRec, fpa, tpa, hchk]

end Model
