import Proofs.RdataTextField
import Proofs.NameOrder3
import Props.C01
/-! Name fields: `Name.to_styled_text` output is one identifier for the tokenizer and `as_name` reads it back (C05). -/
namespace Model

/-- what the tokenizer needs from `dns.name._escaped`: every delimiter above 0x20 is escaped, so is the backslash,
newline is not (a backslash-newline pair would end the token), and `#` is not (so `\#` is never printed). -/
def NameEscLex (esc : List Nat) : Prop :=
  34 ∈ esc ∧ 40 ∈ esc ∧ 41 ∈ esc ∧ 59 ∈ esc ∧ 92 ∈ esc ∧ 10 ∉ esc ∧ 35 ∉ esc

instance (esc : List Nat) : Decidable (NameEscLex esc) := by unfold NameEscLex; exact inferInstance

theorem nameEscLex_generated : NameEscLex Consts.nameEscaped := by decide

/-- `dns.name._escapify` writes an octet in one of the three shapes of an identifier step: `\c` (never a newline), `c`
(never a delimiter: those above 0x20 are escaped), `\DDD` -/
theorem identText_escOctet (esc : List Nat) (hesc : NameEscLex esc) (c : Nat) (hc : c < 256) {rest : List Nat}
    (h : IdentText rest) : IdentText (escOctet esc c ++ rest) := by
  obtain ⟨h34, h40, h41, h59, h92, h10, _⟩ := hesc
  rcases escOctet_forms esc c with ⟨hm, e⟩ | ⟨hm, ⟨h1, h2⟩, e⟩ | ⟨hm, h1, e⟩
  · rw [e]
    exact .esc (fun e10 => h10 (e10 ▸ hm)) h
  · rw [e]
    have n34 : c ≠ 34 := fun e => hm (e ▸ h34)
    have n40 : c ≠ 40 := fun e => hm (e ▸ h40)
    have n41 : c ≠ 41 := fun e => hm (e ▸ h41)
    have n59 : c ≠ 59 := fun e => hm (e ▸ h59)
    exact .char (by simp [isDelim, n34, n40, n41, n59]; omega) (fun e => hm (e ▸ h92)) h
  · rw [e]
    obtain ⟨d1, d2, d3⟩ := dec3_digits c hc
    simp only [isDigit, decide_eq_true_eq] at d1 d2 d3
    have dig : ∀ d, 48 ≤ d ∧ d ≤ 57 → isDelim d = false ∧ d ≠ 92 := fun d hd => by simp [isDelim]; omega
    exact .esc (by omega) (.char (dig _ d2).1 (dig _ d2).2 (.char (dig _ d3).1 (dig _ d3).2 h))

theorem identText_escapify (esc : List Nat) (hesc : NameEscLex esc) (l : Label) (hl : ∀ c ∈ l, c < 256) {rest : List Nat}
    (h : IdentText rest) : IdentText (escapifyWith esc l ++ rest) := by
  induction l with
  | nil => exact h
  | cons c cs ih =>
    rw [show escapifyWith esc (c :: cs) ++ rest = escOctet esc c ++ (escapifyWith esc cs ++ rest) by simp [escapifyWith]]
    exact identText_escOctet esc hesc c (hl c (by simp)) (ih fun x hx => hl x (by simp [hx]))

theorem identText_joinDot (esc : List Nat) (hesc : NameEscLex esc) (ls : List Label) (h : OctetsOk ls) :
    IdentText (joinDot (ls.map (escapifyWith esc))) := by
  induction ls with
  | nil => exact .nil
  | cons x rest ih =>
    have hx : ∀ c ∈ x, c < 256 := h x (by simp)
    have hrest : OctetsOk rest := fun l hl => h l (by simp [hl])
    cases rest with
    | nil => simpa [joinDot] using identText_escapify esc hesc x hx .nil
    | cons y ys =>
      simp only [List.map, joinDot]
      exact identText_escapify esc hesc x hx (.char (by decide) (by decide) (ih hrest))

theorem escOctet_notHash (esc : List Nat) (hesc : NameEscLex esc) (c : Nat) (hc : c < 256) (rest : List Nat) (x : Nat) (r : List Nat)
    (e : escOctet esc c ++ rest = 92 :: x :: r) : x ≠ 35 := by
  obtain ⟨_, _, _, _, h92, _, h35⟩ := hesc
  rcases escOctet_forms esc c with ⟨hm, e'⟩ | ⟨hm, ⟨h1, h2⟩, e'⟩ | ⟨hm, h1, e'⟩
  · rw [e'] at e; simp at e; intro hx; exact h35 (by rw [← hx, ← e.1]; exact hm)
  · rw [e'] at e; simp at e
    exact absurd (e.1 ▸ h92) hm
  · rw [e'] at e; simp [dec3] at e; omega

theorem toText_lexes (n : Name) (hw : WfName n) (ho : OctetsOk n) :
    Lexes (toText n) [⟨.ident, toText n⟩] ∧ NotHash ⟨.ident, toText n⟩ := by
  have hesc := nameEscLex_generated
  by_cases h0 : n = []
  · subst h0
    have hp : Plain [64] := by intro c hc; simp at hc; subst hc; decide
    exact ⟨by simpa [toText] using lexes_plain [64] (by simp) hp, by simpa [toText] using notHash_plain [64] hp⟩
  by_cases h1 : n = [[]]
  · subst h1
    have hp : Plain [46] := by intro c hc; simp at hc; subst hc; decide
    exact ⟨by simpa [toText] using lexes_plain [46] (by simp) hp, by simpa [toText] using notHash_plain [46] hp⟩
  have htt : toText n = joinDot (n.map (escapifyWith Consts.nameEscaped)) := by
    simp [toText, h0, h1]; rfl
  have hfirst : n.head h0 ≠ [] := by
    cases n with
    | nil => exact absurd rfl h0
    | cons x rest =>
      cases rest with
      | nil => simp; intro hx; exact h1 (by simp [hx])
      | cons y ys => simp; exact hw.2.2 x (by simp [List.dropLast])
  obtain ⟨hd, tl, htext, _⟩ := joinDot_head Consts.nameEscaped escOk_generated n h0 hfirst
  have hb : IdentText (toText n) := by
    rw [htt]; exact identText_joinDot _ hesc n ho
  have hne : toText n ≠ [] := by rw [htt, htext]; simp
  refine ⟨lexes_ident _ hne hb, Or.inr ?_⟩
  intro x r e
  have e' : toText n = 92 :: x :: r := e
  -- the text starts with the escaped form of the first octet of the first label
  cases n with
  | nil => exact absurd rfl h0
  | cons l ls =>
    simp at hfirst
    cases l with
    | nil => exact absurd rfl hfirst
    | cons c cs =>
      have hc : c < 256 := ho (c :: cs) (by simp) c (by simp)
      rw [htt] at e'
      cases ls with
      | nil =>
        simp only [List.map, joinDot, escapifyWith, List.flatMap_cons] at e'
        exact escOctet_notHash _ hesc c hc _ x r e'
      | cons m ms =>
        simp only [List.map, joinDot, escapifyWith, List.flatMap_cons, List.append_assoc] at e'
        exact escOctet_notHash _ hesc c hc _ x r e'

/-- what `Tokenizer.as_name` returns on the text of the (legal) name `m`, computed on names only:
`from_text` appends the origin to a relative name, then `choose_relativity(relativize_to or origin, relativize)` -/
def nameBack (env : PEnv) (m : Name) : Option Name :=
  let p : Except NameErr Name :=
    match env.origin with
    | none => .ok m
    | some o => if isAbs m then .ok m else validate (m ++ o)
  match p with
  | .error _ => none
  | .ok q =>
    match chooseRelativity q (orOrigin env.relTo env.origin) env.relativize with
    | .ok r => some r
    | .error _ => none

theorem asName_toText (env : PEnv) (m : Name) (hw : WfName m) (ho : OctetsOk m) :
    asName ⟨.ident, toText m⟩ env.origin env.relativize env.relTo = nameBack env m := by
  unfold asName nameBack
  cases hor : env.origin with
  | none =>
    simp only [C01.fromText_toText m hw ho, ne_eq, not_true_eq_false, if_false]
    cases chooseRelativity m (orOrigin env.relTo none) env.relativize <;> rfl
  | some o =>
    simp only [C01.fromText_toText_origin m o hw ho, ne_eq, not_true_eq_false, if_false]
    by_cases hab : isAbs m = true
    · simp only [hab, if_true]
      cases chooseRelativity m (orOrigin env.relTo (some o)) env.relativize <;> rfl
    · simp only [hab, Bool.false_eq_true, if_false]
      cases validate (m ++ o) with
      | error e => rfl
      | ok q => cases chooseRelativity q (orOrigin env.relTo (some o)) env.relativize <;> rfl

/-- a name field round-trips exactly when printing succeeds with a legal name `m` and `as_name` maps `m` back to `n` -/
def NameFieldOk (st : Style) (env : PEnv) (n : Name) : Prop :=
  ∃ m, chooseRelativity n st.origin st.relativize = .ok m ∧ WfName m ∧ OctetsOk m ∧ nameBack env m = some n

/-- the name as one token: every name-bearing place (the `.name` field, the HIP server list, the IPSECKEY / AMTRELAY
gateway) prints with `nameToStyled` and reads with `asName` -/
theorem name_rt (st : Style) (env : PEnv) (n : Name) (h : NameFieldOk st env n) :
    ∃ t, nameToStyled n st.origin st.relativize = .ok t ∧ Lexes t [⟨.ident, t⟩] ∧
      asName ⟨.ident, t⟩ env.origin env.relativize env.relTo = some n ∧ NotHash ⟨.ident, t⟩ := by
  obtain ⟨m, hp, hw, ho, hb⟩ := h
  obtain ⟨hlex, hnh⟩ := toText_lexes m hw ho
  exact ⟨toText m, by simp [nameToStyled, hp], hlex, by rw [asName_toText env m hw ho, hb], hnh⟩

theorem field_name (st : Style) (env : PEnv) (n : Name) (h : NameFieldOk st env n) :
    ∃ text, FieldRT st env .name (.nm n) text ⟨.ident, text⟩ := by
  obtain ⟨t, hp, hl, hpa, hnh⟩ := name_rt st env n h
  exact ⟨t, by simp [printField, hp], hl, by simp [parseField, hpa], hnh⟩

/-- TKEY/TSIG algorithm name: the name field read without an origin and without relativization, so it round-trips exactly
when the style leaves it as it is -/
theorem field_nameRaw (st : Style) (env : PEnv) (n : Name) (hw : WfName n) (ho : OctetsOk n)
    (hst : chooseRelativity n st.origin st.relativize = .ok n) :
    ∃ text, FieldRT st env .nameRaw (.nm n) text ⟨.ident, text⟩ :=
  (field_name st { origin := none, relativize := false, relTo := none } n
    ⟨n, hst, hw, ho, by simp [nameBack, orOrigin, chooseRelativity]⟩).imp fun _ ⟨a, b, c, d⟩ => ⟨a, b, c, d⟩

theorem octetsOk_append (a b : Name) (ha : OctetsOk a) (hb : OctetsOk b) : OctetsOk (a ++ b) :=
  fun l hl => (List.mem_append.mp hl).elim (ha l) (hb l)

/-- the configurations in which a name comes back unchanged:
* **plain**: nothing rewrites names (no style origin, no parse origin);
* **absolute**: an absolute name, printed as it is, parsed with `relativize=False` (any origin);
* **zone**: an absolute origin `O` used for parsing with `relativize=True` (and `relativize_to` absent or equal to it),
  the style printing against no origin or against `O` (either `relativize` value), and the name normalised for `O` —
  relative with `n ++ O` legal, or absolute and not below `O` (what `from_wire`/`from_text` with that origin produce). -/
def NameCfgOk (st : Style) (env : PEnv) (n : Name) : Prop :=
  (st.origin = none ∧ env.origin = none ∧ env.relTo = none) ∨
  (isAbs n = true ∧ env.relativize = false ∧ (st.origin = none ∨ st.relativize = false)) ∨
  (∃ O, env.origin = some O ∧ isAbs O = true ∧ OctetsOk O ∧ env.relativize = true ∧
      orOrigin env.relTo (some O) = some O ∧ (st.origin = none ∨ st.origin = some O) ∧
      ((isAbs n = false ∧ WfName (n ++ O)) ∨ (isAbs n = true ∧ isSubdomain n O = false)))

theorem chooseRelativity_false_abs (n : Name) (oo : Option Name) (h : isAbs n = true) : chooseRelativity n oo false = .ok n := by
  unfold chooseRelativity
  cases oo with
  | none => rfl
  | some o =>
    by_cases ho : o = []
    · simp [ho]
    · simp [ho, derelativize_of_abs h o]

theorem nameCfg_ok (st : Style) (env : PEnv) (n : Name) (hw : WfName n) (ho : OctetsOk n) (hcfg : NameCfgOk st env n) :
    NameFieldOk st env n := by
  rcases hcfg with ⟨hso, heo, hrt⟩ | ⟨habs, hrel, hst⟩ | ⟨O, heo, hOabs, hOoct, hrel, hro, hst, hn⟩
  · exact ⟨n, by simp [chooseRelativity, hso], hw, ho, by simp [nameBack, heo, hrt, orOrigin, chooseRelativity]⟩
  · have hprint : chooseRelativity n st.origin st.relativize = .ok n := by
      rcases hst with h | h
      · simp [chooseRelativity, h]
      · rw [h]; exact chooseRelativity_false_abs n _ habs
    refine ⟨n, hprint, hw, ho, ?_⟩
    unfold nameBack
    have hp : (match env.origin with
        | none => (Except.ok n : Except NameErr Name)
        | some o => if isAbs n then .ok n else validate (n ++ o)) = .ok n := by
      cases env.origin <;> simp [habs]
    simp only [hp, hrel, chooseRelativity_false_abs n _ habs]
  · have hOne : O ≠ [] := NameOrder.ne_nil_of_isAbs hOabs
    -- relativizing against O gives n back in every case that can arise
    have hrelO : ∀ q, (q = n ∨ (isAbs n = false ∧ q = n ++ O)) → relativize q O = .ok n := by
      intro q hq
      rcases hq with rfl | ⟨hnr, rfl⟩
      · rcases hn with ⟨hnr, _⟩ | ⟨_, hns⟩
        · -- a relative name is not below an absolute one
          have hsub : isSubdomain q O = false := Bool.eq_false_iff.mpr fun h => by
            have := ((NameOrder.isSubdomain_iff q O).1 h).1
            rw [hnr, hOabs] at this
            cases this
          simp [relativize, hsub]
        · simp [relativize, hns]
      · rcases hn with ⟨_, hwf⟩ | ⟨hna, _⟩
        · have hd : derelativize n O = .ok (n ++ O) := by
            rw [derelativize_of_rel hnr, validate_of_wf _ hwf]
          exact (NameOrder.derel_rel n O (n ++ O) hw hnr hOabs hd).2
        · rw [hna] at hnr; cases hnr
    -- the printed name
    have hprint : ∃ m, chooseRelativity n st.origin st.relativize = .ok m ∧ (m = n ∨ (isAbs n = false ∧ m = n ++ O)) := by
      rcases hst with h | h
      · exact ⟨n, by simp [chooseRelativity, h], Or.inl rfl⟩
      · rw [h]
        unfold chooseRelativity
        simp only [hOne, if_false]
        cases st.relativize with
        | true => exact ⟨n, hrelO n (Or.inl rfl), Or.inl rfl⟩
        | false =>
          rcases hn with ⟨hnr, hwf⟩ | ⟨hna, _⟩
          · exact ⟨n ++ O, by simp [derelativize_of_rel hnr, validate_of_wf _ hwf], Or.inr ⟨hnr, rfl⟩⟩
          · exact ⟨n, by simp [derelativize_of_abs hna O], Or.inl rfl⟩
    obtain ⟨m, hm, hmcase⟩ := hprint
    have hmw : WfName m ∧ OctetsOk m := by
      rcases hmcase with rfl | ⟨hnr, rfl⟩
      · exact ⟨hw, ho⟩
      · rcases hn with ⟨_, hwf⟩ | ⟨hna, _⟩
        · exact ⟨hwf, octetsOk_append n O ho hOoct⟩
        · rw [hna] at hnr; cases hnr
    refine ⟨m, hm, hmw.1, hmw.2, ?_⟩
    unfold nameBack
    simp only [heo, hro, hrel]
    -- `from_text` yields q = m (absolute) or m ++ O (relative m = n)
    have hq : ∃ q, (if isAbs m then (Except.ok m : Except NameErr Name) else validate (m ++ O)) = .ok q ∧
        (q = n ∨ (isAbs n = false ∧ q = n ++ O)) := by
      rcases hmcase with rfl | ⟨hnr, rfl⟩
      · rcases hn with ⟨hnr, hwf⟩ | ⟨hna, _⟩
        · exact ⟨m ++ O, by simp [hnr, validate_of_wf _ hwf], Or.inr ⟨hnr, rfl⟩⟩
        · exact ⟨m, by simp [hna], Or.inl rfl⟩
      · have : isAbs (n ++ O) = true := NameOrder.isAbs_append_abs hOabs n
        exact ⟨n ++ O, by simp [this], Or.inr ⟨hnr, rfl⟩⟩
    obtain ⟨q, hq1, hq2⟩ := hq
    simp only [hq1]
    unfold chooseRelativity
    simp only [hOne, if_false, if_true, hrelO q hq2]

end Model
