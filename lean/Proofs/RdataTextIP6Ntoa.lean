import Proofs.RdataTextBlob
/-! What `inet_ntoa` prints (C05): the sixteen octets are eight groups, each written as a chunk of one to four hex digits
(`chunkOf`, which `pad4` undoes); the search for the run of zero groups that `::` replaces returns a run of zero groups (a
loop invariant); the printer itself with its `let`s in a form that can be rewritten (`ntoa_unfold`). -/
namespace Model

theorem hexDigitLower_eq48 (d : Nat) (h : d < 16) : hexDigitLower d = 48 ↔ d = 0 := by
  revert d; decide

/-- a chunk as printed by `inet_ntoa`: 1–4 lower-case hex digits -/
def HexChunk (c : List Nat) : Prop := c ≠ [] ∧ c.length ≤ 4 ∧ ∀ x ∈ c, isHexL x = true

/-- `_leading_zero` takes zeros off the front and leaves at least one character -/
theorem stripLead0_spec (q : List Nat) :
    (∃ k, q = List.replicate k 48 ++ stripLead0 q) ∧ (q ≠ [] → stripLead0 q ≠ []) := by
  fun_induction stripLead0 q with
  | case1 c rest ih =>
    obtain ⟨⟨k, h1⟩, h2⟩ := ih
    exact ⟨⟨k + 1, by rw [List.replicate_succ, List.cons_append, ← h1]⟩, fun _ => h2 (by simp)⟩
  | case2 s hs => exact ⟨⟨0, rfl⟩, id⟩

def chunkOf (g : Nat) : List Nat := stripLead0 (hex4 g)

theorem chunkOf_spec (g : Nat) (hg : g < 65536) :
    HexChunk (chunkOf g) ∧ pad4 (chunkOf g) = hex4 g ∧ (chunkOf g = [48] ↔ g = 0) := by
  obtain ⟨⟨k, hk⟩, hne⟩ := stripLead0_spec (hex4 g)
  have hlen : k + (chunkOf g).length = 4 := by
    have := congrArg List.length hk
    rw [List.length_append, List.length_replicate] at this
    exact this.symm
  have hmem : ∀ x ∈ chunkOf g, x ∈ hex4 g := fun x hx => by rw [hk]; exact List.mem_append_right _ hx
  refine ⟨⟨hne (by simp [hex4]), by omega, fun x hx => ?_⟩, ?_, ?_, ?_⟩
  · have := hmem x hx
    simp [hex4] at this
    rcases this with e | e | e | e <;> subst e <;> exact hexDigitLower_isHexL _ (by omega)
  · rw [pad4, show 4 - (chunkOf g).length = k by omega]; exact hk.symm
  · intro h
    -- then all four digits are zeros
    have h48 : ∀ x ∈ hex4 g, x = 48 := fun x hx => by
      rw [hk, show stripLead0 (hex4 g) = [48] from h] at hx
      simp only [List.mem_append, List.mem_replicate, List.mem_singleton] at hx
      exact hx.elim (·.2) id
    simp only [hex4, List.mem_cons, List.mem_nil_iff, or_false, forall_eq_or_imp, forall_eq] at h48
    rw [hexDigitLower_eq48 _ (by omega), hexDigitLower_eq48 _ (by omega), hexDigitLower_eq48 _ (by omega),
      hexDigitLower_eq48 _ (by omega)] at h48
    omega
  · rintro rfl; decide

theorem hexChunk_no (c : List Nat) (h : HexChunk c) (x : Nat) (hx : isHexL x = false) : x ∉ c := by
  intro hm
  have := h.2.2 x hm
  rw [hx] at this; exact Bool.noConfusion this

theorem unhexlify_hex4 (g : Nat) (hg : g < 65536) (rest : List Nat) :
    unhexlify (hex4 g ++ rest) = (unhexlify rest).map ([g / 256, g % 256] ++ ·) := by
  simp only [hex4, List.cons_append, List.nil_append, unhexlify]
  rw [hexDigitVal_lower _ (by omega), hexDigitVal_lower _ (by omega), hexDigitVal_lower _ (by omega),
    hexDigitVal_lower _ (by omega)]
  cases unhexlify rest with
  | none => rfl
  | some r =>
    simp
    omega

def bytesOfGroups (gs : List Nat) : Bytes := gs.flatMap fun g => [g / 256, g % 256]

theorem unhexlify_groups (gs : List Nat) (h : ∀ g ∈ gs, g < 65536) :
    unhexlify ((gs.map hex4).flatten) = some (bytesOfGroups gs) := by
  induction gs with
  | nil => rfl
  | cons g rest ih =>
    simp only [List.map_cons, List.flatten_cons]
    rw [unhexlify_hex4 g (h g (by simp)), ih (fun x hx => h x (by simp [hx]))]
    simp [bytesOfGroups]

/-- `2 * n` octets are `n` groups -/
theorem groupsOf_spec (n : Nat) (a : Bytes) (hl : a.length = 2 * n) (ha : ∀ x ∈ a, x < 256) :
    (∀ g ∈ groupsOf a, g < 65536) ∧ bytesOfGroups (groupsOf a) = a ∧ (groupsOf a).length = n := by
  induction n generalizing a with
  | zero => obtain rfl := List.eq_nil_of_length_eq_zero hl; exact ⟨nofun, rfl, rfl⟩
  | succ n ih =>
    match a, hl with
    | [], hl => simp at hl
    | [_], hl => simp at hl; omega
    | x :: y :: rest, hl =>
      have hx := ha x (by simp)
      have hy := ha y (by simp)
      obtain ⟨i1, i2, i3⟩ := ih rest (by simp at hl; omega) fun z hz => ha z (by simp [hz])
      refine ⟨?_, ?_, by simp [groupsOf, i3]⟩
      · intro g hg
        rcases List.mem_cons.mp hg with rfl | e
        · omega
        · exact i1 g e
      · rw [groupsOf, bytesOfGroups, List.flatMap_cons, ← bytesOfGroups, i2]
        simp; omega

theorem bytesOfGroups_length (gs : List Nat) : (bytesOfGroups gs).length = 2 * gs.length := by
  induction gs with
  | nil => rfl
  | cons g r ih => simp only [bytesOfGroups, List.flatMap_cons] at ih ⊢; simp [ih]; omega

theorem chunkOf_inj {g h : Nat} (hg : g < 65536) (hh : h < 65536) (e : chunkOf g = chunkOf h) : g = h := by
  have a := unhexlify_hex4 g hg []
  rw [← (chunkOf_spec g hg).2.1, e, (chunkOf_spec h hh).2.1, unhexlify_hex4 h hh []] at a
  simp [unhexlify] at a
  omega

/-- the flags at positions `s … e - 1` are all set -/
def ZeroRun (zs : List Bool) (s e : Nat) : Prop := ∀ k, s ≤ k → k < e → zs[k]? = some true

/-- what the search knows when it has seen the flags before position `i`: the best run so far and the run in progress
are runs of zero groups that end at or before `i` -/
structure RunInv (zs : List Bool) (i : Nat) (st : RunSt) : Prop where
  best : st.bestStart + st.bestLen ≤ i ∧ ZeroRun zs st.bestStart (st.bestStart + st.bestLen)
  cur : st.lastZero = true → st.start ≤ i ∧ ZeroRun zs st.start i

theorem RunInv.close {zs : List Bool} {i : Nat} {st : RunSt} (h : RunInv zs i st) (hz : st.lastZero = true) :
    RunInv zs i (runClose st i) := by
  obtain ⟨hs, hc⟩ := h.cur hz
  unfold runClose
  dsimp only
  split
  · exact ⟨⟨Nat.le_of_eq (Nat.add_sub_cancel' hs), fun k h1 h2 => hc k h1 (by dsimp only at h2; omega)⟩, h.cur⟩
  · exact h

theorem RunInv.step {zs : List Bool} {i : Nat} {st : RunSt} {z : Bool} (h : RunInv zs i st) (hz : zs[i]? = some z) :
    RunInv zs (i + 1) (runStep st i z) := by
  -- a state whose best run is sound at `i` is sound at `i + 1` once its run in progress is known to reach `i`
  have next : ∀ {st'}, RunInv zs i st' → (st'.lastZero = true → ZeroRun zs st'.start (i + 1)) → RunInv zs (i + 1) st' :=
    fun h' hl => ⟨⟨Nat.le_succ_of_le h'.best.1, h'.best.2⟩, fun e => ⟨Nat.le_succ_of_le (h'.cur e).1, hl e⟩⟩
  unfold runStep
  cases z <;> cases hl : st.lastZero <;> simp only [Bool.not_true, Bool.not_false, Bool.false_eq_true, if_true, if_false]
  · exact next h fun e => by simp [hl] at e
  · exact next ⟨(h.close hl).best, fun e => by simp at e⟩ fun e => by simp at e
  · refine ⟨⟨Nat.le_succ_of_le h.best.1, h.best.2⟩, fun _ => ⟨Nat.le_succ i, fun k h1 h2 => ?_⟩⟩
    obtain rfl : k = i := Nat.le_antisymm (Nat.le_of_lt_succ h2) h1
    exact hz
  · refine next h fun _ k h1 h2 => ?_
    rcases Nat.lt_or_eq_of_le (Nat.le_of_lt_succ h2) with h3 | rfl
    · exact (h.cur hl).2 k h1 h3
    · exact hz

theorem RunInv.loop {zs : List Bool} (rest : List Bool) {i : Nat} {st : RunSt} (h : RunInv zs i st)
    (hd : zs.drop i = rest) : RunInv zs (i + rest.length) (runLoop st i rest) := by
  induction rest generalizing i st with
  | nil => exact h
  | cons z r ih =>
    have hz : zs[i]? = some z := by
      have := congrArg (·[0]?) hd
      rwa [List.getElem?_drop] at this
    have := ih (h.step hz) (by rw [← List.drop_drop, hd]; rfl)
    rwa [List.length_cons, Nat.add_comm r.length, ← Nat.add_assoc]

/-- the run that `inet_ntoa` replaces by `::` lies inside the eight groups and consists of zero groups.  (That it is the
longest such run is not needed: `inet_aton` reads any run back.) -/
theorem bestRun_spec (zs : List Bool) (h8 : zs.length = 8) :
    (bestRun zs).1 + (bestRun zs).2 ≤ 8 ∧ ZeroRun zs (bestRun zs).1 ((bestRun zs).1 + (bestRun zs).2) := by
  have h : RunInv zs (0 + zs.length) (runLoop ⟨0, 0, 0, false⟩ 0 zs) :=
    RunInv.loop zs ⟨⟨Nat.le_refl _, fun k h1 h2 => absurd h2 (Nat.not_lt.mpr h1)⟩, fun e => by simp at e⟩ rfl
  rw [Nat.zero_add, h8] at h
  unfold bestRun
  dsimp only
  split
  · rename_i hl; exact (h.close hl).best
  · exact h.best

theorem run_zero (gs : List Nat) (hlen : gs.length = 8) (hg : ∀ g ∈ gs, g < 65536) (bs bl : Nat)
    (hr : bestRun ((gs.map chunkOf).map fun c => c == [48]) = (bs, bl)) :
    bs + bl ≤ 8 ∧ gs = gs.take bs ++ (List.replicate bl 0 ++ gs.drop (bs + bl)) := by
  have hs := bestRun_spec ((gs.map chunkOf).map fun c => c == [48]) (by simp [hlen])
  rw [hr] at hs
  obtain ⟨hle, hall⟩ := hs
  refine ⟨hle, ?_⟩
  have hmid : (gs.drop bs).take bl = List.replicate bl 0 := by
    apply List.ext_getElem
    · simp; omega
    · intro i h1 h2
      have hi : i < bl := by simpa using h2
      have hk : bs + i < gs.length := by omega
      have := hall (bs + i) (Nat.le_add_right _ _) (Nat.add_lt_add_left hi _)
      simp only [List.map_map, List.getElem?_map, List.getElem?_eq_getElem hk, Option.map_some, Function.comp_apply,
        Option.some.injEq, beq_iff_eq] at this
      simpa using (chunkOf_spec _ (hg _ (List.getElem_mem hk))).2.2.mp this
  conv => lhs; rw [← List.take_append_drop bs gs, ← List.take_append_drop bl (gs.drop bs), hmid, List.drop_drop]

theorem list8 {α : Type} (l : List α) (h : l.length = 8) : ∃ x0 x1 x2 x3 x4 x5 x6 x7, l = [x0, x1, x2, x3, x4, x5, x6, x7] :=
  match l, h with
  | [x0, x1, x2, x3, x4, x5, x6, x7], _ => ⟨x0, x1, x2, x3, x4, x5, x6, x7, rfl⟩

theorem list4 {α : Type} (l : List α) (h : l.length = 4) : ∃ x0 x1 x2 x3, l = [x0, x1, x2, x3] :=
  match l, h with
  | [x0, x1, x2, x3], _ => ⟨x0, x1, x2, x3, rfl⟩

theorem ntoa_unfold (a : Bytes) (hlen : a.length = 16) :
    ip6Ntoa a =
      (let chunks := (groupsOf a).map chunkOf
       let r := bestRun (chunks.map fun c => c == [48])
       if r.2 > 1 then
         if r.1 = 0 ∧ (r.2 = 6 ∨ (r.2 = 5 ∧ chunks[5]? = some [102, 102, 102, 102])) then
           match ip4Ntoa (a.drop 12) with
           | some v4 => some ((if r.2 = 6 then [58, 58] else [58, 58, 102, 102, 102, 102, 58]) ++ v4)
           | none => none
         else some (joinWith 58 (chunks.take r.1) ++ [58, 58] ++ joinWith 58 (chunks.drop (r.1 + r.2)))
       else some (joinWith 58 chunks)) := by
  unfold ip6Ntoa
  simp only [hlen, ne_eq, not_true_eq_false, if_false]
  rfl

end Model
