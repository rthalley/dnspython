import Model.ZoneFile
/-!
What `Zone.to_styled_file` writes, as a pure function of the style (`writtenText`): the optional `$ORIGIN` and `$TTL`
lines, then one line `owner-field ttl-field class-field type-field SP rdata [;comment]` per record of the flattened zone
(`zoneRecs`), where the owner field is blank for every record of a node but the first when names are de-duplicated.
The model threads that through two flags and three loops; `nodeLines_recs` shows the flat description right.
-/
namespace Model

/-- lines joined by newlines and closed by one are the lines each closed by a newline -/
theorem joinWith_nl (ls : List (List Nat)) (h : ls ≠ []) : joinWith [10] ls ++ [10] = ls.flatMap (· ++ [10]) := by
  induction ls with
  | nil => exact absurd rfl h
  | cons a r ih =>
    cases r with
    | nil => simp [joinWith]
    | cons b r' =>
      rw [joinWith, List.append_assoc, List.append_assoc, ih (by simp)]
      · simp
      · nofun

theorem mapM_ok_of_forall {α β ε} (f : α → Except ε β) (g : α → β) (l : List α) (h : ∀ a ∈ l, f a = .ok (g a)) :
    l.mapM f = .ok (l.map g) := by
  induction l with
  | nil => rfl
  | cons a r ih =>
    simp only [List.mapM_cons, bind, Except.bind, h a (by simp), ih (fun x hx => h x (by simp [hx])), pure, Except.pure,
      List.map_cons]

/-- the order in which the names are written -/
def writeOrder (b : Bool) (z : ZoneMap) : ZoneMap := if b then sortNames z else z

/-- `rd.to_generic(style.origin).to_styled_text(style)` or `rd.to_styled_text(style)` -/
def recordText (st : Style) (rd : Rdata) : Except NameErr (List Nat) :=
  if st.wantGeneric then do
    let w ← rdataToWire (if st.genFix ≥ 1 then st.origin else none) rd
    rdataToText st.toRdStyle (.generic w)
  else rdataToText st.toRdStyle rd

def nameFieldE (st : Style) (ow : List Nat) : List Nat := justify (ow ++ [32]) st.nameJust
def dupField (st : Style) : List Nat := justify (s2l "    ") st.nameJust
def ttlBody (st : Style) (ttl : Nat) : List Nat :=
  if st.omitTTL ∨ st.defaultTTL = some ttl then [] else natToDec ttl ++ [32]
def ttlField (st : Style) (ttl : Nat) : List Nat := justify (ttlBody st ttl) st.ttlJust
def classTok (st : Style) : List Nat := if st.wantGeneric then s2l "CLASS" ++ natToDec 1 else classToText 1
def classBody (st : Style) : List Nat := if st.omitClass then [] else classTok st ++ [32]
def classField (st : Style) : List Nat := justify (classBody st) st.classJust
def typeTok (st : Style) (ty : Nat) : List Nat := if st.wantGeneric then s2l "TYPE" ++ natToDec ty else typeToText ty
def typeField (st : Style) (ty : Nat) : List Nat := justify (typeTok st ty) st.typeJust
def extraOf (st : Style) (rr : RR) : List Nat :=
  if st.wantComments then (match rr.comment with | some c => if c = [] then [] else [32, 59] ++ c | none => []) else []

/-- one record line (without the newline) -/
def lineW (st : Style) (nt : List Nat) (ttl ty : Nat) (rtext extra : List Nat) : List Nat :=
  nt ++ ttlField st ttl ++ classField st ++ typeField st ty ++ [32] ++ rtext ++ extra

theorem classField_eq (st : Style) :
    justify (if st.omitClass = true then [] else if st.wantGeneric = true then s2l "CLASS" ++ natToDec 1 ++ [32]
      else classToText 1 ++ [32]) st.classJust = classField st := by
  unfold classField classBody classTok
  cases st.omitClass <;> cases st.wantGeneric <;> simp

theorem go_cons (st : Style) (clsT tyT ttlT dup nt : List Nat) (rr : RR) (rest : List RR) :
    rdatasetLines.go st clsT tyT ttlT dup nt (rr :: rest) =
      (recordText st rr.rd >>= fun rtext =>
        rdatasetLines.go st clsT tyT ttlT dup (if st.dedup then dup else nt) rest >>= fun more =>
          pure ((nt ++ ttlT ++ clsT ++ tyT ++ [32] ++ rtext ++ extraOf st rr) :: more)) := by
  rw [rdatasetLines.go, recordText]
  cases st.wantGeneric
  · rfl
  · simp only [if_true, bind, Except.bind]
    cases rdataToWire (if st.genFix ≥ 1 then st.origin else none) rr.rd <;> rfl

/-- `Zone.to_styled_file` supplies the zone's origin to a generic-syntax style that has none (repair of D08) -/
def adjustStyle (st : Style) (origin : Option Name) (zrel : Bool) : Style :=
  if st.genFix ≥ 2 ∧ st.wantGeneric ∧ st.origin.isNone ∧ origin.isSome then
    { st with origin := origin, relativize := zrel }
  else st

def originLine (zo : Name) : List Nat := s2l "$ORIGIN " ++ toText zo
def ttlLine (v : Nat) : List Nat := s2l "$TTL " ++ natToDec v

/-- the directive lines asked for, each closed by its newline -/
def headerText (st : Style) (zo : Name) : List Nat :=
  (if st.wantOrigin then originLine zo ++ [10] else []) ++
  (match st.defaultTTL with | some v => ttlLine v ++ [10] | none => [])

/-- one record as `Zone.to_styled_file` prints it: its owner, whether the owner column is left blank, TTL, type, record -/
structure WRec where
  name : Name
  dup : Bool
  ttl : Nat
  rdtype : Nat
  rr : RR

theorem modifyHead_append {α : Type} (f : α → α) (a b : List α) (h : a ≠ []) :
    (a ++ b).modifyHead f = a.modifyHead f ++ b := by
  cases a with
  | nil => exact absurd rfl h
  | cons x l => rfl

/-- the records of a node in the order written: with `deduplicate_names` the owner column is blank for every record
but the first, whose column is blank only under `first_name_is_duplicate` -/
def nodeRecs (st : Style) (name : Name) (nd : Node) : List WRec :=
  List.modifyHead (fun x => { x with dup := st.dedup && st.firstNameIsDuplicate })
    (nd.flatMap fun rds => rds.rrs.map fun rr => ⟨name, st.dedup, rds.ttl, rds.rdtype, rr⟩)

def zoneRecs (st : Style) (w : ZoneMap) : List WRec := w.flatMap fun p => nodeRecs st p.1 p.2

/-- the line of a record (without the newline) -/
def recLine (st : Style) (owOf : Name → List Nat) (rtextOf : RR → List Nat) (x : WRec) : List Nat :=
  lineW st (if x.dup then dupField st else nameFieldE st (owOf x.name)) x.ttl x.rdtype (rtextOf x.rr) (extraOf st x.rr)

/-- the text written: the `$ORIGIN` and `$TTL` lines asked for, then one line per record -/
def writtenText (st : Style) (zo : Name) (w : ZoneMap) (owOf : Name → List Nat) (rtextOf : RR → List Nat) : List Nat :=
  headerText st zo ++ (zoneRecs st w).flatMap fun x => recLine st owOf rtextOf x ++ [10]

theorem go_recs (st : Style) (name : Name) (owOf : Name → List Nat) (ttl ty : Nat) (rtextOf : RR → List Nat) (b : Bool)
    (hb : b = true → st.dedup = true)
    (rrs : List RR) (htext : ∀ rr ∈ rrs, recordText st rr.rd = .ok (rtextOf rr)) :
    rdatasetLines.go st (classField st) (typeField st ty) (ttlField st ttl) (dupField st)
        (if b then dupField st else nameFieldE st (owOf name)) rrs =
      .ok ((List.modifyHead (fun x => { x with dup := b }) (rrs.map fun rr => ⟨name, st.dedup, ttl, ty, rr⟩)).map
        (recLine st owOf rtextOf)) := by
  induction rrs generalizing b with
  | nil => rfl
  | cons rr rest ih =>
    -- the owner column of the next line: blank under `deduplicate_names`, else what it was, the name
    have hnext : (if st.dedup = true then dupField st else (if b = true then dupField st else nameFieldE st (owOf name))) =
        if st.dedup = true then dupField st else nameFieldE st (owOf name) := by
      cases hd : st.dedup
      · cases b
        · rfl
        · cases hd ▸ hb rfl
      · rfl
    rw [go_cons, htext rr (by simp), hnext, ih st.dedup id (fun x hx => htext x (by simp [hx]))]
    cases rest <;> rfl

theorem rdatasetLines_recs (st : Style) (name : Name) (rds : Rdataset) (owOf : Name → List Nat) (rtextOf : RR → List Nat)
    (hname : nameToStyledText st.toNameStyle name = .ok (owOf name))
    (htext : ∀ rr ∈ rds.rrs, recordText st rr.rd = .ok (rtextOf rr)) :
    rdatasetLines st name rds =
      .ok ((List.modifyHead (fun x => { x with dup := st.dedup && st.firstNameIsDuplicate })
        (rds.rrs.map fun rr => ⟨name, st.dedup, rds.ttl, rds.rdtype, rr⟩)).map (recLine st owOf rtextOf)) := by
  have := go_recs st name owOf rds.ttl rds.rdtype rtextOf (st.dedup && st.firstNameIsDuplicate)
    (fun h => (Bool.and_eq_true_iff.mp h).1) rds.rrs htext
  rw [← this]
  unfold rdatasetLines
  simp only [classField_eq]
  by_cases hc : st.dedup = true ∧ st.firstNameIsDuplicate = true
  · simp only [hc, and_self, if_true, bind, Except.bind, pure, Except.pure, Bool.and_self]
    rfl
  · have hb : (st.dedup && st.firstNameIsDuplicate) = false := by
      cases h1 : st.dedup <;> cases h2 : st.firstNameIsDuplicate <;> simp_all
    simp only [hc, if_false, bind, Except.bind, hname, pure, Except.pure, hb, Bool.false_eq_true]
    rfl

theorem modifyHead_eq_self {α : Type} (f : α → α) (l : List α) (h : ∀ x ∈ l.head?, f x = x) : l.modifyHead f = l := by
  cases l with
  | nil => rfl
  | cons a l => rw [List.modifyHead_cons, h a rfl]

/-- the records of a node that does not start a fresh owner column -/
theorem nodeRecs_of_dup (st : Style) (name : Name) (nd : Node) (h : st.dedup = true → st.firstNameIsDuplicate = true) :
    nodeRecs st name nd = nd.flatMap fun rds => rds.rrs.map fun rr => ⟨name, st.dedup, rds.ttl, rds.rdtype, rr⟩ := by
  have hb : (st.dedup && st.firstNameIsDuplicate) = st.dedup := by
    cases hd : st.dedup
    · rfl
    · rw [h hd]; rfl
  refine modifyHead_eq_self _ _ fun x hx => ?_
  obtain ⟨rds, _, hx⟩ := List.mem_flatMap.mp (List.mem_of_mem_head? hx)
  obtain ⟨rr, _, rfl⟩ := List.mem_map.mp hx
  rw [hb]

theorem nodeLines_recs (st : Style) (name : Name) (nd : Node) (owOf : Name → List Nat) (rtextOf : RR → List Nat)
    (hname : nameToStyledText st.toNameStyle name = .ok (owOf name))
    (htext : ∀ rds ∈ nd, ∀ rr ∈ rds.rrs, recordText st rr.rd = .ok (rtextOf rr)) :
    nodeLines st name nd = .ok ((nodeRecs st name nd).map (recLine st owOf rtextOf)) := by
  induction nd generalizing st with
  | nil => rfl
  | cons rds rest ih =>
    have ih' := fun (st' : Style) (h1 : nameToStyledText st'.toNameStyle name = .ok (owOf name))
        (h2 : ∀ r ∈ rds :: rest, ∀ rr ∈ r.rrs, recordText st' rr.rd = .ok (rtextOf rr)) =>
      ih st' h1 (fun r hr => h2 r (List.mem_cons_of_mem _ hr))
    by_cases h1 : rds.rrs = []
    · -- an empty rdataset prints nothing and leaves `first_name_is_duplicate` alone
      simp only [nodeLines, h1, if_true, ih' st hname htext, nodeRecs, List.flatMap_cons, List.map_nil, List.nil_append]
    · -- after the first line of the node every owner column is the blank one or, without `deduplicate_names`, the name
      have hrest : nodeLines (if st.dedup = true ∧ (!st.firstNameIsDuplicate) = true then
            { st with firstNameIsDuplicate := true } else st) name rest =
          .ok ((rest.flatMap fun rds => rds.rrs.map fun rr => (⟨name, st.dedup, rds.ttl, rds.rdtype, rr⟩ : WRec)).map
            (recLine st owOf rtextOf)) := by
        split
        · rw [ih' { st with firstNameIsDuplicate := true } hname htext, nodeRecs_of_dup _ _ _ (fun _ => rfl)]
          rfl
        · rename_i hc
          rw [ih' st hname htext, nodeRecs_of_dup _ _ _ (fun hd => by simpa [hd] using hc)]
      simp only [nodeLines, h1, if_false, bind, Except.bind, hrest,
        rdatasetLines_recs st name rds owOf rtextOf hname (htext rds (by simp)), pure, Except.pure, nodeRecs,
        List.flatMap_cons, ← List.map_append]
      rw [modifyHead_append _ _ _ (by simpa using h1)]

/-- what does not look at the owner column is the same for every record of the node -/
theorem nodeRecs_map {β : Type} (st : Style) (name : Name) (nd : Node) (g : WRec → β)
    (hg : ∀ x b, g { x with dup := b } = g x) :
    (nodeRecs st name nd).map g = nd.flatMap fun rds => rds.rrs.map fun rr => g ⟨name, st.dedup, rds.ttl, rds.rdtype, rr⟩ := by
  unfold nodeRecs
  have : ∀ l : List WRec, (List.modifyHead (fun x => { x with dup := st.dedup && st.firstNameIsDuplicate }) l).map g = l.map g := by
    intro l; cases l with
    | nil => rfl
    | cons a l => simp only [List.modifyHead_cons, List.map_cons, hg]
  simp only [this, List.map_flatMap, List.map_map]
  rfl

theorem mem_nodeRecs {st : Style} {name : Name} {nd : Node} {x : WRec} (h : x ∈ nodeRecs st name nd) :
    x.name = name ∧ ∃ rds ∈ nd, x.ttl = rds.ttl ∧ x.rdtype = rds.rdtype ∧ x.rr ∈ rds.rrs := by
  have := List.mem_map_of_mem (f := fun x : WRec => (x.name, x.ttl, x.rdtype, x.rr)) h
  rw [nodeRecs_map _ _ _ _ (fun _ _ => rfl)] at this
  obtain ⟨rds, hr, hx⟩ := List.mem_flatMap.mp this
  obtain ⟨rr, hrr, e⟩ := List.mem_map.mp hx
  obtain ⟨_, _, _, _, _⟩ := x
  cases e
  exact ⟨rfl, rds, hr, rfl, rfl, hrr⟩

theorem nodeRecs_head (st : Style) (name : Name) (nd : Node) :
    ∀ x ∈ (nodeRecs st name nd).head?, x.dup = (st.dedup && st.firstNameIsDuplicate) := by
  unfold nodeRecs
  cases nd.flatMap fun rds => rds.rrs.map fun rr => (⟨name, st.dedup, rds.ttl, rds.rdtype, rr⟩ : WRec) with
  | nil => nofun
  | cons a l => intro x hx; cases hx; rfl

theorem nodeRecs_ne (st : Style) (name : Name) (nd : Node) (h1 : nd ≠ []) (h2 : ∀ rds ∈ nd, rds.rrs ≠ []) :
    nodeRecs st name nd ≠ [] := by
  obtain ⟨rds, rest, rfl⟩ := List.exists_cons_of_ne_nil h1
  obtain ⟨rr, rrs, hr⟩ := List.exists_cons_of_ne_nil (h2 rds (by simp))
  simp [nodeRecs, hr]

/-- **what `Zone.to_styled_file` writes** (zone with a known origin) -/
theorem zoneToText_recs (st : Style) (zo : Name) (z : ZoneMap) (zrel : Bool) (owOf : Name → List Nat)
    (rtextOf : RR → List Nat)
    (hname : ∀ p ∈ writeOrder (adjustStyle st (some zo) zrel).sorted z,
      nameToStyledText (adjustStyle st (some zo) zrel).toNameStyle p.1 = .ok (owOf p.1))
    (hnd : ∀ p ∈ writeOrder (adjustStyle st (some zo) zrel).sorted z, p.2 ≠ [])
    (hne : ∀ p ∈ writeOrder (adjustStyle st (some zo) zrel).sorted z, ∀ rds ∈ p.2, rds.rrs ≠ [])
    (htext : ∀ p ∈ writeOrder (adjustStyle st (some zo) zrel).sorted z, ∀ rds ∈ p.2, ∀ rr ∈ rds.rrs,
      recordText (adjustStyle st (some zo) zrel) rr.rd = .ok (rtextOf rr)) :
    zoneToText st (some zo) z zrel =
      .ok (writtenText (adjustStyle st (some zo) zrel) zo (writeOrder (adjustStyle st (some zo) zrel).sorted z) owOf rtextOf) := by
  unfold zoneToText
  have hadj : (if st.genFix ≥ 2 ∧ st.wantGeneric = true ∧ st.origin.isNone = true ∧ (some zo).isSome = true then
      { st with origin := some zo, relativize := zrel } else st) = adjustStyle st (some zo) zrel := rfl
  simp only [hadj]
  generalize adjustStyle st (some zo) zrel = st' at *
  have hbody : (writeOrder st'.sorted z).mapM (fun p => (nodeLines st' p.1 p.2).bind fun ls => (pure (joinWith [10] ls) : Except NameErr (List Nat))) =
      .ok ((writeOrder st'.sorted z).map fun p => joinWith [10] ((nodeRecs st' p.1 p.2).map (recLine st' owOf rtextOf))) := by
    apply mapM_ok_of_forall
    intro p hp
    rw [nodeLines_recs st' p.1 p.2 owOf rtextOf (hname p hp) (htext p hp)]
    rfl
  have ho : nameToStyledText { origin := none, relativize := st'.relativize } zo = .ok (toText zo) := by
    simp [nameToStyledText, chooseRelativity]
  have hjoin : ∀ w : ZoneMap, (∀ p ∈ w, p.2 ≠ []) → (∀ p ∈ w, ∀ rds ∈ p.2, rds.rrs ≠ []) →
      (w.map fun p => joinWith [10] ((nodeRecs st' p.1 p.2).map (recLine st' owOf rtextOf))).flatMap (· ++ [10]) =
        (zoneRecs st' w).flatMap fun x => recLine st' owOf rtextOf x ++ [10] := by
    intro w h1 h2
    induction w with
    | nil => rfl
    | cons p rest ih =>
      simp only [List.map_cons, List.flatMap_cons, zoneRecs, List.flatMap_append]
      rw [joinWith_nl _ (by simpa using nodeRecs_ne st' p.1 p.2 (h1 p (by simp)) (h2 p (by simp))),
        List.flatMap_map, ih (fun q hq => h1 q (by simp [hq])) (fun q hq => h2 q (by simp [hq]))]
      rfl
  simp only [bind, Except.bind, pure, Except.pure, writeOrder, ho] at hbody ⊢
  rw [hbody]
  have := hjoin (writeOrder st'.sorted z) hnd hne
  simp only [writeOrder] at this
  simp only [writtenText, headerText, originLine, ttlLine, List.flatMap_append, ← this]
  cases st'.wantOrigin <;> cases st'.defaultTTL <;> simp

end Model
