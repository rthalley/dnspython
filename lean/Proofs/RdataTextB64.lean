import Proofs.RdataTextBlob
/-! The executable base64 codec of the model satisfies the contract the text layer needs (C05). -/
namespace Model

/-- the alphabet and its inverse, entry by entry -/
theorem b64Val_b64Char (v : Nat) (h : v < 64) : b64Val (b64Char v) = some v := by
  revert v; decide

theorem b64Char_range (v : Nat) :
    (65 ≤ b64Char v ∧ b64Char v ≤ 90) ∨ (97 ≤ b64Char v ∧ b64Char v ≤ 122) ∨ (48 ≤ b64Char v ∧ b64Char v ≤ 57) ∨
      b64Char v = 43 ∨ b64Char v = 47 := by
  unfold b64Char
  repeat' split
  all_goals omega

theorem b64Char_ne61 (v : Nat) : b64Char v ≠ 61 := by
  have := b64Char_range v; omega

theorem b64Char_plain (v : Nat) : isDelim (b64Char v) = false ∧ b64Char v ≠ 92 := by
  have := b64Char_range v
  simp [isDelim]; omega

theorem b64Decode_quad (x y z w : Nat) (rest : List Nat) (hz : z ≠ 61) (hw : w ≠ 61) :
    b64Decode (x :: y :: z :: w :: rest) =
      match b64Val x, b64Val y, b64Val z, b64Val w, b64Decode rest with
      | some a, some b, some c, some d, some r => some ((a * 4 + b / 16) :: (b % 16 * 16 + c / 4) :: (c % 4 * 64 + d) :: r)
      | _, _, _, _, _ => none := by
  rw [b64Decode.eq_def]
  split
  · rename_i h; simp at h
  · rename_i h; simp at h; exact absurd h.2.2.1 hz
  · rename_i h; simp at h; exact absurd h.2.2.2.1 hw
  · rename_i h; simp at h; obtain ⟨rfl, rfl, rfl, rfl, rfl⟩ := h; rfl
  · rename_i h1 h2 h3 h4; exact absurd rfl (h4 x y z w rest)

theorem b64Decode_pad1 (x y z : Nat) (hz : z ≠ 61) :
    b64Decode [x, y, z, 61] =
      match b64Val x, b64Val y, b64Val z with
      | some a, some b, some c => if c % 4 = 0 then some [a * 4 + b / 16, b % 16 * 16 + c / 4] else none
      | _, _, _ => none := by
  rw [b64Decode.eq_def]
  split
  · rename_i h; simp at h
  · rename_i h; simp at h; exact absurd h.2.2 hz
  · rename_i h; simp at h; obtain ⟨rfl, rfl, rfl⟩ := h; rfl
  · rename_i h; simp at h
    obtain ⟨rfl, rfl, rfl, rfl, rfl⟩ := h
    rename_i h2 h3
    exact (h2 rfl rfl).elim
  · rename_i h1 h2 h3 h4; exact absurd rfl (h4 x y z 61 [])

theorem b64_roundtrip (d : Bytes) (hd : ∀ x ∈ d, x < 256) : b64Decode (b64Encode d) = some d := by
  fun_induction b64Encode d with
  | case1 => rfl
  | case2 a =>
    have ha := hd a (by simp)
    have e : b64Decode [b64Char (a / 4), b64Char (a % 4 * 16), 61, 61] =
        match b64Val (b64Char (a / 4)), b64Val (b64Char (a % 4 * 16)) with
        | some x, some y => if y % 16 = 0 then some [x * 4 + y / 16] else none
        | _, _ => none := by
      rw [b64Decode.eq_def]; rfl
    rw [e, b64Val_b64Char _ (by omega), b64Val_b64Char _ (by omega)]
    simp; omega
  | case3 a b =>
    have ha := hd a (by simp)
    have hb := hd b (by simp)
    rw [b64Decode_pad1 _ _ _ (b64Char_ne61 _), b64Val_b64Char _ (by omega), b64Val_b64Char _ (by omega),
      b64Val_b64Char _ (by omega)]
    simp; omega
  | case4 a b c rest ih =>
    have ha := hd a (by simp)
    have hb := hd b (by simp)
    have hc := hd c (by simp)
    rw [b64Decode_quad _ _ _ _ _ (b64Char_ne61 _) (b64Char_ne61 _), b64Val_b64Char _ (by omega),
      b64Val_b64Char _ (by omega), b64Val_b64Char _ (by omega), b64Val_b64Char _ (by omega),
      ih (fun x hx => hd x (by simp [hx]))]
    simp; omega

theorem b64Encode_plain (d : Bytes) : Plain (b64Encode d) := by
  have h61 : isDelim 61 = false ∧ (61 : Nat) ≠ 92 := by decide
  have hnil : Plain [] := fun c hc => nomatch hc
  fun_induction b64Encode d with
  | case1 => exact hnil
  | case2 a => exact plain_cons (b64Char_plain _) (plain_cons (b64Char_plain _) (plain_cons h61 (plain_cons h61 hnil)))
  | case3 a b =>
    exact plain_cons (b64Char_plain _) (plain_cons (b64Char_plain _) (plain_cons (b64Char_plain _) (plain_cons h61 hnil)))
  | case4 a b c rest ih =>
    exact plain_cons (b64Char_plain _) (plain_cons (b64Char_plain _) (plain_cons (b64Char_plain _)
      (plain_cons (b64Char_plain _) ih)))

theorem b64Encode_eq_nil (d : Bytes) : b64Encode d = [] ↔ d = [] := by
  constructor
  · intro h
    match d, h with
    | [], _ => rfl
    | [_], h => simp [b64Encode] at h
    | [_, _], h => simp [b64Encode] at h
    | _ :: _ :: _ :: _, h => simp [b64Encode] at h
  · intro h; subst h; rfl

theorem b64_ok : BlobOk b64Codec := ⟨b64_roundtrip, fun d _ => b64Encode_plain d, b64Encode_eq_nil⟩

end Model
