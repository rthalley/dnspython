import Proofs.ResolverStep
/-!
The `resolve` loop: what holds of every state it reaches (`Wf`) and of the state it ends in (`WfEnd`: NXDOMAIN only
with evidence for every candidate, the clock within the lifetime), the induction principle for `run`, the potential
function behind termination, the number of queries, the cache keys touched.  A property of the loop is an invariant, a
lemma `step_X` (by cases on `Iter`) and a theorem `run_X`; the `run_X` are stated for any fuel, about a `res` with
`run env fuel (initOf env cache script) = res`, so that a caller names the loop it means and closes that hypothesis by
`rfl`.
-/
namespace Model.Resolver
open Model


theorem doQuery_dur_le (script : List ScriptStep) (t : Nat) : (doQuery script t).2.1 ≤ t := by
  unfold doQuery
  split
  · simp
  · split
    · split <;> simp <;> omega
    · simp


/-- a value of the back-off schedule: the first back-off, or what `next_nameserver` makes of one at a re-arming -/
inductive OnSchedule (bo : Backoff) : Nat → Prop
  | init : OnSchedule bo bo.init
  | next {b : Nat} : OnSchedule bo b → OnSchedule bo (min (b * bo.factor) bo.cap)

theorem OnSchedule.le_cap {bo : Backoff} {b : Nat} (h : OnSchedule bo b) (hcap : bo.init ≤ bo.cap) : b ≤ bo.cap := by
  cases h with
  | init => exact hcap
  | next => exact Nat.min_le_right ..

theorem OnSchedule.init_le {bo : Backoff} {b : Nat} (h : OnSchedule bo b) (hcap : bo.init ≤ bo.cap)
    (hfac : 1 ≤ bo.factor) : bo.init ≤ b := by
  induction h with
  | init => exact Nat.le_refl _
  | @next b _ ih =>
    have : b ≤ b * bo.factor := Nat.le_mul_of_pos_right b hfac
    rw [Nat.min_def]
    split <;> omega

/-- candidates not yet dealt with -/
def pending (st : St) : List Name :=
  match st.phase with
  | .needRequest => st.qnames
  | .querying => st.qname :: st.qnames

/-- what holds of every state the loop reaches, whatever the configuration: the clock is inside the lifetime, the
candidates already left behind all have NXDOMAIN evidence recorded, a pending TCP retry has its server, the mix of
nameservers is no larger than the configured list, the back-off is a value of the schedule -/
structure Wf (env : Env) (st : St) : Prop where
  start_le : env.start ≤ st.now
  le_end : st.now ≤ env.start + env.lifetime
  behind : ∃ done, env.qnamesToTry = done ++ pending st ∧ ∀ q ∈ done, covered st.nxNames q
  retry : st.phase = .querying → st.retryWithTcp = true → ∃ p, st.nameserver = some p
  mix : st.phase = .querying → st.nameservers.length ≤ env.cfg.servers.length
  sched : st.phase = .querying → OnSchedule env.bo st.backoff

/-- the state in which `Resolver.resolve` enters the loop -/
def initOf (env : Env) (cache : Cache) (script : List ScriptStep) : St :=
  initSt env.start cache script env.qnamesToTry

theorem Wf.init (env : Env) (cache : Cache) (script : List ScriptStep) : Wf env (initOf env cache script) :=
  ⟨Nat.le_refl _, Nat.le_add_right .., ⟨[], rfl, nofun⟩, nofun, nofun, nofun⟩

theorem Wf.qname_mem {env : Env} {st : St} (hwf : Wf env st) (hph : st.phase = .querying) :
    st.qname ∈ env.qnamesToTry := by
  obtain ⟨done, hd, _⟩ := hwf.behind
  simp [hd, pending, hph]

theorem Wf.qnames_mem {env : Env} {st : St} (hwf : Wf env st) (hph : st.phase = .needRequest) :
    ∀ q ∈ st.qnames, q ∈ env.qnamesToTry := by
  obtain ⟨done, hd, _⟩ := hwf.behind
  intro q hq
  simp [hd, pending, hph, hq]

/-- the back-off `next_nameserver` sleeps is none or the current one, and the next one is on the schedule again -/
theorem Picks.sched {env : Env} {st : St} {c : Choice} (hp : Picks env st c) (h : OnSchedule env.bo st.backoff) :
    OnSchedule env.bo c.backoff ∧ (c.sleep = 0 ∨ c.sleep = st.backoff) := by
  cases hp with
  | retry | next => exact ⟨h, Or.inl rfl⟩
  | rearm => exact ⟨h.next, Or.inr rfl⟩

/-- the clock when the reply of a query is in: the timeout was what is left of the lifetime at most, and nameservers
honour it -/
theorem reply_clock {env : Env} {now w t : Nat} {script : List ScriptStep} (hstart : env.start ≤ now) (hw : now ≤ w)
    (ht : computeTimeout env w = some t) : w + (doQuery script t).2.1 ≤ env.start + env.lifetime := by
  have hle := (computeTimeout_some ht).2.2 (Nat.le_trans hstart hw)
  have hq := doQuery_dur_le script t
  omega

/-- the back-off sleep ends at most one back-off beyond the lifetime (as shipped) or still inside it (clipped) -/
theorem sleepFor_le (env : Env) {b now : Nat} (hs : env.start ≤ now) (hle : now ≤ env.start + env.lifetime) :
    now + sleepFor env b now ≤ env.start + env.lifetime + (if env.clipSleep then 0 else b) := by
  unfold sleepFor
  split
  · rw [Nat.min_def]; split <;> omega
  · omega

/-- what holds when the loop ends: an NXDOMAIN result carries the whole candidate list, each name with evidence
recorded; the clock is inside the lifetime, except that the last back-off sleep, where it is not clipped, may end up
to one back-off (at most the cap) later -/
structure WfEnd (env : Env) (r : Result) (st : St) : Prop where
  nx : ∀ qs rs, r = .nxdomain qs rs → qs = env.qnamesToTry ∧ ∀ q ∈ env.qnamesToTry, covered rs q
  clock : env.bo.init ≤ env.bo.cap →
    st.now ≤ env.start + env.lifetime + (if env.clipSleep then 0 else env.bo.cap)

theorem step_wf (env : Env) (st : St) (hwf : Wf env st) :
    (step env st).sat (fun _ st' => Wf env st') (fun _ r st' => WfEnd env r st') := by
  refine step_sat fun res h => ?_
  obtain ⟨hstart, hend, ⟨done, hd1, hd2⟩, hretry, hmix, hsched⟩ := hwf
  have hclock : ∀ {now}, now ≤ env.start + env.lifetime → env.bo.init ≤ env.bo.cap →
      now ≤ env.start + env.lifetime + (if env.clipSleep then 0 else env.bo.cap) :=
    fun h _ => Nat.le_trans h (Nat.le_add_right ..)
  -- the candidates left behind stay covered when `next_request` passes over some more
  have hcov : ∀ l, ∀ q ∈ done ++ l, covered (l.foldl recordNx st.nxNames) q := fun l =>
    List.forall_mem_append.mpr ⟨fun q hq => covered_foldl_recordNx (Or.inl (hd2 q hq)),
      fun q hq => covered_foldl_recordNx (Or.inr hq)⟩
  cases h with
  | nxdomain hph =>
    simp only [pending, hph] at hd1
    refine ⟨?_, hclock hend⟩
    rintro _ _ ⟨⟩
    exact ⟨rfl, hd1 ▸ hcov _⟩
  | @request skipped _ _ hph hqs =>
    simp only [pending, hph] at hd1
    exact ⟨hstart, hend, ⟨done ++ skipped, by simp [pending, armed, hd1, hqs], hcov _⟩, nofun,
      fun _ => Nat.le_refl _, fun _ => .init⟩
  | @expired c w hph hp hw =>
    refine ⟨nofun, fun hcap => Nat.le_trans (hw ▸ sleepFor_le env hstart hend (b := c.sleep) : w ≤ _) ?_⟩
    have := (hsched hph).le_cap hcap
    rcases (hp.sched (hsched hph)).2 with h | h <;> rw [h] <;> split <;> omega
  | @reply c w t d hph hp hw ht hd =>
    simp only [pending, hph] at hd1
    have hend' := reply_clock (script := st.script) hstart (Nat.le.intro hw.symm) ht
    rw [← hd] at hend'
    have hstart' : env.start ≤ _ := Nat.le_trans hstart (Nat.le_trans (Nat.le.intro hw.symm) (Nat.le_add_right _ d.2.1))
    -- the candidate in progress stays in progress unless the reply is a validated NXDOMAIN, which is recorded
    have hsame : ∃ done', env.qnamesToTry = done' ++ st.qname :: st.qnames ∧ ∀ q ∈ done', covered st.nxNames q :=
      ⟨done, hd1, hd2⟩
    have hn := hmix hph
    have hs := (hp.sched (hsched hph)).1
    cases verdict .. <;> simp only [judge, leaves, StepR.sat]
    case accept => split <;> exact ⟨nofun, hclock hend'⟩
    case yxdomain => exact ⟨nofun, hclock hend'⟩
    case nxdomain =>
      exact ⟨hstart', hend', ⟨done ++ [st.qname], by simp [pending, hd1, St.asked], List.forall_mem_append.mpr
        ⟨fun q hq => covered_recordNx_mono _ _ _ (hd2 q hq),
          by simp only [List.mem_singleton, forall_eq]; exact covered_recordNx_self _ _⟩⟩, nofun, nofun, nofun⟩
    case broken =>
      exact ⟨hstart', hend', by simpa [pending, hph, St.asked] using hsame, nofun,
        fun _ => Nat.le_trans (List.length_erase_le ..) hn, fun _ => hs⟩
    case truncatedUdp =>
      exact ⟨hstart', hend', by simpa [pending, hph, St.asked] using hsame, fun _ _ => ⟨_, rfl⟩, fun _ => hn,
        fun _ => hs⟩
    case soft =>
      exact ⟨hstart', hend', by simpa [pending, hph, St.asked] using hsame, nofun, fun _ => hn, fun _ => hs⟩
  | _ => exact ⟨nofun, hclock hend⟩


theorem run_induct (env : Env) (Inv : Nat → List Event → St → Prop) (Post : List Event → Result → St → Prop)
    (hstep : ∀ n pre st, Wf env st → Inv (n + 1) pre st →
      (step env st).sat (fun evs => Inv n (pre ++ evs)) (fun evs => Post (pre ++ evs)))
    (hfuel : ∀ pre st, Wf env st → Inv 0 pre st → Post pre .outOfFuel st) :
    ∀ fuel st pre, Wf env st → Inv fuel pre st →
      Post (pre ++ (run env fuel st).1) (run env fuel st).2.1 (run env fuel st).2.2
  | 0, st, pre, hwf, hinv => by simpa [run] using hfuel pre st hwf hinv
  | fuel + 1, st, pre, hwf, hinv => by
    have hs := hstep fuel pre st hwf hinv
    have hw := step_wf env st hwf
    unfold run
    split <;> rename_i h <;> rw [h] at hs hw
    · exact hs
    · simpa [List.append_assoc] using run_induct env Inv Post hstep hfuel fuel _ _ hw hs

/-- for the loop as `Resolver.resolve` starts it, with whatever fuel: what an invariant of the iterations gives
unless the fuel runs out -/
theorem run_post (env : Env) {cache : Cache} {script : List ScriptStep} {fuel : Nat} {res : List Event × Result × St}
    (hres : run env fuel (initOf env cache script) = res) (Inv : List Event → St → Prop)
    (Post : List Event → Result → St → Prop)
    (hstep : ∀ pre st, Wf env st → Inv pre st →
      (step env st).sat (fun evs => Inv (pre ++ evs)) (fun evs => Post (pre ++ evs)))
    (hinit : Inv [] (initOf env cache script)) : res.2.1 = .outOfFuel ∨ Post res.1 res.2.1 res.2.2 :=
  hres ▸ run_induct env (fun _ => Inv) (fun evs r st => r = .outOfFuel ∨ Post evs r st)
    (fun _ pre st hw h => StepR.sat_imp (hstep pre st hw h) (fun _ _ => id) (fun _ _ _ => Or.inr))
    (fun _ _ _ _ => Or.inl rfl) fuel _ [] (Wf.init env cache script) hinit

theorem run_wf (env : Env) {cache : Cache} {script : List ScriptStep} {fuel : Nat} {res : List Event × Result × St}
    (hres : run env fuel (initOf env cache script) = res) : WfEnd env res.2.1 res.2.2 :=
  hres ▸ run_induct env (fun _ _ _ => True) (fun _ r st => WfEnd env r st)
    (fun _ _ st hw _ => StepR.sat_imp (step_wf env st hw) (fun _ _ _ => trivial) fun _ _ _ => id)
    (fun _ _ hw _ => ⟨nofun, fun _ => Nat.le_trans hw.le_end (Nat.le_add_right ..)⟩)
    fuel _ [] (Wf.init env cache script) trivial

/-- `Resolver.resolve` either refuses the request before any query (meta-query, bad candidate name) or is the loop -/
theorem resolve_cases (cfg : Config) (bo : Backoff) (clip : Bool) (maxChain : Nat) (req : Request) (now : Nat)
    (cache : Cache) (script : List ScriptStep) {P : List Event × Result × St → Prop}
    (refused : ∀ r, r ≠ .outOfFuel → P ([], r, initSt now cache script []))
    (loop : ∀ qnames, P (run (mkEnv cfg bo clip maxChain req now qnames)
      (fuelBound bo cfg.servers.length qnames.length (mkEnv cfg bo clip maxChain req now qnames).lifetime)
      (initOf (mkEnv cfg bo clip maxChain req now qnames) cache script))) :
    P (resolve cfg bo clip maxChain req now cache script) := by
  unfold resolve
  split
  · exact refused _ (by simp)
  · split
    · exact refused _ (by simp)
    · exact loop _


theorem roundsLeft_mono (bo : Backoff) (L e e' : Nat) (h : e ≤ e') : roundsLeft bo L e' ≤ roundsLeft bo L e := by
  unfold roundsLeft
  exact Nat.div_le_div_right (by omega)

theorem roundsLeft_dec (bo : Backoff) (L e e' : Nat) (hpos : 0 < bo.init) (h : e + bo.init ≤ e') (hlt : e' < L) :
    roundsLeft bo L e' + 1 ≤ roundsLeft bo L e := by
  unfold roundsLeft
  rw [← Nat.add_div_right _ hpos]
  exact Nat.div_le_div_right (by omega)

/-- the share of the current round in the potential: two per server left in this round, one for a pending TCP retry -/
def inner (st : St) : Nat :=
  match st.phase with
  | .needRequest => 0
  | .querying => 2 * st.current.length + (if st.retryWithTcp then 1 else 0)

/-- upper bound on the number of further iterations: `2n+2` per untried candidate, `2n` per re-arming the
remaining lifetime still allows, and the share of the current round -/
def phi (env : Env) (st : St) : Nat :=
  (2 * env.cfg.servers.length + 2) * st.qnames.length
    + 2 * env.cfg.servers.length * roundsLeft env.bo env.lifetime (st.now - env.start) + inner st

/-- the potential falls when the rounds left fall by `d` and the share of the current round grows by less than `d`
rounds' worth -/
theorem pot_lt {K n R R' d i i' : Nat} (hR : R' + d ≤ R) (hi : i' < i + 2 * n * d) :
    K + 2 * n * R' + i' < K + 2 * n * R + i := by
  have := Nat.mul_le_mul_left (2 * n) hR
  rw [Nat.mul_add] at this
  omega

theorem sleepFor_ge {env : Env} {b now : Nat} (hb : env.bo.init ≤ b)
    (hlt : (now + sleepFor env b now) - env.start < env.lifetime) (hs : env.start ≤ now) :
    env.bo.init ≤ sleepFor env b now := by
  unfold sleepFor at *
  split
  · rename_i hc
    simp only [hc, if_true] at hlt
    rw [Nat.min_def] at hlt ⊢
    split
    · omega
    · rename_i hle
      simp only [hle, if_false] at hlt
      omega
  · exact hb

theorem roundsLeft_after_pass (env : Env) {b now now' : Nat} (hstart : env.start ≤ now)
    (h1 : now + sleepFor env b now - env.start < env.lifetime) (h2 : now + sleepFor env b now ≤ now') :
    roundsLeft env.bo env.lifetime (now' - env.start) ≤ roundsLeft env.bo env.lifetime (now - env.start) ∧
    (0 < env.bo.init → env.bo.init ≤ b →
      roundsLeft env.bo env.lifetime (now' - env.start) + 1 ≤ roundsLeft env.bo env.lifetime (now - env.start)) := by
  refine ⟨roundsLeft_mono _ _ _ _ (by omega), fun hpos hb => ?_⟩
  have hsl := sleepFor_ge hb h1 hstart
  have hdec := roundsLeft_dec env.bo env.lifetime (now - env.start) (now + sleepFor env b now - env.start) hpos
    (by omega) h1
  have hmono := roundsLeft_mono env.bo env.lifetime (now + sleepFor env b now - env.start) (now' - env.start) (by omega)
  omega

theorem step_phi (env : Env) (hpos : 0 < env.bo.init) (hcap : env.bo.init ≤ env.bo.cap)
    (hfac : 1 ≤ env.bo.factor) (st : St) (hwf : Wf env st) :
    (step env st).sat (fun _ st' => phi env st' < phi env st) (fun _ r _ => r ≠ .outOfFuel) := by
  refine step_sat fun res h => ?_
  have hstart := hwf.start_le
  cases h with
  | @request _ _ rest hph hqs =>
    have hlen : rest.length + 1 ≤ st.qnames.length := by rw [hqs]; simp
    have hm := Nat.mul_le_mul_left (2 * env.cfg.servers.length + 2) hlen
    rw [Nat.mul_succ] at hm
    simp only [phi, inner, hph, armed]
    simp
    omega
  | @reply c w t d hph hp hw ht hd =>
    have hn := hwf.mix hph
    have hb := (hwf.sched hph).init_le hcap hfac
    have hlt := (computeTimeout_some ht).1
    obtain ⟨hmono, hdec⟩ := roundsLeft_after_pass env (now' := w + d.2.1) hstart (hw ▸ hlt) (by omega)
    -- whichever way `next_nameserver` picked, the potential falls (after a query over TCP no TCP retry is pending)
    have key : ∀ i', i' ≤ 2 * c.rest.length + (if c.tcp then 0 else 1) →
        (2 * env.cfg.servers.length + 2) * st.qnames.length +
          2 * env.cfg.servers.length * roundsLeft env.bo env.lifetime (w + d.2.1 - env.start) + i' < phi env st := by
      unfold phi inner
      rw [hph]
      cases hp with
      | retry hr _ =>
        refine fun i' hi' => pot_lt (d := 0) hmono ?_
        simp only [hr, if_true] at hi' ⊢
        omega
      | next hr hc =>
        refine fun i' hi' => pot_lt (d := 0) hmono ?_
        simp only [hr, hc, List.length_cons] at hi' ⊢
        split at hi' <;> simp <;> omega
      | rearm hr hc hn' =>
        -- re-arming: the sleep is at least the first back-off and the lifetime test passed
        refine fun i' hi' => pot_lt (d := 1) (hdec hpos hb) ?_
        rw [hn', List.length_cons] at hn
        simp only at hi'
        split at hi' <;> omega
    cases hv : verdict env st.qname c.ns c.tcp (w + d.2.1) d.1 <;> simp only [judge, leaves, StepR.sat]
    case accept => split <;> exact nofun
    case yxdomain => exact nofun
    case truncatedUdp => exact key _ (by simp [inner, hph, St.asked, verdict_truncatedUdp hv])
    all_goals exact key _ (by simp [inner, hph, St.asked])
  | _ => exact nofun


/-- the loop ends by itself when the fuel exceeds the potential of the initial state -/
theorem run_ends (env : Env) (hpos : 0 < env.bo.init) (hcap : env.bo.init ≤ env.bo.cap) (hfac : 1 ≤ env.bo.factor)
    {cache : Cache} {script : List ScriptStep} {fuel : Nat} {res : List Event × Result × St}
    (hres : run env fuel (initOf env cache script) = res) (h : phi env (initOf env cache script) < fuel) :
    res.2.1 ≠ .outOfFuel :=
  hres ▸ run_induct env (fun n _ st => phi env st < n) (fun _ r _ => r ≠ .outOfFuel)
    (fun _ _ st hw h => StepR.sat_imp (step_phi env hpos hcap hfac st hw) (fun _ _ h' => by omega) (fun _ _ _ => id))
    (fun _ _ _ h => absurd h (Nat.not_lt_zero _)) fuel _ [] (Wf.init env cache script) h

theorem phi_init (env : Env) (cache : Cache) (script : List ScriptStep) :
    phi env (initOf env cache script) <
      fuelBound env.bo env.cfg.servers.length env.qnamesToTry.length env.lifetime := by
  simp [phi, inner, initOf, initSt, fuelBound]


/-- `Resolver.resolve` ends by itself, whatever the (well-formed) schedule -/
theorem resolve_ends (cfg : Config) (bo : Backoff) (clip : Bool) (maxChain : Nat) (req : Request) (now : Nat)
    (cache : Cache) (script : List ScriptStep) (hpos : 0 < bo.init) (hcap : bo.init ≤ bo.cap) (hfac : 1 ≤ bo.factor) :
    (resolve cfg bo clip maxChain req now cache script).2.1 ≠ .outOfFuel :=
  resolve_cases (P := fun x => x.2.1 ≠ .outOfFuel) cfg bo clip maxChain req now cache script (fun _ h => h)
    fun _ => run_ends _ hpos hcap hfac rfl (phi_init _ cache script)


/-- with the back-off sleep clipped, `Resolver.resolve` returns or raises within the lifetime, whatever the schedule
(its first back-off within the cap) -/
theorem resolve_within_lifetime (cfg : Config) (bo : Backoff) (maxChain : Nat) (req : Request) (now : Nat)
    (cache : Cache) (script : List ScriptStep) (hcap : bo.init ≤ bo.cap) :
    (resolve cfg bo true maxChain req now cache script).2.2.now ≤ now + req.lifetime.getD cfg.lifetime :=
  resolve_cases (P := fun x => x.2.2.now ≤ now + req.lifetime.getD cfg.lifetime) cfg bo true maxChain req now cache
    script (fun _ _ => Nat.le_add_right ..) fun qnames =>
      (run_wf (mkEnv cfg bo true maxChain req now qnames) rfl).clock hcap


def isQuery : Event → Bool
  | .query .. => true
  | _ => false

theorem judge_evs (env : Env) (evs : List Event) (st : St) (ns : Server) (v : Verdict) :
    (judge env evs st ns v).evs = evs := by
  cases v <;> rfl

theorem step_queries (env : Env) (st : St) : (step env st).evs.countP isQuery ≤ 1 := by
  have h := step_iter env st
  generalize step env st = res at h
  cases h with
  | expired => unfold sleepEvs; split <;> simp [StepR.evs, isQuery]
  | reply => rw [judge_evs]; unfold sleepEvs; split <;> simp [isQuery]
  | _ => simp [StepR.evs, isQuery]

theorem run_query_count (env : Env) {cache : Cache} {script : List ScriptStep} {fuel : Nat}
    {res : List Event × Result × St} (hres : run env fuel (initOf env cache script) = res) :
    res.1.countP isQuery ≤ fuel :=
  hres ▸ run_induct env (fun n pre _ => pre.countP isQuery + n ≤ fuel) (fun evs _ _ => evs.countP isQuery ≤ fuel)
    (fun n pre st _ h => by
      have hs := step_queries env st
      generalize step env st = res at hs
      cases res <;> simp only [StepR.sat, StepR.evs, List.countP_append] at hs ⊢ <;> omega)
    (fun _ _ _ h => h) fuel _ [] (Wf.init env cache script) (by simp)


/-- a key no candidate of this resolution can be cached under -/
def foreignKey (env : Env) (k : Key) : Prop :=
  ∀ q ∈ env.qnamesToTry, k ≠ mkKey q env.rdtype env.rdclass ∧ k ≠ mkKey q tyANY env.rdclass

def CacheAgree (env : Env) (c0 c : Cache) : Prop :=
  ∀ k t, foreignKey env k → cacheGet c k t = cacheGet c0 k t

theorem step_cache (env : Env) (c0 : Cache) (st : St) (hwf : Wf env st) (hinv : CacheAgree env c0 st.cache) :
    (step env st).sat (fun _ st' => CacheAgree env c0 st'.cache) (fun _ _ st' => CacheAgree env c0 st'.cache) := by
  refine step_sat fun res h => ?_
  cases h with
  | reply hph =>
    -- a put under a key of the candidate in progress is not seen at a foreign key
    have hput : ∀ k a, (k = mkKey st.qname env.rdtype env.rdclass ∨ k = mkKey st.qname tyANY env.rdclass) →
        CacheAgree env c0 (if env.cfg.cacheOn then cachePut st.cache k a else st.cache) := by
      intro k a hk k' t hk'
      rw [cacheGet_putIf_ne, hinv k' t hk']
      rintro rfl
      exact hk.elim (hk' _ (hwf.qname_mem hph)).1 (hk' _ (hwf.qname_mem hph)).2
    cases verdict .. <;> simp only [judge, leaves, StepR.sat]
    case accept => exact hput _ _ (Or.inl rfl)
    case nxdomain => exact hput _ _ (Or.inr rfl)
    all_goals exact hinv
  | _ => exact hinv

theorem run_cache (env : Env) {cache : Cache} {script : List ScriptStep} {fuel : Nat} {res : List Event × Result × St}
    (hres : run env fuel (initOf env cache script) = res) : CacheAgree env cache res.2.2.cache :=
  hres ▸ run_induct env (fun _ _ st => CacheAgree env cache st.cache) (fun _ _ st' => CacheAgree env cache st'.cache)
    (fun _ _ => step_cache env cache) (fun _ _ _ h => h) fuel _ [] (Wf.init env cache script) fun _ _ _ => rfl

end Model.Resolver
