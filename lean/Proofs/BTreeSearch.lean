import Proofs.BTreeBasic
/-!
`search_in_node` (fast path + binary search) on a node whose elements are strictly sorted returns the
lower-bound index of the key and whether the key is there: `search_at` at any lower-bound cut, `search_cases` at the cut
of the key (`cut_cases`).
-/
namespace Model.BTree

/-- `search_in_node` returns an index inside the node, a proper one when it reports the key found (for any list, sorted
or not) -/
theorem searchInNode_le (es : List Elt) (k : Nat) :
    (searchInNode es k).1 ≤ es.length ∧ ((searchInNode es k).2 = true → (searchInNode es k).1 < es.length) := by
  have hb : ∀ fuel l hi, hi ≤ es.length →
      (bsearch es k fuel l hi).1 ≤ hi ∧ ((bsearch es k fuel l hi).2 = true → (bsearch es k fuel l hi).1 < hi) := by
    intro fuel
    induction fuel with
    | zero => intro l hi _; simp [bsearch]
    | succ f ih =>
      intro l hi hh
      unfold bsearch
      simp only []
      split
      · split
        · simp; omega
        · split
          · have := ih l ((l + hi - 1) / 2) (by omega); omega
          · exact ih _ hi hh
      · simp
  unfold searchInNode
  simp only []
  split
  · simp
  · exact hb _ 0 _ (Nat.le_refl _)

/-- the first element has this key -/
def headIs (er : List Elt) (k : Nat) : Bool :=
  match er with
  | e :: _ => e.1 == k
  | [] => false

theorem eltAt_append_left {el er : List Elt} {m : Nat} (h : m < el.length) :
    eltAt (el ++ er) m ∈ el := by
  simp only [eltAt, List.getD_eq_getElem?_getD, List.getElem?_append_left h]
  simp [List.getElem?_eq_getElem h]

theorem eltAt_append_right {el er : List Elt} {m : Nat} (h : el.length ≤ m) :
    eltAt (el ++ er) m = eltAt er (m - el.length) := by
  simp only [eltAt, List.getD_eq_getElem?_getD, List.getElem?_append_right h]

theorem eltAt_mem {er : List Elt} {m : Nat} (h : m < er.length) : eltAt er m ∈ er := by
  simp only [eltAt, List.getD_eq_getElem?_getD]
  simp [List.getElem?_eq_getElem h]

theorem key_at {er : List Elt} {k j : Nat} (hs : Sorted er) (her : ∀ x ∈ er, k ≤ x.1) (hj : j < er.length) :
    (j = 0 ∧ (eltAt er j).1 = k ∧ headIs er k = true) ∨ (k < (eltAt er j).1 ∧ (j = 0 → headIs er k = false)) := by
  cases er with
  | nil => exact absurd hj (Nat.not_lt_zero _)
  | cons e er' =>
    have hge := her e (List.mem_cons_self ..)
    cases j with
    | zero =>
      by_cases hke : e.1 = k
      · exact Or.inl ⟨rfl, hke, by simp [headIs, hke]⟩
      · exact Or.inr ⟨Nat.lt_of_le_of_ne hge (Ne.symm hke), fun _ => by simp [headIs, hke]⟩
    | succ j =>
      have hmem : eltAt (e :: er') (j + 1) ∈ er' := by
        simpa [eltAt] using eltAt_mem (show j < er'.length by simpa using hj)
      exact Or.inr ⟨Nat.lt_of_le_of_lt hge ((sorted_cons_iff.mp hs).1 _ hmem), fun h => absurd h (Nat.succ_ne_zero j)⟩

theorem bsearch_spec (el er : List Elt) (k : Nat) (hs : Sorted (el ++ er))
    (hel : ∀ x ∈ el, x.1 < k) (her : ∀ x ∈ er, k ≤ x.1) :
    ∀ fuel l hi, l ≤ el.length → el.length ≤ hi → hi ≤ (el ++ er).length →
      (headIs er k = true → el.length < hi) → hi - l < fuel →
      bsearch (el ++ er) k fuel l hi = (el.length, headIs er k) := by
  have hser := (sorted_append_iff.mp hs).2.1
  intro fuel
  induction fuel with
  | zero => intro l hi _ _ _ _ hf; exact absurd hf (Nat.not_lt_zero _)
  | succ fuel ih =>
    intro l hi hl hh hlen hpres hf
    unfold bsearch
    by_cases hlt : l < hi
    · simp only [hlt, if_true]
      have hm : l ≤ (l + hi - 1) / 2 ∧ (l + hi - 1) / 2 < hi := by omega
      generalize (l + hi - 1) / 2 = m at hm
      by_cases hmel : m < el.length
      · have hk := hel _ (eltAt_append_left (er := er) hmel)
        rw [if_neg (Nat.ne_of_gt hk), if_neg (Nat.lt_asymm hk)]
        exact ih (m + 1) hi hmel hh hlen hpres (by omega)
      · have hmel : el.length ≤ m := Nat.le_of_not_lt hmel
        rw [eltAt_append_right hmel]
        have hj : m - el.length < er.length := by rw [List.length_append] at hlen; omega
        rcases key_at hser her hj with ⟨hj0, hk, hp⟩ | ⟨hk, hp⟩
        · have : m = el.length := by omega
          rw [if_pos hk.symm, hp, this]
        · rw [if_neg (Nat.ne_of_lt hk), if_pos hk]
          refine ih l m hl hmel (by omega) (fun h => ?_) (by omega)
          have : m - el.length ≠ 0 := fun h0 => by rw [hp h0] at h; cases h
          omega
    · simp only [hlt, if_false]
      have : hi = el.length := by omega
      subst this
      cases hp : headIs er k with
      | false => rfl
      | true => have := hpres hp; omega

theorem search_at {el er : List Elt} {k : Nat} (hs : Sorted (el ++ er)) (hl : ∀ x ∈ el, x.1 < k)
    (hr : ∀ x ∈ er, k ≤ x.1) : searchInNode (el ++ er) k = (el.length, headIs er k) := by
  unfold searchInNode
  by_cases hfast : (el ++ er).length > 0 ∧ k > (eltAt (el ++ er) ((el ++ er).length - 1)).1
  · simp only [hfast, and_self, if_true]
    cases er with
    | nil => simp [headIs]
    | cons e er' =>
      exfalso
      have hmem : eltAt (el ++ e :: er') ((el ++ e :: er').length - 1) ∈ e :: er' := by
        rw [eltAt_append_right (by simp)]
        apply eltAt_mem
        simp
      have := hr _ hmem
      omega
  · simp only [hfast, if_false]
    apply bsearch_spec el er k hs hl hr
    · omega
    · simp
    · exact Nat.le_refl _
    · intro hp
      cases er with
      | nil => simp [headIs] at hp
      | cons e er' => simp
    · omega

theorem search_unique_lt {el er : List Elt} {k : Nat} (hs : Sorted (el ++ er))
    (hl : ∀ x ∈ el, x.1 < k) (hr : ∀ x ∈ er, k < x.1) : searchInNode (el ++ er) k = (el.length, false) := by
  rw [search_at hs hl (fun x hx => Nat.le_of_lt (hr x hx))]
  cases er with
  | nil => rfl
  | cons e er =>
    have := hr e (by simp)
    simp only [headIs, Prod.mk.injEq, true_and, beq_eq_false_iff_ne]
    omega

/-- the form the tree proofs consume: the cut of the list at the key, and what the search returns there -/
theorem search_cases {es : List Elt} (k : Nat) (hs : Sorted es) :
    (∃ el er, es = el ++ er ∧ (∀ x ∈ el, x.1 < k) ∧ (∀ x ∈ er, k < x.1) ∧
        searchInNode es k = (el.length, false)) ∨
    (∃ el e er, es = el ++ e :: er ∧ e.1 = k ∧ (∀ x ∈ el, x.1 < k) ∧ (∀ x ∈ er, k < x.1) ∧
        searchInNode es k = (el.length, true)) := by
  rcases cut_cases k hs with ⟨el, er, rfl, hl, hr⟩ | ⟨el, e, er, rfl, h0, hl, hr⟩
  · exact Or.inl ⟨el, er, rfl, hl, hr, search_unique_lt hs hl hr⟩
  · refine Or.inr ⟨el, e, er, rfl, h0, hl, hr, ?_⟩
    rw [search_at hs hl (List.forall_mem_cons.mpr ⟨Nat.le_of_eq h0.symm, fun x hx => Nat.le_of_lt (hr x hx)⟩)]
    simp [headIs, h0]

theorem searchInNode_nil (k : Nat) : searchInNode [] k = (0, false) := by
  simp [searchInNode, bsearch]

theorem search_false_not_mem {es : List Elt} {k i : Nat} (hs : Sorted es) (h : searchInNode es k = (i, false)) :
    ∀ x ∈ es, x.1 ≠ k := by
  rcases search_cases k hs with ⟨el, er, rfl, hl, hr, _⟩ | ⟨el, e0, er, rfl, h0, hl, hr, hres⟩
  · exact ne_of_gap hl hr
  · rw [hres] at h; simp at h

/-- where a key of the window between `el` and `er` is searched once a separator `m` stands in that window -/
theorem search_sep {el er : List Elt} {m : Elt} {k i : Nat} (hs : Sorted (el ++ m :: er)) (hl : ∀ x ∈ el, x.1 < k)
    (hr : ∀ x ∈ er, k < x.1) (hi : searchInNode (el ++ m :: er) k = (i, false)) : i = el.length ∨ i = el.length + 1 := by
  rcases Nat.lt_or_gt_of_ne (search_false_not_mem hs hi m (by simp)) with hlt | hgt
  · have := search_unique_lt (el := el ++ [m]) (er := er) (by simpa using hs)
      (List.forall_mem_append.mpr ⟨hl, List.forall_mem_singleton.mpr hlt⟩) hr
    simp only [List.append_assoc, List.singleton_append, List.length_append, List.length_singleton, hi,
      Prod.mk.injEq, and_true] at this
    exact Or.inr this
  · have := search_unique_lt (el := el) (er := m :: er) hs hl (List.forall_mem_cons.mpr ⟨hgt, hr⟩)
    simp only [hi, Prod.mk.injEq, and_true] at this
    exact Or.inl this

end Model.BTree
