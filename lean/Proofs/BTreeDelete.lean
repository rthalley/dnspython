import Proofs.BTreeBalance
/-!
Layer L3: `delete(key, exact)` (search, successor replacement through `_get_node`, balance before descending)
refines its specification on sorted association lists (`delSpec`: removal of the key, or `ValueError` and nothing else
when `exact` is given and is not the stored element) and preserves the shape invariant, for `t ≥ 2` and every `exact`
(`delete_spec_exact`); `delete_spec` is the case without `exact`.  `delete_descent` is one level of the walk in the terms of
the code (indices, no decomposition): what the heap level needs to follow it.
-/
namespace Model.BTree

/-- the two cases of `replaceAt`, by evaluation -/
theorem replaceAt_leaf (f : Nat) (es : List Elt) (key : Nat) (s : Elt) :
    replaceAt f (.leaf es) key s =
      (let (i, eq) := searchInNode es key
       if eq then (.leaf (setAt es i s), some (eltAt es i)) else (.leaf es, none)) := by
  cases f <;> rfl

theorem replaceAt_node (f : Nat) (es : List Elt) (cs : List Node) (key : Nat) (s : Elt) :
    replaceAt (f + 1) (.node es cs) key s =
      (let (i, eq) := searchInNode es key
       if eq then (.node (setAt es i s) cs, some (eltAt es i))
       else
         let (c', o) := replaceAt f (kidAt cs i) key s
         (.node es (setAt cs i c'), o)) := by
  rfl

theorem replaceAt_spec {t : Nat} (k : Nat) (s : Elt) : ∀ (h : Nat) (n : Node), Shape t h n → Sorted (flat n) →
    Refines t h n 0 0 (replKey k s (flat n)) (lookup (flat n) k) (replaceAt h n k s) := by
  intro h
  induction h with
  | zero =>
    intro n hn hs
    obtain ⟨es, rfl⟩ := shape_zero hn
    simp only [flat_leaf] at hs
    rw [replaceAt_leaf]
    rcases search_cases k hs with ⟨el, er, rfl, hl, hr, hres⟩ | ⟨el, e0, er, rfl, h0, hl, hr, hres⟩
    · simp only [hres, Bool.false_eq_true, if_false]
      refine ⟨by simp, ?_, by simp [lookup_none_of_gap hl hr], Nat.le_refl _, Nat.le_refl _⟩
      simp only [flat_leaf]
      rw [replKey_of_ne (ne_of_gap hl hr)]
    · simp only [hres, if_true, setAt_at rfl, eltAt_at rfl]
      refine ⟨by simp, by simp [replKey_found h0 hl hr], ?_, by simp [Node.elts], by simp [Node.elts]⟩
      simp only [flat_leaf]
      rw [lookup_found h0 hl]
  | succ h ih =>
    intro n hn hs
    obtain ⟨es, cs, rfl, hk⟩ := shape_succ hn
    rw [replaceAt_node]
    rcases node_cases k hk hs with ⟨el, er, cl, c, cr, rfl, rfl, hres, w⟩ |
      ⟨el, e0, er, cl, c, c', cr, rfl, rfl, hcl, h0, hres, _, _, hA, hB⟩
    · obtain ⟨hsc, hA, hB⟩ := w.window
      have hcl := w.len
      simp only [hres, Bool.false_eq_true, if_false, kidAt_at hcl, setAt_at hcl]
      rw [flat_node_split el er cl c cr hcl, replKey_window hA hB, lookup_window hA hB]
      exact (ih c (kids_at hk).1 hsc).descend hk hcl (kids_at hk).2.1 (kids_at hk).2.2
    · simp only [hres, if_true, setAt_at rfl, eltAt_at rfl]
      refine ⟨shape_node_iff.mpr ⟨by simpa using hk.1, hk.2⟩, ?_, ?_, by simp [Node.elts], by simp [Node.elts]⟩
      · show flat (.node (el ++ s :: er) (cl ++ c :: c' :: cr)) = _
        rw [flat_node_elt el er s cl c c' cr hcl, flat_node_elt el er e0 cl c c' cr hcl, replKey_found h0 hA hB]
      · show some e0 = _
        rw [flat_node_elt el er e0 cl c c' cr hcl, lookup_found h0 hA]

/-- the `IndexError`: a minimal only child under a root without elements has no sibling to merge with -/
theorem delPrep_single_minimal {t : Nat} {c : Node} (key : Nat) (hmin : c.elts.length = minKeys t) :
    delPrep t [] [c] 0 key = none := by
  have : isMinimal t c = true := by simp [isMinimal, hmin]
  simp [delPrep, this, balance, tryLeftSteal, tryRightSteal, merge]

/-- `delPrep` takes a cut for `key` to a cut for `key` with the same listing, at a child that is not minimal: the child
itself, or after `balance` the one that the search finds again, at the same index or (after a merge into the left sibling)
the one before it -/
theorem delPrep_spec {t h key : Nat} {el er : List Elt} {cl cr : List Node} {c : Node} (ht : 2 ≤ t)
    (w : Cut t h key el er cl c cr) (hne : c.elts.length = minKeys t → 1 ≤ (el ++ er).length) :
    ∃ el1 er1 cl1 c1 cr1,
      delPrep t (el ++ er) (cl ++ c :: cr) el.length key = some (el1 ++ er1, cl1 ++ c1 :: cr1, el1.length) ∧
      Cut t h key el1 er1 cl1 c1 cr1 ∧
      flat (.node (el1 ++ er1) (cl1 ++ c1 :: cr1)) = flat (.node (el ++ er) (cl ++ c :: cr)) ∧
      minKeys t < c1.elts.length ∧
      (el ++ er).length ≤ (el1 ++ er1).length + 1 ∧ (el1 ++ er1).length ≤ (el ++ er).length ∧
      el1.length = if (el1 ++ er1).length = (el ++ er).length then el.length else el.length - 1 := by
  unfold delPrep
  rw [kidAt_at w.len]
  by_cases hmin : c.elts.length = minKeys t
  · have : isMinimal t c = true := by simp [isMinimal, hmin]
    simp only [this, if_true]
    obtain ⟨r, hbal, el1, er1, cl1, c1, cr1, hb, w1, hflat1, hc1, hlo, hhi, hj⟩ := balance_spec_at ht w hmin (hne hmin)
    rw [hbal, hb]
    simp only []
    rw [search_unique_lt (sorted_elts w1.sorted) w1.lo w1.hi]
    exact ⟨el1, er1, cl1, c1, cr1, rfl, w1, hflat1, hc1, hlo, hhi, by rw [hb] at hj; exact hj⟩
  · have : isMinimal t c = false := by simp [isMinimal, hmin]
    simp only [this, Bool.false_eq_true, if_false]
    refine ⟨el, er, cl, c, cr, rfl, w, rfl, ?_, by omega, by omega, by rw [if_pos rfl]⟩
    have := (kids_at w.kids).2.1; omega

/-- the two cases of `delete`, by evaluation -/
theorem delete_leaf (t f : Nat) (es : List Elt) (key : Nat) (exact : Option Elt) :
    delete t f (.leaf es) key exact =
      (let (i, eq) := searchInNode es key
       if eq ∧ exact.isSome ∧ exact ≠ some (eltAt es i) then (.leaf es, .valueError)
       else if eq then (.leaf (popAt es i), .ok (some (eltAt es i)))
       else if exact.isSome then (.leaf es, .valueError)
       else (.leaf es, .ok none)) := by
  cases f <;> rfl

theorem delete_node (t f : Nat) (es : List Elt) (cs : List Node) (key : Nat) (exact : Option Elt) :
    delete t (f + 1) (.node es cs) key exact =
      (let (i, eq) := searchInNode es key
       if eq ∧ exact.isSome ∧ exact ≠ some (eltAt es i) then (.node es cs, .valueError)
       else
         let key' := if eq then (minimum f (kidAt cs (i + 1))).1 else key
         match delPrep t es cs (if eq then i + 1 else i) key' with
         | none => (.node es cs, .indexError)
         | some (es1, cs1, i1) =>
           let (child', r) := delete t f (kidAt cs1 i1) key' (if eq then none else exact)
           delFinish eq key (f + 1) (.node es1 (setAt cs1 i1 child')) r) := by
  rfl

abbrev DelSpec (t h : Nat) (n : Node) (k : Nat) (r : Node × DelRes) : Prop :=
  Refines t h n 1 0 (delKey k (flat n)) (.ok (lookup (flat n) k)) r

/-- the least successor of the element `e0` of an internal node heads the listing of the child after `e0`, and the node is
cut for its key at that child -/
theorem succ_window {t h : Nat} (ht : 2 ≤ t) {el er : List Elt} {e0 : Elt} {cl cr : List Node} {c c' : Node}
    (hk : Kids t h (el ++ e0 :: er) (cl ++ c :: c' :: cr)) (hcl : cl.length = el.length)
    (hs : Sorted (flat (.node (el ++ e0 :: er) (cl ++ c :: c' :: cr)))) :
    ∃ rest, flat c' = minimum h c' :: rest ∧ Cut t h (minimum h c').1 (el ++ [e0]) er (cl ++ [c]) c' cr := by
  obtain ⟨rest, hmin⟩ := minimum_head t ht h c' (kids_at_succ hk).1 (kids_at_succ hk).2
  have hcl' : (cl ++ [c]).length = (el ++ [e0]).length := by simp [hcl]
  have hs' : Sorted (flat (.node ((el ++ [e0]) ++ er) ((cl ++ [c]) ++ c' :: cr))) := by simpa using hs
  obtain ⟨hwl, hwr⟩ := mem_child_window (x := minimum h c') hcl' hs' (by rw [hmin]; simp)
  exact ⟨rest, hmin, by simpa using hk, hcl', hs', hwl, hwr⟩

/-- the index form of `delPrep_spec`: where `delete` continues after `delPrep`, and that it may continue there -/
theorem delPrep_child {t h key : Nat} {el er : List Elt} {cl cr : List Node} {c : Node} (ht : 2 ≤ t)
    (w : Cut t h key el er cl c cr) (hne : c.elts.length = minKeys t → 1 ≤ (el ++ er).length) :
    ∃ es1 cs1 i1, delPrep t (el ++ er) (cl ++ c :: cr) el.length key = some (es1, cs1, i1) ∧
      i1 = (if es1.length = (el ++ er).length then el.length else el.length - 1) ∧ i1 < cs1.length ∧
      Shape t h (kidAt cs1 i1) ∧ Sorted (flat (kidAt cs1 i1)) ∧ minKeys t < (kidAt cs1 i1).elts.length := by
  obtain ⟨el1, er1, cl1, c1, cr1, hprep, w1, _, hc1, _, _, hidx⟩ := delPrep_spec ht w hne
  refine ⟨_, _, _, hprep, hidx, by have := w1.len; simp; omega, ?_⟩
  rw [kidAt_at w1.len]
  exact ⟨(kids_at w1.kids).1, w1.window.1, hc1⟩

/-- One level of the descent of `delete` at an internal node, in the terms of the code: the search result `(i0, eq)`,
the child `i'` and the key `key'` it goes for (the key itself, or behind the element found its least successor), what
`delPrep` makes of the node, and the child `i1` it continues in — the one at the same index after a steal, the one before
it after a merge into the left sibling — which is well shaped, sorted and not minimal. -/
theorem delete_descent {t : Nat} (ht : 2 ≤ t) {h : Nat} {es : List Elt} {cs : List Node} (k : Nat)
    (hk : Kids t h es cs) (hs : Sorted (flat (.node es cs))) (hpos : 1 ≤ es.length) :
    ∃ (i0 : Nat) (eq : Bool) (i' key' : Nat) (es1 : List Elt) (cs1 : List Node) (i1 : Nat),
      searchInNode es k = (i0, eq) ∧ i' = (if eq then i0 + 1 else i0) ∧ i' < cs.length ∧
      key' = (if eq then (minimum h (kidAt cs i')).1 else k) ∧
      delPrep t es cs i' key' = some (es1, cs1, i1) ∧
      i1 = (if es1.length = es.length then i' else i' - 1) ∧ i1 < cs1.length ∧
      Shape t h (kidAt cs1 i1) ∧ Sorted (flat (kidAt cs1 i1)) ∧ minKeys t < (kidAt cs1 i1).elts.length := by
  rcases node_cases k hk hs with ⟨el, er, cl, c, cr, rfl, rfl, hres, w⟩ |
    ⟨el, e0, er, cl, c, c', cr', rfl, rfl, hcl, _, hres, _⟩
  · obtain ⟨es1, cs1, i1, p⟩ := delPrep_child ht w fun _ => hpos
    have := w.len
    exact ⟨el.length, false, el.length, k, es1, cs1, i1, hres, rfl, by simp; omega, rfl, p⟩
  · obtain ⟨_, _, w2⟩ := succ_window ht hk hcl hs
    obtain ⟨es1, cs1, i1, p⟩ := delPrep_child ht w2 fun _ => by simp; omega
    exact ⟨el.length, true, el.length + 1, (minimum h c').1, es1, cs1, i1, hres, rfl, by simp; omega,
      by simp [kidAt_at_succ hcl], by simpa using p⟩

/-- What `delete(key, exact)` does to the listing and returns.  The test has the form it has in the code, so that the
two places where the code makes it (a leaf, an element found in an internal node) meet it as it is; everywhere else
`delSpec_window` carries both components through the descent, whatever `exact` is. -/
def delSpec (l : List Elt) (k : Nat) (exact : Option Elt) : List Elt × DelRes :=
  if exact.isSome ∧ exact ≠ lookup l k then (l, .valueError) else (delKey k l, .ok (lookup l k))

@[simp] theorem delSpec_none (l : List Elt) (k : Nat) : delSpec l k none = (delKey k l, .ok (lookup l k)) := by
  simp [delSpec]

theorem delSpec_window {A B : List Elt} {k : Nat} (hA : ∀ x ∈ A, x.1 < k) (hB : ∀ x ∈ B, k < x.1) (M : List Elt)
    (exact : Option Elt) :
    delSpec (A ++ M ++ B) k exact = (A ++ (delSpec M k exact).1 ++ B, (delSpec M k exact).2) := by
  simp only [delSpec, lookup_window hA hB]
  split
  · rfl
  · rw [delKey_window hA hB]

theorem delFinish_false (k f : Nat) (n : Node) (r : DelRes) : delFinish false k f n r = (n, r) := by
  cases r <;> rfl

theorem delFinish_found (k f : Nat) (n : Node) (s : Elt) :
    delFinish true k f n (.ok (some s)) = ((replaceAt f n k s).1, .ok (replaceAt f n k s).2) := rfl

theorem delete_spec_exact {t : Nat} (ht : 2 ≤ t) : ∀ (h : Nat) (n : Node) (k : Nat) (exact : Option Elt), Shape t h n →
    Sorted (flat n) → (RootOk n ∨ ∀ c ∈ n.children, c.elts.length ≠ minKeys t) →
    Refines t h n 1 0 (delSpec (flat n) k exact).1 (delSpec (flat n) k exact).2 (delete t h n k exact) := by
  intro h
  induction h with
  | zero =>
    intro n k exact hn hs _
    obtain ⟨es, rfl⟩ := shape_zero hn
    simp only [flat_leaf] at hs ⊢
    rw [delete_leaf]
    rcases search_cases k hs with ⟨el, er, rfl, hl, hr, hres⟩ | ⟨el, e0, er, rfl, h0, hl, hr, hres⟩
    · simp only [hres, Bool.false_eq_true, false_and, if_false, delSpec, lookup_none_of_gap hl hr, delKey_gap hl hr]
      cases exact <;> exact ⟨by simp, by simp, by simp, by simp, by simp⟩
    · simp only [hres, true_and, if_true, popAt_at rfl, eltAt_at rfl, delSpec, lookup_found h0 hl,
        delKey_found h0 hl hr]
      split
      · exact ⟨by simp, rfl, rfl, by simp, by simp⟩
      · exact ⟨by simp, rfl, rfl, by simp [Node.elts] <;> omega, by simp [Node.elts]⟩
  | succ h ih =>
    intro n k exact hn hs hok
    obtain ⟨es, cs, rfl, hk⟩ := shape_succ hn
    have hpos' : 1 ≤ es.length ∨ ∀ c ∈ cs, c.elts.length ≠ minKeys t :=
      hok.imp (·.resolve_left (by simp [Node.isLeaf])) id
    -- balance the child at which the node is cut for `key`, delete there, and put the child back
    have descend : ∀ {key : Nat} (ex : Option Elt) {el er : List Elt} {cl cr : List Node} {c : Node},
        Cut t h key el er cl c cr → (c.elts.length = minKeys t → 1 ≤ (el ++ er).length) →
        ∃ es1 cs1 i1, delPrep t (el ++ er) (cl ++ c :: cr) el.length key = some (es1, cs1, i1) ∧
          Refines t (h + 1) (.node (el ++ er) (cl ++ c :: cr)) 1 0
            (delSpec (flat (.node (el ++ er) (cl ++ c :: cr))) key ex).1
            (delSpec (flat (.node (el ++ er) (cl ++ c :: cr))) key ex).2
            (.node es1 (setAt cs1 i1 (delete t h (kidAt cs1 i1) key ex).1), (delete t h (kidAt cs1 i1) key ex).2) := by
      intro key ex el er cl cr c w hne
      obtain ⟨el1, er1, cl1, c1, cr1, hprep, w1, hflat1, hc1, hlo, hhi, _⟩ := delPrep_spec ht w hne
      obtain ⟨hsc1, hA, hB⟩ := w1.window
      have hd := (ih c1 key ex (kids_at w1.kids).1 hsc1 (Or.inl (Or.inr (by omega)))).descend w1.kids w1.len (by omega)
        (kids_at w1.kids).2.2
      refine ⟨_, _, _, hprep, ?_⟩
      rw [kidAt_at w1.len, setAt_at w1.len, ← hflat1, flat_node_split el1 er1 cl1 c1 cr1 w1.len, delSpec_window hA hB]
      exact ⟨hd.shape, hd.flat_eq, hd.ret, hlo, hhi⟩
    rw [delete_node]
    rcases node_cases k hk hs with ⟨el, er, cl, c, cr, rfl, rfl, hres, w⟩ |
      ⟨el, e0, er, cl, c, c', cr', rfl, rfl, hcl, rfl, hres, _⟩
    · -- not in this node: descend
      obtain ⟨es1, cs1, i1, hprep, hd⟩ := descend exact w
        fun hm => hpos'.elim id fun h2 => absurd hm (h2 c (by simp))
      simp only [hres, Bool.false_eq_true, false_and, if_false, hprep, delFinish_false]
      exact hd
    · -- found in this internal node: the listing is `… e0 :: s :: …` with `s` the least successor
      obtain ⟨rest, hmin, w2⟩ := succ_window ht hk hcl hs
      have hkid' : kidAt (cl ++ c :: c' :: cr') (el.length + 1) = c' := kidAt_at_succ hcl
      generalize hsdef : minimum h c' = s at hmin w2
      have hflatn : flat (.node (el ++ e0 :: er) (cl ++ c :: c' :: cr')) =
          (LF cl el ++ flat c) ++ e0 :: s :: (rest ++ RF cr' er) := by
        rw [flat_node_split el (e0 :: er) cl c (c' :: cr') hcl, RF_cons, hmin]; simp
      have hsn := hflatn ▸ hs
      obtain ⟨q1, q2, q3, q4⟩ := succ_replace hsn
      -- the identity check happens here; then `exact` is dropped, the successor deleted and put in the key's place
      simp only [hres, true_and, eltAt_at rfl, delSpec, hflatn, q4]
      by_cases hm : exact.isSome = true ∧ exact ≠ some e0
      · simp only [if_pos hm]
        exact ⟨hn, hflatn, rfl, by simp, by simp⟩
      simp only [if_neg hm, if_true]
      obtain ⟨es1, cs1, i1, hprep, hd⟩ := descend none w2 fun _ => by simp; omega
      simp only [List.append_assoc, List.singleton_append, List.length_append, List.length_singleton] at hprep hd
      rw [delSpec_none, hflatn, q1] at hd
      have d2 := hd.flat_eq
      have d3 := hd.ret
      have hrp := replaceAt_spec (t := t) e0.1 s (h + 1) _ hd.shape (by rw [d2]; exact delKey_sorted _ hsn)
      simp only [] at d2 d3 hrp
      simp only [hkid', hsdef, hprep, d3, delFinish_found]
      rw [d2, q2, q3] at hrp
      have h1 := hd.len_lo
      have h2 := hd.len_hi
      have h3 := hrp.len_lo
      have h4 := hrp.len_hi
      simp only [] at h1 h2 h3 h4
      exact ⟨hrp.shape, hrp.flat_eq, by rw [hrp.ret], by simp only []; omega, by simp only []; omega⟩

/-- the top node may lose one element -/
theorem delete_spec {t : Nat} (ht : 2 ≤ t) : ∀ (h : Nat) (n : Node) (k : Nat), Shape t h n → Sorted (flat n) →
    (RootOk n ∨ ∀ c ∈ n.children, c.elts.length ≠ minKeys t) →
    DelSpec t h n k (delete t h n k none) := by
  intro h n k hn hs hok
  have := delete_spec_exact ht h n k none hn hs hok
  rwa [delSpec_none] at this

end Model.BTree
