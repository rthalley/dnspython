import Proofs.BTreeCowNode
import Proofs.BTreeRebalance
/-!
Mechanism level: `try_right_steal`, `try_left_steal`, `merge` and `balance` on the heap do what the persistent
operations do and write only owned cells.  Each movement is first described on cells (`*_cabs`), then proved for the
model's function at the model's index (`*_own`): the steals copy the sibling first (`maybe_cow_child`), after which
both children are owned and three cells are rewritten in place, an instance of `upd_mid`.  The steals are stated for
every child index (no left sibling, no right sibling: both levels decline), so that `balance_own` is their sequence
followed by `merge`, with no case analysis on the position of the child beyond the code's own `index == 0`.
-/
namespace Model.BTreeCow
open Model.BTree

theorem node_children_absN (H : Heap) (h a : Nat) :
    (absN H (h + 1) a).children = (rd H a).kids.map (absN H h) := rfl

theorem HT_kids_nonempty {H : Heap} {h a : Nat} (ht : HT H h a) (h0 : h ≠ 0) : (rd H a).kids ≠ [] := by
  intro e
  have := HT_len ht h0
  rw [e] at this
  simp at this

theorem Own.cut2 {c : Nat} {H : Heap} {h p k1 k2 : Nat} {kl kr : List Nat} {es : List Elt} {cl cr : List Node}
    {n1 n2 : Node} (o : Own c H (h + 1) p (.node es (cl ++ n1 :: n2 :: cr)))
    (hk : (rd H p).kids = kl ++ k1 :: k2 :: kr) (hkl : kl.length = cl.length) :
    kl.map (absN H h) = cl ∧ absN H h k1 = n1 ∧ absN H h k2 = n2 ∧ kr.map (absN H h) = cr := by
  have := o.kids
  rw [hk, List.map_append, List.map_cons, List.map_cons] at this
  obtain ⟨e1, e2⟩ := List.append_inj this (by simpa using hkl)
  injection e2 with e2 e3
  injection e3 with e3 e4
  exact ⟨e1, e2, e3, e4⟩

theorem Own.pair {c : Nat} {H : Heap} {h p i : Nat} {es : List Elt} {cs : List Node}
    (o : Own c H (h + 1) p (.node es cs)) (hi : i + 1 < cs.length) :
    ∃ kl k1 k2 kr el pe er cl n1 n2 cr, (rd H p).kids = kl ++ k1 :: k2 :: kr ∧ kl.length = i ∧
      kidA (rd H p).kids i = k1 ∧ kidA (rd H p).kids (i + 1) = k2 ∧
      es = el ++ pe :: er ∧ el.length = i ∧ cs = cl ++ n1 :: n2 :: cr ∧ cl.length = i ∧
      kl.map (absN H h) = cl ∧ absN H h k1 = n1 ∧ absN H h k2 = n2 ∧ kr.map (absN H h) = cr := by
  obtain ⟨kl, k1, kr', hk, hkl, hk1, _⟩ := o.kid (i := i) (by omega)
  obtain ⟨el, pe, er, hes, hel⟩ := split_at_lt es i (by have := o.len; omega)
  obtain ⟨cl, n1, cr', hcs, hcl⟩ := split_at_lt cs i (by omega)
  have h1 := o.len.1
  cases kr' with
  | nil => rw [hk] at h1; simp at h1; omega
  | cons k2 kr =>
    cases cr' with
    | nil => rw [hcs] at hi; simp at hi; omega
    | cons n2 cr =>
      subst hcs
      exact ⟨kl, k1, k2, kr, el, pe, er, cl, n1, n2, cr, hk, hkl, hk1, by rw [hk]; exact kidA_at_succ hkl, hes, hel, rfl,
        hcl, o.cut2 hk (hkl.trans hcl.symm)⟩

theorem wr3 {H : Heap} {p x y : Nat} (P X Y : Cell) (hp : p < H.size) (hx : x < H.size) (hy : y < H.size)
    (hpx : p ≠ x) (hpy : p ≠ y) (hxy : x ≠ y) :
    rd (wr (wr (wr H p P) x X) y Y) p = P ∧ rd (wr (wr (wr H p P) x X) y Y) x = X ∧
    rd (wr (wr (wr H p P) x X) y Y) y = Y ∧ SameOff [y, x, p] H (wr (wr (wr H p P) x X) y Y) :=
  ⟨by rw [rd_wr_other _ (Ne.symm hpy), rd_wr_other _ (Ne.symm hpx), rd_wr_same _ hp],
   by rw [rd_wr_other _ (Ne.symm hxy), rd_wr_same _ (by simpa using hx)],
   rd_wr_same _ (by simpa using hy), (((SameOff.refl H).wr p P).wr x X).wr y Y⟩

theorem stealFromRight_cabs (H : Heap) {h : Nat} {S R : Cell} (pe : Elt) (hl : R.leaf = decide (h = 0))
    (hne : R.elts ≠ []) (hk : h ≠ 0 → R.kids ≠ []) :
    stealFromRight (cabs H h S) (cabs H h R) pe =
      (cabs H h { S with elts := S.elts ++ [pe], kids := if R.leaf then S.kids else S.kids ++ [kidA R.kids 0] },
       eltAt R.elts 0,
       cabs H h { R with elts := R.elts.drop 1, kids := if R.leaf then R.kids else R.kids.drop 1 }) := by
  obtain ⟨rc, rl, re, rk⟩ := R
  cases re with
  | nil => exact absurd rfl hne
  | cons e re =>
    cases h with
    | zero => simp_all [cabs, stealFromRight, eltAt]
    | succ h =>
      cases rk with
      | nil => exact absurd rfl (hk (by omega))
      | cons k rk => simp_all [cabs, stealFromRight, eltAt, kidA]

theorem stealFromLeft_cabs (H : Heap) {h : Nat} {L S : Cell} (pe : Elt) (hl : L.leaf = decide (h = 0))
    (hne : L.elts ≠ []) (hk : h ≠ 0 → L.kids ≠ []) :
    stealFromLeft (cabs H h L) (cabs H h S) pe =
      (cabs H h { L with elts := L.elts.dropLast, kids := if L.leaf then L.kids else L.kids.dropLast },
       eltAt L.elts (L.elts.length - 1),
       cabs H h { S with elts := pe :: S.elts,
                         kids := if L.leaf then S.kids else kidA L.kids (L.kids.length - 1) :: S.kids }) := by
  obtain ⟨lc, ll, le, lk⟩ := L
  obtain ⟨le', x, rfl⟩ := snoc_of_pos le (List.length_pos_iff.mpr hne)
  cases h with
  | zero => simp_all [cabs, stealFromLeft]
  | succ h =>
    obtain ⟨lk', z, rfl⟩ := snoc_of_pos lk (List.length_pos_iff.mpr (hk (by omega)))
    simp_all [cabs, stealFromLeft, kidA_at, kidAt_at]

theorem mergeNodes_cabs (H : Heap) {h : Nat} {A B : Cell} (pe : Elt) (hl : A.leaf = decide (h = 0)) :
    mergeNodes (cabs H h A) pe (cabs H h B) =
      cabs H h { A with elts := A.elts ++ pe :: B.elts, kids := if A.leaf then A.kids else A.kids ++ B.kids } := by
  cases h <;> simp_all [cabs, mergeNodes, Node.elts, Node.children]

/-! ## the steals, `merge` and `balance` -/

/-- `self.try_right_steal(parent, i)` for the owned child at index `i`: the heap does what `tryRightSteal` does
(nothing when there is no right sibling or it is minimal; otherwise it copies the sibling and moves one element) -/
theorem rightSteal_own {c t : Nat} {H : Heap} {h p i : Nat} {es : List Elt} {cs : List Node}
    (o : Own c H (h + 1) p (.node es cs)) (hown : (rd H (kidA (rd H p).kids i)).creator = c)
    (hocc : ∀ n ∈ cs, minKeys t ≤ n.elts.length) :
    (tryRightSteal t es cs i = none → hTryRightSteal t H (kidA (rd H p).kids i) p i = (H, false)) ∧
    ∀ r, tryRightSteal t es cs i = some r →
      ∃ H4, hTryRightSteal t H (kidA (rd H p).kids i) p i = (H4, true) ∧ Upd c H H4 (h + 1) p (.node r.1 r.2) ∧
        kidA (rd H4 p).kids i = kidA (rd H p).kids i ∧ r.1.length = es.length := by
  by_cases hlt : i + 1 < cs.length
  · obtain ⟨kl, s, r0, kr, el, pe, er, cl, ns, nr, cr, hk, rfl, hs, hkid1, rfl, hel, rfl, hcl, _, _, hr0, _⟩ :=
      o.pair hlt
    rw [hs] at hown ⊢
    have hpers := tryRightSteal_eq t el er pe cl ns nr cr (hcl.trans hel.symm)
    rw [hel] at hpers
    have hlt' : kl.length + 1 < (rd H p).kids.length := by rw [o.len.1]; exact hlt
    have hmin : isMinimalC t (rd H r0) = isMinimal t nr := by simp [isMinimal, isMinimalC, ← hr0, absN_elts]
    cases hm : isMinimal t nr with
    | true =>
      rw [hm, if_pos rfl] at hpers
      exact ⟨fun _ => by simp [hTryRightSteal, hlt', hkid1, hmin, hm], fun r hr => by rw [hpers] at hr; cases hr⟩
    | false =>
      rw [hm, if_neg Bool.false_ne_true] at hpers
      refine ⟨fun hn => (by rw [hpers] at hn; cases hn), fun r hr => ?_⟩
      rw [hpers] at hr
      cases hr
      obtain ⟨H1, r1, hcw, ucow, _, or1, hk1⟩ := cowChild_own o hlt
      have o1 := o.upd ucow
      rw [hk, setAt_at_succ rfl] at hk1
      rw [kidAt_at_succ hcl] at or1
      -- both children are owned now: three cells are rewritten in place
      obtain ⟨c1, c2, _, c4⟩ := o1.cut2 hk1 hcl.symm
      obtain ⟨hps, hpr, hsr⟩ := kids_ne o1.nodup hk1
      have hts := HT_kid o1.ht (show s ∈ (rd H1 p).kids by rw [hk1]; simp)
      have hes : (rd H1 p).elts = el ++ pe :: er := o1.elts
      have hlr := HT_leaf or1.ht
      have hrk := HT_kids_nonempty or1.ht
      have hne1 : (rd H1 r1).elts ≠ [] := fun e => by
        have := hocc nr (by simp)
        simp only [isMinimal, beq_eq_false_iff_ne, ← or1.elts, e, List.length_nil] at hm this
        omega
      obtain ⟨P', hP'⟩ : ∃ P' : Cell, P' =
          { rd H1 p with elts := setAt (rd H1 p).elts kl.length (eltAt (rd H1 r1).elts 0) } := ⟨_, rfl⟩
      obtain ⟨B', hB'⟩ : ∃ B' : Cell, B' =
          { rd H1 r1 with elts := (rd H1 r1).elts.drop 1,
                          kids := if (rd H1 r1).leaf then (rd H1 r1).kids else (rd H1 r1).kids.drop 1 } := ⟨_, rfl⟩
      obtain ⟨A', hA'⟩ : ∃ A' : Cell, A' =
          { rd H1 s with elts := (rd H1 s).elts ++ [eltAt (rd H1 p).elts kl.length],
                         kids := if (rd H1 r1).leaf then (rd H1 s).kids
                                 else (rd H1 s).kids ++ [kidA (rd H1 r1).kids 0] } := ⟨_, rfl⟩
      have hfun : hTryRightSteal t H s p kl.length = (wr (wr (wr H1 p P') r1 B') s A', true) := by
        have hs3 : ∀ P B : Cell, rd (wr (wr H1 p P) r1 B) s = rd H1 s := fun P B => by
          rw [rd_wr_other _ (Ne.symm hsr), rd_wr_other _ hps]
        simp only [hTryRightSteal, hlt', if_true, hkid1, hmin, hm, Bool.not_false, hcw, hs3, ← hP', ← hB', ← hA']
      obtain ⟨rp, rr, rs, so⟩ := wr3 P' B' A' (HT_lt o1.ht) (HT_lt or1.ht) (HT_lt hts) hpr hps (Ne.symm hsr)
      have hsz : (wr (wr (wr H1 p P') r1 B') s A').size = H1.size := by simp
      generalize wr (wr (wr H1 p P') r1 B') s A' = H4 at hfun rp rr rs so hsz
      have u := upd_mid (mid := [s, r1]) (mid' := [s, r1]) o1 (by simpa using hk1) so
        (by simp [rp, rr, rs, hP', hB', hA', or1.own, o1.own, ucow.creator s (HT_lt (HT_kid o.ht (by rw [hk]; simp))), hown])
        (fun z h1 h2 => by omega) (Grown.refl _ _) (by simpa [hsz] using ⟨HT_lt hts, HT_lt or1.ht⟩)
        (by simp [rr, rs, hB', hA', HT_leaf hts, hlr])
        (fun h0 => by
          have := HT_len hts h0
          have := HT_len or1.ht h0
          have := List.length_pos_iff.mpr hne1
          simp [rr, rs, hB', hA', hlr, h0]; omega)
        (fun h0 => by
          obtain ⟨k0, ks, hrk'⟩ := List.exists_cons_of_ne_nil (hrk h0)
          simp [rr, rs, hB', hA', hlr, h0, hrk', kidA])
        (by rw [rp, hP']; exact o1.ht.2.1) (by rw [rp, hP']; simpa using hk1)
        (by rw [rp, hP', o1.ht.2.2.1, hes, ← hel]; simp only [setAt_at rfl, List.length_append, List.length_cons])
      refine ⟨H4, hfun, ucow.trans (u.congr_abs ?_), by rw [rp, hP', hk1]; exact kidA_at rfl, by simp⟩
      have e := stealFromRight_cabs H1 (S := rd H1 s) pe hlr hne1 hrk
      rw [← absN_eq_cabs, ← absN_eq_cabs, c2, or1.abs] at e
      rw [e, rp, hP', c1, c4]
      simp only [rs, rr, hB', hA', List.map_cons, List.map_nil, hes, ← hel, setAt_at rfl, eltAt_at rfl,
        List.append_assoc, List.cons_append, List.nil_append]
  · exact ⟨fun _ => by simp [hTryRightSteal, o.len.1, hlt], fun r hr => by
      rw [tryRightSteal_none_of_short _ _ _ _ hlt] at hr; cases hr⟩

/-- `self.try_left_steal(parent, i)` for the owned child at index `i` -/
theorem leftSteal_own {c t : Nat} {H : Heap} {h p i : Nat} {es : List Elt} {cs : List Node}
    (o : Own c H (h + 1) p (.node es cs)) (hi : i < cs.length) (hown : (rd H (kidA (rd H p).kids i)).creator = c)
    (hocc : ∀ n ∈ cs, minKeys t ≤ n.elts.length) :
    (tryLeftSteal t es cs i = none → hTryLeftSteal t H (kidA (rd H p).kids i) p i = (H, false)) ∧
    ∀ r, tryLeftSteal t es cs i = some r →
      ∃ H4, hTryLeftSteal t H (kidA (rd H p).kids i) p i = (H4, true) ∧ Upd c H H4 (h + 1) p (.node r.1 r.2) ∧
        kidA (rd H4 p).kids i = kidA (rd H p).kids i ∧ r.1.length = es.length := by
  cases i with
  | zero => exact ⟨fun _ => by simp [hTryLeftSteal], fun r hr => by rw [tryLeftSteal_zero] at hr; cases hr⟩
  | succ j =>
    obtain ⟨kl, l0, s, kr, el, pe, er, cl, nl, ns, cr, hk, rfl, hkid0, hkids, rfl, hel, rfl, hcl, _, hl0, _, _⟩ :=
      o.pair hi
    rw [hkids] at hown ⊢
    have hpers := tryLeftSteal_eq t el er pe cl nl ns cr (hcl.trans hel.symm)
    rw [hel] at hpers
    have hmin : isMinimalC t (rd H l0) = isMinimal t nl := by simp [isMinimal, isMinimalC, ← hl0, absN_elts]
    cases hm : isMinimal t nl with
    | true =>
      rw [hm, if_pos rfl] at hpers
      exact ⟨fun _ => by simp [hTryLeftSteal, hkid0, hmin, hm], fun r hr => by rw [hpers] at hr; cases hr⟩
    | false =>
      rw [hm, if_neg Bool.false_ne_true] at hpers
      refine ⟨fun hn => (by rw [hpers] at hn; cases hn), fun r hr => ?_⟩
      rw [hpers] at hr
      cases hr
      obtain ⟨H1, l1, hcw, ucow, _, ol1, hk1⟩ := cowChild_own o (i := kl.length) (by omega)
      have o1 := o.upd ucow
      rw [hk, setAt_at rfl] at hk1
      rw [kidAt_at hcl] at ol1
      -- both children are owned now: three cells are rewritten in place
      obtain ⟨c1, _, c3, c4⟩ := o1.cut2 hk1 hcl.symm
      obtain ⟨hpl, hps, hls⟩ := kids_ne o1.nodup hk1
      have hts := HT_kid o1.ht (show s ∈ (rd H1 p).kids by rw [hk1]; simp)
      have hes : (rd H1 p).elts = el ++ pe :: er := o1.elts
      have hll := HT_leaf ol1.ht
      have hlk := HT_kids_nonempty ol1.ht
      have hne1 : (rd H1 l1).elts ≠ [] := fun e => by
        have := hocc nl (by simp)
        simp only [isMinimal, beq_eq_false_iff_ne, ← ol1.elts, e, List.length_nil] at hm this
        omega
      obtain ⟨P', hP'⟩ : ∃ P' : Cell, P' =
          { rd H1 p with elts := setAt (rd H1 p).elts kl.length
                                   (eltAt (rd H1 l1).elts ((rd H1 l1).elts.length - 1)) } := ⟨_, rfl⟩
      obtain ⟨A', hA'⟩ : ∃ A' : Cell, A' =
          { rd H1 l1 with elts := (rd H1 l1).elts.dropLast,
                          kids := if (rd H1 l1).leaf then (rd H1 l1).kids else (rd H1 l1).kids.dropLast } := ⟨_, rfl⟩
      obtain ⟨B', hB'⟩ : ∃ B' : Cell, B' =
          { rd H1 s with elts := eltAt (rd H1 p).elts kl.length :: (rd H1 s).elts,
                         kids := if (rd H1 l1).leaf then (rd H1 s).kids
                                 else kidA (rd H1 l1).kids ((rd H1 l1).kids.length - 1) :: (rd H1 s).kids } := ⟨_, rfl⟩
      have hfun : hTryLeftSteal t H s p (kl.length + 1) = (wr (wr (wr H1 p P') l1 A') s B', true) := by
        have hs3 : ∀ P A : Cell, rd (wr (wr H1 p P) l1 A) s = rd H1 s := fun P A => by
          rw [rd_wr_other _ hls, rd_wr_other _ hps]
        simp only [hTryLeftSteal, Nat.add_one_ne_zero, ne_eq, not_false_eq_true, if_true, Nat.add_sub_cancel, hkid0,
          hmin, hm, Bool.not_false, hcw, hs3, ← hP', ← hA', ← hB']
      obtain ⟨rp, rl, rs, so⟩ := wr3 P' A' B' (HT_lt o1.ht) (HT_lt ol1.ht) (HT_lt hts) hpl hps hls
      have hsz : (wr (wr (wr H1 p P') l1 A') s B').size = H1.size := by simp
      generalize wr (wr (wr H1 p P') l1 A') s B' = H4 at hfun rp rl rs so hsz
      have u := upd_mid (mid := [l1, s]) (mid' := [l1, s]) o1 (by simpa using hk1) so
        (by simp [rp, rl, rs, hP', hA', hB', ol1.own, o1.own, ucow.creator s (HT_lt (HT_kid o.ht (by rw [hk]; simp))),
          hown])
        (fun z h1 h2 => by omega) (Grown.refl _ _) (by simpa [hsz] using ⟨HT_lt ol1.ht, HT_lt hts⟩)
        (by simp [rl, rs, hA', hB', hll, HT_leaf hts])
        (fun h0 => by
          have := HT_len hts h0
          have := HT_len ol1.ht h0
          have := List.length_pos_iff.mpr hne1
          simp [rl, rs, hA', hB', hll, h0]; omega)
        (fun h0 => by
          obtain ⟨ks, z, hz⟩ := snoc_of_pos _ (List.length_pos_iff.mpr (hlk h0))
          simp [rl, rs, hA', hB', hll, h0, hz, kidA_at])
        (by rw [rp, hP']; exact o1.ht.2.1) (by rw [rp, hP']; simpa using hk1)
        (by rw [rp, hP', o1.ht.2.2.1, hes, ← hel]; simp only [setAt_at rfl, List.length_append, List.length_cons])
      refine ⟨H4, hfun, ucow.trans (u.congr_abs ?_), by rw [rp, hP', hk1]; exact kidA_at_succ rfl, by simp⟩
      have e := stealFromLeft_cabs H1 (S := rd H1 s) pe hll hne1 hlk
      rw [← absN_eq_cabs, ← absN_eq_cabs, ol1.abs, c3] at e
      rw [e, rp, hP', c1, c4]
      simp only [rs, rl, hA', hB', List.map_cons, List.map_nil, hes, ← hel, setAt_at rfl, eltAt_at rfl,
        List.append_assoc, List.cons_append, List.nil_append]

/-- `self.merge(parent, i)` for the owned child at index `i`, where `merge` succeeds (there is a right sibling): the
right sibling is read, not written, and drops out of the tree -/
theorem merge_own {c : Nat} {H : Heap} {h p i : Nat} {es : List Elt} {cs : List Node}
    (o : Own c H (h + 1) p (.node es cs)) (hown : (rd H (kidA (rd H p).kids i)).creator = c)
    (r : List Elt × List Node) (hr : merge es cs i = some r) :
    ∃ H2, hMerge H (kidA (rd H p).kids i) p i = some H2 ∧ Upd c H H2 (h + 1) p (.node r.1 r.2) ∧
      kidA (rd H2 p).kids i = kidA (rd H p).kids i ∧ r.1.length + 1 = es.length := by
  by_cases hlt : i + 1 < cs.length
  · obtain ⟨kl, a, b, kr, el, pe, er, cl, na, nb, cr, hk, rfl, ha, hkidb, rfl, hel, rfl, hcl, c1, c2, c3, c4⟩ :=
      o.pair hlt
    rw [ha] at hown ⊢
    have hpers := merge_eq el er pe cl na nb cr (hcl.trans hel.symm)
    rw [hel, hr] at hpers
    cases hpers
    have hes : (rd H p).elts = el ++ pe :: er := o.elts
    obtain ⟨hpa, _, _⟩ := kids_ne o.nodup hk
    have hta := HT_kid o.ht (show a ∈ (rd H p).kids by rw [hk]; simp)
    have htb := HT_kid o.ht (show b ∈ (rd H p).kids by rw [hk]; simp)
    have hla := HT_leaf hta
    have hlt' : kl.length + 1 < (rd H p).kids.length := by rw [o.len.1]; exact hlt
    obtain ⟨P', hP'⟩ : ∃ P' : Cell, P' = { rd H p with elts := popAt (rd H p).elts kl.length,
                                                        kids := popAt (rd H p).kids (kl.length + 1) } := ⟨_, rfl⟩
    obtain ⟨A', hA'⟩ : ∃ A' : Cell, A' =
        { rd H a with elts := (rd H a).elts ++ eltAt (rd H p).elts kl.length :: (rd H b).elts,
                      kids := if (rd H a).leaf then (rd H a).kids else (rd H a).kids ++ (rd H b).kids } := ⟨_, rfl⟩
    have hH2 : hMerge H a p kl.length = some (wr (wr H p P') a A') := by
      simp only [hMerge, hlt', if_true, hkidb, ← hP', rd_wr_other _ hpa, ← hA']
    have rp : rd (wr (wr H p P') a A') p = P' := by rw [rd_wr_other _ (Ne.symm hpa), rd_wr_same _ (HT_lt o.ht)]
    have ra : rd (wr (wr H p P') a A') a = A' := rd_wr_same _ (by simpa using HT_lt hta)
    have so := ((SameOff.refl H).wr p P').wr a A'
    have hsz : (wr (wr H p P') a A').size = H.size := by simp
    generalize wr (wr H p P') a A' = H2 at hH2 rp ra so hsz
    have hkids' : P'.kids = kl ++ a :: kr := by rw [hP', hk]; exact popAt_at_succ rfl
    have hlen := o.ht.2.2.1
    have u := upd_mid (mid := [a, b]) (mid' := [a]) o (by simpa using hk) so
      (by simp [rp, ra, hP', hA', hown, o.own]) (fun z h1 h2 => by omega) (fun x => by simp only [List.count_cons]; omega)
      (by simpa [hsz] using HT_lt hta) (by simp [ra, hA', hla])
      (fun h0 => by
        have := HT_len hta h0
        have := HT_len htb h0
        simp [ra, hA', hla, h0]; omega)
      (fun h0 => by simp [ra, hA', hla, h0])
      (by rw [rp, hP']; exact o.ht.2.1) (by rw [rp, hkids']; simp)
      (by
        rw [rp, hkids', hP']
        rw [hk] at hlen
        simp only [hes, ← hel, popAt_at rfl, List.length_append, List.length_cons] at hlen ⊢
        omega)
    refine ⟨_, hH2, u.congr_abs ?_, by rw [rp, hkids']; exact kidA_at rfl, by simp; omega⟩
    have e := mergeNodes_cabs H (A := rd H a) (B := rd H b) pe hla
    rw [← absN_eq_cabs, ← absN_eq_cabs, c2, c3] at e
    rw [e, rp, hP', c1, c4]
    simp only [ra, hA', List.map_cons, List.map_nil, hes, ← hel, popAt_at rfl, eltAt_at rfl, List.append_assoc,
      List.cons_append, List.nil_append]
  · simp [merge, hlt] at hr

/-- `child.balance(parent, i)` for the owned child at index `i`, where `balance` succeeds: the heap follows it, and
the child to continue in (same index after a steal, the index before it after a merge into the left sibling, as in
`delPrep_spec`) is owned: it is the child itself or the copied left sibling. -/
theorem balance_own {c t : Nat} {H : Heap} {h p i : Nat} {es : List Elt} {cs : List Node}
    (o : Own c H (h + 1) p (.node es cs)) (hi : i < cs.length) (hown : (rd H (kidA (rd H p).kids i)).creator = c)
    (hocc : ∀ n ∈ cs, minKeys t ≤ n.elts.length) (r : List Elt × List Node) (hb : balance t es cs i = some r) :
    ∃ H2, hBalance t H (kidA (rd H p).kids i) p i = some H2 ∧ Upd c H H2 (h + 1) p (.node r.1 r.2) ∧
      (rd H2 (kidA (rd H2 p).kids (if r.1.length = es.length then i else i - 1))).creator = c := by
  have hlt := HT_lt (o.kid_ht hi)
  have keep : ∀ {H2 : Heap} {n : Node}, Upd c H H2 (h + 1) p n → kidA (rd H2 p).kids i = kidA (rd H p).kids i →
      (rd H2 (kidA (rd H2 p).kids i)).creator = c := fun u e => by rw [e, u.creator _ hlt]; exact hown
  obtain ⟨ln, ls⟩ := leftSteal_own (t := t) o hi hown hocc
  obtain ⟨rn, rs⟩ := rightSteal_own (t := t) o hown hocc
  unfold balance at hb
  unfold hBalance
  cases hl : tryLeftSteal t es cs i with
  | some _ =>
    rw [hl] at hb
    cases hb
    obtain ⟨H4, e, u, hk4, hlen⟩ := ls r hl
    rw [e]
    exact ⟨H4, rfl, u, by rw [if_pos hlen]; exact keep u hk4⟩
  | none =>
    rw [hl] at hb
    rw [ln hl]
    cases hr : tryRightSteal t es cs i with
    | some _ =>
      rw [hr] at hb
      cases hb
      obtain ⟨H4, e, u, hk4, hlen⟩ := rs r hr
      rw [e]
      exact ⟨H4, rfl, u, by rw [if_pos hlen]; exact keep u hk4⟩
    | none =>
      rw [hr] at hb
      rw [rn hr]
      by_cases h0 : i = 0
      · subst h0
        simp only [if_true] at hb ⊢
        obtain ⟨H2, e, u, hk2, _⟩ := merge_own o hown r hb
        exact ⟨H2, e, u, by rw [Nat.zero_sub, ite_self]; exact keep u hk2⟩
      · -- merge into the left sibling, copied first
        simp only [h0, if_false] at hb ⊢
        obtain ⟨H1, l1, e1, u1, hkl1, ol, _⟩ := cowChild_own o (i := i - 1) (by omega)
        rw [e1]
        obtain ⟨H2, e, u, hk2, hlen⟩ := merge_own (o.upd u1) (by rw [hkl1]; exact ol.own) r hb
        rw [hkl1] at e hk2
        refine ⟨H2, e, u1.trans u, ?_⟩
        rw [if_neg (by omega), hk2, u.creator _ (HT_lt ol.ht)]
        exact ol.own

end Model.BTreeCow
