import Proofs.BTreeTree
import Proofs.BTreeCursorPark
/-!
The user-level API as thin layers over the tree: registered cursors (parked by every mutation), full iteration,
and the `BTreeDict` / `BTreeSet` methods with the `MutableMapping` / `MutableSet` mixins.
-/
namespace Model.BTree

theorem tree_get_refines {tr : Tree} (hw : TreeWf tr) (k : Nat) : tr.get k = lookup tr.items k := by
  obtain ⟨h, hs⟩ := hw.wf.shape
  unfold Tree.get Tree.items
  rw [height_of_shape hs]
  exact get_refines_aux tr.t k h tr.root hs hw.wf.sorted

theorem iterLoop_spec {t : Nat} {root : Node} {Hr : Nat} (hr : Shape t Hr root) :
    ∀ (fuel : Nat) (c : Cursor) (D R : List Elt), CurInv t root c D R → c.parked = false →
      R.length < fuel → iterLoop root fuel c = R := by
  intro fuel
  induction fuel with
  | zero => intro c D R _ _ hf; omega
  | succ f ih =>
    intro c D R hinv hp hf
    obtain ⟨h1, h2, h3⟩ := next_spec hr c D R hp hinv
    unfold iterLoop
    rcases hn : c.next root with ⟨c', r⟩
    rw [hn] at h1 h2 h3
    cases R with
    | nil => subst h1; rfl
    | cons e R =>
      subst h1
      simp only [List.head?_cons, List.tail_cons, Option.toList_some] at h2 ⊢
      rw [ih c' (D ++ [e]) R h2 h3 (by simp at hf; omega)]

theorem iter_eq_items {tr : Tree} (hw : TreeWf tr) : tr.iter = tr.items := by
  obtain ⟨Hr, hr⟩ := hw.wf.shape
  unfold Tree.iter
  exact iterLoop_spec hr (tr.size + 1) {} [] (flat tr.root) ((boundary_inv tr.t tr.root {} rfl rfl rfl).1 rfl) rfl
    (by rw [hw.size_ok]; omega)

theorem insert_parks {tc : TreeC} (e : Elt) (hm : tc.tree.immutable = false) :
    (tc.insert e).1.cursors = tc.cursors.map (fun bc => if bc.1 then (bc.1, bc.2.park) else bc) ∧
    (tc.insert e).1.tree = (tc.tree.insert e).1 ∧ (tc.insert e).2 = (tc.tree.insert e).2 := by
  simp [TreeC.insert, hm, TreeC.parkAll]

theorem delete_parks {tc : TreeC} (k : Nat) (x : Option Elt) (hm : tc.tree.immutable = false) :
    (tc.delete k x).1.cursors = tc.cursors.map (fun bc => if bc.1 then (bc.1, bc.2.park) else bc) ∧
    (tc.delete k x).1.tree = (tc.tree.delete k x).1 ∧ (tc.delete k x).2 = (tc.tree.delete k x).2 := by
  simp [TreeC.delete, hm, TreeC.parkAll]

theorem frozen_keeps_cursors {tc : TreeC} (e : Elt) (k : Nat) (x : Option Elt) (hm : tc.tree.immutable = true) :
    tc.insert e = (tc, .immutableErr) ∧ tc.delete k x = (tc, .immutableErr) := by
  simp [TreeC.insert, TreeC.delete, hm]

theorem parked_getElem {cs : List (Bool × Cursor)} {i : Nat} {c : Cursor}
    (h : cs[i]? = some (true, c)) :
    (cs.map (fun bc => if bc.1 then (bc.1, bc.2.park) else bc))[i]? = some (true, c.park) := by
  simp [List.getElem?_map, h]

theorem splitAt_after {K : Nat} {D R : List Elt} (h : SplitAt K false D R) :
    R = (D ++ R).filter (fun x => decide (K < x.1)) := by
  simp only [SplitAt, Bool.false_eq_true, if_false] at h
  rw [List.filter_append]
  have h1 : D.filter (fun x => decide (K < x.1)) = [] := by
    rw [List.filter_eq_nil_iff]
    intro x hx
    have := h.1 x hx
    simp; omega
  have h2 : R.filter (fun x => decide (K < x.1)) = R := by
    rw [List.filter_eq_self]
    intro x hx
    simpa using h.2 x hx
  rw [h1, h2]; rfl

theorem dict_getitem {tr : Tree} (hw : TreeWf tr) (k : Nat) :
    Dict.getitem tr k = (match lookup tr.items k with | some e => .ok e.2 | none => .error .keyError) := by
  unfold Dict.getitem
  rw [tree_get_refines hw]
  cases lookup tr.items k <;> rfl

theorem dict_contains {tr : Tree} (hw : TreeWf tr) (k : Nat) :
    Dict.contains tr k = (lookup tr.items k).isSome := by
  simp only [Dict.contains, dict_getitem hw]
  cases lookup tr.items k <;> rfl

theorem dict_get {tr : Tree} (hw : TreeWf tr) (k : Nat) :
    Dict.get tr k = (lookup tr.items k).map (·.2) := by
  simp only [Dict.get, dict_getitem hw]
  cases lookup tr.items k <;> rfl

/-- `insert_element` on a tree with cursors: the tree handle's insertion -/
theorem treeC_insert_spec {tc : TreeC} (e : Elt) (hw : TreeWf tc.tree) (hm : tc.tree.immutable = false) :
    TreeWf (tc.insert e).1.tree ∧ (tc.insert e).1.tree.items = insSorted e tc.tree.items ∧
    (tc.insert e).2 = .ok (lookup tc.tree.items e.1) := by
  obtain ⟨h1, h2, h3, _⟩ := tree_insert_spec e hw hm
  obtain ⟨_, p2, p3⟩ := insert_parks (tc := tc) e hm
  rw [p2, p3]
  exact ⟨h1, h2, h3⟩

theorem dict_setitem {tc : TreeC} (k v : Nat) (hw : TreeWf tc.tree) (hm : tc.tree.immutable = false) :
    TreeWf (Dict.setitem tc k v).1.tree ∧ (Dict.setitem tc k v).1.tree.items = insSorted (k, v) tc.tree.items ∧
    (Dict.setitem tc k v).2 = .ok () := by
  obtain ⟨h1, h2, h3⟩ := treeC_insert_spec (k, v) hw hm
  simp only [Dict.setitem, h3, apiErrOf]
  exact ⟨h1, h2, rfl⟩

/-- `_delete` (with the root collapsed whenever it is left empty) on a tree with cursors -/
theorem treeC_delete_spec {tc : TreeC} (k : Nat) (hw : TreeWf tc.tree) (hr : RootOk tc.tree.root)
    (hm : tc.tree.immutable = false) (hv : tc.tree.collapseAlways = true) :
    TreeWf (tc.delete k none).1.tree ∧ RootOk (tc.delete k none).1.tree.root ∧
    (tc.delete k none).1.tree.items = delKey k tc.tree.items ∧
    (tc.delete k none).2 = .ok (lookup tc.tree.items k) := by
  obtain ⟨_, p2, p3⟩ := delete_parks (tc := tc) k none hm
  rw [p2, p3]
  exact tree_delete_spec k hw hr hm hv

theorem dict_delitem {tc : TreeC} (k : Nat) (hw : TreeWf tc.tree) (hr : RootOk tc.tree.root)
    (hm : tc.tree.immutable = false) (hv : tc.tree.collapseAlways = true) :
    TreeWf (Dict.delitem tc k).1.tree ∧ RootOk (Dict.delitem tc k).1.tree.root ∧
    (Dict.delitem tc k).1.tree.items = delKey k tc.tree.items ∧
    (Dict.delitem tc k).2 = (if (lookup tc.tree.items k).isSome then .ok () else .error .keyError) := by
  obtain ⟨a, b, c, d⟩ := treeC_delete_spec k hw hr hm hv
  have hdel : Dict.delitem tc k = ((tc.delete k none).1,
      if (lookup tc.tree.items k).isSome then .ok () else .error .keyError) := by
    simp only [Dict.delitem, d, apiErrOf]
    cases lookup tc.tree.items k <;> rfl
  rw [hdel]
  exact ⟨a, b, c, rfl⟩

theorem dict_pop {tc : TreeC} (k : Nat) (hw : TreeWf tc.tree) (hr : RootOk tc.tree.root)
    (hm : tc.tree.immutable = false) (hv : tc.tree.collapseAlways = true) :
    (Dict.pop tc k).2 = (match lookup tc.tree.items k with | some e => .ok e.2 | none => .error .keyError) ∧
    (Dict.pop tc k).1.tree.items = delKey k tc.tree.items := by
  obtain ⟨_, _, d3, d4⟩ := dict_delitem k hw hr hm hv
  simp only [Dict.pop, dict_getitem hw]
  cases hl : lookup tc.tree.items k with
  | none =>
    simp only []
    refine ⟨trivial, ?_⟩
    -- the key falls into a gap of the listing
    rcases cut_cases k hw.wf.sorted with ⟨A, B, hAB, hA, hB⟩ | ⟨A, e0, B, hAB, h0, hA, hB⟩
    · rw [Tree.items, hAB, delKey_gap hA hB]
    · rw [Tree.items, hAB, lookup_found h0 hA] at hl; cases hl
  | some e =>
    simp only []
    rw [hl] at d4
    simp only [Option.isSome_some, if_true] at d4
    rw [d4]
    exact ⟨rfl, d3⟩

theorem dict_keys {tr : Tree} (hw : TreeWf tr) : Dict.keys tr = tr.items.map (·.1) := by
  simp only [Dict.keys, iter_eq_items hw]

theorem filterMap_lookup_self {l : List Elt} (hs : Sorted l) (f : Elt → Elt) (hf : ∀ e, f e = e) :
    (l.map (·.1)).filterMap (fun k => (lookup l k).map f) = l := by
  suffices h : ∀ (pre : List Elt), Sorted (pre ++ l) →
      (l.map (·.1)).filterMap (fun k => (lookup (pre ++ l) k).map f) = l from h [] (by simpa using hs)
  clear hs
  induction l with
  | nil => intro pre _; rfl
  | cons a l ih =>
    intro pre hsp
    have hpre : ∀ x ∈ pre, x.1 < a.1 := fun x hx => (sorted_append_iff.mp hsp).2.2 x hx a (by simp)
    simp only [List.map_cons, List.filterMap_cons]
    rw [lookup_found rfl hpre]
    simp only [Option.map_some, hf]
    congr 1
    have := ih (pre ++ [a]) (by simpa using hsp)
    simpa using this

theorem dict_items {tr : Tree} (hw : TreeWf tr) : Dict.items tr = tr.items := by
  simp only [Dict.items, dict_keys hw]
  have : (fun k => (Dict.get tr k).map fun v => (k, v)) = fun k => (lookup tr.items k).map (fun e => (e.1, e.2)) := by
    funext k
    rw [dict_get hw]
    cases hl : lookup tr.items k with
    | none => rfl
    | some e => simp [lookup_mem_key hl]
  rw [this]
  exact filterMap_lookup_self (l := tr.items) hw.wf.sorted _ (fun e => rfl)

theorem dict_values {tr : Tree} (hw : TreeWf tr) : Dict.values tr = tr.items.map (·.2) := by
  simp only [Dict.values, dict_keys hw]
  have : (Dict.get tr) = fun k => (lookup tr.items k).map (·.2) := by funext k; exact dict_get hw k
  rw [this]
  have h := filterMap_lookup_self (l := tr.items) hw.wf.sorted id (fun e => rfl)
  have h2 : (tr.items.map (·.1)).filterMap (fun k => (lookup tr.items k).map (·.2)) =
      ((tr.items.map (·.1)).filterMap (fun k => (lookup tr.items k).map id)).map (·.2) := by
    rw [List.map_filterMap]
    congr 1
    funext k
    cases lookup tr.items k <;> rfl
  rw [h2, h]

theorem set_contains {tr : Tree} (hw : TreeWf tr) (k : Nat) :
    SetApi.contains tr k = (lookup tr.items k).isSome := by
  simp only [SetApi.contains, tree_get_refines hw]

theorem set_add {tc : TreeC} (k : Nat) (hw : TreeWf tc.tree) (hm : tc.tree.immutable = false) :
    TreeWf (SetApi.add tc k).1.tree ∧ (SetApi.add tc k).1.tree.items = insSorted (k, 0) tc.tree.items ∧
    (SetApi.add tc k).2 = .ok () := by
  obtain ⟨h1, h2, h3⟩ := treeC_insert_spec (k, 0) hw hm
  simp only [SetApi.add, h3, apiErrOf]
  exact ⟨h1, h2, rfl⟩

theorem set_discard {tc : TreeC} (k : Nat) (hw : TreeWf tc.tree) (hr : RootOk tc.tree.root)
    (hm : tc.tree.immutable = false) (hv : tc.tree.collapseAlways = true) :
    TreeWf (SetApi.discard tc k).1.tree ∧ RootOk (SetApi.discard tc k).1.tree.root ∧
    (SetApi.discard tc k).1.tree.items = delKey k tc.tree.items ∧ (SetApi.discard tc k).2 = .ok () := by
  obtain ⟨a, b, c, d⟩ := treeC_delete_spec k hw hr hm hv
  simp only [SetApi.discard, d, apiErrOf]
  exact ⟨a, b, c, rfl⟩

theorem set_remove {tc : TreeC} (k : Nat) (hw : TreeWf tc.tree) (hr : RootOk tc.tree.root)
    (hm : tc.tree.immutable = false) (hv : tc.tree.collapseAlways = true) :
    ((lookup tc.tree.items k).isSome = true → (SetApi.remove tc k).2 = .ok () ∧
        (SetApi.remove tc k).1.tree.items = delKey k tc.tree.items) ∧
    ((lookup tc.tree.items k).isSome = false → SetApi.remove tc k = (tc, .error .keyError)) := by
  obtain ⟨_, _, d3, d4⟩ := set_discard k hw hr hm hv
  simp only [SetApi.remove, set_contains hw]
  constructor
  · intro h; simp only [h, if_true]; exact ⟨d4, d3⟩
  · intro h; simp [h]

theorem set_members {tr : Tree} (hw : TreeWf tr) : SetApi.members tr = tr.items.map (·.1) := by
  simp only [SetApi.members, iter_eq_items hw]

end Model.BTree
