import Proofs.BTreeZoneSpec
import Proofs.BTreeZoneNode
/-!
`Delegations.get_delegation` / `is_glue` on a sorted antichain: the greatest index entry not after a name is the
only one that can be at or above it, because subtrees are convex in canonical order.  Then the invariant `Good` of the
C20 model (flags and index equal the specification; the index of a `Good` version is such an antichain), its
pointwise introduction rule, and the index lookups (`is_glue`, membership) in a `Good` version.
-/
namespace Model
namespace BTZ

theorem lastLE_some {l : List Name} (h : DWF l) {name d : Name} (hl : lastLE l name = some d) :
    d ∈ l ∧ cmpOrder d name ≤ 0 ∧ ∀ x ∈ l, cmpOrder x name ≤ 0 → cmpOrder x d ≤ 0 := by
  unfold lastLE at hl
  rw [(takeWhile_le (fun e => e) h.1 name).1] at hl
  exact (last_le_iff (fun e => e) h.1 name).mp hl

theorem lastLE_none {l : List Name} (h : DWF l) {name : Name} (hl : lastLE l name = none) :
    ∀ x ∈ l, ¬ cmpOrder x name ≤ 0 := by
  unfold lastLE at hl
  rw [(takeWhile_le (fun e => e) h.1 name).1, List.getLast?_eq_none_iff, List.filter_eq_nil_iff] at hl
  intro x hx; simpa using hl x hx

/-- no element is a proper subdomain of another -/
def Antichain (l : List Name) : Prop := ∀ d ∈ l, ∀ d' ∈ l, properSub d d' = false

theorem Antichain.eq {l : List Name} (hac : Antichain l) (h : DWF l) {d d' : Name} (hd : d ∈ l) (hd' : d' ∈ l)
    (hs : isSubdomain d d' = true) : d = d' :=
  Classical.byContradiction fun e => by
    have := (properSub_iff_sub_ne (h.2 d hd) (h.2 d' hd')).mpr ⟨hs, e⟩
    rw [hac d hd d' hd'] at this; cases this

/-- `get_delegation` in terms of `is_subdomain` -/
theorem getDelegation_eq (l : List Name) (name : Name) :
    getDelegation l name =
      match lastLE l name with
      | none => (none, false)
      | some d => if isSubdomain name d then (some d, properSub name d) else (none, false) := by
  unfold getDelegation isSubdomain properSub
  cases lastLE l name with
  | none => rfl
  | some d =>
    cases h2 : (fullcompare name d).1 == 2 <;> cases h3 : (fullcompare name d).1 == 3 <;> simp [h2, h3]

theorem getDelegation_hit {l : List Name} (h : DWF l) (hac : Antichain l) {name d : Name}
    (hd : d ∈ l) (hsub : isSubdomain name d = true) :
    getDelegation l name = (some d, properSub name d) := by
  rw [getDelegation_eq]
  cases hl : lastLE l name with
  | none => exact absurd (NameOrder.isSubdomain_le hsub) (lastLE_none h hl d hd)
  | some d0 =>
    -- the greatest index entry not after `name` lies between `d` and `name`, hence below `d`
    obtain ⟨hd0, hle, hmax⟩ := lastLE_some h hl
    have : d0 = d := hac.eq h hd0 hd (NameOrder.isSubdomain_convex hsub (hmax d hd (NameOrder.isSubdomain_le hsub)) hle)
    subst this; simp [hsub]

theorem getDelegation_miss {l : List Name} (h : DWF l) {name : Name}
    (hno : ∀ d ∈ l, isSubdomain name d = false) : getDelegation l name = (none, false) := by
  rw [getDelegation_eq]
  cases hl : lastLE l name with
  | none => rfl
  | some d0 => simp [hno d0 (lastLE_some h hl).1]

theorem getDelegation_some {l : List Name} (h : DWF l) {name c : Name}
    (hc : (getDelegation l name).1 = some c) : c ∈ l ∧ isSubdomain name c = true := by
  rw [getDelegation_eq] at hc
  cases hl : lastLE l name with
  | none => rw [hl] at hc; cases hc
  | some d0 =>
    rw [hl] at hc
    simp only at hc
    split at hc
    · rename_i hs; cases hc; exact ⟨(lastLE_some h hl).1, hs⟩
    · cases hc

theorem isGlueIdx_iff {l : List Name} (h : DWF l) (hac : Antichain l) {name : Name} :
    isGlueIdx l name = true ↔ ∃ d ∈ l, properSub name d = true := by
  unfold isGlueIdx
  by_cases hex : ∃ d ∈ l, isSubdomain name d = true
  · obtain ⟨d, hd, hsub⟩ := hex
    rw [getDelegation_hit h hac hd hsub]
    refine ⟨fun hp => ⟨d, hd, hp⟩, fun ⟨d', hd', hp'⟩ => ?_⟩
    -- d and d' are both above name: comparable, hence equal in an antichain
    have : d = d' := (NameOrder.isSubdomain_chain hsub (properSub_sub hp')).elim (hac.eq h hd hd')
      fun hc => (hac.eq h hd' hd hc).symm
    rw [this]; exact hp'
  · rw [getDelegation_miss h fun d hd => Bool.eq_false_iff.mpr fun hh => hex ⟨d, hd, hh⟩]
    simp only [Bool.false_eq_true, false_iff]
    rintro ⟨d, hd, hp⟩
    exact hex ⟨d, hd, properSub_sub hp⟩

structure Good (cfg : Cfg) (ver : Ver) : Prop where
  wf : NWF ver.nodes
  dwf : DWF ver.delegs
  inzone : ∀ e ∈ ver.nodes, isSubdomain e.1 (apex cfg) = true
  rds : ∀ e ∈ ver.nodes, RdsOK e.2.rds
  flags : ∀ e ∈ ver.nodes, e.2.flags = flagsSpec cfg ver.nodes e.1
  index : ∀ n, LC n → (n ∈ ver.delegs ↔ isDelegSpec cfg ver.nodes n = true)

theorem Good_intro {cfg : Cfg} {ver : Ver} (wf : NWF ver.nodes) (dwf : DWF ver.delegs)
    (hp : ∀ k nd, LC k → nget ver.nodes k = some nd →
      isSubdomain k (apex cfg) = true ∧ RdsOK nd.rds ∧ nd.flags = flagsSpec cfg ver.nodes k)
    (hi : ∀ n, LC n → (n ∈ ver.delegs ↔ isDelegSpec cfg ver.nodes n = true)) : Good cfg ver := by
  refine ⟨wf, dwf, ?_, ?_, ?_, hi⟩
  · intro e he; exact (hp e.1 e.2 (wf.2 e he) (mem_nget wf he)).1
  · intro e he; exact (hp e.1 e.2 (wf.2 e he) (mem_nget wf he)).2.1
  · intro e he; exact (hp e.1 e.2 (wf.2 e he) (mem_nget wf he)).2.2

theorem Good.pointwise {cfg : Cfg} {ver : Ver} (h : Good cfg ver) {k : Name} {nd : Node} (hk : LC k)
    (hg : nget ver.nodes k = some nd) :
    isSubdomain k (apex cfg) = true ∧ RdsOK nd.rds ∧ nd.flags = flagsSpec cfg ver.nodes k := by
  have hm := nget_some_mem h.wf hk hg
  exact ⟨h.inzone _ hm, h.rds _ hm, h.flags _ hm⟩

theorem Good.mem_delegs {cfg : Cfg} {ver : Ver} (h : Good cfg ver) {d : Name} :
    d ∈ ver.delegs ↔ ∃ nd, (d, nd) ∈ ver.nodes ∧ isDelegSpec cfg ver.nodes d = true := by
  constructor
  · intro hd
    have hl := h.dwf.2 d hd
    have hdel := (h.index d hl).mp hd
    obtain ⟨_, ⟨nd, hg, _⟩, _⟩ := (isDelegSpec_iff h.wf).mp hdel
    exact ⟨nd, nget_some_mem h.wf hl hg, hdel⟩
  · rintro ⟨nd, hm, hd⟩
    exact (h.index d (h.wf.2 _ hm)).mpr hd

theorem delegsSpec_DWF {cfg : Cfg} {N : Nodes} (h : NWF N) : DWF (delegsSpec cfg N) :=
  NWF_iff_keys.mp (NWF_sublist List.filter_sublist h)

theorem Good.delegs_eq {cfg : Cfg} {ver : Ver} (h : Good cfg ver) : ver.delegs = delegsSpec cfg ver.nodes :=
  DWF_ext h.dwf (delegsSpec_DWF h.wf) fun _ => h.mem_delegs.trans mem_delegsSpec.symm

theorem apex_not_above {cfg : Cfg} {ver : Ver} (h : Good cfg ver) {name : Name} (ho : isOrigin cfg name = true)
    (hn : LC name) : ¬ NSAbove cfg ver.nodes name := by
  rintro ⟨a, ha, ⟨nd, hg, _⟩, hp, _⟩
  rw [(nameEq_eq hn (LC_apex cfg)).mp ho] at hp
  exact ne_of_properSub (properSub_of_properSub_of_sub hp (h.pointwise ha hg).1) rfl

theorem Good.flags_cases {cfg : Cfg} {ver : Ver} (h : Good cfg ver) {name : Name} (hn : LC name) :
    (isOrigin cfg name = true ∧ isDelegSpec cfg ver.nodes name = false ∧ isGlueSpec cfg ver.nodes name = false) ∨
    (isOrigin cfg name = false ∧ isDelegSpec cfg ver.nodes name = false ∧ isGlueSpec cfg ver.nodes name = true) ∨
    (isOrigin cfg name = false ∧ isGlueSpec cfg ver.nodes name = false) := by
  cases ho : isOrigin cfg name with
  | true =>
    refine Or.inl ⟨rfl, by simp [isDelegSpec, ho], Bool.eq_false_iff.mpr fun hg => ?_⟩
    exact apex_not_above h ho hn ((isGlueSpec_iff h.wf).mp hg)
  | false =>
    cases hg : isGlueSpec cfg ver.nodes name with
    | true => exact Or.inr (Or.inl ⟨rfl, not_deleg_of_above h.wf ((isGlueSpec_iff h.wf).mp hg), rfl⟩)
    | false => exact Or.inr (Or.inr ⟨rfl, rfl⟩)

theorem Good.antichain {cfg : Cfg} {ver : Ver} (h : Good cfg ver) : Antichain ver.delegs := by
  intro d hd d' hd'
  refine Bool.eq_false_iff.mpr fun hp => ?_
  have h1 := (isDelegSpec_iff h.wf).mp ((h.index d (h.dwf.2 d hd)).mp hd)
  have h2 := (isDelegSpec_iff h.wf).mp ((h.index d' (h.dwf.2 d' hd')).mp hd')
  exact h1.2.2 ⟨d', h.dwf.2 d' hd', h2.2.1, hp, h2.1⟩

theorem glueIdx_eq {cfg : Cfg} {ver : Ver} (h : Good cfg ver) (name : Name) :
    isGlueIdx ver.delegs name = isGlueSpec cfg ver.nodes name := by
  rw [Bool.eq_iff_iff, isGlueIdx_iff h.dwf h.antichain]
  unfold isGlueSpec
  rw [List.any_eq_true]
  constructor
  · rintro ⟨d, hd, hp⟩
    obtain ⟨nd, hm, hdel⟩ := h.mem_delegs.mp hd
    exact ⟨(d, nd), hm, by simp [hp, hdel]⟩
  · rintro ⟨e, he, hp⟩
    simp only [Bool.and_eq_true] at hp
    exact ⟨e.1, h.mem_delegs.mpr ⟨e.2, he, hp.2⟩, hp.1⟩

theorem dmem_eq_deleg {cfg : Cfg} {ver : Ver} (h : Good cfg ver) {name : Name} (hn : LC name) :
    dmem ver.delegs name = isDelegSpec cfg ver.nodes name := by
  rw [Bool.eq_iff_iff, dmem_iff h.dwf.2 hn, h.index name hn]

end BTZ
end Model
