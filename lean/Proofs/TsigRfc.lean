/-!
RFC 8945 §4.3 ("Digest components") and §5.3.1 (multi-message exchanges) written down independently of the
model of the code: own big-endian encoder, own canonical name form, own algorithm table (§6).
Nothing here mentions a model function; the lemmas connecting the two are in `Proofs/TsigBytes.lean` (the encoders)
and `Proofs/TsigDigest.lean` (canonical names, the stripped message, the composition).
-/
namespace Rfc8945

/-- an unsigned integer in `k` octets, network order -/
def be : Nat → Nat → List Nat
  | 0, _ => []
  | k + 1, n => be k (n / 256) ++ [n % 256]

/-- RFC 4034 §6.2 / RFC 8945 §4.3.3 "canonical wire format": upper-case US-ASCII letters become lower case -/
def fold (c : Nat) : Nat := if 65 ≤ c ∧ c ≤ 90 then c + 32 else c

/-- a domain name (list of labels, the last one empty) in canonical wire format, uncompressed -/
def canon (n : List (List Nat)) : List Nat := (n.map fun l => l.length :: l.map fold).flatten

/-- the TSIG variables of §4.3.3 that are not constants -/
structure Vars where
  name : List (List Nat)      -- key name
  alg : List (List Nat)       -- algorithm name
  time : Nat                  -- time signed (48 bits)
  fudge : Nat
  error : Nat
  other : List Nat

/-- §4.3.1: a MAC "including the MAC Size field as two octets" -/
def macField (m : List Nat) : List Nat := be 2 m.length ++ m

/-- §4.3.2: the message without its TSIG RR and with ARCOUNT decremented (`msg`), its ID replaced by the
original ID -/
def message (origId : Nat) (msg : List Nat) : List Nat := be 2 origId ++ msg.drop 2

/-- §4.3.3, in the order of the table: NAME, CLASS (ANY = 255), TTL (0), Algorithm Name, Time Signed, Fudge,
Error, Other Len, Other Data -/
def variables (v : Vars) : List Nat :=
  canon v.name ++ be 2 255 ++ be 4 0 ++ canon v.alg ++ be 6 v.time ++ be 2 v.fudge ++ be 2 v.error
    ++ be 2 v.other.length ++ v.other

/-- §5.3.1 "TSIG Timers": Time Signed and Fudge -/
def timers (v : Vars) : List Nat := be 6 v.time ++ be 2 v.fudge

/-- a request, or any message not bound to a request MAC -/
def requestInput (origId : Nat) (msg : List Nat) (v : Vars) : List Nat := message origId msg ++ variables v

/-- a response (or the first envelope of a multi-message response) to a request whose MAC was `reqMac` -/
def responseInput (reqMac : List Nat) (origId : Nat) (msg : List Nat) (v : Vars) : List Nat :=
  macField reqMac ++ message origId msg ++ variables v

/-- §5.3.1, second and later signed envelopes: prior MAC (running), any unsigned messages since the last TSIG,
this message, the timers.  (Reading fixed here: the prior MAC is digested like a request MAC, with its size.) -/
def laterInput (priorMac : List Nat) (unsignedSince : List (List Nat)) (origId : Nat) (msg : List Nat) (v : Vars) :
    List Nat :=
  macField priorMac ++ unsignedSince.flatten ++ message origId msg ++ timers v

/-- the received message with the TSIG RR (which starts at `tsigStart`) removed and ARCOUNT decremented -/
def stripTsig (wire : List Nat) (tsigStart : Nat) : List Nat :=
  wire.take 10 ++ be 2 ((wire.getD 10 0 * 256 + wire.getD 11 0) - 1) ++ (wire.take tsigStart).drop 12

/-- one envelope of an exchange as the validating side sees it -/
inductive Envelope where
  | signed (wire : List Nat) (tsigStart : Nat) (origId : Nat) (v : Vars) (mac : List Nat)
  | unsigned (wire : List Nat)

/-- the MAC inputs of all signed envelopes of an exchange; `prior` = MAC of the last signed envelope and the
unsigned envelopes seen since (none before the first signed envelope) -/
def exchangeInputs (reqMac : List Nat) : Option (List Nat × List (List Nat)) → List Envelope → List (List Nat)
  | _, [] => []
  | none, .unsigned _ :: rest => exchangeInputs reqMac none rest
  | some (m, us), .unsigned w :: rest => exchangeInputs reqMac (some (m, us ++ [w])) rest
  | none, .signed w s oid v mac :: rest =>
    (if reqMac = [] then requestInput oid (stripTsig w s) v else responseInput reqMac oid (stripTsig w s) v)
      :: exchangeInputs reqMac (some (mac, [])) rest
  | some (m, us), .signed w s oid v mac :: rest =>
    laterInput m us oid (stripTsig w s) v :: exchangeInputs reqMac (some (mac, [])) rest

/-- §6: algorithm name (lower case labels) ↦ (hash, octets of MAC output).  Hash ids as in
`harness/extract_C14.py`: 1 MD5, 2 SHA-1, 3 SHA-224, 4 SHA-256, 5 SHA-384, 6 SHA-512. -/
def algorithms : List (List (List Nat) × Nat × Nat) := [
  -- hmac-md5.sig-alg.reg.int
  ([[104,109,97,99,45,109,100,53],[115,105,103,45,97,108,103],[114,101,103],[105,110,116],[]], 1, 16),
  ([[104,109,97,99,45,115,104,97,49],[]], 2, 20),                       -- hmac-sha1
  ([[104,109,97,99,45,115,104,97,50,50,52],[]], 3, 28),                 -- hmac-sha224
  ([[104,109,97,99,45,115,104,97,50,53,54],[]], 4, 32),                 -- hmac-sha256
  ([[104,109,97,99,45,115,104,97,50,53,54,45,49,50,56],[]], 4, 16),     -- hmac-sha256-128
  ([[104,109,97,99,45,115,104,97,51,56,52],[]], 5, 48),                 -- hmac-sha384
  ([[104,109,97,99,45,115,104,97,51,56,52,45,49,57,50],[]], 5, 24),     -- hmac-sha384-192
  ([[104,109,97,99,45,115,104,97,53,49,50],[]], 6, 64),                 -- hmac-sha512
  ([[104,109,97,99,45,115,104,97,53,49,50,45,50,53,54],[]], 6, 32)      -- hmac-sha512-256
]

/-- full output length of each hash (FIPS 180-4, RFC 1321) -/
def hashLen : Nat → Nat
  | 1 => 16 | 2 => 20 | 3 => 28 | 4 => 32 | 5 => 48 | 6 => 64 | _ => 0

end Rfc8945
