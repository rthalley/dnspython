import Proofs.BTreeInsert
import Proofs.BTreeDelete
/-!
The root handling of `_delete` (both variants of the root collapse, see `Model.BTree.deleteRoot`), what insertion and
deletion do to the root condition `RootOk`, and the `size` bookkeeping of the tree handle.
-/
namespace Model.BTree

theorem growRoot_rootOk {t : Nat} {n : Node} (h : RootOk n) : RootOk (growRoot t n) := by
  rw [growRoot_eq]
  split
  · exact Or.inr (by simp [Node.elts])
  · exact h

theorem insertRoot_rootOk {t : Nat} (ht : 2 ≤ t) (io : Bool) (e : Elt) {n : Node} (hw : Wf t n) (hr : RootOk n) :
    RootOk (insertRoot t io n e).1 := by
  obtain ⟨h, hg, _, _, hsp⟩ := insertRoot_refines ht io e hw
  rcases growRoot_rootOk (t := t) hr with hleaf | hpos
  · exact Or.inl ((shape_isLeaf hsp.shape).mpr ((shape_isLeaf hg).mp hleaf))
  · exact Or.inr (Nat.le_trans hpos hsp.len_lo)

theorem collapse_spec {t h : Nat} {r : Node} (ht : 2 ≤ t) (hr : Shape t h r) (htop : r.elts.length ≤ maxKeys t) :
    (∃ h', Shape t h' (collapseRoot r)) ∧ flat (collapseRoot r) = flat r ∧
    (collapseRoot r).elts.length ≤ maxKeys t ∧ RootOk (collapseRoot r) := by
  cases h with
  | zero =>
    obtain ⟨es, rfl⟩ := shape_zero hr
    exact ⟨⟨0, by simp [collapseRoot]⟩, by simp [collapseRoot], by simpa [collapseRoot] using htop,
      Or.inl (by simp [collapseRoot, Node.isLeaf])⟩
  | succ h =>
    obtain ⟨es, cs, rfl, hlen, hkids⟩ := shape_succ hr
    cases es with
    | nil =>
      cases cs with
      | nil => simp at hlen
      | cons c cs =>
        have : cs = [] := by cases cs <;> simp_all
        subst this
        have hc := hkids c (by simp)
        refine ⟨⟨h, by simpa [collapseRoot] using hc.1⟩, by simp [collapseRoot, inter], ?_, ?_⟩
        · simpa [collapseRoot] using hc.2.2
        · simp only [collapseRoot]
          by_cases hl : c.isLeaf = true
          · exact Or.inl hl
          · right; have := hc.2.1; simp only [minKeys] at this; omega
    | cons e es =>
      refine ⟨⟨h + 1, by simpa [collapseRoot] using hr⟩, by simp [collapseRoot], by simpa [collapseRoot] using htop,
        Or.inr (by simp [collapseRoot, Node.elts])⟩

/-- For both variants of the root collapse and every well-formed root: the deletion either refines
removal from the sorted list and keeps the tree well-formed, or — only when the root is an internal node
without elements whose single child is minimal — raises `IndexError` and leaves the tree as it is. -/
theorem deleteRoot_weak {t : Nat} (ht : 2 ≤ t) (always : Bool) (k : Nat) {n : Node} (hw : Wf t n) :
    ((deleteRoot always t n k none).2 = .indexError ∧ (deleteRoot always t n k none).1 = n ∧
        ∃ c, n = .node [] [c] ∧ c.elts.length = minKeys t) ∨
    (Wf t (deleteRoot always t n k none).1 ∧
      flat (deleteRoot always t n k none).1 = delKey k (flat n) ∧
      (deleteRoot always t n k none).2 = .ok (lookup (flat n) k) ∧
      (always = true ∨ (lookup (flat n) k).isSome → RootOk (deleteRoot always t n k none).1) ∧
      (n.elts.length ≤ (deleteRoot always t n k none).1.elts.length + 1 ∨
        RootOk (deleteRoot always t n k none).1) ∧
      (n.isLeaf = true → (deleteRoot always t n k none).1.isLeaf = true)) := by
  obtain ⟨h, hn⟩ := hw.shape
  -- the one failing configuration
  by_cases hbad : ∃ c, n = .node [] [c] ∧ c.elts.length = minKeys t
  · left
    obtain ⟨c, rfl, hmin⟩ := hbad
    have hd : delete t (height (Node.node [] [c])) (.node [] [c]) k none = (.node [] [c], .indexError) := by
      cases h with
      | zero => simp at hn
      | succ h =>
        rw [height_of_shape hn]
        simp [delete_node, searchInNode_nil, delPrep_single_minimal k hmin]
    simp only [deleteRoot, hd]
    exact ⟨trivial, trivial, c, rfl, hmin⟩
  · right
    have hok : RootOk n ∨ ∀ c ∈ n.children, c.elts.length ≠ minKeys t := by
      cases h with
      | zero => obtain ⟨es, rfl⟩ := shape_zero hn; exact Or.inl (Or.inl rfl)
      | succ h' =>
        obtain ⟨es, cs, rfl, hlen, hkids⟩ := shape_succ hn
        cases es with
        | cons e es => exact Or.inl (Or.inr (by simp [Node.elts]))
        | nil =>
          right
          cases cs with
          | nil => simp at hlen
          | cons c cs =>
            have : cs = [] := by cases cs <;> simp_all
            subst this
            intro c' hc' hmin
            simp [Node.children] at hc'
            subst hc'
            exact hbad ⟨c', rfl, hmin⟩
    have hsp := delete_spec ht h n k hn hw.sorted hok
    unfold deleteRoot
    rw [height_of_shape hn]
    rcases hd : delete t h n k none with ⟨r, res⟩
    rw [hd] at hsp
    have hres : res = .ok (lookup (flat n) k) := hsp.ret
    have hshape : Shape t h r := hsp.shape
    have hflat : flat r = delKey k (flat n) := hsp.flat_eq
    have hlo : n.elts.length ≤ r.elts.length + 1 := hsp.len_lo
    have hhi : r.elts.length ≤ n.elts.length := hsp.len_hi
    subst hres
    simp only []
    have htop : r.elts.length ≤ maxKeys t := by have := hw.top; omega
    obtain ⟨⟨h', c1⟩, c2, c3, c4⟩ := collapse_spec ht hshape htop
    have hleaf : n.isLeaf = true → r.isLeaf = true := fun hl => by
      have := (shape_isLeaf hn).mp hl
      subst this
      exact (shape_isLeaf hshape).mpr rfl
    have hcleaf : n.isLeaf = true → (collapseRoot r).isLeaf = true := fun hl => by
      have := (shape_isLeaf hn).mp hl
      subst this
      obtain ⟨es, rfl⟩ := shape_zero hshape
      simp [collapseRoot, Node.isLeaf]
    by_cases hc : (always || (lookup (flat n) k).isSome) = true
    · simp only [hc, if_true]
      refine ⟨⟨⟨h', c1⟩, c3, ?_⟩, by rw [c2, hflat], trivial, fun _ => c4, Or.inr c4, hcleaf⟩
      rw [c2, hflat]; exact delKey_sorted _ hw.sorted
    · simp only [hc, Bool.false_eq_true, if_false]
      refine ⟨⟨⟨h, hshape⟩, htop, ?_⟩, hflat, trivial, ?_, Or.inl hlo, hleaf⟩
      · rw [hflat]; exact delKey_sorted _ hw.sorted
      · intro hor
        exfalso
        apply hc
        rcases hor with ha | hs
        · simp [ha]
        · simp [hs]

/-- the intended `_delete` (root collapsed whenever it is left empty) -/
theorem deleteRoot_intended {t : Nat} (ht : 2 ≤ t) (k : Nat) {n : Node} (hw : Wf t n) (hr : RootOk n) :
    Wf t (deleteRoot true t n k none).1 ∧ RootOk (deleteRoot true t n k none).1 ∧
    flat (deleteRoot true t n k none).1 = delKey k (flat n) ∧
    (deleteRoot true t n k none).2 = .ok (lookup (flat n) k) := by
  rcases deleteRoot_weak ht true k hw with ⟨_, _, c, rfl, _⟩ | ⟨h1, h2, h3, h4, _, _⟩
  · rcases hr with hl | hp
    · simp [Node.isLeaf] at hl
    · simp [Node.elts] at hp
  · exact ⟨h1, h4 (Or.inl rfl), h2, h3⟩

/-- the shipped `_delete` (root collapsed only when an element was deleted): the same, outside the
trigger class "absent key and an internal root holding exactly one element" -/
theorem deleteRoot_asShipped_partial {t : Nat} (ht : 2 ≤ t) (k : Nat) {n : Node} (hw : Wf t n) (hr : RootOk n)
    (guard : (lookup (flat n) k).isSome ∨ n.elts.length ≠ 1 ∨ n.isLeaf = true) :
    Wf t (deleteRoot false t n k none).1 ∧ RootOk (deleteRoot false t n k none).1 ∧
    flat (deleteRoot false t n k none).1 = delKey k (flat n) ∧
    (deleteRoot false t n k none).2 = .ok (lookup (flat n) k) := by
  rcases deleteRoot_weak ht false k hw with ⟨_, _, c, rfl, _⟩ | ⟨h1, h2, h3, h4, h5, h6⟩
  · rcases hr with hl | hp
    · simp [Node.isLeaf] at hl
    · simp [Node.elts] at hp
  · refine ⟨h1, ?_, h2, h3⟩
    rcases guard with g | g | g
    · exact h4 (Or.inr g)
    · rcases h5 with h5 | h5
      · rcases hr with hl | hp
        · exact Or.inl (h6 hl)
        · right; omega
      · exact h5
    · exact Or.inl (h6 g)

theorem size_insert {l : List Elt} {e : Elt} {size : Nat} (hs : Sorted l) (h : size = l.length) :
    (if (lookup l e.1).isNone then size + 1 else size) = (insSorted e l).length := by
  rw [length_insSorted hs, h]

theorem size_delete {l : List Elt} {k : Nat} {size : Nat} (hs : Sorted l) (h : size = l.length) :
    (if (lookup l k).isSome then size - 1 else size) = (delKey k l).length := by
  rw [length_delKey hs, h]

end Model.BTree
