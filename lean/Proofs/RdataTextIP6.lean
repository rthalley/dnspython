import Proofs.RdataTextIP6Aton
/-! Address text (C05): `inet_aton (inet_ntoa a) = a` for IPv6 (and the IPv4 form of the same statement), the printed address
consists of hex digits, `:` and `.`, so it is one plain identifier, and whatever `dns.ipv6.inet_aton` accepts it turns into 16
octets. -/
namespace Model

/-! the characters of a printed address: hex digits, `:` and `.` — none needs escaping in an identifier -/

def AddrCh (c : Nat) : Prop := isHexL c = true ∨ c = 58 ∨ c = 46

instance : DecidablePred AddrCh := fun c => by unfold AddrCh; exact inferInstance

theorem v4Text_addrCh (a b c d : Nat) : ∀ x ∈ v4Text a b c d, AddrCh x := by
  intro x hx
  rcases v4Text_chars a b c d x hx with h | h
  · exact .inr (.inr h)
  · left; simp [isHexL]; omega

theorem J_addrCh (L : List (List Nat)) (h : ∀ c ∈ L, HexChunk c) : ∀ x ∈ J L, AddrCh x := by
  intro x hx
  rcases mem_joinWith hx with e | ⟨c, hc, hxc⟩
  · exact .inr (.inl e)
  · exact .inl ((h c hc).2.2 x hxc)

theorem addrCh_append (a b : List Nat) (ha : ∀ x ∈ a, AddrCh x) (hb : ∀ x ∈ b, AddrCh x) : ∀ x ∈ a ++ b, AddrCh x :=
  fun x hx => (List.mem_append.mp hx).elim (ha x) (hb x)

theorem addrCh_plain (c : Nat) (h : AddrCh c) : isDelim c = false ∧ c ≠ 92 := by
  rcases h with h | h | h
  · exact isHexL_plain c h
  · subst h; decide
  · subst h; decide

theorem plain_of_addrCh (t : List Nat) (h : ∀ x ∈ t, AddrCh x) : Plain t := fun c hc => addrCh_plain c (h c hc)

theorem hexlify_addrCh (d : Bytes) (hd : ∀ x ∈ d, x < 256) : ∀ c ∈ hexlify d, AddrCh c :=
  fun c hc => Or.inl (hexlify_isHexL d hd c hc)

theorem ip4_text (a b c d : Nat) (ha : a < 256) (hb : b < 256) (hc : c < 256) (hd : d < 256) :
    ∃ t, ip4Ntoa [a, b, c, d] = some t ∧ ip4Aton t = some [a, b, c, d] ∧ Plain t ∧ t ≠ [] :=
  ⟨v4Text a b c d, rfl, ip4Aton_v4Text a b c d ha hb hc hd, plain_of_addrCh _ (v4Text_addrCh a b c d), by simp [v4Text]⟩

/-- one case per shape `inet_ntoa` prints -/
theorem ip6_text (a : Bytes) (hlen : a.length = 16) (ha : ∀ x ∈ a, x < 256) :
    ∃ t, ip6Ntoa a = some t ∧ (∀ x ∈ t, AddrCh x) ∧ ip6Aton t = some a := by
  obtain ⟨hg, hbytes, hglen⟩ := groupsOf_spec 8 a hlen ha
  rw [ntoa_unfold a hlen]
  generalize groupsOf a = gs at *
  subst hbytes
  have hcs := chunkOf_printer.chunks hg
  dsimp only
  rcases hr : bestRun ((gs.map chunkOf).map fun c => c == [48]) with ⟨bs, bl⟩
  obtain ⟨hle, hsplit⟩ := run_zero gs hglen hg bs bl hr
  dsimp only
  by_cases hbl : bl > 1
  · simp only [hbl, if_true]
    by_cases hemb : bs = 0 ∧ (bl = 6 ∨ (bl = 5 ∧ (gs.map chunkOf)[5]? = some [102, 102, 102, 102]))
    · -- embedded IPv4: six groups, all zero or the last `ffff`, then the quad
      simp only [hemb]
      obtain ⟨rfl, hcase⟩ := hemb
      obtain ⟨x0, x1, x2, x3, x4, x5, x6, x7, rfl⟩ := list8 gs hglen
      have h5 := hg x5 (by simp)
      have h6 := hg x6 (by simp)
      have h7 := hg x7 (by simp)
      rw [show ip4Ntoa ((bytesOfGroups [x0, x1, x2, x3, x4, x5, x6, x7]).drop 12) = some (quadOfGroups x6 x7) from rfl]
      rcases hcase with rfl | ⟨rfl, hffff⟩
      · simp [List.replicate] at hsplit
        obtain ⟨rfl, rfl, rfl, rfl, rfl, rfl⟩ := hsplit
        exact ⟨_, rfl, addrCh_append _ _ (by decide) (v4Text_addrCh _ _ _ _),
          aton_embedded (P := []) (C := []) (n := 6) nofun nofun rfl (by decide) h6 h7⟩
      · simp [List.replicate] at hsplit
        obtain ⟨rfl, rfl, rfl, rfl, rfl⟩ := hsplit
        have hffff : chunkOf x5 = [102, 102, 102, 102] := by simpa using hffff
        obtain rfl : x5 = 65535 := chunkOf_inj h5 (by decide) (hffff.trans (by decide))
        exact ⟨_, rfl, addrCh_append _ _ (by decide) (v4Text_addrCh _ _ _ _),
          aton_embedded (P := []) (C := [65535]) (n := 5) nofun (by simp) rfl (by decide) h6 h7⟩
    · -- ordinary `::` compression
      simp only [hemb, if_false]
      rw [← List.map_take, ← List.map_drop]
      have hP : ∀ g ∈ gs.take bs, g < 65536 := fun g h => hg g (List.mem_of_mem_take h)
      have hQ : ∀ g ∈ gs.drop (bs + bl), g < 65536 := fun g h => hg g (List.mem_of_mem_drop h)
      refine ⟨_, rfl, addrCh_append _ _ (addrCh_append _ _ (J_addrCh _ (chunkOf_printer.chunks hP)) (by decide))
        (J_addrCh _ (chunkOf_printer.chunks hQ)), ?_⟩
      rw [aton_compressed chunkOf_printer hP hQ (n := bl) (by simp [hglen]; omega) (by omega), ← hsplit]
  · -- no run of two or more zero groups
    simp only [hbl, if_false]
    exact ⟨_, rfl, J_addrCh _ hcs, aton_plain chunkOf_printer hg hglen⟩

theorem ip6_roundtrip (a : Bytes) (hlen : a.length = 16) (ha : ∀ x ∈ a, x < 256) :
    ∃ t, ip6Ntoa a = some t ∧ ip6Aton t = some a :=
  let ⟨t, ht, _, hat⟩ := ip6_text a hlen ha
  ⟨t, ht, hat⟩

theorem ip6Aton_ne_nil (t : Text) (a : Bytes) (h : ip6Aton t = some a) : t ≠ [] := by
  rintro rfl
  simp [ip6Aton] at h

/-- the canonicalisation loop pads every chunk to four digits and expands the one empty chunk (none once `seenEmpty` is set)
to `8 - l + 1` groups -/
theorem ip6Canon_length (l : Nat) (cs : List (List Nat)) (b : Bool) (r : List (List Nat)) (h : ip6Canon l cs b = some r) :
    (∀ c ∈ r, c.length = 4) ∧ r.length = cs.length + (if [] ∈ cs then 8 - l else 0) ∧ (b = true → [] ∉ cs) := by
  induction cs generalizing b r with
  | nil => simp [ip6Canon] at h; subst h; simp
  | cons c rest ih =>
    unfold ip6Canon at h
    by_cases hc : c = []
    · subst hc
      cases b with
      | true => simp at h
      | false =>
        cases hr : ip6Canon l rest true with
        | none => simp [hr] at h
        | some r' =>
          simp [hr] at h; subst h
          obtain ⟨i1, i2, i3⟩ := ih true r' hr
          simp only [i3 rfl, if_false, Nat.add_zero] at i2
          refine ⟨?_, by simp [i2]; omega, nofun⟩
          intro x hx
          rcases List.mem_append.mp hx with hx | hx
          · rw [(List.mem_replicate.mp hx).2]; rfl
          · exact i1 x hx
    · simp only [hc, if_false] at h
      split at h
      · cases h
      · cases hr : ip6Canon l rest b with
        | none => simp [hr] at h
        | some r' =>
          simp [hr] at h; subst h
          obtain ⟨i1, i2, i3⟩ := ih b r' hr
          refine ⟨?_, by simp [i2, Ne.symm hc]; omega, fun hb => by simpa [Ne.symm hc] using i3 hb⟩
          intro x hx
          rcases List.mem_cons.mp hx with rfl | hx
          · simp [pad4]; omega
          · exact i1 x hx

theorem flatten_length4 (r : List (List Nat)) (h : ∀ c ∈ r, c.length = 4) : r.flatten.length = 4 * r.length := by
  induction r with
  | nil => rfl
  | cons c cs ih =>
    simp only [List.flatten_cons, List.length_append, List.length_cons]
    rw [h c (by simp), ih (fun x hx => h x (by simp [hx]))]
    omega

/-- eight groups: either there were eight chunks, or fewer with one empty chunk that the loop expanded -/
theorem atonSplit_length (t : Text) : Returns (·.length = 16) (atonSplit t) := by
  unfold atonSplit
  refine .ite_none fun _ => ?_
  split
  · exact .none
  · rename_i canonical hcn
    refine .ite_none fun hcond a h => ?_
    obtain ⟨c1, c2, -⟩ := ip6Canon_length _ _ _ _ hcn
    have hu := unhexlify_length _ _ h
    rw [flatten_length4 _ c1] at hu
    split at c2
    · omega
    · rename_i hm
      simp only [hm, List.contains_eq_mem, decide_false, Bool.not_false, and_true] at hcond
      omega

theorem ip6Aton_length (t : List Nat) : Returns (·.length = 16) (ip6Aton t) := by
  unfold ip6Aton
  refine .ite_none fun _ => .ite_none fun _ => .ite_none fun _ a h => ?_
  cases hv : v4Ending (if t = [58, 58] then [48, 58, 58] else t) with
  | error e => simp only [hv] at h; cases h
  | ok m => simp only [hv] at h; exact atonSplit_length (stripColon _) _ h

end Model
