import Proofs.XfrZone
/-!
# Specification vocabulary of C13: zone versions, the AXFR / IXFR streams a server sends for them,
divisions of a record stream into messages, the run over the undivided stream and the zone a stream denotes
(`Yields`), what the difference sequences of an IXFR response do to a zone and when they can be applied, the
differences between versions.
(`Coherent` is in `Proofs.XfrZone`.)
-/
namespace Model.Xfr

/-- an apex SOA: its rdata and its TTL -/
structure Soa where
  rdata : Rdata
  ttl : Nat

/-- A zone version as a server holds it: the apex SOA and the other rrsets. -/
structure Version where
  soa : Soa
  body : List RRset

def soaRR (o : Name) (s : Soa) : RRset := ⟨o, soaType, s.ttl, [s.rdata]⟩

def soaRec (o : Name) (s : Soa) : RR := ⟨o, soaType, s.rdata, s.ttl⟩

/-- the content of a version as a zone -/
def zoneOf (o : Name) (v : Version) : Zone := recsOfAll v.body ++ [soaRec o v.soa]

/-- rrsets a server may send in the body of a transfer of the zone at `o`: in the zone, not empty, and
not of type SOA (the apex SOA travels separately; a zone has no other SOA) -/
def BodyOk (o : Name) (l : List RRset) : Prop :=
  ∀ rs ∈ l, rs.rdtype ≠ soaType ∧ isSubdomain rs.owner o = true ∧ rs.rdatas ≠ []

/-- rrsets a server may send in the body of a transfer, glue outside the zone included: not of type SOA,
not empty -/
def BodyOkOoz (l : List RRset) : Prop := ∀ rs ∈ l, rs.rdtype ≠ soaType ∧ rs.rdatas ≠ []

/-- the part of a body that belongs to the zone at `o` -/
def inZone (o : Name) (l : List RRset) : List RRset := l.filter fun rs => isSubdomain rs.owner o

/-- `AXFR` response for version `v`: SOA, every other rrset, SOA again -/
def axfrStream (o : Name) (v : Version) : List RRset := soaRR o v.soa :: (v.body ++ [soaRR o v.soa])

/-- one incremental step: the records removed, the new SOA, the records added -/
structure Step where
  dels : List RR
  soa : Soa
  adds : List RR

/-- the difference sequences of an IXFR response, starting from the version whose SOA is `cur` -/
def ixfrSteps (o : Name) (cur : Soa) : List Step → List RRset
  | [] => []
  | st :: rest =>
    soaRR o cur :: (st.dels.map single ++ (soaRR o st.soa :: (st.adds.map single ++ ixfrSteps o st.soa rest)))

/-- the SOA of the last step (the server's current SOA) -/
def lastSoa (cur : Soa) : List Step → Soa
  | [] => cur
  | st :: rest => lastSoa st.soa rest

/-- `IXFR` response (RFC 1995): current SOA, the difference sequences oldest first, current SOA -/
def ixfrStream (o : Name) (cur : Soa) (steps : List Step) : List RRset :=
  soaRR o (lastSoa cur steps) :: (ixfrSteps o cur steps ++ [soaRR o (lastSoa cur steps)])

/-- A division of the record stream `recs` into response messages of a transfer with configuration `c`:
rcode NOERROR, question absent or the right one, first message not empty; later messages may be empty. -/
structure Chunks (c : Config) (recs : List RRset) (msgs : List Msg) : Prop where
  flat : msgs.flatMap (·.answer) = recs
  hdr : ∀ m ∈ msgs, m.rcode = 0 ∧ (m.question = [] ∨ ∃ o rest, c.origin = some o ∧ m.question = (o, c.rdtype) :: rest)
  first : ∀ m ∈ msgs.head?, m.answer ≠ []

/-- the transfer fed as one flat list of rrsets (shipped variant; TCP, so nothing depends on message ends) -/
def flatRun (c : Config) (z0 : Zone) (recs : List RRset) : R :=
  match Inbound.init c.origin z0 c.rdtype c.serial c.isUdp with
  | .error e => .error (e, z0)
  | .ok s0 =>
    match recs with
    | [] => .error (.FormError, z0)
    | rr0 :: rest =>
      match firstSoa (openTxn s0) rr0 false with
      | .error e => .error e
      | .ok s1 => procAnswers false s1 rest

/-- a stream the (shipped) machine accepts when fed flat over TCP; every valid AXFR, IXFR and
AXFR-style stream is one (`axfr_flat`, `ixfr_flat`, `axfr_style_flat`) -/
def Accepted (c : Config) (z0 : Zone) (recs : List RRset) : Prop :=
  ∃ s', flatRun c z0 recs = .ok s' ∧ s'.done = true

/-- the machine accepts `recs` and leaves a zone with the records of `Z`: `Z` is the zone the stream denotes -/
def Yields (c : Config) (z0 : Zone) (recs : List RRset) (Z : Zone) : Prop :=
  ∃ s', flatRun c z0 recs = .ok s' ∧ s'.done = true ∧ s'.zone ≃z Z


/-- `txn.replace(origin, soa)` at the set level -/
def putSoa (o : Name) (w : Zone) (s : Soa) : Zone := putSoaRec o w (soaRec o s)

/-- `delete_exact` of the records `dels`, one at a time -/
def delAll (w : Zone) (dels : List RR) : Zone :=
  dels.foldl (fun w r => w.filter fun q => ¬ (q ∈ [r])) w

/-- what one difference sequence does to the working copy -/
def applyStep (o : Name) (w : Zone) (st : Step) : Zone := putSoa o (delAll w st.dels) st.soa ++ st.adds

def applyAll (o : Name) (w : Zone) (steps : List Step) : Zone := steps.foldl (applyStep o) w

/-- side conditions of a list of difference sequences applied to the working copy `w`, the current SOA
being `cur` and the server's final SOA `dn`: no older SOA is the final one; deletions name records that
are there, once each; additions are data of the zone; every version passed through is coherent -/
def StepsOk (o : Name) (dn : Soa) : Soa → Zone → List Step → Prop
  | _, _, [] => True
  | cur, w, st :: rest =>
    cur.rdata ≠ dn.rdata ∧ (∀ r ∈ st.dels, r.rdtype ≠ soaType ∧ isSubdomain r.owner o = true ∧ r ∈ w) ∧ st.dels.Nodup ∧
      (∀ r ∈ st.adds, r.rdtype ≠ soaType ∧ isSubdomain r.owner o = true) ∧ Coherent (applyStep o w st) ∧
      StepsOk o dn st.soa (applyStep o w st) rest

/-- A well-formed IXFR response for the zone `z0` whose SOA is `cur`, seen at its difference sequence `st`
(`pre` come before it, `post` after): the server is ahead of us, the zone we hold is coherent, the
sequences can be applied (`StepsOk`). -/
structure IxfrAt (o : Name) (cur : Soa) (pre : List Step) (st : Step) (post : List Step) (z0 : Zone) : Prop where
  s1 : (lastSoa cur (pre ++ st :: post)).rdata.serial ≠ cur.rdata.serial
  s2 : serialLt (lastSoa cur (pre ++ st :: post)).rdata.serial cur.rdata.serial = false
  coh : Coherent z0
  ok : StepsOk o (lastSoa cur (pre ++ st :: post)) cur z0 (pre ++ st :: post)

/-- A zone version that can be served: its rrsets are in the zone, not empty, none is an SOA, no record
twice, and it is a coherent zone (one TTL per rrset, no CNAME next to other data, one rdata per singleton). -/
structure WfVersion (o : Name) (v : Version) : Prop where
  body : BodyOk o v.body
  nodup : (recsOfAll v.body).Nodup
  coherent : Coherent (zoneOf o v)

/-- the difference sequence from version `a` to version `b`, on records with their TTLs (an rrset whose
TTL changes is removed and added again) -/
def diffStep (a b : Version) : Step :=
  ⟨(recsOfAll a.body).filter (fun r => r ∉ recsOfAll b.body), b.soa,
   (recsOfAll b.body).filter (fun r => r ∉ recsOfAll a.body)⟩

def diffSteps (a : Version) : List Version → List Step
  | [] => []
  | b :: rest => diffStep a b :: diffSteps b rest

def lastVersion (a : Version) : List Version → Version
  | [] => a
  | b :: rest => lastVersion b rest

/-- TTLs as a server sends them (RFC 2181: at most 2^31-1; anything above is read as 0) -/
def TtlOk (l : List RR) : Prop := ∀ r ∈ l, r.ttl ≤ 2147483647

end Model.Xfr
