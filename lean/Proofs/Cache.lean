import Model.Cache
/-! C17: a cache as a sequential object `step : σ → Op → σ × Out` run by `runG`, with the hit/miss counters of any such
object; the plain `Cache` refines a timed map. -/
namespace Model.Cache

theorem runG_snoc {σ : Type} (step : σ → Op → σ × Out) (s : σ) (ops : List Op) (op : Op) :
    runG step s (ops ++ [op]) =
      ((step (runG step s ops).1 op).1, (runG step s ops).2 ++ [(step (runG step s ops).1 op).2]) := by
  induction ops generalizing s with
  | nil => simp [runG]
  | cons o rest ih => simp [runG, ih]

theorem runG_length {σ : Type} (step : σ → Op → σ × Out) (s : σ) (ops : List Op) : (runG step s ops).2.length = ops.length := by
  induction ops generalizing s with
  | nil => rfl
  | cons o rest ih => simp [runG, ih]

theorem runC_eq_runG (s : CState) (ops : List Op) : runC s ops = runG stepC s ops := by
  induction ops generalizing s with
  | nil => rfl
  | cons o rest ih => simp [runC, runG, ih]

/-- what one lookup must do to (hits, misses): exactly one of them goes up by one -/
def countStep (hm : Nat × Nat) (op : Op) (out : Out) : Nat × Nat :=
  match op with
  | .get _ => (match out with
    | .val _ => (hm.1 + 1, hm.2)
    | _ => (hm.1, hm.2 + 1))
  | .reset => (0, 0)
  | _ => hm

def countersSpec (hm : Nat × Nat) : List (Op × Out) → Nat × Nat
  | [] => hm
  | (op, out) :: rest => countersSpec (countStep hm op out) rest

theorem runG_counters {σ : Type} (step : σ → Op → σ × Out) (c : σ → Nat × Nat)
    (hc : ∀ s op, c (step s op).1 = countStep (c s) op (step s op).2) (s : σ) (ops : List Op) :
    c (runG step s ops).1 = countersSpec (c s) (ops.zip (runG step s ops).2) := by
  induction ops generalizing s with
  | nil => rfl
  | cons op rest ih => simp only [runG, List.zip_cons_cons, countersSpec]; rw [ih, hc]

def isGet : Op → Bool
  | .get _ => true
  | _ => false

def isReset : Op → Bool
  | .reset => true
  | _ => false

theorem countersSpec_sum (hm : Nat × Nat) (tr : List (Op × Out)) (h : ∀ p ∈ tr, isReset p.1 = false) :
    (countersSpec hm tr).1 + (countersSpec hm tr).2 = hm.1 + hm.2 + (tr.filter (fun p => isGet p.1)).length := by
  induction tr generalizing hm with
  | nil => simp [countersSpec]
  | cons p rest ih =>
    obtain ⟨op, out⟩ := p
    have hr : isReset op = false := h (op, out) (by simp)
    rw [countersSpec, ih _ (fun q hq => h q (by simp [hq]))]
    cases op <;> simp [countStep, isGet, isReset] at hr ⊢
    case get k => cases out <;> simp <;> omega

theorem filter_zip_fst {α β : Type} (p : α → Bool) (l : List α) (m : List β) (h : m.length = l.length) :
    ((l.zip m).filter (fun q => p q.1)).length = (l.filter p).length := by
  conv => rhs; rw [← List.map_fst_zip (l₂ := m) (Nat.le_of_eq h.symm), List.filter_map, List.length_map]
  rfl

theorem runG_lookups {σ : Type} (step : σ → Op → σ × Out) (c : σ → Nat × Nat)
    (hc : ∀ s op, c (step s op).1 = countStep (c s) op (step s op).2) (s : σ) (ops : List Op)
    (h : ∀ op ∈ ops, isReset op = false) :
    (c (runG step s ops).1).1 + (c (runG step s ops).1).2 = (c s).1 + (c s).2 + (ops.filter isGet).length := by
  rw [runG_counters step c hc, countersSpec_sum _ _ fun p hp => h p.1 (List.of_mem_zip hp).1,
    filter_zip_fst isGet ops _ (runG_length step s ops)]

/-- keys of an association list are pairwise distinct -/
def KeysNodup {α : Type} (d : List (Key × α)) : Prop := d.Pairwise (fun a b => a.1 ≠ b.1)

theorem dget_none_of_not_mem {α : Type} (d : List (Key × α)) (k : Key) (h : ∀ x ∈ d, x.1 ≠ k) :
    dget d k = none := by
  induction d with
  | nil => rfl
  | cons p rest ih =>
    have hp : p.1 ≠ k := h p (by simp)
    simp [dget, hp, ih (fun x hx => h x (by simp [hx]))]

theorem dget_mem {α : Type} (d : List (Key × α)) (k : Key) (a : α) (h : dget d k = some a) : (k, a) ∈ d := by
  induction d with
  | nil => cases h
  | cons p rest ih =>
    by_cases hp : p.1 = k
    · simp [dget, hp] at h
      cases p; simp_all
    · simp [dget, hp] at h
      exact List.mem_cons_of_mem _ (ih h)

/-- with distinct keys a sweep cannot uncover an older entry of the same key -/
theorem dget_filter {α : Type} (d : List (Key × α)) (q : Key × α → Bool) (k : Key) (h : KeysNodup d) :
    dget (d.filter q) k = (dget d k).filter fun a => q (k, a) := by
  induction d with
  | nil => simp [dget]
  | cons p rest ih =>
    obtain ⟨hd, hr⟩ := List.pairwise_cons.mp h
    obtain ⟨k', a⟩ := p
    by_cases hp : k' = k
    · subst hp
      have hnone : dget rest k' = none := dget_none_of_not_mem rest k' fun x hx e => hd x hx e.symm
      by_cases hq : q (k', a) <;> simp [dget, Option.filter, hq, ih hr, hnone]
    · by_cases hq : q (k', a) <;> simp [dget, hq, hp, ih hr]

theorem dget_ddel {α : Type} (d : List (Key × α)) (k k' : Key) (h : KeysNodup d) :
    dget (ddel d k) k' = if k' = k then none else dget d k' := by
  rw [ddel, dget_filter _ _ _ h]
  by_cases hk : k' = k <;> cases dget d k' <;> simp [hk]

theorem dget_append {α : Type} (d e : List (Key × α)) (k : Key) :
    dget (d ++ e) k = (dget d k).or (dget e k) := by
  induction d with
  | nil => simp [dget]
  | cons p rest ih =>
    by_cases hp : p.1 = k <;> simp [dget, hp, ih]

theorem dget_dset {α : Type} (d : List (Key × α)) (k k' : Key) (v : α) (h : KeysNodup d) :
    dget (dset d k v) k' = if k' = k then some v else dget d k' := by
  unfold dset
  rw [dget_append, dget_ddel _ _ _ h]
  by_cases hk : k' = k
  · subst hk; simp [dget]
  · have : k ≠ k' := fun h => hk h.symm
    simp [hk, dget, this]

theorem keysNodup_ddel {α : Type} (d : List (Key × α)) (k : Key) (h : KeysNodup d) : KeysNodup (ddel d k) :=
  List.Pairwise.filter _ h

theorem keysNodup_dset {α : Type} (d : List (Key × α)) (k : Key) (v : α) (h : KeysNodup d) :
    KeysNodup (dset d k v) := by
  unfold dset KeysNodup
  rw [List.pairwise_append]
  refine ⟨keysNodup_ddel d k h, by simp, ?_⟩
  intro a ha b hb
  simp [ddel] at ha hb
  subst hb
  exact ha.2

abbrev TMap := Key → Option Ans

def specStep (m : TMap) : Op → TMap
  | .put k a => fun k' => if k' = k then some a else m k'
  | .flush k => fun k' => if k' = k then none else m k'
  | .flushAll => fun _ => none
  | _ => m

def specRun (m : TMap) (ops : List Op) : TMap := ops.foldl specStep m

/-- what a lookup must return: the most recent stored answer, if it has not expired -/
def specGet (m : TMap) (now : Nat) (k : Key) : Out :=
  match m k with
  | some a => if a.exp ≤ now then .none else .val a.val
  | none => .none

theorem specGet_val {m : TMap} {now : Nat} {k : Key} {v : Nat} (h : specGet m now k = .val v) :
    ∃ a, m k = some a ∧ a.val = v ∧ now < a.exp := by
  unfold specGet at h
  split at h
  · next a ha =>
    split at h
    · cases h
    · exact ⟨a, ha, by injection h, by omega⟩
  · cases h

/-- refinement relation between a `Cache` state and the timed map: the dict holds the map, except that entries
that have expired may be missing (removed by a sweep) -/
def RefC (s : CState) (m : TMap) : Prop :=
  KeysNodup s.data ∧ ∀ k, dget s.data k = m k ∨ (dget s.data k = none ∧ ∃ a, m k = some a ∧ a.exp ≤ s.now)

theorem refC_maybeClean (s : CState) (m : TMap) (h : RefC s m) : RefC (maybeClean s) m := by
  unfold maybeClean
  split
  · refine ⟨List.Pairwise.filter _ h.1, fun k => ?_⟩
    simp only
    rw [dget_filter _ _ _ h.1]
    rcases h.2 k with h1 | ⟨h1, a, ha, he⟩
    · rw [h1]
      cases hm : m k with
      | none => simp
      | some a => by_cases he : a.exp ≤ s.now <;> simp [he, Nat.not_le.mp]
    · right; rw [h1]; exact ⟨rfl, a, ha, he⟩
  · exact h

theorem maybeClean_now (s : CState) : (maybeClean s).now = s.now := by
  unfold maybeClean; split <;> rfl

theorem mem_of_mem_maybeClean {s : CState} {x : Key × Ans} (hx : x ∈ (maybeClean s).data) : x ∈ s.data := by
  unfold maybeClean at hx
  split at hx
  · exact (List.mem_filter.mp hx).1
  · exact hx

theorem maybeClean_hits (s : CState) : (maybeClean s).hits = s.hits ∧ (maybeClean s).misses = s.misses := by
  unfold maybeClean; split <;> exact ⟨rfl, rfl⟩

theorem stepC_counters (s : CState) (op : Op) :
    ((stepC s op).1.hits, (stepC s op).1.misses) = countStep (s.hits, s.misses) op (stepC s op).2 := by
  have hc := maybeClean_hits s
  cases op <;> simp only [stepC, countStep]
  case get k =>
    split
    · simp [hc.1, hc.2]
    · split <;> simp [hc.1, hc.2]
  case put k a => simp [hc.1, hc.2]

/-- `Cache.get` answers from the dict as the sweep leaves it -/
theorem stepC_get (s : CState) (k : Key) : (stepC s (.get k)).2 = specGet (dget (maybeClean s).data) s.now k := by
  simp only [stepC, specGet, maybeClean_now]
  cases dget (maybeClean s).data k with
  | none => rfl
  | some a => dsimp only; split <;> rfl

theorem refC_update {s s' : CState} {m : TMap} (h : RefC s m) (k : Key) (v : Option Ans) (hk : KeysNodup s'.data)
    (hd : ∀ k', dget s'.data k' = if k' = k then v else dget s.data k') (hn : s'.now = s.now) :
    RefC s' (fun k' => if k' = k then v else m k') := by
  refine ⟨hk, fun k' => ?_⟩
  rw [hd, hn]
  by_cases hk : k' = k
  · simp [hk]
  · simp only [hk, if_false]; exact h.2 k'

theorem refC_step (s : CState) (m : TMap) (op : Op) (h : RefC s m) : RefC (stepC s op).1 (specStep m op) := by
  have hc := refC_maybeClean s m h
  cases op
  case get k =>
    simp only [stepC, specStep]
    split
    · exact hc
    · split <;> exact hc
  case put k a => exact refC_update hc k (some a) (keysNodup_dset _ _ _ hc.1) (dget_dset _ k · a hc.1) rfl
  case flush k => exact refC_update h k none (keysNodup_ddel _ _ h.1) (dget_ddel _ k · h.1) rfl
  case flushAll => exact ⟨List.Pairwise.nil, fun _ => Or.inl rfl⟩
  case adv dt =>
    refine ⟨h.1, fun k => (h.2 k).imp_right fun ⟨h1, a, ha, he⟩ => ⟨h1, a, ha, Nat.le_trans he (Nat.le_add_right _ _)⟩⟩
  all_goals exact h

theorem refC_run (s : CState) (m : TMap) (ops : List Op) (h : RefC s m) :
    RefC (runC s ops).1 (specRun m ops) := by
  induction ops generalizing s m with
  | nil => exact h
  | cons op rest ih =>
    simp only [runC, specRun, List.foldl_cons]
    exact ih _ _ (refC_step s m op h)

theorem refC_init (iv t0 : Nat) : RefC (initC iv t0) (fun _ => none) :=
  ⟨List.Pairwise.nil, fun _ => Or.inl rfl⟩

theorem get_of_refC (s : CState) (m : TMap) (k : Key) (h : RefC s m) :
    (stepC s (.get k)).2 = specGet m s.now k := by
  have hc := (refC_maybeClean s m h).2 k
  rw [maybeClean_now] at hc
  rw [stepC_get, specGet, specGet]
  rcases hc with h1 | ⟨h1, a, ha, he⟩
  · rw [h1]
  · rw [h1, ha]; exact (if_pos he).symm

end Model.Cache
