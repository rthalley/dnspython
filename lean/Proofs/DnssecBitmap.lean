import Model.Dnssec
import Proofs.DnssecBasic
/-! C15: `Bitmap.from_rdtypes` encodes exactly the input type set, windows ascending, bitmaps minimal — by a loop
invariant (`BmInv`) over the ascending types. -/
namespace Model
namespace Dnssec

/-- RFC 4034 §4.1.2: bit `j` of an octet, bit 0 being the most significant -/
def msbBit (byte j : Nat) : Bool := byte.testBit (7 - j)

/-- window `w` has the bit of type `t` -/
def winHas (w : Nat × Bytes) (t : Nat) : Prop :=
  w.1 = t / 256 ∧ msbBit (w.2.getD (t % 256 / 8) 0) (t % 8) = true

/-- decoding of a window list: the type is in some window -/
def bitmapHas (ws : List (Nat × Bytes)) (t : Nat) : Prop := ∃ w ∈ ws, winHas w t

theorem msbBit_or_bit (x j b : Nat) (hj : j < 8) (hb : b < 8) :
    msbBit (x ||| (0x80 >>> b)) j = (msbBit x j || decide (j = b)) := by
  have shift : 0x80 >>> b = 2 ^ (7 - b) := by
    rw [Nat.shiftRight_eq_div_pow, show 0x80 = 2 ^ 7 from rfl, Nat.pow_div (by omega) (by decide)]
  unfold msbBit
  rw [shift, Nat.testBit_or, Nat.testBit_two_pow]
  congr 1
  apply decide_eq_decide.mpr
  omega

theorem msbBit_zero (j : Nat) : msbBit 0 j = false := by simp [msbBit]

theorem getD_set' (l : Bytes) (i k v : Nat) (hi : i < l.length) :
    (l.set i v).getD k 0 = if k = i then v else l.getD k 0 := by
  simp only [List.getD_eq_getElem?_getD, List.getElem?_set]
  by_cases h : i = k
  · subst h; simp [hi]
  · have : ¬ k = i := fun e => h e.symm
    simp [h, this]

theorem getD_take' (l : Bytes) (n k : Nat) : (l.take n).getD k 0 = if k < n then l.getD k 0 else 0 := by
  simp only [List.getD_eq_getElem?_getD, List.getElem?_take]
  split <;> simp

theorem getD_replicate0 (n k : Nat) : (List.replicate n 0).getD k 0 = 0 := by
  simp only [List.getD_eq_getElem?_getD, List.getElem?_replicate]
  split <;> simp

theorem or_ne_zero_of_bit (x b : Nat) (hb : b < 8) : x ||| (0x80 >>> b) ≠ 0 := by
  intro h
  have := msbBit_or_bit x b b hb hb
  rw [h, msbBit_zero] at this
  simp at this

theorem type_eq_of_parts (u t : Nat) (h1 : u / 256 = t / 256) (h2 : u % 256 / 8 = t % 256 / 8) (h3 : u % 8 = t % 8) :
    u = t := by omega

theorem bitmapHas_append (ws : List (Nat × Bytes)) (w : Nat × Bytes) (t : Nat) :
    bitmapHas (ws ++ [w]) t ↔ bitmapHas ws t ∨ winHas w t := by
  simp [bitmapHas, or_and_right, exists_or]

theorem winHas_setBit (bm : Bytes) (t u : Nat) (hlen : t % 256 / 8 < bm.length) :
    winHas (t / 256, bm.set (t % 256 / 8) (bm.getD (t % 256 / 8) 0 ||| (0x80 >>> (t % 8)))) u ↔
      winHas (t / 256, bm) u ∨ u = t := by
  have hbit : ∀ n : Nat, n % 8 < 8 := fun n => Nat.mod_lt n (by decide)
  simp only [winHas, getD_set' _ _ _ _ hlen]
  by_cases hi : u % 256 / 8 = t % 256 / 8
  · simp only [hi, if_true, msbBit_or_bit _ _ _ (hbit u) (hbit t), Bool.or_eq_true, decide_eq_true_eq]
    constructor
    · rintro ⟨h1, h2 | h2⟩
      · exact Or.inl ⟨h1, h2⟩
      · exact Or.inr (type_eq_of_parts u t h1.symm hi h2)
    · rintro (⟨h1, h2⟩ | rfl)
      · exact ⟨h1, Or.inl h2⟩
      · exact ⟨rfl, Or.inr rfl⟩
  · simp only [hi, if_false]
    constructor
    · exact Or.inl
    · rintro (h | rfl)
      · exact h
      · exact absurd rfl hi

theorem winHas_zeros (w n t : Nat) : ¬ winHas (w, List.replicate n 0) t := by
  simp only [winHas, getD_replicate0, msbBit_zero]
  exact fun h => nomatch h.2

theorem winHas_take (w : Nat) (bm : Bytes) (n t : Nat) (hz : ∀ i, n ≤ i → bm.getD i 0 = 0) :
    winHas (w, bm.take n) t ↔ winHas (w, bm) t := by
  simp only [winHas, getD_take']
  split
  · rfl
  · rw [hz _ (by omega)]

theorem getLast?_take_ne_zero (l : Bytes) (n : Nat) (hn : n ≠ 0) (hl : n ≤ l.length) (hz : l.getD (n - 1) 0 ≠ 0) :
    (l.take n).getLast? ≠ some 0 := by
  rw [List.getLast?_eq_getElem?, List.length_take, Nat.min_eq_left hl, List.getElem?_take, if_pos (by omega)]
  intro h
  exact hz (by simp [List.getD_eq_getElem?_getD, h])

/-- RFC 4034 §4.1.2 on a list of window blocks: window numbers strictly ascending (and below `bound`), every
bitmap 1..32 octets without a trailing zero octet -/
def WindowsBelow (bound : Nat) (ws : List (Nat × Bytes)) : Prop :=
  ws.Pairwise (fun a b => a.1 < b.1) ∧
    ∀ w ∈ ws, w.1 < bound ∧ w.2 ≠ [] ∧ w.2.length ≤ 32 ∧ w.2.getLast? ≠ some 0

theorem WindowsBelow.mono {b b' : Nat} {ws : List (Nat × Bytes)} (h : WindowsBelow b ws) (hb : b ≤ b') :
    WindowsBelow b' ws :=
  ⟨h.1, fun w hw => ⟨Nat.lt_of_lt_of_le (h.2 w hw).1 hb, (h.2 w hw).2⟩⟩

theorem WindowsBelow.append {b : Nat} {ws : List (Nat × Bytes)} (h : WindowsBelow b ws) (n : Nat) (bm : Bytes)
    (hn : b ≤ n) (h1 : bm ≠ []) (h2 : bm.length ≤ 32) (h3 : bm.getLast? ≠ some 0) :
    WindowsBelow (n + 1) (ws ++ [(n, bm)]) := by
  refine ⟨List.pairwise_append.mpr ⟨h.1, List.pairwise_singleton _ _, ?_⟩, ?_⟩
  · intro a ha x hx
    rw [List.mem_singleton.mp hx]
    exact Nat.lt_of_lt_of_le (h.2 a ha).1 hn
  · intro w hw
    rcases List.mem_append.mp hw with hw | hw
    · exact ⟨by have := (h.2 w hw).1; omega, (h.2 w hw).2⟩
    · rw [List.mem_singleton.mp hw]
      exact ⟨Nat.lt_succ_self n, h1, h2, h3⟩

/-- Loop invariant of `from_rdtypes` after the types `P` (ascending, all positive) have been processed.  The
current window is read untruncated: beyond `octets` it is zero anyway, so before the first type it has no bit. -/
structure BmInv (s : BmState) (P : List Nat) : Prop where
  len : s.bitmap.length = 32
  zeroTail : ∀ i, s.octets ≤ i → s.bitmap.getD i 0 = 0
  lastNZ : s.octets ≠ 0 → s.bitmap.getD (s.octets - 1) 0 ≠ 0
  has : ∀ t, (bitmapHas s.windows t ∨ winHas (s.window, s.bitmap) t) ↔ t ∈ P
  prior : s.prior = 0 ∨ s.prior ∈ P
  window : s.window = s.prior / 256
  octets : s.octets ≤ s.prior % 256 / 8 + 1
  wins : WindowsBelow s.window s.windows

theorem bmInv_init : BmInv bmInit [] := by
  refine ⟨List.length_replicate, fun i _ => getD_replicate0 32 i, fun h => absurd rfl h, ?_, Or.inl rfl, rfl,
    Nat.zero_le _, List.Pairwise.nil, fun w hw => nomatch hw⟩
  intro t
  refine ⟨?_, fun h => nomatch h⟩
  rintro (⟨_, hw, _⟩ | h)
  · exact nomatch hw
  · exact absurd h (winHas_zeros _ _ _)

theorem bmFlush_spec (s : BmState) (P : List Nat) (inv : BmInv s P) :
    (∀ t, bitmapHas (bmFlush s) t ↔ t ∈ P) ∧ WindowsBelow (s.window + 1) (bmFlush s) := by
  unfold bmFlush
  have hoct := inv.octets
  split
  · rename_i h0
    refine ⟨fun t => ?_, inv.wins.append _ _ (Nat.le_refl _) ?_ ?_ ?_⟩
    · rw [bitmapHas_append, winHas_take _ _ _ _ inv.zeroTail, inv.has]
    · intro h
      have := congrArg List.length h
      rw [List.length_take, inv.len] at this
      simp only [List.length_nil] at this
      omega
    · rw [List.length_take]; omega
    · exact getLast?_take_ne_zero _ _ h0 (by rw [inv.len]; omega) (inv.lastNZ h0)
  · rename_i h0
    have h0 : s.octets = 0 := Decidable.not_not.mp h0
    refine ⟨fun t => ?_, inv.wins.mono (Nat.le_succ _)⟩
    rw [← inv.has, ← winHas_take _ _ _ _ inv.zeroTail, h0]
    simp [winHas, msbBit_zero]

/-- shared by the step that stays in the window and the one that opens a new one -/
theorem bmInv_setBit (P : List Nat) (t w : Nat) (hw : w = t / 256) (base : Bytes) (wins : List (Nat × Bytes))
    (hlen : base.length = 32) (hzero : ∀ i, t % 256 / 8 + 1 ≤ i → base.getD i 0 = 0)
    (hhas : ∀ u, (bitmapHas wins u ∨ winHas (w, base) u) ↔ u ∈ P)
    (hwins : WindowsBelow w wins) :
    BmInv { window := w, octets := t % 256 / 8 + 1, prior := t,
            bitmap := base.set (t % 256 / 8) (base.getD (t % 256 / 8) 0 ||| (0x80 >>> (t % 8))),
            windows := wins } (P ++ [t]) := by
  subst hw
  have hbyte : t % 256 / 8 < base.length := by omega
  refine ⟨by rw [List.length_set, hlen], ?_, ?_, ?_, Or.inr (by simp), rfl, Nat.le_refl _, hwins⟩
  · intro i (hi : t % 256 / 8 + 1 ≤ i)
    rw [getD_set' _ _ _ _ hbyte, if_neg (by omega : ¬ i = t % 256 / 8)]
    exact hzero i hi
  · intro _
    rw [Nat.add_sub_cancel, getD_set' _ _ _ _ hbyte, if_pos rfl]
    exact or_ne_zero_of_bit _ _ (Nat.mod_lt _ (by decide))
  · intro u
    rw [winHas_setBit base t u hbyte, ← or_assoc, hhas, List.mem_append, List.mem_singleton]

theorem bmStep_inv (s : BmState) (P : List Nat) (t : Nat) (inv : BmInv s P) (ht0 : 0 < t)
    (hge : ∀ u ∈ P, u ≤ t) : BmInv (bmStep s t) (P ++ [t]) := by
  have hoct := inv.octets
  have hwin := inv.window
  by_cases heq : t = s.prior
  · -- duplicate of the previous type: skipped
    have htP : t ∈ P := by
      rcases inv.prior with h | h
      · omega
      · exact heq ▸ h
    have hst : bmStep s t = s := by unfold bmStep; simp [heq]
    rw [hst]
    refine ⟨inv.len, inv.zeroTail, inv.lastNZ, fun u => ?_, Or.inr (by simp [← heq]), hwin, hoct, inv.wins⟩
    rw [inv.has u, List.mem_append, List.mem_singleton]
    exact ⟨Or.inl, fun h => h.elim id (fun h => h ▸ htP)⟩
  · have hlt : s.prior < t := by
      rcases inv.prior with h | h
      · omega
      · have := hge _ h; omega
    have h8 : t % 256 % 8 = t % 8 := Nat.mod_mod_of_dvd t (by decide : 8 ∣ 256)
    unfold bmStep
    simp only [heq, if_false, h8]
    split
    · -- a new window is opened: what was collected so far is flushed
      obtain ⟨fhas, fwins⟩ := bmFlush_spec s P inv
      have hwlt : s.window + 1 ≤ t / 256 := by
        have : s.prior / 256 ≤ t / 256 := Nat.div_le_div_right (Nat.le_of_lt hlt)
        omega
      refine bmInv_setBit P t _ rfl _ _ List.length_replicate (fun i _ => getD_replicate0 32 i) (fun u => ?_)
        (fwins.mono hwlt)
      rw [fhas, or_iff_left (winHas_zeros _ _ _)]
    · -- same window: one more bit
      rename_i hw
      refine bmInv_setBit P t _ (Decidable.not_not.mp hw).symm _ _ inv.len (fun i hi => inv.zeroTail i ?_) inv.has inv.wins
      have : s.prior % 256 / 8 ≤ t % 256 / 8 := Nat.div_le_div_right (by omega)
      omega

theorem bmFold_inv (R : List Nat) : ∀ (P : List Nat) (s : BmState), BmInv s P →
    (P ++ R).Pairwise (fun a b => a ≤ b) → (∀ t ∈ R, 0 < t) →
    BmInv (R.foldl bmStep s) (P ++ R) := by
  induction R with
  | nil => intro P s inv _ _; simpa using inv
  | cons t R ih =>
    intro P s inv hs hr
    have hge : ∀ u ∈ P, u ≤ t := fun u hu => (List.pairwise_append.mp hs).2.2 u hu t (by simp)
    have := ih (P ++ [t]) (bmStep s t) (bmStep_inv s P t inv (hr t (by simp)) hge) (by simpa using hs)
      (fun u hu => hr u (by simp [hu]))
    simpa using this

theorem fromRdtypes_exact (ts : List Nat) (h : ∀ t ∈ ts, 0 < t ∧ t < 65536) :
    (∀ t, bitmapHas (fromRdtypes ts) t ↔ t ∈ ts) ∧
    (fromRdtypes ts).Pairwise (fun a b => a.1 < b.1) ∧
    (∀ w ∈ fromRdtypes ts, w.1 < 256 ∧ w.2 ≠ [] ∧ w.2.length ≤ 32 ∧ w.2.getLast? ≠ some 0) := by
  have hperm := insSort_perm natLe ts
  have hsorted : (insSort natLe ts).Pairwise (fun a b => a ≤ b) :=
    insSort_pairwise (fun _ _ => decide_eq_true_iff) Nat.le_total (fun _ _ _ => Nat.le_trans) ts
  have hr : ∀ t ∈ insSort natLe ts, 0 < t ∧ t < 65536 := fun t ht => h t (hperm.mem_iff.mp ht)
  have inv := bmFold_inv (insSort natLe ts) [] bmInit bmInv_init hsorted (fun t ht => (hr t ht).1)
  rw [List.nil_append] at inv
  obtain ⟨fhas, fwins⟩ := bmFlush_spec _ _ inv
  refine ⟨fun t => (fhas t).trans hperm.mem_iff, fwins.mono ?_⟩
  have hwin := inv.window
  rcases inv.prior with h0 | hin
  · omega
  · have := (hr _ hin).2; omega

/-! Every octet `from_rdtypes` emits is below 256, whatever the input list: an octet is 0 or an OR of single bits. -/

/-- the bitmap in hand and the flushed windows hold octets -/
def BmOctets (s : BmState) : Prop := (∀ x ∈ s.bitmap, x < 256) ∧ ∀ w ∈ s.windows, ∀ x ∈ w.2, x < 256

theorem bmFlush_octets (s : BmState) (h : BmOctets s) : ∀ w ∈ bmFlush s, ∀ x ∈ w.2, x < 256 := by
  intro w hw x hx
  unfold bmFlush at hw
  split at hw
  · rcases List.mem_append.mp hw with hw | hw
    · exact h.2 w hw x hx
    · rw [List.mem_singleton.mp hw] at hx
      exact h.1 x (List.mem_of_mem_take hx)
  · exact h.2 w hw x hx

theorem bmStep_octets (s : BmState) (t : Nat) (h : BmOctets s) : BmOctets (bmStep s t) := by
  -- setting one more bit in an octet keeps it an octet
  have setBit : ∀ (bm : Bytes) (i b : Nat), (∀ x ∈ bm, x < 256) →
      ∀ x ∈ bm.set i (bm.getD i 0 ||| (0x80 >>> b)), x < 256 := by
    intro bm i b hbm x hx
    rcases List.mem_or_eq_of_mem_set hx with hx | rfl
    · exact hbm x hx
    · refine Nat.or_lt_two_pow (n := 8) ?_ (Nat.lt_of_le_of_lt (Nat.shiftRight_le _ _) (by decide))
      rw [List.getD_eq_getElem?_getD]
      cases hi : bm[i]? with
      | none => decide
      | some v => exact hbm v (List.mem_of_getElem? hi)
  unfold bmStep
  split
  · exact h
  · dsimp only
    split
    · exact ⟨setBit _ _ _ fun x hx => by rw [List.eq_of_mem_replicate hx]; decide, bmFlush_octets s h⟩
    · exact ⟨setBit _ _ _ h.1, h.2⟩

theorem fromRdtypes_octets (ts : List Nat) : ∀ w ∈ fromRdtypes ts, ∀ x ∈ w.2, x < 256 := by
  have fold : ∀ (l : List Nat) (s : BmState), BmOctets s → BmOctets (l.foldl bmStep s) := by
    intro l
    induction l with
    | nil => exact fun _ h => h
    | cons t r ih => exact fun s h => ih _ (bmStep_octets s t h)
  exact bmFlush_octets _ (fold _ _ ⟨fun x hx => by rw [List.eq_of_mem_replicate hx]; decide, nofun⟩)

end Dnssec
end Model
