import Proofs.BTreeZoneBounds
import Proofs.BTreeZoneHist
/-!
Glue between the invariant `Good` and the statements of record in `Props/C20.lean`: the shape of the statements
about a committed state, "the derived state is a function of the zone content" (two `Good` stores with the same
owner names and rdataset keys are equal, flags and index included), and `Delegations.get_delegation` against its
specification.
-/
namespace Model
namespace BTZ

/-- what C20 says about a committed state: every node carries exactly the flags the documentation defines
from the zone content (`ORIGIN` on the apex; `DELEGATION` on every non-apex NS owner with no non-apex NS owner
above it; `GLUE` on every name strictly beneath such an owner), and the delegation index is exactly the list of
those delegation points, in canonical order -/
def FlagsAndIndexRight (cfg : Cfg) : ZState → Prop
  | none => True
  | some (nodes, delegs) => (∀ e ∈ nodes, e.2.flags = flagsSpec cfg nodes e.1) ∧ delegs = delegsSpec cfg nodes

theorem flagsAndIndexRight_of_good {cfg : Cfg} {z : ZState} (h : ZGood cfg z) : FlagsAndIndexRight cfg z := by
  cases z with
  | none => trivial
  | some p => exact ⟨h.flags, h.delegs_eq⟩

theorem ZInv_init {P : Ver → Prop} (h0 : P ⟨[], [], []⟩) (init : Bool) : ZInv P (initState init) := by
  unfold initState; split
  · exact h0
  · trivial

theorem zGood_init (cfg : Cfg) (init : Bool) : ZGood cfg (initState init) := ZInv_init (Good_empty cfg) init

/-- what C20 says about `bounds(q)` on a committed state: the result is the one the specification assigns to
the validated name (`KeyError` for a name outside the zone; the assertion of the code when the zone has no
visible name at or before it, i.e. no apex node) -/
def BoundsRight (v : Variant) (cfg : Cfg) (q : Name) : ZState → Prop
  | none => True
  | some (nodes, delegs) =>
    bounds v cfg nodes delegs q =
      match vname cfg q with
      | .error e => .error e
      | .ok name =>
        match boundsSpec cfg nodes name with
        | some b => .ok b
        | none => .error .assertion

theorem boundsRight_of_good {v : Variant} {cfg : Cfg} (hc : WfCfg cfg) {z : ZState} (h : ZGood cfg z) {q : Name}
    (hq : NoInnerEmpty q) (hgd : queryGuard v cfg q z = true) : BoundsRight v cfg q z := by
  cases z with
  | none => trivial
  | some p =>
    obtain ⟨N, D⟩ := p
    simp only [BoundsRight, bounds]
    simp only [queryGuard] at hgd
    cases hv : vname cfg q with
    | error e => rfl
    | ok name =>
      rw [hv] at hgd
      simp only at hgd ⊢
      exact boundsAt_eq_spec h (vname_inzone hc hq hv) hgd

theorem queryGuard_intended (cfg : Cfg) (q : Name) (z : ZState) : queryGuard intended cfg q z = true := by
  cases z with
  | none => rfl
  | some p =>
    obtain ⟨N, D⟩ := p
    simp only [queryGuard]
    split
    · rfl
    · simp [boundsGuard, intended]

/-- the content of a node store: owner names with their rdataset keys, flags forgotten -/
def content (N : Nodes) : List (Name × List RdKey) := N.map (fun e => (e.1, e.2.rds))

theorem NS_of_content {N N' : Nodes} (hN : NWF N) (hN' : NWF N') (hc : content N = content N') {a : Name}
    (ha : LC a) : NS N a → NS N' a := by
  rintro ⟨nd, hg, hns⟩
  have hm : (a, nd) ∈ N := nget_some_mem hN ha hg
  have : (a, nd.rds) ∈ content N' := by
    rw [← hc]; exact List.mem_map.mpr ⟨(a, nd), hm, rfl⟩
  obtain ⟨e', he', heq⟩ := List.mem_map.mp this
  injection heq with h1 h2
  have hm' : (a, e'.2) ∈ N' := by rw [← h1]; exact he'
  exact ⟨e'.2, mem_nget hN' hm', by rw [h2]; exact hns⟩

theorem flagsSpec_of_content {cfg : Cfg} {N N' : Nodes} (hN : NWF N) (hN' : NWF N') (hc : content N = content N')
    (m : Name) (hm : LC m) : flagsSpec cfg N' m = flagsSpec cfg N m := by
  have hall : ∀ a, LC a → (NS N' a ↔ NS N a) :=
    fun a ha => ⟨NS_of_content hN' hN hc.symm ha, NS_of_content hN hN' hc ha⟩
  exact flagsSpec_same hN hN' hall m hm

theorem nodes_of_content {cfg : Cfg} {N N' : Nodes} (hN : NWF N) (hN' : NWF N')
    (hf : ∀ e ∈ N, e.2.flags = flagsSpec cfg N e.1) (hf' : ∀ e ∈ N', e.2.flags = flagsSpec cfg N' e.1)
    (hc : content N = content N') : N = N' := by
  -- both stores are rebuilt from their content by attaching the flags specified in `N`
  have key : ∀ M : Nodes, (∀ e ∈ M, e.2.flags = flagsSpec cfg N e.1) →
      M = (content M).map (fun c => (c.1, ({ rds := c.2, flags := flagsSpec cfg N c.1 } : Node))) := by
    intro M hM
    rw [content, List.map_map]
    conv => lhs; rw [← List.map_id M]
    exact List.map_congr_left fun e he => by rw [Function.comp_apply, ← hM e he]; rfl
  exact (key N hf).trans ((congrArg _ hc).trans
    (key N' fun e he => (hf' e he).trans (flagsSpec_of_content hN hN' hc e.1 (hN'.2 e he))).symm)

theorem zstate_of_content {cfg : Cfg} {N N' : Nodes} {D D' : List Name} (h : ZGood cfg (some (N, D)))
    (h' : ZGood cfg (some (N', D'))) (hc : content N = content N') : (N, D) = (N', D') := by
  have hn : N = N' := nodes_of_content h.wf h'.wf h.flags h'.flags hc
  subst hn
  exact congrArg _ (h.delegs_eq.trans h'.delegs_eq.symm)

/-- `Delegations.get_delegation` in a `Good` version: the delegation point at or above `name` (there is at most
one), with the "strictly below" bit; `(None, False)` when there is none -/
theorem getDelegation_spec {cfg : Cfg} {N : Nodes} {D c : List Name} (hg : Good cfg ⟨N, D, c⟩) (name : Name) :
    (∀ d, LC d → isDelegSpec cfg N d = true → isSubdomain name d = true →
        getDelegation D name = (some d, properSub name d)) ∧
    ((∀ d, LC d → isDelegSpec cfg N d = true → isSubdomain name d = false) → getDelegation D name = (none, false)) := by
  constructor
  · intro d hd hdel hsub
    exact getDelegation_hit hg.dwf hg.antichain ((hg.index d hd).mpr hdel) hsub
  · intro hno
    apply getDelegation_miss hg.dwf
    intro d hdm
    have hdl := hg.dwf.2 d hdm
    exact hno d hdl ((hg.index d hdl).mp hdm)

end BTZ
end Model
