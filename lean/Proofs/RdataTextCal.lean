import Model.RdataTextCal
/-! `gmtime` then `timegm` is the identity on day numbers: the era/year-of-era/month-index algorithms of
`civilFromDays` and `daysFromCivilShift` invert each other (C05). -/
namespace Model

/-- days of a 400-year era before its year `y` (years begin on 1 March) -/
def daysBeforeYear (y : Nat) : Nat := 365 * y + y / 4 - y / 100

/-- the numerator of `yoe` in `civilFromDays`: the day of the era less the leap days before it, up to an error
that never carries into the quotient by 365 -/
def commonDays (doe : Nat) : Nat := doe - doe / 1460 + doe / 36524 - doe / 146096

/-- below the last day of the era `commonDays` is `doe - doe / 1460 + doe / 36524`, a sum of two monotone terms -/
theorem commonDays_mono_lt {a b : Nat} (h : a ≤ b) (hb : b < 146096) : commonDays a ≤ commonDays b := by
  unfold commonDays
  rw [Nat.div_eq_of_lt (Nat.lt_of_le_of_lt h hb), Nat.div_eq_of_lt hb]
  exact Nat.add_le_add (by omega) (Nat.div_le_div_right h)

theorem commonDays_mono {a b : Nat} (h : a ≤ b) (hb : b < 146097) : commonDays a ≤ commonDays b := by
  rcases Nat.lt_or_ge b 146096 with hb' | hb'
  · exact commonDays_mono_lt h hb'
  · obtain rfl : b = 146096 := by omega
    rcases Nat.eq_or_lt_of_le h with rfl | hlt
    · exact Nat.le_refl _
    · exact Nat.le_trans (commonDays_mono_lt (Nat.le_of_lt_succ hlt) (by decide)) (by decide)

/-- on the first day of year `y` of the era the three correction terms are exactly the leap days so far (`y / 4`, `y / 100`,
none of the 400-year kind), so `commonDays` is `365 * y` on the nose -/
theorem commonDays_yearStart (y : Nat) (hy : y < 400) : commonDays (daysBeforeYear y) = 365 * y := by
  unfold commonDays daysBeforeYear
  have h1 : (365 * y + y / 4 - y / 100) / 1460 = y / 4 := by omega
  have h2 : (365 * y + y / 4 - y / 100) / 36524 = y / 100 := by omega
  have h3 : (365 * y + y / 4 - y / 100) / 146096 = 0 := by omega
  omega

/-- and on the day before it is still short of `365 * y`: the first correction is the same, the second no larger -/
theorem commonDays_yearEnd (y : Nat) (h0 : 0 < y) (hy : y ≤ 400) : commonDays (daysBeforeYear y - 1) < 365 * y := by
  unfold commonDays daysBeforeYear
  have h1 : (365 * y + y / 4 - y / 100 - 1) / 1460 = y / 4 := by omega
  have h2 : (365 * y + y / 4 - y / 100 - 1) / 36524 ≤ y / 100 := by omega
  have h3 : (365 * y + y / 4 - y / 100 - 1) / 146096 = 0 := by omega
  omega

/-- between the year boundaries monotonicity decides -/
theorem yearOfEra (doe : Nat) (h : doe < 146097) :
    commonDays doe / 365 < 400 ∧ daysBeforeYear (commonDays doe / 365) ≤ doe ∧
      doe ≤ daysBeforeYear (commonDays doe / 365) + 365 := by
  have hy : commonDays doe / 365 < 400 := by
    have := commonDays_mono (Nat.le_of_lt_succ h) (by decide : 146096 < 146097)
    have : commonDays 146096 = 145999 := by decide
    omega
  refine ⟨hy, Nat.le_of_not_lt fun hlt => ?_, Nat.le_of_not_lt fun hge => ?_⟩
  · rcases hc : commonDays doe / 365 with _ | y
    · simp [hc, daysBeforeYear] at hlt
    · rw [hc] at hlt hy
      have := commonDays_mono (Nat.le_sub_one_of_lt hlt) (by unfold daysBeforeYear; omega)
      have := commonDays_yearEnd (y + 1) (Nat.succ_pos y) (Nat.le_of_lt hy)
      omega
  · have hs : daysBeforeYear (commonDays doe / 365 + 1) ≤ doe := by unfold daysBeforeYear at hge ⊢; omega
    by_cases h4 : commonDays doe / 365 + 1 < 400
    · have := commonDays_mono hs h
      have := commonDays_yearStart _ h4
      omega
    · have : commonDays doe / 365 = 399 := by omega
      rw [this] at hge
      have : daysBeforeYear 399 = 145731 := by decide
      omega

theorem monthOfYear (doy mp : Nat) (h : doy ≤ 365) (hm : mp = (5 * doy + 2) / 153) :
    mp ≤ 11 ∧ (153 * mp + 2) / 5 ≤ doy ∧ doy - (153 * mp + 2) / 5 ≤ 30 := by
  omega

theorem monthNumber (mp m : Nat) (h : mp ≤ 11) (hm : m = if mp < 10 then mp + 3 else mp - 9) :
    1 ≤ m ∧ m ≤ 12 ∧ (m ≤ 2 ↔ 10 ≤ mp) ∧ (if m > 2 then m - 3 else m + 9) = mp := by
  split at hm <;> split <;> omega

theorem daysFromCivilShift_of (era yoe mp m d : Nat) (hy : yoe < 400)
    (hm : (if m > 2 then m - 3 else m + 9) = mp) :
    daysFromCivilShift (if m ≤ 2 then yoe + era * 400 + 1 else yoe + era * 400) m d =
      era * 146097 + (daysBeforeYear yoe + ((153 * mp + 2) / 5 + d - 1)) := by
  have e1 : (if m ≤ 2 then (if m ≤ 2 then yoe + era * 400 + 1 else yoe + era * 400) - 1
      else if m ≤ 2 then yoe + era * 400 + 1 else yoe + era * 400) = yoe + era * 400 := by split <;> rfl
  have e2 : (yoe + era * 400) / 400 = era := by omega
  have e3 : yoe + era * 400 - era * 400 = yoe := by omega
  simp only [daysFromCivilShift, daysBeforeYear, e1, e2, e3, hm, Nat.mul_comm]

/-- the day number of a civil date, in the closed form that `daysFromCivilShift_of` gives it, is linear in era, year of
the era and day but for two floor terms, so a window of day numbers is a window of years.  `719468 … 769387` are the days
`0 … 49919` since 1970-01-01 (era 4, March-based year 369, month index 10), which a 32-bit seconds counter reaches. -/
theorem yearWindow (Z era yoe mp d : Nat) (hy : yoe < 400) (hmp : mp ≤ 11) (hd1 : 1 ≤ d) (hd : d ≤ 31)
    (hZ : era * 146097 + (daysBeforeYear yoe + ((153 * mp + 2) / 5 + 1 - 1)) + d - 1 = Z)
    (h0 : 719468 ≤ Z) (h1 : Z < 769388) :
    1970 ≤ (if 10 ≤ mp then yoe + era * 400 + 1 else yoe + era * 400) ∧
      (if 10 ≤ mp then yoe + era * 400 + 1 else yoe + era * 400) ≤ 2106 := by
  unfold daysBeforeYear at hZ
  have : era = 4 ∨ era = 5 := by omega
  split <;> omega

theorem roundtrip_arith (Z era doe dby doy q d : Nat) (hera : era = Z / 146097) (hdoe : doe = Z - era * 146097)
    (hlo : dby ≤ doe) (hdoy : doy = doe - dby) (hq : q ≤ doy) (hd : d = doy - q + 1) :
    era * 146097 + (dby + (q + 1 - 1)) + d - 1 = Z := by
  omega

/-- the steps of `civilFromDays` on variables, followed by `daysFromCivilShift` -/
theorem civil_steps (Z era doe yoe doy mp d m : Nat) (hera : era = Z / 146097) (hdoe : doe = Z - era * 146097)
    (hyoe : yoe = commonDays doe / 365) (hdoy : doy = doe - daysBeforeYear yoe) (hmp : mp = (5 * doy + 2) / 153)
    (hd : d = doy - (153 * mp + 2) / 5 + 1) (hm : m = if mp < 10 then mp + 3 else mp - 9) :
    daysFromCivilShift (if m ≤ 2 then yoe + era * 400 + 1 else yoe + era * 400) m 1 + d - 1 = Z ∧
      1 ≤ m ∧ m ≤ 12 ∧ 1 ≤ d ∧ d ≤ 31 ∧
      (719468 ≤ Z → Z < 769388 → 1970 ≤ (if m ≤ 2 then yoe + era * 400 + 1 else yoe + era * 400) ∧
        (if m ≤ 2 then yoe + era * 400 + 1 else yoe + era * 400) ≤ 2106) := by
  have ⟨hy, hlo, hhi⟩ := yearOfEra doe (by rw [hdoe, hera]; omega)
  rw [← hyoe] at hy hlo hhi
  have ⟨h11, hmlo, hmhi⟩ := monthOfYear doy mp (hdoy ▸ Nat.sub_le_iff_le_add'.mpr hhi) hmp
  have ⟨hm1, hm12, hm2, hmp'⟩ := monthNumber mp m h11 hm
  have hd1 : 1 ≤ d := hd ▸ Nat.le_add_left 1 _
  have hd31 : d ≤ 31 := hd ▸ Nat.succ_le_succ hmhi
  have hZ := roundtrip_arith Z era doe _ doy _ d hera hdoe hlo hdoy hmlo hd
  refine ⟨?_, hm1, hm12, hd1, hd31, fun h0 h1 => ?_⟩
  · rw [daysFromCivilShift_of era yoe mp m 1 hy hmp']; exact hZ
  · simp only [hm2]; exact yearWindow Z era yoe mp d hy h11 hd1 hd31 hZ h0 h1

/-- the year bound is that of the 32-bit seconds counter -/
theorem civil_roundtrip (z : Nat) :
    daysFromCivilShift (civilFromDays z).1 (civilFromDays z).2.1 1 + (civilFromDays z).2.2 - 1 = z + 719468 ∧
      1 ≤ (civilFromDays z).2.1 ∧ (civilFromDays z).2.1 ≤ 12 ∧
      1 ≤ (civilFromDays z).2.2 ∧ (civilFromDays z).2.2 ≤ 31 ∧
      (z < 49920 → 1970 ≤ (civilFromDays z).1 ∧ (civilFromDays z).1 ≤ 2106) := by
  have ⟨h1, h2, h3, h4, h5, h6⟩ := civil_steps (z + 719468) _ _ _ _ _ _ _ rfl rfl rfl rfl rfl rfl rfl
  exact ⟨h1, h2, h3, h4, h5, fun hz => h6 (by omega) (by omega)⟩

theorem okDay_all (z : Nat) (hz : z < 49920) : okDay z = true := by
  have ⟨h1, h2, h3, h4, h5, h6⟩ := civil_roundtrip z
  simp [okDay, h1, h2, h3, h4, h5, h6 hz]

end Model
