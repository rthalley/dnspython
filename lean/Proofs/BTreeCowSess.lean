import Proofs.BTreeCowHeap
/-!
Mechanism level: sessions — any number of trees sharing one heap.  The invariant `SessOk` and the steps that do not
depend on what an operation does inside its tree: a mutation given by its `RUpd` (`step_mut`, which also yields the
`Footprint`: the cells of every other tree are untouched, because none of them was created by the token of a mutable
tree), a rejected one (`step_idle`), a new handle over a heap that only grew (`step_append`), `make_immutable`,
`BTree(original=…)`, `BTree(t=…)`.
-/
namespace Model.BTreeCow
open Model.BTree

theorem set_getElem?_self {α} {l : List α} {i : Nat} {a : α} (h : l[i]? = some a) : l.set i a = l := by
  obtain ⟨hi, rfl⟩ := List.getElem?_eq_some_iff.mp h
  exact List.set_getElem_self hi

theorem getElem?_set_cases {α} {l : List α} {i j : Nat} {a x : α} (h : (l.set i a)[j]? = some x) :
    (j = i ∧ x = a) ∨ (j ≠ i ∧ l[j]? = some x) := by
  rw [List.getElem?_set] at h
  split at h
  · split at h
    · exact Or.inl ⟨Eq.symm ‹_›, (Option.some.inj h).symm⟩
    · cases h
  · exact Or.inr ⟨Ne.symm ‹_›, h⟩

theorem mem_set_cases {α} {l : List α} {i : Nat} {a x : α} (h : x ∈ l.set i a) :
    x = a ∨ ∃ j, j ≠ i ∧ l[j]? = some x := by
  obtain ⟨j, hj⟩ := List.getElem?_of_mem h
  exact (getElem?_set_cases hj).imp (·.2) fun h => ⟨j, h⟩

theorem nodup_map_index {α β} {f : α → β} {l : List α} (nd : (l.map f).Nodup) {i j : Nat} {a b : α}
    (hi : l[i]? = some a) (hj : l[j]? = some b) (hf : f a = f b) : i = j := by
  have hi' : (l.map f)[i]? = some (f a) := by rw [List.getElem?_map, hi]; rfl
  have hj' : (l.map f)[j]? = some (f b) := by rw [List.getElem?_map, hj]; rfl
  exact (List.getElem?_inj (List.getElem?_eq_some_iff.mp hi').1 nd).mp (by rw [hi', hj', hf])

theorem map_set_congr {α β} {f f' : α → β} {l : List α} {i : Nat} {a : α}
    (hf : ∀ j x, j ≠ i → l[j]? = some x → f' x = f x) :
    (l.set i a).map f' = (l.map f).set i (f' a) := by
  apply List.ext_getElem?
  intro j
  rw [List.getElem?_map, List.getElem?_set, List.getElem?_set, List.length_map, List.getElem?_map]
  by_cases hij : i = j
  · rw [if_pos hij, if_pos hij]
    split <;> rfl
  · rw [if_neg hij, if_neg hij]
    cases h : l[j]? with
    | none => rfl
    | some x => exact congrArg some (hf j x (Ne.symm hij) h)

theorem getElem?_append_singleton {α} {l : List α} {a : α} {j : Nat} {x : α} (h : (l ++ [a])[j]? = some x) :
    (j = l.length ∧ x = a) ∨ (j ≠ l.length ∧ l[j]? = some x) := by
  rw [List.getElem?_append] at h
  split at h
  · exact Or.inr ⟨by omega, h⟩
  · rw [List.getElem?_singleton] at h
    split at h
    · exact Or.inl ⟨by omega, (Option.some.inj h).symm⟩
    · cases h

/-- a relation between the entries at distinct positions of a list, when one position is new (`l'` is `l.set i a` or
`l ++ [a]` with `i = l.length`) -/
theorem pairs_upd {α} {R : α → α → Prop} {l l' : List α} {i : Nat} {a : α}
    (hl : ∀ {j x}, l'[j]? = some x → (j = i ∧ x = a) ∨ (j ≠ i ∧ l[j]? = some x))
    (hoth : ∀ (j k : Nat) x y, l[j]? = some x → l[k]? = some y → j ≠ k → j ≠ i → k ≠ i → R x y)
    (hnew : ∀ (j : Nat) y, l[j]? = some y → j ≠ i → R a y ∧ R y a) :
    ∀ (j k : Nat) x y, l'[j]? = some x → l'[k]? = some y → j ≠ k → R x y := by
  intro j k x y hx hy hjk
  rcases hl hx with ⟨rfl, rfl⟩ | ⟨hj, hx'⟩ <;> rcases hl hy with ⟨rfl, rfl⟩ | ⟨hk, hy'⟩
  · exact absurd rfl hjk
  · exact (hnew k y hy' hk).1
  · exact (hnew j x hx' hj).2
  · exact hoth j k x y hx' hy' hjk hj hk

/-- a well-formed tree handle: `t ≥ 3`, the repaired `_delete`, a token that was handed out, and a well-formed,
unshared tree of cells whose abstraction is a well-formed B-tree that meets the root condition, with an exact `size` -/
structure TreeOk (w : World) (hd : Handle) : Prop where
  t_ok : 3 ≤ hd.t
  ca : hd.collapseAlways = true
  tok : hd.creator < w.nextCreator
  tree : ∃ h, HT w.heap h hd.root ∧ (reach w.heap h hd.root).Nodup ∧ Wf hd.t (absN w.heap h hd.root) ∧
      RootOk (absN w.heap h hd.root) ∧ hd.size = (flat (absN w.heap h hd.root)).length

/-- the invariant of a session: every handle is well formed, every cell was created by a token that was handed
out, tokens are pairwise distinct, and no cell created by the token of a *mutable* tree is reachable from any
other tree -/
structure SessOk (s : Sess) : Prop where
  trees : ∀ hd ∈ s.hs, TreeOk s.w hd
  cells : ∀ x, x < s.w.heap.size → (rd s.w.heap x).creator < s.w.nextCreator
  distinct : (s.hs.map (·.creator)).Nodup
  excl : ∀ (i j : Nat) (hi hj : Handle), s.hs[i]? = some hi → s.hs[j]? = some hj → i ≠ j → hi.immutable = false →
      ∀ h, HT s.w.heap h hj.root → ∀ x ∈ reach s.w.heap h hj.root, (rd s.w.heap x).creator ≠ hi.creator

theorem handle_abs_eq {w : World} {hd : Handle} {h : Nat} (ht : HT w.heap h hd.root)
    (nd : (reach w.heap h hd.root).Nodup) : hd.abs w = absN w.heap h hd.root := by
  unfold Handle.abs
  rw [heightOf_of_HT ht nd]

/-- `SessOk.excl` for one pair of handles: if `x` is mutable, no cell of `y`'s tree was created by the token of `x` -/
def Excl (w : World) (x y : Handle) : Prop :=
  x.immutable = false → ∀ h, HT w.heap h y.root → ∀ z ∈ reach w.heap h y.root, (rd w.heap z).creator ≠ x.creator

theorem tree_frame {w w' : World} {hd : Handle} (ok : TreeOk w hd) (htok : w.nextCreator ≤ w'.nextCreator)
    (hfr : ∀ h, HT w.heap h hd.root → Kept w.heap w'.heap h hd.root) :
    TreeOk w' hd ∧ Handle.toTree w' hd = Handle.toTree w hd ∧
    ∀ h, HT w'.heap h hd.root → HT w.heap h hd.root ∧ reach w'.heap h hd.root = reach w.heap h hd.root := by
  obtain ⟨h0, t1, t2, t3, t4, t5⟩ := ok.tree
  obtain ⟨a1, a2, a3⟩ := hfr h0 t1
  refine ⟨⟨ok.t_ok, ok.ca, Nat.lt_of_lt_of_le ok.tok htok, h0, a3, by rw [a2]; exact t2, by rw [a1]; exact t3,
    by rw [a1]; exact t4, by rw [a1]; exact t5⟩, ?_, fun h ht => ?_⟩
  · simp only [Handle.toTree]
    rw [handle_abs_eq a3 (by rw [a2]; exact t2), handle_abs_eq t1 t2, a1]
  · rw [HT_height_unique ht a3]; exact ⟨t1, a2⟩

theorem excl_frame {w w' : World} {x y : Handle}
    (hy : ∀ h, HT w'.heap h y.root → HT w.heap h y.root ∧ reach w'.heap h y.root = reach w.heap h y.root)
    (hcr : ∀ z, z < w.heap.size → (rd w'.heap z).creator = (rd w.heap z).creator) (e : Excl w x y) : Excl w' x y := by
  intro hm h ht z hz
  obtain ⟨t0, er⟩ := hy h ht
  rw [er] at hz
  rw [hcr z (reach_lt t0 z hz)]
  exact e hm h t0 z hz

/-- the operations covered by the refinement theorem: a new tree needs `t ≥ 3` (the constructor's guard) and the
repaired `_delete` -/
def OpOk : Op → Prop
  | .new t _ ca => 3 ≤ t ∧ ca = true
  | _ => True

theorem abs_getElem? (s : Sess) (i : Nat) : s.abs[i]? = (s.hs[i]?).map (Handle.toTree s.w) := by
  simp [Sess.abs]

/-- what a mutation of the tree with token `c` may do to the heap: old cells created by other tokens are
untouched, no cell changes its creator, and every new cell is created by `c` -/
structure Footprint (c : Nat) (H H' : Heap) : Prop where
  size : H.size ≤ H'.size
  same : ∀ x, x < H.size → (rd H x).creator ≠ c → rd H' x = rd H x
  creator : ∀ x, x < H.size → (rd H' x).creator = (rd H x).creator
  fresh : ∀ x, H.size ≤ x → x < H'.size → (rd H' x).creator = c

theorem RUpd.footprint {c : Nat} {H H' : Heap} {h r h' r' : Nat} {n : Node} (u : RUpd c H H' h r h' r' n) :
    Footprint c H H' :=
  ⟨u.size, fun x hx hc => u.same x hx (Or.inr hc), u.creator, u.fresh⟩

theorem Footprint.refl (c : Nat) (H : Heap) : Footprint c H H :=
  ⟨Nat.le_refl _, fun _ _ _ => rfl, fun _ _ => rfl, fun x h1 h2 => by omega⟩

/-- the common part of `insert_element` and `_delete`: the tree of handle `i` is changed within the footprint of its
own token into one that represents `n'`.  The new world, handle and tree come with equations, so that the two
operations only have to state theirs. -/
theorem step_mut {s : Sess} {i : Nat} {hd hd' : Handle} {w' : World} {tr' : Tree} {H' : Heap} {h h' r sz : Nat}
    {n' : Node} (ok : SessOk s) (hi : s.hs[i]? = some hd) (hm : hd.immutable = false)
    (htree : HT s.w.heap h hd.root) (u : RUpd hd.creator s.w.heap H' h hd.root h' r n')
    (hwf : Wf hd.t n' ∧ RootOk n' ∧ sz = (flat n').length)
    (hw : w' = { s.w with heap := H' }) (hh : hd' = { hd with root := r, size := sz })
    (ht : tr' = ⟨hd.t, n', sz, hd.immutable, hd.inOrder, hd.collapseAlways, hd.collapseOnError⟩) :
    SessOk ⟨w', s.hs.set i hd'⟩ ∧ Sess.abs ⟨w', s.hs.set i hd'⟩ = s.abs.set i tr' ∧
      Footprint hd.creator s.w.heap w'.heap := by
  subst hw hh ht
  have okd := ok.trees hd (List.mem_of_getElem? hi)
  -- every other tree is untouched
  have hother : ∀ j x, j ≠ i → s.hs[j]? = some x → _ := fun j x hji hx =>
    tree_frame (w' := { s.w with heap := H' }) (ok.trees x (List.mem_of_getElem? hx)) (Nat.le_refl _)
      fun hj htj => frame u.size hj x.root htj fun z hz =>
        u.same z (reach_lt htj z hz) (Or.inr (ok.excl i j hd x hi hx (Ne.symm hji) hm hj htj z hz))
  refine ⟨⟨fun x hx => ?_, fun x hx => ?_, ?_,
    pairs_upd (R := Excl { s.w with heap := H' }) getElem?_set_cases ?_ ?_⟩, ?_, u.footprint⟩
  · rcases mem_set_cases hx with rfl | ⟨j, hji, hjx⟩
    · exact ⟨okd.t_ok, okd.ca, okd.tok, h', u.ht, u.nodup, by rw [u.abs]; exact hwf.1, by rw [u.abs]; exact hwf.2.1,
        by rw [u.abs]; exact hwf.2.2⟩
    · exact (hother j x hji hjx).1
  · by_cases hlt : x < s.w.heap.size
    · rw [u.creator x hlt]; exact ok.cells x hlt
    · rw [u.fresh x (by omega) hx]; exact okd.tok
  · rw [List.map_set, set_getElem?_self (by rw [List.getElem?_map, hi]; rfl)]
    exact ok.distinct
  · exact fun j k x y hx hy hjk hji hki =>
      excl_frame (hother k y hki hy).2.2 u.creator (ok.excl j k x y hx hy hjk)
  · intro j y hy hji
    constructor
    · exact excl_frame (x := hd) (hother j y hji hy).2.2 u.creator (ok.excl i j hd y hi hy (Ne.symm hji))
    · -- the operated tree consists of its old cells and of fresh ones created by its own token
      intro hmy hh hth z hz
      rw [HT_height_unique hth u.ht] at hz
      rcases u.sub z hz with hold | hfresh
      · rw [u.creator z (reach_lt htree z hold)]
        exact ok.excl j i y hd hy hi hji hmy h htree z hold
      · rw [u.fresh z hfresh (reach_lt u.ht z hz)]
        exact fun e => hji (nodup_map_index ok.distinct hy hi e.symm)
  · unfold Sess.abs
    rw [map_set_congr (f := Handle.toTree s.w) fun j x hji hjx => (hother j x hji hjx).2.1]
    congr 1
    simp only [Handle.toTree]
    rw [handle_abs_eq (w := { s.w with heap := H' }) (hd := { hd with root := r, size := sz }) u.ht u.nodup, u.abs]

/-- an operation that is rejected (frozen tree): world, handle and tree are put back as they were -/
theorem step_idle {s : Sess} {i : Nat} {hd hd' : Handle} {w' : World} {tr' : Tree} (ok : SessOk s)
    (hi : s.hs[i]? = some hd) (hw : w' = s.w) (hh : hd' = hd) (ht : tr' = hd.toTree s.w) {c : Nat} :
    SessOk ⟨w', s.hs.set i hd'⟩ ∧ Sess.abs ⟨w', s.hs.set i hd'⟩ = s.abs.set i tr' ∧
      Footprint c s.w.heap w'.heap := by
  subst hw hh ht
  rw [set_getElem?_self hi, set_getElem?_self (by rw [abs_getElem?, hi]; rfl)]
  exact ⟨ok, rfl, Footprint.refl _ _⟩

/-! ## `make_immutable` -/

theorem step_freeze {s : Sess} (ok : SessOk s) (i : Nat) :
    SessOk (s.step (.freeze i)) ∧ (s.step (.freeze i)).abs = refStep s.abs (.freeze i) := by
  simp only [Sess.step, refStep]
  rw [abs_getElem?]
  cases hi : s.hs[i]? with
  | none => exact ⟨ok, rfl⟩
  | some hd =>
    have okd := ok.trees hd (List.mem_of_getElem? hi)
    refine ⟨⟨fun x hx => ?_, ok.cells, ?_, pairs_upd (R := Excl s.w) getElem?_set_cases ?_ ?_⟩, ?_⟩
    · rcases mem_set_cases hx with rfl | ⟨j, _, hjx⟩
      · exact ⟨okd.t_ok, okd.ca, okd.tok, okd.tree⟩
      · exact ok.trees x (List.mem_of_getElem? hjx)
    · have : (s.hs.set i { hd with immutable := true }).map (·.creator) = s.hs.map (·.creator) := by
        rw [List.map_set]
        apply set_getElem?_self
        rw [List.getElem?_map, hi]; rfl
      rw [this]; exact ok.distinct
    · exact fun j k x y hx hy hjk _ _ => ok.excl j k x y hx hy hjk
    · exact fun j y hy hji => ⟨fun hf => Bool.noConfusion hf, ok.excl j i y hd hy hi hji⟩
    · simp only [Option.map_some, Sess.abs, List.map_set]
      rfl

/-! ## a new handle: `BTree(original=…)`, `BTree(t=…)` -/

theorem step_append {s : Sess} {H' : Heap} {c : Handle} (ok : SessOk s) (so : SameOff [] s.w.heap H')
    (hfresh : ∀ z, s.w.heap.size ≤ z → z < H'.size → (rd H' z).creator = s.w.nextCreator)
    (hc : c.creator = s.w.nextCreator) (okc : TreeOk ⟨H', s.w.nextCreator + 1⟩ c)
    (hex : ∀ (j : Nat) y, s.hs[j]? = some y → Excl ⟨H', s.w.nextCreator + 1⟩ y c) :
    SessOk ⟨⟨H', s.w.nextCreator + 1⟩, s.hs ++ [c]⟩ ∧
    Sess.abs ⟨⟨H', s.w.nextCreator + 1⟩, s.hs ++ [c]⟩ =
      s.abs ++ [Handle.toTree ⟨H', s.w.nextCreator + 1⟩ c] := by
  have hold : ∀ x ∈ s.hs, _ := fun x hx =>
    tree_frame (w' := ⟨H', s.w.nextCreator + 1⟩) (ok.trees x hx) (Nat.le_succ _) fun hj htj => frame_off so htj (by simp)
  have hcr : ∀ z, z < s.w.heap.size → (rd H' z).creator = (rd s.w.heap z).creator := fun z hz => by
    rw [so.same z hz (by simp)]
  refine ⟨⟨fun x hx => ?_, fun z hz => ?_, ?_,
    pairs_upd (R := Excl ⟨H', s.w.nextCreator + 1⟩) getElem?_append_singleton ?_ ?_⟩, ?_⟩
  · rcases List.mem_append.mp hx with hx | hx
    · exact (hold x hx).1
    · rw [List.mem_singleton.mp hx]; exact okc
  · show (rd H' z).creator < s.w.nextCreator + 1
    by_cases hlt : z < s.w.heap.size
    · rw [hcr z hlt]; exact Nat.lt_succ_of_lt (ok.cells z hlt)
    · rw [hfresh z (by omega) hz]; exact Nat.lt_succ_self _
  · rw [List.map_append, List.nodup_append]
    refine ⟨ok.distinct, by simp, fun a ha b hb hab => ?_⟩
    obtain ⟨x, hx, rfl⟩ := List.mem_map.mp ha
    have := (ok.trees x hx).tok
    simp only [List.map_cons, List.map_nil, List.mem_singleton] at hb
    omega
  · exact fun j k x y hx hy hjk _ _ =>
      excl_frame (hold y (List.mem_of_getElem? hy)).2.2 hcr (ok.excl j k x y hx hy hjk)
  · refine fun j y hy _ => ⟨fun _ h ht z hz => ?_, hex j y hy⟩
    -- the cells of an old tree were created by tokens handed out before
    obtain ⟨t0, er⟩ := (hold y (List.mem_of_getElem? hy)).2.2 h ht
    rw [er] at hz
    have := ok.cells z (reach_lt t0 z hz)
    rw [hcr z (reach_lt t0 z hz), hc]
    omega
  · simp only [Sess.abs, List.map_append, List.map_cons, List.map_nil]
    exact congrArg (· ++ _) (List.map_congr_left fun x hx => (hold x hx).2.1)

theorem step_clone {s : Sess} (ok : SessOk s) (i : Nat) (io : Bool) :
    SessOk (s.step (.clone i io)) ∧ (s.step (.clone i io)).abs = refStep s.abs (.clone i io) := by
  simp only [Sess.step, refStep]
  rw [abs_getElem?]
  cases hi : s.hs[i]? with
  | none => exact ⟨ok, rfl⟩
  | some hd =>
    simp only [Option.map_some]
    have okd := ok.trees hd (List.mem_of_getElem? hi)
    cases hm : hd.immutable with
    | false =>
      have e1 : cloneTree s.w hd io = none := by simp [cloneTree, hm]
      have e2 : (Handle.toTree s.w hd).clone io = none := by simp [Tree.clone, Handle.toTree, hm]
      rw [e1, e2]
      exact ⟨ok, rfl⟩
    | true =>
      have e1 : cloneTree s.w hd io = some (⟨s.w.heap, s.w.nextCreator + 1⟩,
          { hd with immutable := false, inOrder := io, creator := s.w.nextCreator }) := by simp [cloneTree, hm]
      have e2 : (Handle.toTree s.w hd).clone io = some (Handle.toTree ⟨s.w.heap, s.w.nextCreator + 1⟩
          { hd with immutable := false, inOrder := io, creator := s.w.nextCreator }) := by
        simp [Tree.clone, Handle.toTree, hm, Handle.abs]
      rw [e1, e2]
      refine step_append ok (SameOff.refl _) (fun z h1 h2 => by omega) rfl
        ⟨okd.t_ok, okd.ca, Nat.lt_succ_self _, okd.tree⟩ fun j y hy hmy => ?_
      -- the clone shares the frozen tree, which no mutable tree's token has created cells of
      exact ok.excl j i y hd hy hi (fun e => by subst e; rw [hi] at hy; cases hy; rw [hm] at hmy; cases hmy) hmy

theorem step_new {s : Sess} (ok : SessOk s) (t : Nat) (io ca : Bool) (ht : 3 ≤ t) (hca : ca = true) :
    SessOk (s.step (.new t io ca)) ∧ (s.step (.new t io ca)).abs = refStep s.abs (.new t io ca) := by
  simp only [Sess.step, refStep, newTree, alloc_snd]
  generalize hH' : (alloc s.w.heap { creator := s.w.nextCreator, leaf := true, elts := [], kids := [] }).1 = H'
  have so : SameOff [] s.w.heap H' := by rw [← hH']; exact (SameOff.refl s.w.heap).alloc _
  have hnew : rd H' s.w.heap.size = { creator := s.w.nextCreator, leaf := true, elts := [], kids := [] } := by
    rw [← hH']; exact rd_alloc_new _ _
  have hsz : H'.size = s.w.heap.size + 1 := by rw [← hH']; simp
  have hht : HT H' 0 s.w.heap.size := ⟨by omega, by rw [hnew]⟩
  have habs : Handle.abs ⟨H', s.w.nextCreator + 1⟩ ⟨t, s.w.heap.size, 0, false, io, s.w.nextCreator, ca, false⟩ =
      .leaf [] := by
    rw [handle_abs_eq (h := 0) hht (by simp [reach])]; simp [absN, hnew]
  have := step_append (c := ⟨t, s.w.heap.size, 0, false, io, s.w.nextCreator, ca, false⟩) ok so
    (fun z h1 h2 => by rw [show z = s.w.heap.size by omega, hnew]) rfl
    ⟨ht, hca, Nat.lt_succ_self _, 0, hht, by simp [reach], by
      simp only [absN, hnew]
      exact ⟨⟨⟨0, by simp⟩, by simp [Node.elts], by simp⟩, Or.inl rfl, by simp⟩⟩
    (fun j y hy _ h hth z hz => by
      -- the new tree is its one new cell
      have h0 : h = 0 := HT_height_unique hth hht
      subst h0
      rw [List.mem_singleton.mp hz, hnew]
      exact Nat.ne_of_gt (ok.trees y (List.mem_of_getElem? hy)).tok)
  simpa [Handle.toTree, Tree.empty, habs] using this

end Model.BTreeCow
