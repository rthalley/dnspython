import Proofs.RdataTextTok
import Proofs.RdataTextEsc
import Proofs.RdataTextIP6
import Proofs.NameText
/-! Round trip of the prefix field kinds: print → tokenizer → parse (C05).  `FieldRT` is `TokRT` for `printField` /
`parseField`; the kinds that share a parser shape share a lemma (`fieldRT_num`, `fieldRT_blob`), the others have their own
here and in the modules named after them.  Beside a reader's round trip stands what it guarantees of any value it returns
(`asUint_le`, `asTtl_le`, `bytesMax_le`; in the other modules likewise). -/
namespace Model

/-- the round trip of one prefix field: print → tokenizer → parse -/
abbrev FieldRT (st : Style) (env : PEnv) (k : FK) : FV → Text → Tok → Prop := TokRT (printField st k) (parseField env k)

theorem asUint10_natToDec (max v : Nat) (hv : v ≤ max) : asUint 10 max ⟨.ident, natToDec v⟩ = some v := by
  unfold asUint
  simp [unescapeCP_plain_all _ (natToDec_plain v), pyInt10_natToDec]
  omega

theorem asUint_le (base max : Nat) (t : Tok) : Returns (· ≤ max) (asUint base max t) := by
  unfold asUint
  refine .ite_none fun _ => ?_
  split
  · exact .none
  · exact .match_int fun _ _ => .ite_none fun _ => .ite_none fun h => .some (by omega)

theorem field_uint (st : Style) (env : PEnv) (max v : Nat) (hv : v ≤ max) :
    FieldRT st env (.uint max) (.n v) (natToDec v) ⟨.ident, natToDec v⟩ := by
  refine tokRT_plain (natToDec_ne_nil v) (natToDec_plain v) rfl ?_
  simp [parseField, asUint10_natToDec max v hv]

theorem field_ttl (st : Style) (env : PEnv) (v : Nat) (hv : v ≤ Consts.maxTTL) :
    FieldRT st env .ttl (.n v) (natToDec v) ⟨.ident, natToDec v⟩ := by
  refine tokRT_plain (natToDec_ne_nil v) (natToDec_plain v) rfl ?_
  simp only [parseField, asTtl, unescapeCP_plain_all _ (natToDec_plain v), ttlFromText, natToDec_isEmpty, natToDec_all_isDigit,
    decVal_natToDec]
  simp; omega

theorem ttlFromText_le (s : List Nat) : Returns (· ≤ Consts.maxTTL) (ttlFromText s) :=
  .match_nat fun _ => .ite_none fun h => .some (by omega)

theorem asTtl_le (t : Tok) : Returns (· ≤ Consts.maxTTL) (asTtl t) := by
  unfold asTtl
  refine .ite_none fun _ => ?_
  split
  · exact .none
  · exact ttlFromText_le _

/-- a number printed as the plain text `enc v` and read by `Token.unescape` followed by `dec` (mnemonic tables, the
signature times, algorithm numbers) -/
theorem fieldRT_num {st : Style} {env : PEnv} {k : FK} {enc : Nat → Text} {dec : Text → Option Nat}
    (hpr : ∀ v, printField st k (.n v) = some (enc v))
    (hpa : ∀ t, parseField env k t = match unescapeCP t.val with | some s => (dec s).map FV.n | none => none)
    {v : Nat} (h : dec (enc v) = some v ∧ Plain (enc v) ∧ enc v ≠ []) : FieldRT st env k (.n v) (enc v) ⟨.ident, enc v⟩ :=
  tokRT_plain h.2.2 h.2.1 (hpr v) (by rw [hpa]; simp only [unescapeCP_plain_all _ h.2.1, h.1]; rfl)

/-- a string within the limits passes `get_string_as_bytes(max_length)` and `_as_bytes(…, max)` unchanged -/
theorem cstr_parse (env : PEnv) (maxTok maxBytes : Option Nat) (q : Bool) (t : Tok) (s : Bytes)
    (hu : unescapeBytes t.val = some s) (h1 : ∀ m, maxTok = some m → s.length ≤ m) (h2 : ∀ m, maxBytes = some m → s.length ≤ m) :
    parseField env (.cstr maxTok maxBytes q) t = some (.b s) := by
  have ha : asStringBytes maxTok t = some s := by
    unfold asStringBytes
    simp only [hu]
    cases maxTok with
    | none => rfl
    | some m =>
      have := h1 m rfl
      have : ¬ (m ≠ 0 ∧ s.length > m) := by omega
      simp [this]
  have he : bytesMax maxBytes s = some s := by
    unfold bytesMax
    cases maxBytes with
    | none => rfl
    | some m =>
      have := h2 m rfl
      have : ¬ s.length > m := by omega
      simp [this]
  simp [parseField, ha, he]

theorem bytesMax_le (m : Nat) (v : Bytes) : Returns (·.length ≤ m) (bytesMax (some m) v) :=
  .ite_none fun h => .some (by omega)

theorem field_cstr_quoted (st : Style) (env : PEnv) (maxTok maxBytes : Option Nat) (s : Bytes)
    (hs : ∀ c ∈ s, c < 256) (h1 : ∀ m, maxTok = some m → s.length ≤ m) (h2 : ∀ m, maxBytes = some m → s.length ≤ m) :
    FieldRT st env (.cstr maxTok maxBytes true) (.b s) (quote (escapifyR s)) ⟨.quoted, escapifyR s⟩ := by
  obtain ⟨hl, hu⟩ := charstring_tok s hs
  exact ⟨by simp [printField], hl, cstr_parse env _ _ _ _ s hu h1 h2, Or.inl rfl⟩

/-- no alphanumeric character needs escaping (obligation on `dns.rdata._escaped`) -/
def EscNoAlnum (esc : List Nat) : Prop := ∀ d ∈ esc, isAlnumC d = false

instance (esc : List Nat) : Decidable (EscNoAlnum esc) := by unfold EscNoAlnum; exact inferInstance

theorem escNoAlnum_generated : EscNoAlnum Consts.rdataEscaped := by decide

theorem isAlnumC_facts (c : Nat) (h : isAlnumC c = true) : 0x20 ≤ c ∧ c < 0x7F ∧ isDelim c = false ∧ c ≠ 92 := by
  simp [isAlnumC] at h
  simp [isDelim]
  omega

theorem escapifyR_alnum (s : Bytes) (hs : ∀ c ∈ s, isAlnumC c = true) : escapifyR s = s := by
  induction s with
  | nil => rfl
  | cons c cs ih =>
    have hc := hs c (by simp)
    have hne : c ∉ Consts.rdataEscaped := by
      intro hm; have := escNoAlnum_generated c hm; rw [hc] at this; exact Bool.noConfusion this
    obtain ⟨a, b, _, _⟩ := isAlnumC_facts c hc
    have ih' := ih (fun x hx => hs x (by simp [hx]))
    simp only [escapifyR, escapifyRWith, List.flatMap_cons] at ih' ⊢
    rw [ih']
    simp [escROctet, hne, a, b]

/-- CAA tag: printed bare; alphanumeric, so it is its own escaped form -/
theorem field_cstr_bare (st : Style) (env : PEnv) (maxTok maxBytes : Option Nat) (s : Bytes)
    (hne : s ≠ []) (hs : ∀ c ∈ s, isAlnumC c = true) (h1 : ∀ m, maxTok = some m → s.length ≤ m)
    (h2 : ∀ m, maxBytes = some m → s.length ≤ m) :
    FieldRT st env (.cstr maxTok maxBytes false) (.b s) s ⟨.ident, s⟩ := by
  have hpl : Plain s := fun c hc => ⟨(isAlnumC_facts c (hs c hc)).2.2.1, (isAlnumC_facts c (hs c hc)).2.2.2⟩
  have h128 : ∀ c ∈ s, c < 128 := fun c hc => by have := (isAlnumC_facts c (hs c hc)).2.1; omega
  refine tokRT_plain hne hpl (by simp [printField, escapifyR_alnum s hs]) ?_
  exact cstr_parse env _ _ _ _ s (unescapeBytes_plain_ascii s hpl h128) h1 h2

theorem field_ip4 (st : Style) (env : PEnv) (a b c d : Nat) (ha : a < 256) (hb : b < 256) (hc : c < 256) (hd : d < 256) :
    ∃ text, FieldRT st env .ip4 (.b [a, b, c, d]) text ⟨.ident, text⟩ := by
  obtain ⟨t, ht, hat, hpl, hne⟩ := ip4_text a b c d ha hb hc hd
  refine ⟨t, tokRT_plain hne hpl (by simp [printField, ht]) ?_⟩
  simp [parseField, unescapeCP_plain_all t hpl, hat]

theorem field_ip6 (st : Style) (env : PEnv) (a : Bytes) (hlen : a.length = 16) (ha : ∀ x ∈ a, x < 256) :
    ∃ text, FieldRT st env .ip6 (.b a) text ⟨.ident, text⟩ := by
  obtain ⟨t, ht, hch, hat⟩ := ip6_text a hlen ha
  have hpl := plain_of_addrCh t hch
  refine ⟨t, tokRT_plain (ip6Aton_ne_nil t a hat) hpl (by simp [printField, ht]) ?_⟩
  simp [parseField, unescapeCP_plain_all t hpl, hat]

theorem field_salt (st : Style) (env : PEnv) (s : Bytes) (hs : ∀ x ∈ s, x < 256) (hl : s.length ≤ 255) :
    ∃ text, FieldRT st env .salt (.b s) text ⟨.ident, text⟩ := by
  by_cases he : s = []
  · subst he
    refine ⟨[45], tokRT_plain (by simp) (by intro c hc; simp at hc; subst hc; decide) (by simp [printField]) ?_⟩
    simp [parseField, unescapeCP]
  · have hpl := hexlify_plain s hs
    refine ⟨hexlify s, tokRT_plain (hex_ok.ne_nil he) hpl (by simp [printField, he]) ?_⟩
    -- the dash is not a hex digit
    have h45 : hexlify s ≠ [45] := fun e => absurd (hexlify_isHexL s hs 45 (by rw [e]; simp)) (by decide)
    have hle : ¬ s.length > 255 := by omega
    simp [parseField, unescapeCP_plain_all _ hpl, h45, unhexlify_hexlify s hs, hle]

/-- a non-empty blob printed as one token in the alphabet of a codec and read by `Token.unescape`, the decoder and a
length cap (HIP hit; HIP / TKEY key, TSIG MAC) -/
theorem fieldRT_blob {st : Style} {env : PEnv} {k : FK} {enc : Bytes → List Nat} {dec : List Nat → Option Bytes}
    (c : BlobOk ⟨enc, dec⟩) {M : Nat} (hpr : ∀ s, printField st k (.b s) = some (enc s))
    (hpa : ∀ t, parseField env k t = match unescapeCP t.val with
      | some v => (match dec v with
        | some b => if b.length > M then none else some (.b b)
        | none => none)
      | none => none)
    {s : Bytes} (hs : ∀ x ∈ s, x < 256) (hne : s ≠ []) (hl : s.length ≤ M) : FieldRT st env k (.b s) (enc s) ⟨.ident, enc s⟩ :=
  have hrt : dec (enc s) = some s := c.rt s hs
  tokRT_plain (c.ne_nil hne) (c.plain s hs) (hpr s) (by
    rw [hpa]; simp only [unescapeCP_plain_all _ (c.plain s hs), hrt, Nat.not_lt.mpr hl, if_false])

theorem gposCheck_plain (lim : Option (Nat × Nat)) (s : Bytes) (h : gposCheck lim s = true) : Plain s ∧ s ≠ [] := by
  unfold gposCheck at h
  simp only [Bool.and_eq_true] at h
  obtain ⟨hall, hf⟩ := h
  constructor
  · intro c hc
    have := List.all_eq_true.mp hall c hc
    simp only [isDigit, Bool.or_eq_true, decide_eq_true_eq, beq_iff_eq] at this
    simp [isDelim]
    omega
  · intro e; subst e
    simp [floatStr] at hf

theorem field_gpos (st : Style) (env : PEnv) (lim : Option (Nat × Nat)) (s : Bytes) (hl : s.length ≤ 255)
    (h : gposCheck lim s = true) : FieldRT st env (.gpos lim) (.b s) s ⟨.ident, s⟩ := by
  obtain ⟨hp, hne⟩ := gposCheck_plain lim s h
  refine tokRT_plain hne hp rfl ?_
  have hle : ¬ s.length > 255 := by omega
  simp [parseField, parseFieldExtra, unescapeCP_plain_all _ hp, hle, h]

end Model
