import Model.ZoneFile
import Proofs.ZoneFileFileG
import Proofs.ZoneFileWriterG
import Proofs.NameText
/-!
Write-then-read, once for every style (`read_write_core`).  Under a lossless style the text written is the `$ORIGIN` and
`$TTL` lines asked for and one record line per record of the flattened zone, each a `GLine` (`mkG`, `mkG_text`).  When every
such line is one the reader understands (`GLine.Good`; `mkG_good` derives it from `RecOK`), the three runs of the text
compose to a whole read that folds `txn.add` over the zone's own records, and that fold rebuilds the zone.
-/
namespace Model

def padL (x : List Nat) (j : Int) : List Nat := if j > 0 then List.replicate (j.natAbs - x.length) 32 else []
def padR (x : List Nat) (j : Int) : List Nat := if j < 0 then List.replicate (j.natAbs - x.length) 32 else []

theorem justify_pad (x : List Nat) (j : Int) : justify x j = padL x j ++ (x ++ padR x j) := by
  unfold justify padL padR
  by_cases h0 : j = 0
  · subst h0; simp
  · by_cases hn : j < 0
    · have : ¬ j > 0 := by omega
      simp [h0, hn, this]
    · have : j > 0 := by omega
      simp [h0, hn, this]

theorem padL_blank (x : List Nat) (j : Int) : Blank (padL x j) := by
  unfold padL; split
  · exact blank_replicate _
  · exact blank_nil

theorem padR_blank (x : List Nat) (j : Int) : Blank (padR x j) := by
  unfold padR; split
  · exact blank_replicate _
  · exact blank_nil

theorem padL_nonpos (x : List Nat) (j : Int) (h : j ≤ 0) : padL x j = [] := by
  unfold padL
  have : ¬ j > 0 := by omega
  simp [this]

/-- the styles of the round-trip claim: TTLs are printed (or are the `$TTL` default), the first owner of a node is
printed, and the owner column is not right-justified -/
structure Lossless (st : Style) : Prop where
  omitTTL : st.omitTTL = false
  fnd : st.firstNameIsDuplicate = false
  nameJust : st.nameJust ≤ 0
  dttl : ∀ v, st.defaultTTL = some v → v ≤ Consts.maxTTL

/-- the comment a record carries in the written text -/
def keptComment (st : Style) (rr : RR) : Option (List Nat) :=
  if st.wantComments then (match rr.comment with | some c => if c = [] then none else some c | none => none) else none

/-- the zone with the comments the text carries (the library's zone equality ignores comments) -/
def keptZone (st : Style) (z : ZoneMap) : ZoneMap :=
  z.map fun p => (p.1, p.2.map fun rds => { rds with rrs := rds.rrs.map fun rr => { rr with comment := keptComment st rr } })

/-- the zone with each record's comment replaced by the one its line reads back to (`keptZone st` is the case
`keptComment st`) -/
def withComments (cOf : RR → Option (List Nat)) (z : ZoneMap) : ZoneMap :=
  z.map fun p => (p.1, p.2.map fun rds => { rds with rrs := rds.rrs.map fun rr => { rr with comment := cOf rr } })

def ttlOmitted (st : Style) (ttl : Nat) : Bool := decide (st.defaultTTL = some ttl)

/-- blanks between the end of the class field and the type token -/
def gapCY (st : Style) (ty : Nat) : List Nat := padR (classBody st) st.classJust ++ padL (typeTok st ty) st.typeJust
/-- blanks between the end of the TTL field and the class token -/
def gapTC (st : Style) (ttl : Nat) : List Nat := padR (ttlBody st ttl) st.ttlJust ++ padL (classBody st) st.classJust

/-- the line printed for a record, as the reader sees it; `c` is the comment it reads back to -/
def mkG (st : Style) (dup : Bool) (ow : List Nat) (n m : Name) (ttl ty : Nat) (rr : RR) (rtext : List Nat)
    (c : Option (List Nat)) : GLine :=
  let lead : List Nat := if dup then dupField st else 32 :: padR (ow ++ [32]) st.nameJust
  let pre := lead ++ padL (ttlBody st ttl) st.ttlJust
  let hdrAndB0 : List Nat × Hdr :=
    if ttlOmitted st ttl then
      if st.omitClass then (pre ++ (gapTC st ttl ++ gapCY st ty), Hdr.y (typeTok st ty))
      else (pre ++ gapTC st ttl, Hdr.c (classTok st) (32 :: gapCY st ty) (typeTok st ty))
    else
      if st.omitClass then (pre, Hdr.t (natToDec ttl) (32 :: (gapTC st ttl ++ gapCY st ty)) (typeTok st ty))
      else (pre, Hdr.tc (natToDec ttl) (32 :: gapTC st ttl) (classTok st) (32 :: gapCY st ty) (typeTok st ty))
  { owner := if dup then none else some ow
    b0 := hdrAndB0.1
    hdr := hdrAndB0.2
    rdText := padR (typeTok st ty) st.typeJust ++ (32 :: (rtext ++ (extraOf st rr ++ [10])))
    n := n, m := m, ttl := ttl, ty := ty, rd := rr.rd, comment := c }

theorem ttlBody_cases (st : Style) (ttl : Nat) (h : st.omitTTL = false) :
    ttlBody st ttl = if ttlOmitted st ttl then [] else natToDec ttl ++ [32] := by
  unfold ttlBody ttlOmitted
  by_cases hd : st.defaultTTL = some ttl <;> simp [h, hd]

theorem mkG_text (st : Style) (hl : Lossless st) (dup : Bool) (ow : List Nat) (n m : Name) (ttl ty : Nat) (rr : RR)
    (rtext : List Nat) (c : Option (List Nat)) :
    lineW st (if dup then dupField st else nameFieldE st ow) ttl ty rtext (extraOf st rr) ++ [10] =
      (mkG st dup ow n m ttl ty rr rtext c).text := by
  have hname : nameFieldE st ow = ow ++ (32 :: padR (ow ++ [32]) st.nameJust) := by
    unfold nameFieldE
    rw [justify_pad, padL_nonpos _ _ hl.nameJust]
    simp
  have htb := ttlBody_cases st ttl hl.omitTTL
  -- the owner column is the owner (if printed) and the blanks up to the next field, whatever the other columns hold
  have hlead : (if dup then dupField st else nameFieldE st ow) =
      (if dup then none else some ow).getD [] ++ (if dup then dupField st else 32 :: padR (ow ++ [32]) st.nameJust) := by
    cases dup <;> simp [hname]
  rw [hlead]
  unfold lineW ttlField classField typeField GLine.text mkG
  simp only [justify_pad, gapTC, gapCY, Hdr.text]
  cases hto : ttlOmitted st ttl <;> cases hoc : st.omitClass <;>
    simp [htb, hto, hoc, classBody, Hdr.first, Hdr.rest, List.append_assoc]

theorem classTok_ok (st : Style) :
    TokOK (classTok st) ∧ classFromText (classTok st) = some 1 ∧ ttlOf (classTok st) = none := by
  unfold classTok
  cases st.wantGeneric
  · exact ⟨⟨by decide, by decide⟩, by decide, by decide⟩
  · exact ⟨⟨by decide, by decide⟩, by decide, by decide⟩

/-- what is asked of the type token the style prints (mnemonic, or `TYPEn` in generic syntax) -/
structure TypeTokOK (st : Style) (ty : Nat) : Prop where
  tok : TokOK (typeTok st ty)
  val : typeFromText (typeTok st ty) = some ty
  nottl : ttlOf (typeTok st ty) = none
  noclass : classFromText (typeTok st ty) = none

/-- what is asked of one record for the line the style prints for it to be readable -/
structure RecOK (st : Style) (zo : Name) (rel gfix : Bool) (ow : List Nat) (n m : Name) (ttl ty : Nat) (rr : RR)
    (rtext : List Nat) : Prop where
  ow_ok : identOK ow = true
  ow_ne : ow ≠ []
  ow_nodollar : ow.head? ≠ some 36
  ow_name : (identToken ow).asName (some zo) false none = .ok n
  in_zone : isSubdomain n zo = true
  stored : ownerInZone rel n zo = .ok m
  ttl_le : ttl ≤ Consts.maxTTL
  type : TypeTokOK st ty
  rdata : RdataReads ty (padR (typeTok st ty) st.typeJust ++ (32 :: (rtext ++ (extraOf st rr ++ [10])))) rr.rd
    (keptComment st rr) (some zo) rel (some zo) gfix

theorem dupField_sep (st : Style) : SepOK (dupField st) := by
  unfold dupField
  rw [justify_pad]
  refine ⟨blank_append (padL_blank _ _) (blank_append (by intro c hc; simp [s2l] at hc; exact hc) (padR_blank _ _)), ?_⟩
  simp [s2l]

theorem natToDec_tok (n : Nat) : TokOK (natToDec n) := ⟨(natToDec_token n).1, (natToDec_token n).2⟩

theorem mkG_good (st : Style) (zo : Name) (rel gfix : Bool) (dup : Bool) (ow : List Nat) (n m : Name)
    (ttl ty : Nat) (rr : RR) (rtext : List Nat) (h : RecOK st zo rel gfix ow n m ttl ty rr rtext) :
    (mkG st dup ow n m ttl ty rr rtext (keptComment st rr)).Good zo zo rel gfix := by
  obtain ⟨ck, cv, cn⟩ := classTok_ok st
  have hlead : SepOK (if dup then dupField st else 32 :: padR (ow ++ [32]) st.nameJust) := by
    cases dup
    · exact ⟨blank_cons (padR_blank _ _), by simp⟩
    · exact dupField_sep st
  have hpre : SepOK ((if dup then dupField st else 32 :: padR (ow ++ [32]) st.nameJust) ++ padL (ttlBody st ttl) st.ttlJust) :=
    ⟨blank_append hlead.blank (padL_blank _ _), by
      intro e; exact hlead.ne (List.append_eq_nil_iff.mp e).1⟩
  have hTC : Blank (gapTC st ttl) := blank_append (padR_blank _ _) (padL_blank _ _)
  have hCY : Blank (gapCY st ty) := blank_append (padR_blank _ _) (padL_blank _ _)
  have sep1 : ∀ b, Blank b → SepOK (32 :: b) := fun b hb => ⟨blank_cons hb, by simp⟩
  have happ : ∀ a b, SepOK a → Blank b → SepOK (a ++ b) := fun a b ha hb =>
    ⟨blank_append ha.blank hb, by intro e; exact ha.ne (List.append_eq_nil_iff.mp e).1⟩
  refine ⟨?_, ?_, h.in_zone, h.stored, ?_, h.rdata⟩
  · -- b0
    unfold mkG
    simp only
    cases ttlOmitted st ttl <;> cases st.omitClass <;> simp only [Bool.false_eq_true, if_false, if_true]
    · exact hpre
    · exact hpre
    · exact happ _ _ hpre hTC
    · exact happ _ _ hpre (blank_append hTC hCY)
  · -- owner
    intro ow' hown
    unfold mkG at hown
    simp only at hown
    cases dup
    · simp only [Bool.false_eq_true, if_false, Option.some.injEq] at hown
      subst hown
      exact ⟨h.ow_ok, h.ow_ne, h.ow_nodollar, h.ow_name⟩
    · simp at hown
  · -- header
    unfold mkG
    simp only
    cases hto : ttlOmitted st ttl <;> cases hoc : st.omitClass <;> simp only [Bool.false_eq_true, if_false, if_true, Hdr.OK]
    · exact ⟨natToDec_tok ttl, sep1 _ hTC, ck, sep1 _ hCY, h.type.tok, ttlOf_natToDec ttl h.ttl_le, cv, h.type.val⟩
    · exact ⟨natToDec_tok ttl, sep1 _ (blank_append hTC hCY), h.type.tok, ttlOf_natToDec ttl h.ttl_le, h.type.noclass, h.type.val⟩
    · exact ⟨ck, sep1 _ hCY, h.type.tok, cv, cn, h.type.nottl, h.type.val⟩
    · exact ⟨h.type.tok, h.type.nottl, h.type.noclass, h.type.val⟩

theorem mkG_fields (st : Style) (dup : Bool) (ow : List Nat) (n m : Name) (ttl ty : Nat) (rr : RR) (rtext : List Nat)
    (c : Option (List Nat)) :
    (mkG st dup ow n m ttl ty rr rtext c).n = n ∧
    ((mkG st dup ow n m ttl ty rr rtext c).owner = none ↔ dup = true) ∧
    ((mkG st dup ow n m ttl ty rr rtext c).hdr.hasTTL = false ↔ ttlOmitted st ttl = true) ∧
    (mkG st dup ow n m ttl ty rr rtext c).ttl = ttl := by
  refine ⟨rfl, ?_, ?_, rfl⟩
  · unfold mkG; cases dup <;> simp
  · unfold mkG
    cases ttlOmitted st ttl <;> cases st.omitClass <;> simp [Hdr.hasTTL]

/-- the line the reader sees for a record the writer prints; `cOf` gives the comment it reads back to -/
def recG (st : Style) (owOf : Name → List Nat) (absOf : Name → Name) (rtextOf : RR → List Nat)
    (cOf : RR → Option (List Nat)) (x : WRec) : GLine :=
  mkG st x.dup (owOf x.name) (absOf x.name) x.name x.ttl x.rdtype x.rr (rtextOf x.rr) (cOf x.rr)

def zoneG (st : Style) (owOf : Name → List Nat) (absOf : Name → Name) (rtextOf : RR → List Nat)
    (cOf : RR → Option (List Nat)) (w : ZoneMap) : List GLine :=
  (zoneRecs st w).map (recG st owOf absOf rtextOf cOf)

theorem zoneG_text (st : Style) (hl : Lossless st) (owOf : Name → List Nat) (absOf : Name → Name)
    (rtextOf : RR → List Nat) (cOf : RR → Option (List Nat)) (w : ZoneMap) :
    ((zoneRecs st w).flatMap fun x => recLine st owOf rtextOf x ++ [10]) = glinesText (zoneG st owOf absOf rtextOf cOf w) := by
  rw [glinesText_eq_flatMap, zoneG, List.flatMap_map]
  exact congrArg (fun f => List.flatMap f (zoneRecs st w))
    (funext fun x => mkG_text st hl x.dup (owOf x.name) (absOf x.name) x.name x.ttl x.rdtype x.rr (rtextOf x.rr) (cOf x.rr))

theorem zoneG_entries (st : Style) (owOf : Name → List Nat) (absOf : Name → Name) (rtextOf : RR → List Nat)
    (cOf : RR → Option (List Nat)) (w : ZoneMap) :
    (zoneG st owOf absOf rtextOf cOf w).map GLine.entry = entriesOfZone (withComments cOf w) := by
  simp only [zoneG, zoneRecs, List.map_map, List.map_flatMap, entriesOfZone, withComments, List.flatMap_map]
  refine congrArg (fun f => List.flatMap f w) (funext fun p => ?_)
  rw [nodeRecs_map st p.1 p.2 (GLine.entry ∘ recG st owOf absOf rtextOf cOf) (fun _ _ => rfl)]
  simp only [entriesOfNode, entriesOfRdataset, List.flatMap_map, List.map_map]
  rfl

/-- the records of one node: the first line repeats the owner before it only if it is printed blank; every later line
follows a line of the same owner -/
theorem linesOK_sameName (st : Style) (zo : Name) (rel gfix : Bool) (owOf : Name → List Nat) (absOf : Name → Name)
    (rtextOf : RR → List Nat) (cOf : RR → Option (List Nat)) (name : Name) (xs : List WRec) (ln : Option Name)
    (tail : List GLine)
    (hx : ∀ x ∈ xs, x.name = name ∧ (recG st owOf absOf rtextOf cOf x).Good zo zo rel gfix)
    (hd : ∀ x ∈ xs.head?, x.dup = true → ln = some (absOf name))
    (htail : LinesOK zo zo rel gfix (if xs = [] then ln else some (absOf name)) st.defaultTTL tail) :
    LinesOK zo zo rel gfix ln st.defaultTTL (xs.map (recG st owOf absOf rtextOf cOf) ++ tail) := by
  induction xs generalizing ln with
  | nil => exact htail
  | cons x xs ih =>
    obtain ⟨rfl, hr⟩ := hx x (by simp)
    obtain ⟨f1, f2, f3, f5⟩ := mkG_fields st x.dup (owOf x.name) (absOf x.name) x.name x.ttl x.rdtype x.rr (rtextOf x.rr)
      (cOf x.rr)
    exact ⟨hr, fun ho => hd x rfl (f2.mp ho),
      fun hh => by rw [recG, f5]; simpa [ttlOmitted] using f3.mp hh,
      ih (some (absOf x.name)) (fun y hy => hx y (by simp [hy])) (fun _ _ _ => rfl) (by split <;> simpa using htail)⟩

theorem linesOK_zone (st : Style) (hl : Lossless st) (zo : Name) (rel gfix : Bool) (owOf : Name → List Nat)
    (absOf : Name → Name) (rtextOf : RR → List Nat) (cOf : RR → Option (List Nat)) (w : ZoneMap) (ln : Option Name)
    (hnd : ∀ p ∈ w, p.2 ≠ []) (hne : ∀ p ∈ w, ∀ rds ∈ p.2, rds.rrs ≠ [])
    (hgood : ∀ x ∈ zoneRecs st w, (recG st owOf absOf rtextOf cOf x).Good zo zo rel gfix) :
    LinesOK zo zo rel gfix ln st.defaultTTL (zoneG st owOf absOf rtextOf cOf w) := by
  induction w generalizing ln with
  | nil => trivial
  | cons p rest ih =>
    have hsplit : zoneRecs st (p :: rest) = nodeRecs st p.1 p.2 ++ zoneRecs st rest := rfl
    rw [zoneG, hsplit, List.map_append]
    rw [hsplit] at hgood
    refine linesOK_sameName st zo rel gfix owOf absOf rtextOf cOf p.1 _ ln _
      (fun x hx => ⟨(mem_nodeRecs hx).1, hgood x (List.mem_append_left _ hx)⟩) (fun x hx hdup => ?_) ?_
    · -- the first owner of a node is printed
      rw [nodeRecs_head st p.1 p.2 x hx, hl.fnd, Bool.and_false] at hdup
      cases hdup
    · rw [if_neg (nodeRecs_ne st p.1 p.2 (hnd p (by simp)) (hne p (by simp)))]
      exact ih _ (fun q hq => hnd q (by simp [hq])) (fun q hq => hne q (by simp [hq]))
        (fun x hx => hgood x (List.mem_append_right _ hx))

/-- `RecOK` of every record is `Good` of every line written -/
theorem recG_good_of_recOK (st : Style) (zo : Name) (rel gfix : Bool) (owOf : Name → List Nat) (absOf : Name → Name)
    (rtextOf : RR → List Nat) (w : ZoneMap)
    (hrec : ∀ p ∈ w, ∀ rds ∈ p.2, ∀ x ∈ rds.rrs,
      RecOK st zo rel gfix (owOf p.1) (absOf p.1) p.1 rds.ttl rds.rdtype x (rtextOf x)) :
    ∀ x ∈ zoneRecs st w, (recG st owOf absOf rtextOf (keptComment st) x).Good zo zo rel gfix := by
  intro x hx
  obtain ⟨p, hp, hx⟩ := List.mem_flatMap.mp hx
  obtain ⟨h1, rds, hr, h2, h3, h4⟩ := mem_nodeRecs hx
  exact mkG_good st zo rel gfix _ _ _ _ _ _ _ _ (by rw [h1, h2, h3]; exact hrec p hp rds hr x.rr h4)

theorem keptZone_mem (st : Style) (w : ZoneMap) (q : Name × Node) (h : q ∈ keptZone st w) :
    ∃ p ∈ w, q = (p.1, p.2.map fun rds => { rds with rrs := rds.rrs.map fun rr => { rr with comment := keptComment st rr } }) := by
  simp only [keptZone, List.mem_map] at h
  obtain ⟨p, hp, rfl⟩ := h
  exact ⟨p, hp, rfl⟩

theorem zoneWF_shape (cOf : RR → Option (List Nat)) (eff : Option Name) (w : ZoneMap) (h : ZoneWF eff (withComments cOf w)) :
    (∀ p ∈ w, p.2 ≠ []) ∧ (∀ p ∈ w, ∀ rds ∈ p.2, rds.rrs ≠ []) := by
  have hm : ∀ p ∈ w, (p.1, p.2.map fun rds => { rds with rrs := rds.rrs.map fun rr => { rr with comment := cOf rr } })
      ∈ withComments cOf w := fun p hp => List.mem_map.mpr ⟨p, hp, rfl⟩
  constructor
  · intro p hp hnil
    have := (h.1 _ (hm p hp)).1
    simp [hnil] at this
  · intro p hp rds hr hnil
    have := ((h.1 _ (hm p hp)).2.1 { rds with rrs := rds.rrs.map fun rr => { rr with comment := cOf rr } }
      (List.mem_map.mpr ⟨rds, hr, rfl⟩)).1
    simp [hnil] at this

theorem withComments_ne (cOf : RR → Option (List Nat)) (w : ZoneMap) (h : w ≠ []) : withComments cOf w ≠ [] := by
  cases w with
  | nil => exact absurd rfl h
  | cons a b => simp [withComments]

/-- the `$ORIGIN` line of the written text, if there is one: behind it the zone's origin is both the current and the zone
origin, whether the reader was given it or learns it here (then the effective origin changes; a turn that hands over
nothing is a run under any) -/
theorem run_origin_header (b : Bool) (zo : Name) (origin? : Option Name) (rel gfix : Bool) (X : List Nat) (e : Option Name)
    (horig : origin? = some zo ∨ (origin? = none ∧ b = true))
    (hotext : b = true →
      (identOK (toText zo) = true ∧ toText zo ≠ [] ∧ fromText (toText zo) none = .ok zo) ∧ isAbs zo = true) :
    Run (if b then 1 else 0) (PState.init ((if b then originLine zo ++ [10] else []) ++ X) origin? rel gfix) e []
      { PState.init X origin? rel gfix with currentOrigin := some zo, zoneOrigin := some zo } := by
  cases b with
  | false =>
    obtain rfl : origin? = some zo := horig.elim id fun h => nomatch h.2
    exact Run.refl _ e
  | true =>
    obtain ⟨⟨o1, o2, o3⟩, hzabs⟩ := hotext rfl
    have := Run.nothing (lineStep_origin_dir (PState.init (originLine zo ++ [10] ++ X) origin? rel gfix)
      (toText zo) zo X o1 o2 (asName_of_fromText _ _ _ (fromText_of_abs o3 hzabs origin?) hzabs) hzabs
      (by simp [PState.init, TState.init, after, originLine, List.append_assoc])) e
    rcases horig with h | ⟨h, _⟩ <;> subst h <;> exact this

/-- the `$TTL` line of the written text, if there is one -/
theorem run_ttl_header (d : Option Nat) (r : PState) (G : List Nat) (e : Option Name)
    (htok : r.tok = after 0 false ((match d with | some v => ttlLine v ++ [10] | none => []) ++ G))
    (hd : ∀ v, d = some v → v ≤ Consts.maxTTL) :
    Run (if d.isSome then 1 else 0) r e []
      { r with tok := after 0 false G, defaultTTL := d.getD r.defaultTTL,
               defaultTTLKnown := d.isSome || r.defaultTTLKnown } := by
  cases d with
  | none =>
    cases r
    subst htok
    exact Run.refl _ e
  | some v =>
    exact Run.nothing (lineStep_ttl_dir r v G (hd v rfl) (by simpa [ttlLine, List.append_assoc] using htok)) e

/-- **write-then-read**, on what its proof uses.  `st'` is the style `Zone.to_styled_file` works with and `w` the zone in
the order written; the style is lossless, names and RDATA print, and every line written is one the reader understands
(`GLine.Good`).  Then the text is written and loads back to the zone, each record with the comment its line reads back
to.  Both round trips of `Props/C09` are instances: a record that is `RecOK` gives a good line under any lossless style
(`recG_good_of_recOK`), and under the plain style the line is the canonical one (`recG_plain`). -/
theorem read_write_core (st : Style) (z : ZoneMap) (zo : Name) (rel gfix : Bool) (origin? : Option Name)
    (owOf : Name → List Nat) (absOf : Name → Name) (rtextOf : RR → List Nat) (cOf : RR → Option (List Nat))
    (st' : Style) (hst : st' = adjustStyle st (some zo) rel) (w : ZoneMap) (hw : w = writeOrder st'.sorted z)
    (hl : Lossless st')
    (horig : origin? = some zo ∨ (origin? = none ∧ st'.wantOrigin = true ∧ w ≠ []))
    (hotext : st'.wantOrigin = true →
      (identOK (toText zo) = true ∧ toText zo ≠ [] ∧ fromText (toText zo) none = .ok zo) ∧ isAbs zo = true)
    (hname : ∀ p ∈ w, nameToStyledText st'.toNameStyle p.1 = .ok (owOf p.1))
    (htext : ∀ p ∈ w, ∀ rds ∈ p.2, ∀ rr ∈ rds.rrs, recordText st' rr.rd = .ok (rtextOf rr))
    (hwf : ZoneWF (if rel then some [] else some zo) (withComments cOf w))
    (hgood : ∀ x ∈ zoneRecs st' w, (recG st' owOf absOf rtextOf cOf x).Good zo zo rel gfix) :
    ∃ text, zoneToText st (some zo) z rel = .ok text ∧
      zoneFromText text origin? rel false gfix = .ok (withComments cOf w, some zo) := by
  subst hst hw
  obtain ⟨hnd, hne⟩ := zoneWF_shape cOf _ _ hwf
  refine ⟨_, zoneToText_recs st zo z rel owOf rtextOf hname hnd hne htext, ?_⟩
  generalize adjustStyle st (some zo) rel = st' at *
  generalize writeOrder st'.sorted z = w at *
  have hok := linesOK_zone st' hl zo rel gfix owOf absOf rtextOf cOf w origin? hnd hne hgood
  have hadd := addAll_rebuild _ _ hwf
  rw [← zoneG_entries st' owOf absOf rtextOf] at hadd
  rw [writtenText, zoneG_text st' hl owOf absOf rtextOf cOf w, headerText, List.append_assoc]
  generalize zoneG st' owOf absOf rtextOf cOf w = ls at *
  -- the three runs of the text: the `$ORIGIN` line, the `$TTL` line, the record lines
  have hnil := congrArg (after 0 false) (List.append_nil (glinesText ls)).symm
  have hrun := (run_origin_header st'.wantOrigin zo origin? rel gfix _ _ (horig.imp id fun h => ⟨h.1, h.2.1⟩) hotext).trans
    ((run_ttl_header st'.defaultTTL _ (glinesText ls) _ rfl hl.dttl).trans
      (run_lines ls [] _ zo zo rfl rfl hnil st'.defaultTTL
        (inheritsThroughout_of_default ls fun d' h => by rw [h]; exact ⟨rfl, rfl⟩) hok))
  refine zoneFromText_of_run hrun ?_ (finalStateR_eof ls _ hnil rfl) (by cases rel <;> exact hadd)
    (horig.imp id fun h => withComments_ne cOf w h.2.2)
  -- each directive line costs one turn and is longer than that
  have := hok.length_le
  cases st'.wantOrigin <;> cases st'.defaultTTL <;>
    simp only [List.length_append, List.length_cons, List.length_nil, Option.isSome_some, Option.isSome_none, if_true,
      Bool.false_eq_true, if_false] <;> omega

end Model
