import Proofs.RenderTrunc
/-! The rendering depends on the origin and on the contents of the sections only through what each item appends
(`toWire_congr`), errors included: the section loops hand flags and origin through, and commute with a change of the
origin under which every item appends what it did (`addItems_frame`); so do the two runs of the tail, whose records have
absolute owners and opaque RDATA. -/
namespace Model

def Step.withOrigin (og : Option Name) : Step → Step
  | .ok s => .ok { s with origin := og }
  | .tooBig s => .tooBig { s with origin := og }
  | .err e => .err e

/-- an `add_*` call hands the header flags through, and the origin as far as it does not change what the item appends
(`F`, `G` are functions of the old values, so that `id` leaves a field alone and `fun _ => v` sets it) -/
theorem addItem_frame (s : RState) (F : Nat → Nat) (G : Option Name → Option Name) (it it' : Item) (hsec : it'.sec = it.sec)
    (hext : ∀ off t, itemExt off t (G s.origin) it' = itemExt off t s.origin it) :
    ({ s with flags := F s.flags, origin := G s.origin } : RState).addItem it' =
      ((s.addItem it).withFlags (F s.flags)).withOrigin (G s.origin) := by
  rw [addItem_rel, addItem_rel, hsec]
  split
  · rfl
  · simp only [hext]
    cases itemExt s.out.length s.tbl s.origin it with
    | error e => rfl
    | ok p =>
      simp only [RState.endTrack]
      split <;> rfl

/-- so the section loops commute with a change `F` of the flags and `G` of the origin together with a change `g` of the
items under which each appends what it did -/
theorem addItems_frame (F : Nat → Nat) (G : Option Name → Option Name) (g : Item → Item) (og : Option Name)
    (items : List Item)
    (hg : ∀ it ∈ items, (g it).sec = it.sec ∧ ∀ off t, itemExt off t (G og) (g it) = itemExt off t og it) :
    ∀ s : RState, s.origin = og →
    ({ s with flags := F s.flags, origin := G s.origin } : RState).addItems (items.map g) =
      match s.addItems items with
      | .ok (s', b) => .ok ({ s' with flags := F s'.flags, origin := G s'.origin }, b)
      | .error e => .error e := by
  induction items with
  | nil => intro s _; rfl
  | cons it rest ih =>
    intro s hs
    obtain ⟨hsec, hext⟩ := hg it (List.mem_cons_self ..)
    simp only [List.map_cons, RState.addItems]
    rw [addItem_frame s F G it _ hsec (hs ▸ hext)]
    have hspec := addItem_spec s it
    generalize s.addItem it = st at hspec
    cases hspec with
    | err e => rfl
    | tooBig b new hext hle => rfl
    | ok b new hext hsz hle =>
      exact ih (fun x hx => hg x (List.mem_cons_of_mem _ hx))
        { s with sec := it.sec, out := s.out ++ b, tbl := s.tbl ++ new, counts := s.counts.bump it.sec (itemCount it) } hs

theorem addAll_origin (og : Option Name) (items : List Item) (s : RState)
    (hg : ∀ it ∈ items, ∀ off t, itemExt off t og it = itemExt off t s.origin it) :
    ({ s with origin := og } : RState).addAll items = (s.addAll items).map fun s' => { s' with origin := og } := by
  have h := addItems_frame id (fun _ => og) id s.origin items (fun it hit => ⟨rfl, hg it hit⟩) s rfl
  rw [List.map_id] at h
  unfold RState.addAll
  rw [show ({ s with origin := og } : RState).addItems items = _ from h]
  cases s.addItems items with
  | error e => rfl
  | ok p => obtain ⟨s1, b⟩ := p; cases b <;> rfl

/-- the OPT and TSIG records: absolute owner, opaque RDATA -/
theorem addlItem_origin (og og' : Option Name) (r : RRset) (b : Bytes) (hn : isAbs r.name = true) (hr : r.rdatas = [.raw b])
    (off : Nat) (t : CTable) :
    itemExt off t og (.rr ConstsC03.secADDITIONAL r) = itemExt off t og' (.rr ConstsC03.secADDITIONAL r) := by
  simp only [itemExt, rrsetExt, hr, rdsExt, rrExt, rdataExt, nameExt_abs _ _ _ hn]

theorem optStage_origin (r : RState) (og : Option Name) (opt : Option EOpt) (pad a b : Nat) :
    ({ r with origin := og } : RState).optStage opt pad a b =
      (r.optStage opt pad a b).map fun s => { s with origin := og } := by
  rw [optStage_eq, optStage_eq]
  split
  · rfl
  · refine addAll_origin og _ { r with wasPadded := _ } fun it hit off t => ?_
    cases opt with
    | none => cases hit
    | some o => cases List.mem_singleton.mp hit; exact addlItem_origin _ _ (optRRset _) _ rfl rfl off t

theorem tsigStage_origin (r : RState) (og : Option Name) (tsig : Option Tsig)
    (ht : ∀ t, tsig = some t → isAbs t.name = true) :
    ({ r with origin := og } : RState).tsigStage tsig = (r.tsigStage tsig).map fun s => { s with origin := og } := by
  rw [tsigStage_eq, tsigStage_eq]
  cases tsig with
  | none => rfl
  | some t =>
    simp only [Option.isSome_some, if_true]
    rw [show ({ ({ r with origin := og } : RState) with tbl := [] } : RState)
        = { ({ r with tbl := [] } : RState) with origin := og } from rfl,
      addAll_origin og _ { r with tbl := [] } fun it hit off tb => by
        cases List.mem_singleton.mp hit; exact addlItem_origin _ _ (tsigRRset t) _ (ht t rfl) rfl off tb]
    cases ({ r with tbl := [] } : RState).addAll (tsigItems (some t)) <;> rfl

theorem finish_origin (r : RState) (og : Option Name) (opt : Option EOpt) (tsig : Option Tsig) (pad a b : Nat)
    (ht : ∀ t, tsig = some t → isAbs t.name = true) :
    ({ r with origin := og } : RState).finish opt tsig pad a b =
      (r.finish opt tsig pad a b).map fun s => { s with origin := og } := by
  rw [finish_eq, finish_eq, show ({ r with origin := og } : RState).releaseReserved = { r.releaseReserved with origin := og }
    from rfl, optStage_origin]
  cases r.releaseReserved.optStage opt pad a b with
  | error e => rfl
  | ok r5 => exact tsigStage_origin r5.writeHeader og tsig ht

theorem afterItems_origin (r : RState) (og : Option Name) (big pt : Bool) :
    ({ r with origin := og } : RState).afterItems big pt = (r.afterItems big pt).map fun s => { s with origin := og } := by
  unfold RState.afterItems
  cases big <;> cases pt <;> simp [Except.map]
  split <;> rfl

theorem renderSections_congr (m m' : Message) (g : Item → Item) (hid : m'.id = m.id) (hfl : m'.flags = m.flags)
    (hitems : m'.items = m.items.map g)
    (hg : ∀ it ∈ m.items, (g it).sec = it.sec ∧ ∀ off t, itemExt off t m'.origin (g it) = itemExt off t m.origin it)
    (L : Nat) (pt : Bool) (a b : Nat) :
    m'.renderSections L pt a b = (m.renderSections L pt a b).map fun r => { r with origin := m'.origin } := by
  rw [renderSections_eq, renderSections_eq, hitems,
    show m'.baseState L a b = { m.baseState L a b with origin := m'.origin } by
      simp only [Message.baseState, RState.init, hid, hfl],
    show ({ m.baseState L a b with origin := m'.origin } : RState).addItems (m.items.map g) = _ from
      addItems_frame id (fun _ => m'.origin) g m.origin m.items hg (m.baseState L a b) rfl]
  split
  · rfl
  · cases (m.baseState L a b).addItems m.items with
    | error e => rfl
    | ok p => exact afterItems_origin p.1 m'.origin p.2 pt

/-- two messages with the same header fields, OPT and TSIG whose items append the same octets and table entries, each
with respect to its own origin, render alike -/
theorem toWire_congr (m m' : Message) (g : Item → Item) (hid : m'.id = m.id) (hfl : m'.flags = m.flags)
    (hrp : m'.requestPayload = m.requestPayload) (hpad : m'.pad = m.pad) (hopt : m'.opt = m.opt) (htsig : m'.tsig = m.tsig)
    (hitems : m'.items = m.items.map g)
    (hg : ∀ it ∈ m.items, (g it).sec = it.sec ∧ ∀ off t, itemExt off t m'.origin (g it) = itemExt off t m.origin it)
    (lim : Nat) (pt : Bool) : m'.toWire lim pt = m.toWire lim pt := by
  rw [toWire_eq, toWire_eq, render_eq, render_eq, show m'.tsigReserve = m.tsigReserve by simp only [Message.tsigReserve, htsig],
    show m'.optReserve = m.optReserve by simp only [Message.optReserve, hopt, hpad], hrp, hpad, hopt, htsig]
  cases hb : m.tsigReserve with
  | error e => rfl
  | ok b =>
    simp only [Except.bind, renderSections_congr m m' g hid hfl hitems hg]
    cases m.renderSections (clampSize lim m.requestPayload) pt m.optReserve b with
    | error e => rfl
    | ok r4 =>
      simp only [Except.map]
      rw [finish_origin r4 _ m.opt m.tsig m.pad _ _ fun t ht => (tsigReserve_some ht hb).1]
      cases r4.finish m.opt m.tsig m.pad m.optReserve b <;> rfl

end Model
