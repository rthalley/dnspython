import Model.Dnssec
import Proofs.DnssecBasic
import Proofs.NameOrder
import Proofs.NameOrder3
/-! C15: the facts about the canonical order that the NSEC chain needs, from the name theory behind C06
(`fullcompare` decides RFC 4034 §6.1; `is_subdomain` is "equal relativity and suffix up to case"). -/
namespace Model
namespace Dnssec
open Model.NameOrder

/-- what lies beneath a name does not sort before it -/
theorem not_sub_of_lt (a b : Name) (h : cmpOrder a b < 0) : isSubdomain a b = false :=
  Bool.eq_false_iff.mpr fun hs => by
    have := isSubdomain_le hs
    have := cmpOrder_swap a b
    omega

/-! What the correspondence check evaluates on every generated zone (`chainHyps`) holds of every strictly sorted
list: nothing is beneath a later name (`not_sub_of_lt`), `is_subdomain` is transitive (`isSubdomain_trans`), subtrees
are contiguous. -/

theorem blockOk_of_sorted (d : ZNode) : ∀ (rest : List ZNode),
    (d :: rest).Pairwise (fun a b => cmpOrder a.name b.name < 0) → blockOk d rest = true := by
  intro rest
  induction rest with
  | nil => intro _; rfl
  | cons x r ih =>
    intro hs
    unfold blockOk
    cases hx : subOf x d with
    | true =>
      simp only [List.dropWhile_cons, hx, if_true]
      exact ih (hs.sublist (List.Sublist.cons_cons d (List.sublist_cons_self x r)))
    | false =>
      simp only [List.dropWhile_cons, hx, Bool.false_eq_true, if_false, List.all_eq_true]
      intro y hy
      rcases List.mem_cons.mp hy with rfl | hy
      · simp [hx]
      · have hdx := (List.pairwise_cons.mp hs).1 x (by simp)
        have hxy := (List.pairwise_cons.mp (List.pairwise_cons.mp hs).2).1 y hy
        cases hyd : subOf y d with
        | false => rfl
        | true => rw [show subOf x d = true from isSubdomain_convex hyd (Int.le_of_lt hdx) (Int.le_of_lt hxy)] at hx; cases hx

theorem contig_of_sorted : ∀ (L : List ZNode), L.Pairwise (fun a b => cmpOrder a.name b.name < 0) → contig L = true := by
  intro L
  induction L with
  | nil => intro _; rfl
  | cons d rest ih =>
    intro hs
    simp only [contig, Bool.and_eq_true]
    exact ⟨blockOk_of_sorted d rest hs, ih (List.pairwise_cons.mp hs).2⟩

theorem cmpOrder_nil_not_lt (a : Name) : ¬ cmpOrder a [] < 0 := by
  rw [cmpOrder_lt_iff]
  rintro (⟨_, h⟩ | ⟨_, h⟩)
  · cases h
  · exact List.not_lt_nil _ h

/-- `sorted` by a `Name`-valued key is ascending in the canonical order -/
theorem insSort_nameLe {α} (key : α → Name) (l : List α) :
    (insSort (fun a b => nameLe (key a) (key b)) l).Pairwise (fun a b => cmpOrder (key a) (key b) ≤ 0) :=
  insSort_pairwise (fun _ _ => decide_eq_true_iff)
    (fun a b => by have := cmpOrder_swap (key a) (key b); omega)
    (fun a b c => cmpOrder_le_trans (a := key a) (b := key b) (c := key c)) l

def sortNodes (nodes : List ZNode) : List ZNode := insSort (fun a b => nameLe a.name b.name) nodes

/-- node names are dictionary keys: pairwise different (up to case) -/
def DistinctNames (nodes : List ZNode) : Prop := nodes.Pairwise (fun a b => nameEq a.name b.name = false)

theorem nameEq_symm_false {a b : Name} (h : nameEq a b = false) : nameEq b a = false := by
  simp only [nameEq, beq_eq_false_iff_ne, ne_eq, cmpOrder_swap a b] at h ⊢
  omega

theorem sortNodes_sorted (nodes : List ZNode) (hd : DistinctNames nodes) :
    (sortNodes nodes).Pairwise (fun a b => cmpOrder a.name b.name < 0) := by
  have hdist : (sortNodes nodes).Pairwise (fun a b => nameEq a.name b.name = false) :=
    ((insSort_perm _ nodes).symm.pairwise_iff (fun {x y} h => nameEq_symm_false h)).mp hd
  refine ((insSort_nameLe ZNode.name nodes).and hdist).imp ?_
  intro a b ⟨h1, h2⟩
  simp only [nameEq, beq_eq_false_iff_ne, ne_eq] at h2
  omega

theorem lookup_of_distinct : ∀ (nodes : List ZNode), DistinctNames nodes →
    ∀ z ∈ nodes, lookupNode nodes z.name = some z := by
  intro nodes
  induction nodes with
  | nil => intro _ z hz; simp at hz
  | cons a rest ih =>
    intro hd z hz
    obtain ⟨ha, hrest⟩ := List.pairwise_cons.mp hd
    unfold lookupNode
    rcases List.mem_cons.mp hz with rfl | hz
    · simp [List.find?, nameEq_refl]
    · simp only [List.find?, ha z hz]
      exact ih hrest z hz

theorem lookup_of_sorted (L : List ZNode) (hs : L.Pairwise (fun a b => cmpOrder a.name b.name < 0)) :
    ∀ z ∈ L, lookupNode L z.name = some z :=
  lookup_of_distinct L (hs.imp fun {a b} h => by simp only [nameEq, beq_eq_false_iff_ne, ne_eq]; omega)

end Dnssec
end Model
