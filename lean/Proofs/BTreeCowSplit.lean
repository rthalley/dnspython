import Proofs.BTreeCowNode
/-!
Mechanism level: `split` of an owned maximal node, followed by `adopt` in the owned parent (`insert_nonfull`) or in
a new root (`insert_element`).
-/
namespace Model.BTreeCow
open Model.BTree

theorem split_cabs (t : Nat) (H : Heap) {h : Nat} {K : Cell} (hl : K.leaf = decide (h = 0)) :
    split t (cabs H h K) =
      (cabs H h { K with elts := K.elts.take (minKeys t),
                         kids := if K.leaf then K.kids else K.kids.take (minKeys t + 1) },
       eltAt K.elts (minKeys t),
       cabs H h { creator := K.creator, leaf := K.leaf, elts := K.elts.drop (minKeys t + 1),
                  kids := if K.leaf then [] else K.kids.drop (minKeys t + 1) }) := by
  cases h <;> simp_all [cabs, split, List.map_take, List.map_drop]

theorem split_lens {t : Nat} {H : Heap} {h k : Nat} (ht1 : 1 ≤ t) (ht : HT H h k)
    (hmax : (rd H k).elts.length = maxKeys t) (h0 : h ≠ 0) :
    ((rd H k).kids.take (minKeys t + 1)).length = ((rd H k).elts.take (minKeys t)).length + 1 ∧
    ((rd H k).kids.drop (minKeys t + 1)).length = ((rd H k).elts.drop (minKeys t + 1)).length + 1 := by
  simp only [List.length_take, List.length_drop, HT_len ht h0, hmax, maxKeys, minKeys]
  omega

/-- the heap after `self.split()`: the right half in a fresh cell, the left half in place -/
theorem hSplit_spec (t : Nat) {H : Heap} {k : Nat} (hk : k < H.size) :
    ∃ H2, hSplit t H k = (H2, eltAt (rd H k).elts (minKeys t), H.size) ∧ H2.size = H.size + 1 ∧
      rd H2 k = { rd H k with elts := (rd H k).elts.take (minKeys t),
                              kids := if (rd H k).leaf then (rd H k).kids else (rd H k).kids.take (minKeys t + 1) } ∧
      rd H2 H.size = { creator := (rd H k).creator, leaf := (rd H k).leaf, elts := (rd H k).elts.drop (minKeys t + 1),
                       kids := if (rd H k).leaf then [] else (rd H k).kids.drop (minKeys t + 1) } ∧
      SameOff [k] H H2 :=
  ⟨_, rfl, by simp, rd_wr_same _ (by simp; omega),
    by rw [rd_wr_other _ (Nat.ne_of_lt hk)]; exact rd_alloc_new _ _, ((SameOff.refl H).alloc _).wr k _⟩

/-- `child.split()` + `parent.adopt(…)` for the owned child `k` at index `i` of the owned parent, when the search for
the middle key in the parent lands on that index -/
theorem split_adopt_own {c t : Nat} {H : Heap} {h p i k : Nat} {es : List Elt} {cs : List Node} {n0 : Node}
    (ht1 : 1 ≤ t) (o : Own c H (h + 1) p (.node es cs)) (hi : i < cs.length) (hk : kidA (rd H p).kids i = k)
    (hn0 : kidAt cs i = n0) (ok : Own c H h k n0) (hmax : n0.elts.length = maxKeys t)
    (hj : (searchInNode es (split t n0).2.1.1).1 = i) :
    ∃ H2 m r l pr es' cs', hSplit t H k = (H2, m, r) ∧ split t n0 = (l, m, pr) ∧
      adopt es (setAt cs i l) l m pr = (es', cs') ∧ Upd c H (hAdopt H2 p k m r) (h + 1) p (.node es' cs') := by
  subst hn0
  obtain ⟨kl, k', kr, hkk, rfl, hkid, habs⟩ := o.kid hi
  obtain rfl : k = k' := hk.symm.trans hkid
  have hkmem : k ∈ (rd H p).kids := by rw [hkk]; simp
  have hplt := HT_lt o.ht
  have hklt := HT_lt ok.ht
  have hpnek : p ≠ k := fun e => self_notin_kid o.nodup hkmem (e ▸ self_mem_reach H h k)
  have hleaf := HT_leaf ok.ht
  have hmaxk : (rd H k).elts.length = maxKeys t := by rw [ok.elts, hmax]
  obtain ⟨H2, hsp, hsz2, hrd2k, hrd2r, so2⟩ := hSplit_spec t hklt
  have hps := split_cabs t H hleaf
  rw [← absN_eq_cabs, habs] at hps
  rw [hps] at hj
  simp only [] at hj
  have hrd2p : rd H2 p = rd H p := so2.same p hplt (by simpa using hpnek)
  obtain ⟨H3, hH3⟩ : ∃ H3, H3 = hAdopt H2 p k (eltAt (rd H k).elts (minKeys t)) H.size := ⟨_, rfl⟩
  have hH3' : H3 = wr H2 p { rd H p with elts := insAt es kl.length (eltAt (rd H k).elts (minKeys t)),
                                         kids := kl ++ k :: H.size :: kr } := by
    rw [hH3]
    simp only [hAdopt, hrd2p, o.elts, Node.elts, hj, hkk]
    have : (kl ++ k :: kr).isEmpty = false := by simp
    simp only [this, Bool.false_eq_true, if_false, insAt_at_succ rfl]
  have hsz3 : H3.size = H.size + 1 := by rw [hH3']; simp [hsz2]
  have hrd3p := hH3' ▸ rd_wr_same (H := H2) (a := p) _ (by omega)
  have hrd3k : rd H3 k = rd H2 k := by rw [hH3', rd_wr_other _ hpnek]
  have hrd3r : rd H3 H.size = rd H2 H.size := by rw [hH3', rd_wr_other _ (show p ≠ H.size by omega)]
  rw [hrd2k] at hrd3k
  rw [hrd2r] at hrd3r
  have so : SameOff [p, k] H H3 := by rw [hH3']; exact so2.wr p _
  have hlens := split_lens ht1 ok.ht hmaxk
  have hkl := o.len
  have u := upd_mid (mid := [k]) (mid' := [k, H.size]) o (by simpa using hkk) so
    (by simp [hrd3p, hrd3k, ok.own, o.own])
    (fun x h1 h2 => by rw [show x = H.size by omega, hrd3r]; exact ok.own)
    (Grown.fresh (Nat.le_refl H.size) [k])
    (by simp [hsz3]; omega) (by simp [hrd3k, hrd3r, hleaf])
    (fun h0 => by simpa [hrd3k, hrd3r, hleaf, h0] using hlens h0)
    (fun h0 => by simp [hrd3k, hrd3r, hleaf, h0])
    (by rw [hrd3p]; exact o.ht.2.1) (by rw [hrd3p]; simp)
    (by
      rw [hrd3p, hkk] at *
      simp only [insAt, List.length_append, List.length_cons, List.length_take, List.length_drop] at hkl ⊢
      omega)
  refine ⟨H2, _, _, _, _, _, _, hsp, hps, rfl, ?_⟩
  rw [← hH3]
  refine u.congr_abs ?_
  have hcs := o.kids
  rw [hkk, List.map_append, List.map_cons, habs] at hcs
  have hne : ∀ x, (setAt cs kl.length x).isEmpty = false := fun x => by
    rw [← hcs, setAt_at (List.length_map _)]; simp
  simp only [hj, hne, Bool.false_eq_true, if_false]
  rw [← hcs, setAt_at (List.length_map _), insAt_at_succ (List.length_map _)]
  simp only [hrd3p, hrd3k, hrd3r, List.map_cons, List.map_nil, List.append_assoc, List.cons_append,
    List.nil_append]

/-- root growth: a new root of creator `c` adopts the two halves of the owned maximal root -/
theorem grow_own {c t : Nat} {H : Heap} {h r1 : Nat} {n : Node} (ht1 : 1 ≤ t) (o : Own c H h r1 n)
    (hmax : n.elts.length = maxKeys t) :
    ∃ H3 nr, hGrow t H c r1 = (H3, nr) ∧
      RUpd c H H3 h r1 (h + 1) nr (.node [(split t n).2.1] [(split t n).1, (split t n).2.2]) ∧
      (rd H3 nr).creator = c := by
  rw [← o.elts] at hmax
  rw [← o.abs]
  have hr1lt := HT_lt o.ht
  have hleaf := HT_leaf o.ht
  obtain ⟨Ha, hHa⟩ : ∃ Ha, Ha = (alloc H { creator := c, leaf := false, elts := [], kids := [] }).1 := ⟨_, rfl⟩
  have hsza : Ha.size = H.size + 1 := by rw [hHa]; simp
  have hrdar1 : rd Ha r1 = rd H r1 := by rw [hHa]; exact rd_alloc_old _ hr1lt
  have hrdan : rd Ha H.size = { creator := c, leaf := false, elts := [], kids := [] } := by
    rw [hHa]; exact rd_alloc_new _ _
  obtain ⟨Hb, hsp, hszb, hbk, hbr, sob⟩ := hSplit_spec t (H := Ha) (k := r1) (by omega)
  rw [hrdar1] at hsp hbk hbr
  rw [hsza] at hsp hbr
  have e2 := (sob.same H.size (by omega) (by simp; omega)).trans hrdan
  obtain ⟨H3, hH3⟩ : ∃ H3, H3 = wr Hb H.size
      { creator := c, leaf := false, elts := [eltAt (rd H r1).elts (minKeys t)], kids := [r1, H.size + 1] } := ⟨_, rfl⟩
  have hgrow : hGrow t H c r1 = (H3, H.size) := by
    simp [hGrow, ← hHa, hsp, hAdopt, e2, searchInNode, bsearch, insAt, hH3]
  have hsz3 : H3.size = H.size + 2 := by rw [hH3]; simp [hszb, hsza]
  have hrd3n := hH3 ▸ rd_wr_same (H := Hb) (a := H.size) _ (by omega)
  have hrd3k : rd H3 r1 = rd Hb r1 := by rw [hH3, rd_wr_other _ (show H.size ≠ r1 by omega)]
  have hrd3r : rd H3 (H.size + 1) = rd Hb (H.size + 1) := by
    rw [hH3, rd_wr_other _ (show H.size ≠ H.size + 1 by omega)]
  rw [hbk] at hrd3k
  rw [hbr] at hrd3r
  have so : SameOff [r1] H H3 := ⟨by omega, fun x hx hn => by
    rw [hH3, rd_wr_other _ (show H.size ≠ x by omega), sob.same x (by omega) hn, hHa]; exact rd_alloc_old _ hx⟩
  have hlens := split_lens ht1 o.ht hmax
  obtain ⟨fa, fc⟩ := forest_frame (mid := [r1]) (mid' := [r1, H.size + 1]) so (by simpa using o.ht)
    (by simpa using o.nodup) (by simp) (by simp [hsz3]; omega) (by simp [hrd3k, hrd3r, hleaf])
    (fun h0 => by simpa [hrd3k, hrd3r, hleaf, h0] using hlens h0)
    (fun h0 => by simp [hrd3k, hrd3r, hleaf, h0])
  simp only [List.flatMap_cons, List.flatMap_nil, List.append_nil, List.mem_cons, List.not_mem_nil, or_false,
    forall_eq_or_imp, forall_eq] at fa fc
  have hht : HT H3 (h + 1) H.size := by
    refine ⟨by omega, by rw [hrd3n], by rw [hrd3n]; simp, ?_⟩
    rw [hrd3n]
    simpa using ⟨fa.1.1, fa.2.1⟩
  have u : RUpd c H H3 h r1 (h + 1) H.size
      (.node [(split t (absN H h r1)).2.1] [(split t (absN H h r1)).1, (split t (absN H h r1)).2.2]) := by
    refine RUpd.of_writes o.ht o.nodup so (by simpa [hrd3k] using ⟨self_mem_reach H h r1, o.own⟩) ?_ hht
      (fun x => ?_) ?_
    · intro x hx1 hx2
      rcases (show x = H.size ∨ x = H.size + 1 by omega) with rfl | rfl
      · rw [hrd3n]
      · rw [hrd3r]; exact o.own
    · have h1 := fc x
      have hfr : (if H.size = x then 1 else 0) + (if H.size + 1 = x then 1 else 0) ≤ if H.size ≤ x then 1 else 0 := by
        split <;> split <;> split <;> omega
      rw [reach_succ, hrd3n]
      simp only [List.flatMap_cons, List.flatMap_nil, List.append_nil, List.count_cons, List.count_append,
        List.count_nil, beq_iff_eq] at h1 ⊢
      omega
    · have e := split_cabs t H hleaf
      rw [← absN_eq_cabs] at e
      rw [absN_succ, hrd3n]
      simp only [e, List.map_cons, List.map_nil, fa.1.2, fa.2.2, hrd3k, hrd3r]
  exact ⟨H3, H.size, hgrow, u, by rw [hrd3n]⟩

end Model.BTreeCow
