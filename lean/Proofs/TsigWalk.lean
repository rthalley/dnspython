import Proofs.TsigValidate
/-! The skeleton walk of the reader: it only looks at the octets it walks over.  Every piece of the walk (a name, a
question, a record, a section, the four sections) is `Local`; the model's loops are `steps` of their step. -/
namespace Model.Tsig
open Model

/-- a piece of the skeleton walk: from `cur` it moves forward, stays inside the message unless it does not move at all,
and looks only at the octets it passes -/
structure Local (g : Bytes → Nat → Option Nat) : Prop where
  bounds : ∀ {w cur q}, g w cur = some q → cur ≤ q ∧ (q = cur ∨ q ≤ w.length)
  transfer : ∀ {w w' cur q}, g w cur = some q → AgreeOn w w' cur q → g w' cur = some q

theorem Local.id : Local fun _ cur => some cur :=
  ⟨fun h => by cases h; exact ⟨Nat.le_refl _, Or.inl rfl⟩, fun h _ => h⟩

theorem Local.comp {g h : Bytes → Nat → Option Nat} (hg : Local g) (hh : Local h) :
    Local fun w cur => (g w cur).bind (h w) := by
  constructor
  · intro w cur q e
    obtain ⟨m, e1, e2⟩ := Option.bind_eq_some_iff.mp e
    have := hg.bounds e1
    have := hh.bounds e2
    omega
  · intro w w' cur q e hag
    obtain ⟨m, e1, e2⟩ := Option.bind_eq_some_iff.mp e
    exact Option.bind_eq_some_iff.mpr ⟨m, hg.transfer e1 (hag.mono (Nat.le_refl _) (hh.bounds e2).1),
      hh.transfer e2 (hag.mono (hg.bounds e1).1 (Nat.le_refl _))⟩

def steps (f : Nat → Option Nat) : Nat → Nat → Option Nat
  | 0, cur => some cur
  | n + 1, cur => (f cur).bind (steps f n)

theorem Local.steps {f : Bytes → Nat → Option Nat} (hf : Local f) (n : Nat) : Local fun w => steps (f w) n := by
  induction n with
  | zero => exact Local.id
  | succ n ih => exact hf.comp ih

theorem steps_succ (f : Nat → Option Nat) (n cur : Nat) : steps f (n + 1) cur = (f cur).bind (steps f n) := rfl

theorem steps_mono {f g : Nat → Option Nat} (h : ∀ cur q, f cur = some q → g cur = some q) :
    ∀ n cur q, steps f n cur = some q → steps g n cur = some q := by
  intro n
  induction n with
  | zero => exact fun _ _ e => e
  | succ n ih =>
    intro cur q e
    obtain ⟨m, e1, e2⟩ := Option.bind_eq_some_iff.mp e
    exact Option.bind_eq_some_iff.mpr ⟨m, h _ _ e1, ih _ _ e2⟩

theorem skipName_succ_iff (w : Bytes) (e f cur p : Nat) :
    skipName w e (f + 1) cur = some p ↔ cur < e ∧
      ((w.getD cur 0 = 0 ∧ p = cur + 1)
        ∨ (0 < w.getD cur 0 ∧ w.getD cur 0 < 64 ∧ cur + 1 + w.getD cur 0 ≤ e
            ∧ skipName w e f (cur + 1 + w.getD cur 0) = some p)
        ∨ (192 ≤ w.getD cur 0 ∧ cur + 2 ≤ e ∧ p = cur + 2)) := by
  rw [skipName]
  dsimp only
  generalize w.getD cur 0 = c
  by_cases h : cur < e
  case neg => simp [h]
  by_cases h0 : c = 0
  · simp [h, h0, eq_comm]
  have hp := Nat.pos_of_ne_zero h0
  by_cases h1 : c < 64
  · have : ¬ 192 ≤ c := by omega
    by_cases h2 : cur + 1 + c ≤ e <;> simp [h, h0, h1, h2, hp, this]
  · by_cases h2 : 192 ≤ c <;> by_cases h3 : cur + 2 ≤ e <;> simp [h, h0, h1, h2, h3, eq_comm]

theorem skipName_bounds (w : Bytes) (e : Nat) : ∀ (f cur p : Nat), skipName w e f cur = some p → cur < p ∧ p ≤ e := by
  intro f
  induction f with
  | zero => intro cur p h; simp [skipName] at h
  | succ f ih =>
    intro cur p h
    obtain ⟨hc, h | ⟨_, _, _, h⟩ | h⟩ := (skipName_succ_iff w e f cur p).mp h
    · omega
    · have := ih _ _ h; omega
    · omega

theorem skipName_transfer (w w' : Bytes) (e e' : Nat) : ∀ (f f' cur p : Nat), skipName w e f cur = some p →
    p ≤ e' → AgreeOn w w' cur p → p - cur ≤ f' →
    skipName w' e' f' cur = some p := by
  intro f
  induction f with
  | zero => intro f' cur p h; simp [skipName] at h
  | succ f ih =>
    intro f' cur p h he hag hf
    have hb := skipName_bounds w e (f + 1) cur p h
    cases f' with
    | zero => omega
    | succ f' =>
      rw [skipName_succ_iff, hag.getD cur (Nat.le_refl _) hb.1]
      obtain ⟨hc, h | ⟨h0, h1, h2, h⟩ | h⟩ := (skipName_succ_iff w e f cur p).mp h
      · exact ⟨by omega, Or.inl h⟩
      · have hb2 := skipName_bounds w e f _ p h
        exact ⟨by omega, Or.inr (Or.inl ⟨h0, h1, by omega,
          ih f' _ p h he (hag.mono (by omega) (Nat.le_refl _)) (by omega)⟩)⟩
      · exact ⟨by omega, Or.inr (Or.inr ⟨h.1, by omega, h.2.2⟩)⟩

/-- the name at `cur`, as the section loops skip it -/
abbrev nameEnd (w : Bytes) (cur : Nat) : Option Nat := skipName w w.length (w.length + 1) cur

theorem nameEnd_transfer {w w' : Bytes} {cur p q : Nat} (h : nameEnd w cur = some p) (hq : p ≤ q) (hl : q ≤ w'.length)
    (hag : AgreeOn w w' cur q) : nameEnd w' cur = some p :=
  skipName_transfer w w' _ _ _ _ cur p h (by omega) (hag.mono (Nat.le_refl _) hq) (by omega)

/-- one record skipped whatever its type: owner name, 10 octets of header, RDLENGTH octets -/
def skipRR (w : Bytes) (cur : Nat) : Option Nat :=
  match skipName w w.length (w.length + 1) cur with
  | none => none
  | some p =>
    if p + 10 > w.length then none
    else if p + 10 + rd16 w (p + 8) > w.length then none
    else some (p + 10 + rd16 w (p + 8))

def skipRRs (w : Bytes) : Nat → Nat → Option Nat
  | 0, cur => some cur
  | n + 1, cur =>
    match skipRR w cur with
    | none => none
    | some q => skipRRs w n q

theorem skipRRs_eq (w : Bytes) : skipRRs w = steps (skipRR w) := by
  funext n
  induction n with
  | zero => rfl
  | succ n ih => funext cur; rw [skipRRs, steps, ← ih]; cases skipRR w cur <;> rfl

theorem skipRR_iff (w : Bytes) (cur q : Nat) : skipRR w cur = some q ↔
    ∃ p, skipName w w.length (w.length + 1) cur = some p ∧ q = p + 10 + rd16 w (p + 8) ∧ q ≤ w.length := by
  unfold skipRR
  cases skipName w w.length (w.length + 1) cur with
  | none => simp
  | some p =>
    by_cases h1 : p + 10 > w.length
    · simp [h1]; omega
    · by_cases h2 : p + 10 + rd16 w (p + 8) > w.length <;> simp [h1, h2, eq_comm] <;> omega

theorem skipRR_local : Local skipRR := by
  constructor
  · intro w cur q h
    obtain ⟨p, hp, rfl, hq⟩ := (skipRR_iff w cur q).mp h
    have := skipName_bounds _ _ _ _ _ hp
    omega
  · intro w w' cur q h hag
    obtain ⟨p, hp, rfl, hq⟩ := (skipRR_iff w cur _).mp h
    have hb := skipName_bounds _ _ _ _ _ hp
    have hl := hag.le (by omega) hq
    exact (skipRR_iff w' cur _).mpr ⟨p, nameEnd_transfer hp (by omega) hl hag, by rw [hag.rd16 _ (by omega) (by omega)], hl⟩

/-- `skipRR` that refuses a TSIG record -/
def skipRRnt (w : Bytes) (cur : Nat) : Option Nat :=
  match skipName w w.length (w.length + 1) cur with
  | none => none
  | some p =>
    if p + 10 > w.length then none
    else if rd16 w p = ConstsC14.typeTsig then none
    else if p + 10 + rd16 w (p + 8) > w.length then none
    else some (p + 10 + rd16 w (p + 8))

def skipRRsNT (w : Bytes) : Nat → Nat → Option Nat
  | 0, cur => some cur
  | n + 1, cur =>
    match skipRRnt w cur with
    | none => none
    | some q => skipRRsNT w n q

theorem skipRRsNT_eq (w : Bytes) : skipRRsNT w = steps (skipRRnt w) := by
  funext n
  induction n with
  | zero => rfl
  | succ n ih => funext cur; rw [skipRRsNT, steps, ← ih]; cases skipRRnt w cur <;> rfl

theorem skipRRnt_iff (w : Bytes) (cur q : Nat) : skipRRnt w cur = some q ↔
    ∃ p, skipName w w.length (w.length + 1) cur = some p ∧ rd16 w p ≠ ConstsC14.typeTsig
      ∧ q = p + 10 + rd16 w (p + 8) ∧ q ≤ w.length := by
  unfold skipRRnt
  cases skipName w w.length (w.length + 1) cur with
  | none => simp
  | some p =>
    by_cases h1 : p + 10 > w.length
    · simp [h1]; omega
    · by_cases ht : rd16 w p = ConstsC14.typeTsig
      · simp [h1, ht]
      · by_cases h2 : p + 10 + rd16 w (p + 8) > w.length <;> simp [h1, ht, h2, eq_comm] <;> omega

theorem skipRRnt_local : Local skipRRnt := by
  constructor
  · intro w cur q h
    obtain ⟨p, hp, _, rfl, hq⟩ := (skipRRnt_iff w cur q).mp h
    have := skipName_bounds _ _ _ _ _ hp
    omega
  · intro w w' cur q h hag
    obtain ⟨p, hp, hty, rfl, hq⟩ := (skipRRnt_iff w cur _).mp h
    have hb := skipName_bounds _ _ _ _ _ hp
    have hl := hag.le (by omega) hq
    exact (skipRRnt_iff w' cur _).mpr ⟨p, nameEnd_transfer hp (by omega) hl hag, by rwa [hag.rd16 _ (by omega) (by omega)],
      by rw [hag.rd16 _ (by omega) (by omega)], hl⟩

theorem skipRR_of_skipRRnt (w : Bytes) (cur q : Nat) (h : skipRRnt w cur = some q) : skipRR w cur = some q := by
  obtain ⟨p, hp, _, hq⟩ := (skipRRnt_iff w cur q).mp h
  exact (skipRR_iff w cur q).mpr ⟨p, hp, hq⟩

/-- one entry of the question section: a name and "!HH" -/
def skipQ (w : Bytes) (cur : Nat) : Option Nat :=
  (skipName w w.length (w.length + 1) cur).bind fun p => if p + 4 ≤ w.length then some (p + 4) else none

theorem skipQuestions_eq (w : Bytes) : skipQuestions w = steps (skipQ w) := by
  funext n
  induction n with
  | zero => rfl
  | succ n ih =>
    funext cur
    rw [skipQuestions, steps, ← ih, skipQ]
    cases skipName w w.length (w.length + 1) cur with
    | none => rfl
    | some p => by_cases h : p + 4 ≤ w.length <;> simp [h]

theorem skipQ_local : Local skipQ := by
  have key : ∀ w cur q, skipQ w cur = some q ↔ ∃ p, nameEnd w cur = some p ∧ q = p + 4 ∧ q ≤ w.length := by
    intro w cur q
    unfold skipQ nameEnd
    cases skipName w w.length (w.length + 1) cur with
    | none => simp
    | some p => by_cases h : p + 4 ≤ w.length <;> simp [h, eq_comm] <;> omega
  constructor
  · intro w cur q h
    obtain ⟨p, hp, rfl, hq⟩ := (key w cur q).mp h
    have := skipName_bounds _ _ _ _ _ hp
    omega
  · intro w w' cur q h hag
    obtain ⟨p, hp, rfl, hq⟩ := (key w cur _).mp h
    have hl := hag.le (by have := skipName_bounds _ _ _ _ _ hp; omega) hq
    exact (key w' cur _).mpr ⟨p, nameEnd_transfer hp (by omega) hl hag, rfl, hl⟩

/-- the four sections walked from `cur` with the given counts, records by `f` -/
def walkN (f : Bytes → Nat → Option Nat) (qd an ns ar : Nat) (w : Bytes) (cur : Nat) : Option Nat :=
  (((steps (skipQ w) qd cur).bind (steps (f w) an)).bind (steps (f w) ns)).bind (steps (f w) ar)

theorem Local.walkN {f : Bytes → Nat → Option Nat} (hf : Local f) (qd an ns ar : Nat) : Local (walkN f qd an ns ar) :=
  (((skipQ_local.steps qd).comp (hf.steps an)).comp (hf.steps ns)).comp (hf.steps ar)

theorem walkN_eq_some_iff (f : Bytes → Nat → Option Nat) (qd an ns ar : Nat) (w : Bytes) (cur q : Nat) :
    walkN f qd an ns ar w cur = some q ↔ ∃ p0 p1 p2, steps (skipQ w) qd cur = some p0 ∧ steps (f w) an p0 = some p1
      ∧ steps (f w) ns p1 = some p2 ∧ steps (f w) ar p2 = some q := by
  simp only [walkN, Option.bind_eq_some_iff]
  constructor
  · rintro ⟨p2, ⟨p1, ⟨p0, h0, h1⟩, h2⟩, h3⟩; exact ⟨p0, p1, p2, h0, h1, h2, h3⟩
  · rintro ⟨p0, p1, p2, h0, h1, h2, h3⟩; exact ⟨p2, ⟨p1, ⟨p0, h0, h1⟩, h2⟩, h3⟩

/-- the message walked from the end of its header by its own counts, but `ar` records in the additional section -/
def walkWith (f : Bytes → Nat → Option Nat) (w : Bytes) (ar : Nat) : Option Nat :=
  walkN f (rd16 w 4) (rd16 w 6) (rd16 w 8) ar w 12

theorem walkWith_bounds {f : Bytes → Nat → Option Nat} (hf : Local f) {w : Bytes} {ar s : Nat} (h : walkWith f w ar = some s) :
    12 ≤ s ∧ (s = 12 ∨ s ≤ w.length) :=
  (hf.walkN ..).bounds h

theorem walkWith_transfer {f : Bytes → Nat → Option Nat} (hf : Local f) {w w' : Bytes} {ar s : Nat} (h : walkWith f w ar = some s)
    (hh : AgreeOn w w' 4 10) (hag : AgreeOn w w' 12 s) : walkWith f w' ar = some s := by
  unfold walkWith
  rw [hh.rd16 4 (by omega) (by omega), hh.rd16 6 (by omega) (by omega), hh.rd16 8 (by omega) (by omega)]
  exact (hf.walkN ..).transfer h hag

theorem walkWith_mono {f g : Bytes → Nat → Option Nat} (h : ∀ w cur q, f w cur = some q → g w cur = some q) {w : Bytes}
    {ar s : Nat} (hw : walkWith f w ar = some s) : walkWith g w ar = some s := by
  obtain ⟨p0, p1, p2, h0, h1, h2, h3⟩ := (walkN_eq_some_iff ..).mp hw
  exact (walkN_eq_some_iff ..).mpr
    ⟨p0, p1, p2, h0, steps_mono (h w) _ _ _ h1, steps_mono (h w) _ _ _ h2, steps_mono (h w) _ _ _ h3⟩

end Model.Tsig
