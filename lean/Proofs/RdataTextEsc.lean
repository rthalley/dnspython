import Proofs.RdataTextLex
/-! `dns.rdata._escapify` against `Token.unescape` (code points) and `Token.unescape_to_bytes` (octets) (C05).  An escaped
text is a sequence of units `\c`, `c`, `\DDD` (`EscUnit`, `EscText`); the readers (the tokenizer inside quotes among them)
are proved on units, the writers
(`_escapify` here, `_escapify_unicode` in RdataTextUtf8) only have to produce them. -/
namespace Model

/-- what the round trip needs from `dns.rdata._escaped` (checked by `decide` on the generated constant) -/
def EscROk (esc : List Nat) : Prop :=
  34 ∈ esc ∧ 92 ∈ esc ∧ ∀ d ∈ esc, isDigit d = false ∧ d < 128

instance (esc : List Nat) : Decidable (EscROk esc) := by unfold EscROk; exact inferInstance

theorem escROk_generated : EscROk Consts.rdataEscaped := by decide

theorem dec3_digits (c : Nat) (hc : c < 256) :
    isDigit (48 + c / 100) = true ∧ isDigit (48 + c / 10 % 10) = true ∧ isDigit (48 + c % 10) = true := by
  simp [isDigit]; omega

theorem unescapeBytes_plain (c : Nat) (hc : c ≠ 92) (rest : List Nat) :
    unescapeBytes (c :: rest) = match utf8Char c, unescapeBytes rest with
      | some a, some b => some (a ++ b)
      | _, _ => none := by
  rw [unescapeBytes.eq_def]
  split
  · rename_i h; simp at h
  · rename_i h; simp at h; exact absurd h.1 hc
  · rename_i h; simp at h; exact absurd h.1 hc
  · rename_i h; simp at h; obtain ⟨rfl, rfl⟩ := h; rfl

theorem unescapeCP_plain (c : Nat) (hc : c ≠ 92) (rest : List Nat) :
    unescapeCP (c :: rest) = (unescapeCP rest).map (c :: ·) := by
  rw [unescapeCP.eq_def]
  split
  · rename_i h; simp at h
  · rename_i h; simp at h; exact absurd h.1 hc
  · rename_i h; simp at h; exact absurd h.1 hc
  · rename_i h; simp at h; obtain ⟨rfl, rfl⟩ := h; rfl

theorem unescapeCP_plain_all (s : List Nat) (h : Plain s) : unescapeCP s = some s := by
  induction s with
  | nil => rfl
  | cons c cs ih => rw [unescapeCP_plain c (h c (by simp)).2, ih fun x hx => h x (by simp [hx])]; rfl

theorem unescapeBytes_plain_ascii (s : List Nat) (h : Plain s) (ha : ∀ c ∈ s, c < 128) : unescapeBytes s = some s := by
  induction s with
  | nil => rfl
  | cons c cs ih =>
    have hc := h c (by simp)
    have hu : utf8Char c = some [c] := by simp [utf8Char, ha c (by simp)]
    rw [unescapeBytes_plain c hc.2, hu, ih (fun x hx => h x (by simp [hx])) (fun x hx => ha x (by simp [hx]))]
    rfl

/-- one character as `_escapify` and `_escapify_unicode` write it (`\c`, `c` or `\DDD`): its text, the code point that
`Token.unescape` reads back and the octets that `Token.unescape_to_bytes` reads back -/
inductive EscUnit : List Nat → Nat → Bytes → Prop
  | bs {c : Nat} {b : Bytes} : isDigit c = false → utf8Char c = some b → EscUnit [92, c] c b
  | raw {c : Nat} {b : Bytes} : c ≠ 92 → c ≠ 34 → c ≠ 10 → utf8Char c = some b → EscUnit [c] c b
  | ddd {c : Nat} : c < 256 → EscUnit (92 :: dec3 c) c [c]

theorem EscUnit.readBytes {t : List Nat} {c : Nat} {b : Bytes} (h : EscUnit t c b) (rest : List Nat) :
    unescapeBytes (t ++ rest) = (unescapeBytes rest).map (b ++ ·) := by
  cases h with
  | bs hd hb =>
    rw [List.cons_append, List.cons_append, unescapeBytes.eq_def]
    simp only [hd, Bool.false_eq_true, if_false, hb, List.nil_append]
    cases unescapeBytes rest <;> rfl
  | raw h92 _ _ hb =>
    rw [List.cons_append, unescapeBytes_plain c h92, hb, List.nil_append]
    cases unescapeBytes rest <;> rfl
  | ddd hc =>
    obtain ⟨d1, d2, d3⟩ := dec3_digits c hc
    have hv : (48 + c / 100 - 48) * 100 + (48 + c / 10 % 10 - 48) * 10 + (48 + c % 10 - 48) = c := by omega
    have hle : ¬ c > 255 := by omega
    simp only [dec3, List.cons_append, List.nil_append]
    rw [unescapeBytes.eq_def]
    simp only [d1, d2, d3, if_true, Bool.and_self, hv, hle, if_false]

theorem EscUnit.readCP {t : List Nat} {c : Nat} {b : Bytes} (h : EscUnit t c b) (rest : List Nat) :
    unescapeCP (t ++ rest) = (unescapeCP rest).map (c :: ·) := by
  cases h with
  | bs hd _ =>
    rw [List.cons_append, List.cons_append, unescapeCP.eq_def]
    simp only [hd, Bool.false_eq_true, if_false, List.nil_append]
  | raw h92 _ _ _ => rw [List.cons_append, unescapeCP_plain c h92, List.nil_append]
  | ddd hc =>
    obtain ⟨d1, d2, d3⟩ := dec3_digits c hc
    have hv : (48 + c / 100 - 48) * 100 + (48 + c / 10 % 10 - 48) * 10 + (48 + c % 10 - 48) = c := by omega
    have hle : ¬ c > 255 := by omega
    simp only [dec3, List.cons_append, List.nil_append]
    rw [unescapeCP.eq_def]
    simp only [d1, d2, d3, if_true, Bool.and_self, hv, hle, if_false]

/-- inside quotes the tokenizer reads a unit through and keeps it as it is written -/
theorem EscUnit.runs {t : List Nat} {c : Nat} {b : Bytes} (h : EscUnit t c b) (acc : List Nat) (ml : Nat) :
    Runs (.quote acc) ml t [] (.quote (acc ++ t)) ml := by
  cases h with
  | bs _ _ => simpa using LexStep.quoteBs.runs.trans LexStep.quoteEsc.runs
  | raw h92 h34 h10 _ => exact (LexStep.quoteChar h34 h10 h92).runs
  | ddd hc =>
    obtain ⟨_, d2, d3⟩ := dec3_digits c hc
    simp only [isDigit, decide_eq_true_eq] at d2 d3
    simpa [dec3] using (LexStep.quoteBs.runs.trans LexStep.quoteEsc.runs).trans
      ((LexStep.quoteChar (by omega) (by omega) (by omega)).runs.trans (LexStep.quoteChar (by omega) (by omega) (by omega)).runs)

/-- a text made of escaped characters, with the code points and the octets it stands for -/
inductive EscText : List Nat → List Nat → Bytes → Prop
  | nil : EscText [] [] []
  | cons {t ts cs : List Nat} {c : Nat} {b bs : Bytes} :
    EscUnit t c b → EscText ts cs bs → EscText (t ++ ts) (c :: cs) (b ++ bs)

theorem EscText.runs {ts cs : List Nat} {bs : Bytes} (h : EscText ts cs bs) (acc : List Nat) (ml : Nat) :
    Runs (.quote acc) ml ts [] (.quote (acc ++ ts)) ml := by
  induction h generalizing acc with
  | nil => simpa using Runs.nil (.quote acc) ml
  | cons hu _ ih => simpa using (hu.runs acc ml).trans (ih _)

/-- in quotes such a text is one QUOTED_STRING token, which both `unescape` functions read back -/
theorem EscText.read {ts cs : List Nat} {bs : Bytes} (h : EscText ts cs bs) :
    Lexes (quote ts) [⟨.quoted, ts⟩] ∧ unescapeCP ts = some cs ∧ unescapeBytes ts = some bs := by
  refine ⟨fun rest _ => ?_, ?_⟩
  · simpa [quote] using (LexStep.openQuote.runs.trans ((h.runs [] 0).trans LexStep.closeQuote.runs)) rest
  · induction h with
    | nil => exact ⟨rfl, rfl⟩
    | cons hu _ ih =>
      rw [hu.readCP, hu.readBytes, ih.1, ih.2]
      exact ⟨rfl, rfl⟩

theorem escROctet_unit {esc : List Nat} (hesc : EscROk esc) {c : Nat} (hc : c < 256) : EscUnit (escROctet esc c) c [c] := by
  obtain ⟨h34, h92, hall⟩ := hesc
  have hu : c < 128 → utf8Char c = some [c] := fun h => by simp [utf8Char, h]
  unfold escROctet
  split
  · rename_i hm; exact .bs (hall c hm).1 (hu (hall c hm).2)
  · rename_i hm
    split
    · exact .raw (fun h => hm (h ▸ h92)) (fun h => hm (h ▸ h34)) (by omega) (hu (by omega))
    · exact .ddd hc

theorem escapifyR_text {esc : List Nat} (hesc : EscROk esc) (s : Bytes) (hs : ∀ c ∈ s, c < 256) :
    EscText (escapifyRWith esc s) s s := by
  induction s with
  | nil => exact .nil
  | cons c cs ih =>
    exact .cons (b := [c]) (escROctet_unit hesc (hs c (by simp))) (ih fun x hx => hs x (by simp [hx]))

theorem unescapeBytes_escapify (esc : List Nat) (hesc : EscROk esc) (s : Bytes) (hs : ∀ c ∈ s, c < 256) :
    unescapeBytes (escapifyRWith esc s) = some s :=
  (escapifyR_text hesc s hs).read.2.2

theorem unescapeCP_escapify (esc : List Nat) (hesc : EscROk esc) (s : Bytes) (hs : ∀ c ∈ s, c < 256) :
    unescapeCP (escapifyRWith esc s) = some s :=
  (escapifyR_text hesc s hs).read.2.1

theorem utf8Encode_ascii (s : List Nat) (hs : ∀ c ∈ s, c < 128) : utf8Encode s = some s := by
  induction s with
  | nil => rfl
  | cons c cs ih =>
    have hc := hs c (by simp)
    have hu : utf8Char c = some [c] := by simp [utf8Char, hc]
    simp [utf8Encode, hu, ih (fun x hx => hs x (by simp [hx]))]

end Model
