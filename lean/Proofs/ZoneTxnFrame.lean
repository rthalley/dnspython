import Model.ZoneTxn
/-! Frame properties of the transaction model (C10): the published map changes only at a commit; ended and
read-only transactions refuse use. -/
namespace Model.ZT
open Model

def Op.isCommit : Op → Bool
  | .commit => true
  | _ => false

def Op.isGetNode : Op → Bool
  | .getNode _ => true
  | _ => false

/-- the state after a call is the state before, up to the open version and whether it has been changed -/
structure Keeps (s : Txn) (x : Txn × Res) : Prop where
  zone : x.1.zone = s.zone
  readOnly : x.1.readOnly = s.readOnly
  ended : x.1.ended = s.ended

section
variable {cfg : Cfg} {s : Txn}

theorem Keeps.self (r : Res) : Keeps s (s, r) := ⟨rfl, rfl, rfl⟩

theorem Keeps.ite {c : Prop} [Decidable c] {a b : Txn × Res} (ha : Keeps s a) (hb : Keeps s b) :
    Keeps s (if c then a else b) := by
  split
  · exact ha
  · exact hb

theorem checkedPut_keeps {n : Name} {r : Rdataset} {veto : Bool} : Keeps s (checkedPut cfg s n r veto) := by
  unfold checkedPut
  cases putRdataset cfg s.ver n r <;> cases veto <;> exact ⟨rfl, rfl, rfl⟩

theorem checkedDeleteRdataset_keeps {n : Name} {t c : Nat} {veto : Bool} :
    Keeps s (checkedDeleteRdataset cfg s n t c veto) := by
  unfold checkedDeleteRdataset
  obtain ⟨v, _ | e⟩ := deleteRdataset cfg s.ver n t c <;> cases validateName cfg n <;> cases veto <;>
    exact ⟨rfl, rfl, rfl⟩

theorem checkedDeleteName_keeps {n : Name} {veto : Bool} : Keeps s (checkedDeleteName cfg s n veto) := by
  unfold checkedDeleteName
  cases deleteNode cfg s.ver n <;> cases veto <;> exact ⟨rfl, rfl, rfl⟩

theorem addCore_keeps {rep : Bool} {n : Name} {r : Rdataset} {extra veto : Bool} :
    Keeps s (addCore cfg s rep n r extra veto) := by
  unfold addCore
  refine .ite (.self _) (.ite (.self _) (.ite (.self _) (.ite checkedPut_keeps ?_)))
  cases getRdataset cfg s.ver n r.rdtype r.covers with
  | error e => exact .self _
  | ok o => cases o <;> exact checkedPut_keeps

theorem txnAdd_keeps {rep : Bool} {args : List Arg} {veto : Bool} : Keeps s (txnAdd cfg s rep args veto) := by
  unfold txnAdd
  cases parseAddArgs args with
  | error e => exact .self _
  | ok x => exact addCore_keeps

theorem deleteAll_keeps {exact : Bool} {n : Name} {veto : Bool} : Keeps s (deleteAll cfg s exact n veto) := by
  unfold deleteAll
  refine .ite ?_ checkedDeleteName_keeps
  cases getNode cfg s.ver n with
  | error e => exact .self _
  | ok o =>
    cases o with
    | none => exact .self _
    | some _ => exact checkedDeleteName_keeps

theorem deleteCore_keeps {exact : Bool} {n : Name} {sel : Sel} {veto : Bool} :
    Keeps s (deleteCore cfg s exact n sel veto) := by
  cases sel with
  | all => exact deleteAll_keeps
  | type t c =>
    unfold deleteCore
    dsimp only
    cases getRdataset cfg s.ver n t c with
    | error e => exact .self _
    | ok o =>
      cases o with
      | none => exact .ite (.self _) (.self _)
      | some _ => exact checkedDeleteRdataset_keeps
  | rds r =>
    unfold deleteCore
    refine .ite deleteAll_keeps (.ite (.self _) ?_)
    cases getRdataset cfg s.ver n r.rdtype r.covers with
    | error e => exact .self _
    | ok o =>
      cases o with
      | none => exact .ite (.self _) (.self _)
      | some _ => exact .ite (.self _) (.ite checkedDeleteRdataset_keeps checkedPut_keeps)

theorem txnDelete_keeps {exact : Bool} {args : List Arg} {veto : Bool} :
    Keeps s (txnDelete cfg s exact args veto) := by
  unfold txnDelete
  cases parseDeleteArgs args with
  | error e => exact .self _
  | ok x => exact deleteCore_keeps

theorem txnUpdateSerial_keeps {value : Int} {rel : Bool} {n : Name} {veto : Bool} :
    Keeps s (txnUpdateSerial cfg s value rel n veto) := by
  unfold txnUpdateSerial
  refine .ite (.self _) ?_
  cases getRdataset cfg s.ver n ConstsC10.soa 0 with
  | error e => exact .self _
  | ok o =>
    cases o with
    | none => exact .self _
    | some rds =>
      dsimp only
      cases rds.items with
      | nil => exact .self _
      | cons rd0 _ =>
        dsimp only
        cases newSerial rd0.val value rel with
        | error e => exact .self _
        | ok serial => exact .ite (.self _) txnAdd_keeps

/-- `_end`: refused if already ended; otherwise the transaction ends, and a writer's commit publishes -/
theorem endTxn_effect (s : Txn) (commit : Bool) :
    (s.ended = true ∧ Keeps s (endTxn s commit)) ∨ (endTxn s commit).1 = { s with ended := true } ∨
      (commit = true ∧ s.readOnly = false ∧ (endTxn s commit).1 = { s with zone := s.ver, ended := true }) := by
  unfold endTxn
  split
  · exact .inl ⟨‹_›, .self _⟩
  split
  · exact .inr (.inl rfl)
  split
  · exact .inr (.inr ⟨‹_ ∧ _›.1, Bool.eq_false_iff.mpr ‹_›, rfl⟩)
  · exact .inr (.inl rfl)

theorem endTxnRaise_effect (s : Txn) :
    (s.ended = true ∧ Keeps s (endTxnRaise s)) ∨ (endTxnRaise s).1 = { s with ended := true } := by
  unfold endTxnRaise
  split
  · exact .inl ⟨‹_›, .self _⟩
  split
  · exact .inr rfl
  split <;> exact .inr rfl

theorem step_effect (cfg : Cfg) (s : Txn) (op : Op) :
    Keeps s (step cfg s op) ∨ (step cfg s op).1 = { s with ended := true } ∨
      (op = .commit ∧ s.readOnly = false ∧ (step cfg s op).1 = { s with zone := s.ver, ended := true }) := by
  have writable : ∀ {a : Txn × Res}, Keeps s a →
      Keeps s (if s.ended then (s, .error .alreadyEnded) else if s.readOnly then (s, .error .readOnly) else a) :=
    fun ha => .ite (.self _) (.ite (.self _) ha)
  cases op with
  | commit => exact (endTxn_effect s true).imp And.right (.imp_right fun h => ⟨rfl, h.2⟩)
  | rollback => exact (endTxn_effect s false).imp And.right (.imp_right fun h => absurd h.1 Bool.false_ne_true)
  | commitRaise => exact (endTxnRaise_effect s).imp And.right .inl
  | add args veto | replace args veto => exact .inl (writable txnAdd_keeps)
  | delete args veto | deleteExact args veto => exact .inl (writable txnDelete_keeps)
  | updateSerial v r n veto => exact .inl (.ite (.self _) txnUpdateSerial_keeps)
  | get n t c =>
    refine .inl (.ite (.self _) ?_)
    cases getRdataset cfg s.ver n t c <;> exact .self _
  | nameExists n =>
    refine .inl (.ite (.self _) ?_)
    cases getNode cfg s.ver n <;> exact .self _
  | getNode n =>
    refine .inl (.ite (.self _) ?_)
    cases validateName cfg n <;> exact .self _
  | changed | dump => exact .inl (.ite (.self _) (.self _))

theorem step_zone (cfg : Cfg) (s : Txn) (op : Op) (h : op.isCommit = false) : (step cfg s op).1.zone = s.zone := by
  rcases step_effect cfg s op with e | e | e
  · exact e.zone
  · rw [e]
  · rw [e.1] at h; exact absurd h.symm Bool.false_ne_true

theorem run_zone (cfg : Cfg) (ops : List Op) (s : Txn) (h : ∀ op ∈ ops, op.isCommit = false) :
    (run cfg s ops).1.zone = s.zone := by
  induction ops generalizing s with
  | nil => rfl
  | cons op rest ih =>
    exact (ih _ fun o ho => h o (List.mem_cons_of_mem _ ho)).trans (step_zone cfg s op (h op (List.mem_cons_self ..)))

theorem exit_zone (s : Txn) (exc : Bool) (h : exc = true ∨ s.readOnly = true) : (exitTxn s exc).zone = s.zone := by
  unfold exitTxn
  split
  · rfl
  · rcases endTxn_effect s (!exc) with e | e | e
    · exact e.2.zone
    · rw [e]
    · rcases h with rfl | h
      · exact absurd e.1 Bool.false_ne_true
      · exact absurd (e.2.1.symm.trans h) Bool.false_ne_true

theorem step_ended (cfg : Cfg) (s : Txn) (op : Op) (h : s.ended = true) (hgn : cfg.gn = false ∨ op.isGetNode = false) :
    step cfg s op = (s, .error .alreadyEnded) := by
  cases op with
  | getNode n =>
    rcases hgn with hgn | hgn
    · simp [step, h, hgn]
    · simp [Op.isGetNode] at hgn
  | _ => simp [step, endTxn, endTxnRaise, h]

theorem step_ended_state (cfg : Cfg) (s : Txn) (op : Op) (h : s.ended = true) : (step cfg s op).1 = s := by
  cases hop : op.isGetNode with
  | false => rw [step_ended cfg s op h (.inr hop)]
  | true =>
    cases op with
    | getNode n =>
      simp only [step]
      split
      · rfl
      · split <;> rfl
    | _ => exact absurd hop Bool.false_ne_true

theorem run_ended (cfg : Cfg) (ops : List Op) (s : Txn) (h : s.ended = true) : (run cfg s ops).1 = s := by
  induction ops with
  | nil => rfl
  | cons op rest ih =>
    simp only [run, step_ended_state cfg s op h]
    exact ih

theorem exit_ended (s : Txn) (exc : Bool) (h : s.ended = true) : exitTxn s exc = s := by
  unfold exitTxn; rw [if_pos h]

theorem run_append (cfg : Cfg) (a b : List Op) (s : Txn) :
    (run cfg s (a ++ b)).1 = (run cfg (run cfg s a).1 b).1 := by
  induction a generalizing s with
  | nil => rfl
  | cons op rest ih => exact ih _

theorem endTxn_ended (s : Txn) (commit : Bool) : (endTxn s commit).1.ended = true := by
  rcases endTxn_effect s commit with e | e | e
  · exact e.2.ended.trans e.1
  · rw [e]
  · rw [e.2.2]

theorem endTxnRaise_ended (s : Txn) : (endTxnRaise s).1.ended = true := by
  rcases endTxnRaise_effect s with e | e
  · exact e.2.ended.trans e.1
  · rw [e]

theorem abort_zone (cfg : Cfg) (s : Txn) (ops more : List Op) (exc : Bool) (e : Op)
    (he : e = .rollback ∨ e = .commitRaise) (h : ∀ op ∈ ops, op.isCommit = false) :
    (exitTxn (run cfg s (ops ++ e :: more)).1 exc).zone = s.zone := by
  have hend : (step cfg (run cfg s ops).1 e).1.ended = true := by
    rcases he with rfl | rfl
    · exact endTxn_ended _ _
    · exact endTxnRaise_ended _
  have hz : (step cfg (run cfg s ops).1 e).1.zone = s.zone :=
    (step_zone cfg _ e (by rcases he with rfl | rfl <;> rfl)).trans (run_zone cfg ops s h)
  rw [run_append]
  show (exitTxn (run cfg (step cfg (run cfg s ops).1 e).1 more).1 exc).zone = s.zone
  rw [run_ended cfg more _ hend, exit_ended _ _ hend, hz]

theorem step_readOnly_frame (cfg : Cfg) (s : Txn) (op : Op) (h : s.readOnly = true) :
    (step cfg s op).1.zone = s.zone ∧ (step cfg s op).1.readOnly = true := by
  rcases step_effect cfg s op with e | e | e
  · exact ⟨e.zone, e.readOnly.trans h⟩
  · rw [e]; exact ⟨rfl, h⟩
  · exact absurd (e.2.1.symm.trans h) Bool.false_ne_true

theorem run_readOnly_zone (cfg : Cfg) (ops : List Op) (s : Txn) (h : s.readOnly = true) :
    (run cfg s ops).1.zone = s.zone ∧ (run cfg s ops).1.readOnly = true := by
  induction ops generalizing s with
  | nil => exact ⟨rfl, h⟩
  | cons op rest ih =>
    have h1 := step_readOnly_frame cfg s op h
    have h2 := ih (step cfg s op).1 h1.2
    exact ⟨h2.1.trans h1.1, h2.2⟩

end
end Model.ZT
