import Proofs.RdataTextBitmap
/-! WKS service bitmaps (C05): setting the bits of the printed ports rebuilds the bitmap. -/
namespace Model
open Dnssec

theorem getD_append_zeros (bm : Bytes) (n k : Nat) : (bm ++ List.replicate n 0).getD k 0 = bm.getD k 0 := by
  by_cases hk : k < bm.length
  · simp [List.getD_eq_getElem?_getD, List.getElem?_append_left hk]
  · rw [getD_len_le bm k (by omega)]
    simp only [List.getD_eq_getElem?_getD, List.getElem?_append_right (by omega : bm.length ≤ k)]
    have := getD_replicate0 n (k - bm.length)
    simpa [List.getD_eq_getElem?_getD] using this

theorem wksSet_length (bm : Bytes) (s : Nat) : (wksSet bm s).length = max bm.length (s / 8 + 1) := by
  unfold wksSet
  simp only [List.length_set]
  split
  · simp; omega
  · omega

theorem wksSet_getD (bm : Bytes) (s k : Nat) :
    (wksSet bm s).getD k 0 = if k = s / 8 then bm.getD k 0 ||| (0x80 >>> (s % 8)) else bm.getD k 0 := by
  unfold wksSet
  simp only
  split
  · rename_i h
    rw [getD_set' _ _ _ _ (by simp; omega)]
    simp only [getD_append_zeros]
    by_cases hk : k = s / 8 <;> simp [hk]
  · rename_i h
    rw [getD_set' _ _ _ _ (by omega)]
    by_cases hk : k = s / 8 <;> simp [hk]

theorem wksSet_last (acc : Bytes) (p : Nat) (h : acc.getLast? ≠ some 0) : (wksSet acc p).getLast? ≠ some 0 := by
  rw [List.getLast?_eq_getElem?, wksSet_length]
  intro e
  have hv : (wksSet acc p).getD (max acc.length (p / 8 + 1) - 1) 0 = 0 := by simp [List.getD_eq_getElem?_getD, e]
  rw [wksSet_getD] at hv
  split at hv
  · -- the octet just written has the bit of `p`
    have hlt : p % 8 < 8 := Nat.mod_lt p (by decide)
    have := msbBit_or_bit (acc.getD (max acc.length (p / 8 + 1) - 1) 0) (p % 8) (p % 8) hlt hlt
    rw [hv, msbBit_zero] at this
    simp at this
  · -- the port lies before the last octet, which stays
    have hlen : max acc.length (p / 8 + 1) = acc.length := by omega
    exact getD_last_ne_zero acc (fun e => by simp [e] at hlen) h (hlen ▸ hv)

theorem wksFold_last (ps : List Nat) (acc : Bytes) (h : acc.getLast? ≠ some 0) : (ps.foldl wksSet acc).getLast? ≠ some 0 := by
  induction ps generalizing acc with
  | nil => exact h
  | cons p r ih => exact ih _ (wksSet_last acc p h)

theorem wksFold_bits (ps : List Nat) (acc : Bytes) (k j : Nat) (hj : j < 8) :
    msbBit ((ps.foldl wksSet acc).getD k 0) j = (msbBit (acc.getD k 0) j || decide (k * 8 + j ∈ ps)) := by
  induction ps generalizing acc with
  | nil => simp
  | cons p r ih =>
    simp only [List.foldl_cons]
    rw [ih (wksSet acc p), wksSet_getD]
    by_cases hk : k = p / 8
    · simp only [hk, if_true]
      rw [msbBit_or_bit _ _ _ hj (by omega)]
      have e : decide (p / 8 * 8 + j ∈ p :: r) = (decide (j = p % 8) || decide (p / 8 * 8 + j ∈ r)) := by
        by_cases hjp : j = p % 8
        · have : p / 8 * 8 + j = p := by omega
          rw [this]; simp [hjp]
        · have : p / 8 * 8 + j ≠ p := by omega
          simp [hjp, this]
      rw [e, Bool.or_assoc]
    · simp only [hk, if_false]
      have : k * 8 + j ≠ p := by omega
      simp [this]

theorem shift80_lt (b : Nat) : 0x80 >>> b < 256 := by
  have : 0x80 >>> b ≤ 0x80 := Nat.shiftRight_le _ _
  omega

theorem or_lt_256 (x y : Nat) (hx : x < 256) (hy : y < 256) : x ||| y < 256 :=
  Nat.or_lt_two_pow (n := 8) hx hy

theorem mem_set_lt (l : Bytes) (i v : Nat) (hl : ∀ x ∈ l, x < 256) (hv : v < 256) : ∀ x ∈ l.set i v, x < 256 := by
  intro x hx
  rcases List.mem_or_eq_of_mem_set hx with h | h
  · exact hl x h
  · omega

theorem wksSet_bytes (acc : Bytes) (p : Nat) (h : ∀ x ∈ acc, x < 256) : ∀ x ∈ wksSet acc p, x < 256 := by
  unfold wksSet
  simp only
  have hz : ∀ n, ∀ x ∈ acc ++ List.replicate n 0, x < 256 := by
    intro n x hx
    rcases List.mem_append.mp hx with h1 | h1
    · exact h x h1
    · have := List.eq_of_mem_replicate h1; omega
  split
  · exact mem_set_lt _ _ _ (hz _) (or_lt_256 _ _ (getD_lt _ _ (hz _)) (shift80_lt _))
  · exact mem_set_lt _ _ _ h (or_lt_256 _ _ (getD_lt _ _ h) (shift80_lt _))

theorem wksFold_bytes (ps : List Nat) (acc : Bytes) (h : ∀ x ∈ acc, x < 256) : ∀ x ∈ ps.foldl wksSet acc, x < 256 := by
  induction ps generalizing acc with
  | nil => exact h
  | cons p r ih => exact ih _ (wksSet_bytes acc p h)

theorem mem_wksPorts (bm : Bytes) (t : Nat) :
    t ∈ wksPorts bm ↔ ∃ k j, k < bm.length ∧ j < 8 ∧ msbBit (bm.getD k 0) j = true ∧ t = k * 8 + j := by
  unfold wksPorts
  rw [mem_windowTypesFrom]
  simp

theorem wks_ports_fold (bm : Bytes) (hb : ∀ x ∈ bm, x < 256) (hl : bm.getLast? ≠ some 0) :
    (wksPorts bm).foldl wksSet [] = bm := by
  refine bytes_ext_bits _ _ (wksFold_bytes _ _ (by simp)) hb (wksFold_last _ _ (by simp)) hl fun k j hj => ?_
  rw [wksFold_bits _ _ _ _ hj]
  simp only [List.getD_nil, msbBit_zero, Bool.false_or]
  rw [Bool.eq_iff_iff, decide_eq_true_iff, mem_wksPorts]
  constructor
  · rintro ⟨k', j', _, hj', hb', e⟩
    obtain ⟨rfl, rfl⟩ : k = k' ∧ j = j' := by omega
    exact hb'
  · exact fun hm => ⟨k, j, lt_length_of_msbBit hm, hj, hm, rfl⟩

theorem truncateBitmap_id (bm : Bytes) (hl : bm.getLast? ≠ some 0) : truncateBitmap bm = bm := by
  unfold truncateBitmap
  cases h : bm.reverse with
  | nil =>
    have : bm = [] := by simpa using h
    subst this; rfl
  | cons x xs =>
    have hx : x ≠ 0 := by
      intro e
      apply hl
      have : bm = (x :: xs).reverse := by rw [← h]; simp
      rw [this, e]; simp
    have : (x == 0) = false := by simpa using hx
    simp only [List.dropWhile_cons, this, Bool.false_eq_true, if_false, reduceCtorEq]
    rw [← h]; simp

theorem parseWksPorts_print (ps : List Nat) (acc : Bytes) (h : ∀ p ∈ ps, p ≤ 65535) :
    parseWksPorts (ps.map fun p => ⟨.ident, natToDec p⟩) acc = some (ps.foldl wksSet acc) := by
  induction ps generalizing acc with
  | nil => rfl
  | cons p r ih =>
    have hgt : ¬ p > 65535 := Nat.not_lt.mpr (h p (by simp))
    simp only [List.map_cons, parseWksPorts, unescapeCP_plain_all _ (natToDec_plain p), natToDec_ne_nil p, natToDec_all_isDigit p,
      decVal_natToDec, ne_eq, not_false_eq_true, and_self, if_true, hgt, if_false, List.foldl_cons]
    exact ih _ (fun q hq => h q (by simp [hq]))

theorem wksPorts_le (bm : Bytes) (hl : bm.length ≤ 8192) : ∀ p ∈ wksPorts bm, p ≤ 65535 := by
  intro p hp
  obtain ⟨k, j, hk, hj, _, e⟩ := (mem_wksPorts bm p).mp hp
  omega

end Model
