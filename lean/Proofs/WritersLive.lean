import Proofs.WritersFair
import Proofs.WritersStage
/-!
Liveness under bounded fairness: along every `k`-fair execution a writer that has arrived is admitted within an explicit
number of steps (`eventually_admitted_aux`), and a started reader finishes within an explicit number of steps whatever
the writers do (`reader_finishes`).  Both bounds are instances of `FairExec.within`: the measure is `rank` with, for a
writer, the stage thread and the pair (admissions still needed, `stageFuel`), for a reader, the reader itself and
`readerFuel`.  Everything is stated on the invariant `Inv`, not on reachability.
-/
namespace Model.Writers
variable {c : Cfg} {n k : Nat} {s s' : State} {t : Tid}

/-- admissions still needed until `w` is admitted (0 once it is) -/
def needD (s : State) (w : Tid) : Nat := s.arrivals.idxOf w + 1 - s.admitted.length

def stageM (s : State) (w : Tid) : Nat := needD s w * 40 + stageFuel (s.loc (stageThread s)).pc

theorem needD_pos (hi : Inv c n s) {w : Tid} (hw : w ∈ s.arrivals) (hna : w ∉ s.admitted) : 1 ≤ needD s w := by
  have hlt := List.idxOf_lt_length_of_mem hw
  have h := admitted_iff_position hi.q hi.arr.nodup
    ((List.getElem?_eq_getElem hlt).trans (congrArg some (List.getElem_idxOf hlt)))
  have : ¬ s.arrivals.idxOf w < s.admitted.length := fun h' => hna (h.mpr h')
  unfold needD; omega

theorem needD_of_queue (hi : Inv c n s) {j : Nat} {e : Ev} (hj : s.waiters[j]? = some e) :
    s.owner e ∈ s.arrivals ∧ needD s (s.owner e) = (tokPart s).length + j + 1 := by
  have hp := queue_position hi.q hj
  have hn := hi.arr.nodup
  have hlt : s.admitted.length + (tokPart s).length + j < s.arrivals.length := by
    rcases Nat.lt_or_ge (s.admitted.length + (tokPart s).length + j) s.arrivals.length with h1 | h1
    · exact h1
    · rw [List.getElem?_eq_none h1] at hp; cases hp
  rw [List.getElem?_eq_getElem hlt] at hp
  have he := Option.some.inj hp
  refine ⟨he ▸ List.getElem_mem hlt, ?_⟩
  have := hn.idxOf_getElem _ hlt
  rw [he] at this
  unfold needD; rw [this]; omega

theorem writer_rank_step {sk sk' : Tid → Nat} {w : Tid} (hi : Inv c n s) (hw : w ∈ s.arrivals) (hna : w ∉ s.admitted)
    (hst : FStep c k s sk t s' sk') :
    rank k s' sk' (stageThread s') (stageM s' w) < rank k s sk (stageThread s) (stageM s w) := by
  have hp := pending_ne_nil hi.q hw hna
  have htr := step_trans hst.step
  have hD := needD_pos hi hw hna
  have hidx := idxOf_trans hw htr
  apply rank_step hi hst
  · intro e
    rcases stage_self hi hp htr e.symm with h | ⟨h1, h2⟩
    · have hf := stageFuel_lt (s'.loc (stageThread s')).pc
      unfold stageM needD at *
      rw [hidx, h, List.length_append, List.length_singleton]
      omega
    · unfold stageM needD
      rw [hidx, h1]; omega
  · intro hne
    obtain ⟨h1, h2⟩ := stage_other hi hp htr hne
    refine ⟨h1, ?_⟩
    have hloc : s'.loc (stageThread s) = s.loc (stageThread s) := htr.loc_ne (fun e => hne e.symm)
    unfold stageM needD
    rw [hidx, h2, h1, hloc]
  · exact stage_enabled hi hp
  · exact (stageFuel_not_idle _ (stage_fuel_pos hi hp)).1

/-- the side condition of the writer's ranking argument: the invariant, and `w` has arrived -/
theorem arrived_step {w : Tid} (hJ : Inv c n s ∧ w ∈ s.arrivals) (ht : t < n) (htr : Trans c s t s') :
    Inv c n s' ∧ w ∈ s'.arrivals :=
  ⟨inv_trans hJ.1 ht htr, mem_arrivals_trans hJ.2 htr⟩

theorem writer_admitted_or_rank {sk sk' : Tid → Nat} {w : Tid} {L : Nat} (hi : Inv c n s) (hw : w ∈ s.arrivals)
    (hx : FairExec c n k s sk L s' sk') :
    w ∈ s'.admitted ∨
      ((Inv c n s' ∧ w ∈ s'.arrivals) ∧
        L + rank k s' sk' (stageThread s') (stageM s' w) ≤ rank k s sk (stageThread s) (stageM s w)) :=
  hx.descent (G := fun s => w ∈ s.admitted) (ρ := fun s sk => rank k s sk (stageThread s) (stageM s w))
    (fun h htr => htr.mem_admitted h)
    (fun ht hJ hna hst => ⟨arrived_step hJ ht (step_trans hst.step), writer_rank_step hJ.1 hJ.2 hna hst⟩) ⟨hi, hw⟩

/-- explicit bound: `360 * (d + 1) * (k + 1)^2` steps of a `k`-fair scheduler, where `d` is the number of admissions
still needed (queue position + token holder + 1) -/
def admitBound (k d : Nat) : Nat := 360 * (d + 1) * (k + 1) * (k + 1)

theorem admitBound_mono {k d d' : Nat} (h : d ≤ d') : admitBound k d ≤ admitBound k d' := by
  unfold admitBound
  exact Nat.mul_le_mul_right _ (Nat.mul_le_mul_right _ (Nat.mul_le_mul_left _ (by omega)))

/-- `stageM` is the pair (admissions needed, `stageFuel`) in radix 40 (`stageFuel_lt`) -/
theorem stageM_lt (s : State) (w : Tid) : stageM s w < 40 * (needD s w + 1) := by
  have := stageFuel_lt (s.loc (stageThread s)).pc
  unfold stageM; omega

/-- 360 = 9 · 40: `rank_le` (radix 9 for `lockFuel`) applied to `stageM_lt` -/
theorem rank_le_admitBound (k : Nat) (s : State) (sk : Tid → Nat) (w : Tid) :
    rank k s sk (stageThread s) (stageM s w) ≤ admitBound k (needD s w) := by
  refine Nat.le_trans (rank_le _ _ _ _ _) ?_
  have : 9 * (stageM s w + 1) ≤ 360 * (needD s w + 1) := by have := stageM_lt s w; omega
  exact Nat.mul_le_mul_right _ (Nat.mul_le_mul_right _ this)

theorem eventually_admitted_aux {sk sk' : Tid → Nat} {w : Tid} {L : Nat} (hi : Inv c n s) (hw : w ∈ s.arrivals)
    (hx : FairExec c n k s sk L s' sk') (hL : admitBound k (needD s w) ≤ L) : w ∈ s'.admitted :=
  hx.within (G := fun s => w ∈ s.admitted) (ρ := fun s sk => rank k s sk (stageThread s) (stageM s w))
    (fun h htr => htr.mem_admitted h)
    (fun ht hJ hna hst => ⟨arrived_step hJ ht (step_trans hst.step), writer_rank_step hJ.1 hJ.2 hna hst⟩)
    (fun hJ hna => rank_pos (Nat.lt_of_lt_of_le (Nat.mul_pos (needD_pos hJ.1 hJ.2 hna) (by decide)) (Nat.le_add_right _ _)))
    ⟨hi, hw⟩ (Nat.le_trans (rank_le_admitBound k s sk w) hL)

/-- exactly one unit, except that a failed lookup `reader(id=..)` skips to the release -/
theorem reader_step_fuel (hp : readerPc (s.loc t).pc = true) (htr : Trans c s t s') :
    readerFuel (s'.loc t).pc + 1 ≤ readerFuel (s.loc t).pc :=
  readerFuel_succ _ hp _ htr.pc_mem

theorem reader_rank_step {sk sk' : Tid → Nat} {r : Tid} (hi : Inv c n s) (hrole : c.role r = .reader)
    (hidle : (s.loc r).pc ≠ .idle) (hd : (s.loc r).pc ≠ .done) (hst : FStep c k s sk t s' sk') :
    rank k s' sk' r (readerFuel (s'.loc r).pc) < rank k s sk r (readerFuel (s.loc r).pc) := by
  have hp := hi.rd r hrole
  have htr := step_trans hst.step
  apply rank_step hi hst
  · intro e; subst e
    have := reader_step_fuel hp htr; omega
  · intro hne
    exact ⟨rfl, by rw [htr.loc_ne (fun e => hne e.symm)]⟩
  · exact reader_enabled hi hp hd
  · exact hidle

/-- `readers_wait_free`, finitary form: the bound is `rank_le` at `readerFuel ≤ 10` (`readerFuel_started`) -/
theorem reader_finishes {sk sk' : Tid → Nat} {r : Tid} {L : Nat} (hi : Inv c n s) (hrole : c.role r = .reader)
    (hidle : (s.loc r).pc ≠ .idle) (hx : FairExec c n k s sk L s' sk') (hL : 9 * (10 + 1) * (k + 1) * (k + 1) ≤ L) :
    (s'.loc r).pc = .done :=
  hx.within (G := fun s => (s.loc r).pc = .done) (J := fun s => Inv c n s ∧ (s.loc r).pc ≠ .idle)
    (ρ := fun s sk => rank k s sk r (readerFuel (s.loc r).pc)) (fun h htr => htr.done h)
    (fun ht hJ hd hst => ⟨⟨inv_trans hJ.1 ht (step_trans hst.step), (step_trans hst.step).not_idle hJ.2⟩,
      reader_rank_step hJ.1 hrole hJ.2 hd hst⟩)
    (fun hJ hd => rank_pos (readerFuel_pos _ (hJ.1.rd r hrole) hd)) ⟨hi, hidle⟩
    (Nat.le_trans (Nat.le_trans (rank_le k s sk r _)
      (Nat.mul_le_mul_right _ (Nat.mul_le_mul_right _ (Nat.mul_le_mul_left _ (Nat.succ_le_succ (readerFuel_started _ hidle)))))) hL)

end Model.Writers
