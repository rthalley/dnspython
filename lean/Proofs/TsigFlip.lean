import Proofs.TsigInject
/-! What the (input, MAC) pair authenticates octet for octet (`same_pair_agree`), hence where a single-bit alteration that
reaches the MAC comparison with the genuine pair can lie. -/
namespace Model.Tsig
open Model Rfc8945

theorem mask_pos (i : Nat) : 0 < 128 >>> (i % 8) ∧ 128 >>> (i % 8) < 256 := by
  rw [Nat.shiftRight_eq_div_pow]
  have h : 2 ^ (i % 8) ≤ 2 ^ 7 := Nat.pow_le_pow_right (by decide) (by omega)
  exact ⟨Nat.div_pos h (Nat.pow_pos (by decide)), Nat.lt_of_le_of_lt (Nat.div_le_self _ _) (by decide)⟩

theorem xor_ne_self (x m : Nat) (hm : 0 < m) : x ^^^ m ≠ x := by
  intro h
  have : x ^^^ (x ^^^ m) = x ^^^ x := by rw [h]
  rw [← Nat.xor_assoc, Nat.xor_self, Nat.zero_xor] at this
  omega

theorem flipBit_length (w : Bytes) (i : Nat) : (flipBit w i).length = w.length := by
  simp [flipBit]

theorem flipBit_getElem_ne (w : Bytes) (i j : Nat) (h : j ≠ i / 8) : (flipBit w i)[j]? = w[j]? := by
  unfold flipBit
  rw [List.getElem?_set_ne (Ne.symm h)]

theorem flipBit_getElem_eq (w : Bytes) (i : Nat) (h : i / 8 < w.length) : (flipBit w i)[i / 8]? ≠ w[i / 8]? := by
  unfold flipBit
  rw [List.getElem?_set_self h, List.getElem?_eq_getElem h]
  intro e
  have e := Option.some.inj e
  rw [List.getD_eq_getElem?_getD, List.getElem?_eq_getElem h] at e
  exact xor_ne_self _ _ (mask_pos i).1 e

theorem flipBit_octets (w : Bytes) (i : Nat) (ho : OctetsOk w) : OctetsOk (flipBit w i) := by
  intro x hx
  unfold flipBit at hx
  rcases List.mem_or_eq_of_mem_set hx with h | h
  · exact ho x h
  · rw [h]
    have a := getD_lt w ho (i / 8)
    exact Nat.xor_lt_two_pow (n := 8) a (mask_pos i).2

/-- **what the (input, MAC) pair authenticates.**  Two messages of one length, both accepted with the same pair (first form
of `_digest`), whose TSIG owner names are written alike: then the owner names end at the same place and the messages are
the same octet for octet, except in the ID, in the TTL of the TSIG RR unless the reader demands 0 there, and in the
encoding of the algorithm name (which ends where the fixed-layout tail of the RDATA begins). -/
theorem same_pair_agree {V V' : Verifier} {tbl : List AlgEntry} {strict : Bool} {w w' : Bytes} {k k' : Key} {now now' : Nat}
    {rm : Bytes} {ctx : Option Ctx} {multi : Bool} {s p s' p' : Nat} {o o' : Name} {rd rd' : Rdata} {c c' : Ctx}
    {c1 c1' : Option Ctx} (ho : OctetsOk w) (ho' : OctetsOk w') (hl' : w'.length = w.length)
    (hfirst : multi = false ∨ ctx = none)
    (a : Accepted V tbl w k now rm ctx multi s p o rd c c1) (a' : Accepted V' tbl w' k' now' rm ctx multi s' p' o' rd' c' c1')
    (hst : strict = true → rd32 w (p + 4) = 0) (hst' : strict = true → rd32 w' (p' + 4) = 0)
    (hd : c'.data = c.data) (hm : rd'.mac = rd.mac) (hown : AgreeOn w w' s p) :
    p' = p ∧ AgreeOn w w' 2 (p + 4) ∧ (strict = true → AgreeOn w w' (p + 4) (p + 8)) ∧ AgreeOn w w' (p + 8) (p + 10)
      ∧ AgreeOn w w' (w.length - (tsigTail rd).length) w.length := by
  obtain ⟨hs, hbody, _, hoid, ht, hf, hrest⟩ := same_input_same_content ho ho' a a' hd.symm
  obtain ⟨herr, hoth, _, _⟩ := hrest hfirst
  subst hs
  -- the owner name is written alike, so it ends at the same place
  have hbp := a.bounds
  obtain rfl : p' = p := Option.some.inj (a'.name.symm.trans (nameEnd_transfer a.name (Nat.le_refl _) (by omega) hown))
  -- the fixed-layout tails coincide and end both messages
  have htail : tsigTail rd' = tsigTail rd := by
    unfold tsigTail; rw [← ht, ← hf, hm, ← hoid, ← herr, ← hoth]
  obtain ⟨_, _, q, _, _, hat, hq⟩ := rdataParse_ok ho a.parse
  obtain ⟨_, _, q', _, _, hat', hq'⟩ := rdataParse_ok ho' a'.parse
  rw [htail] at hat' hq'
  obtain rfl : q' = q := by omega
  -- the ten octets of fixed fields behind the owner name lie inside both messages
  have inside : ∀ k n, k + n ≤ 10 → p' + k + n ≤ w.length ∧ p' + k + n ≤ w'.length := fun k n h =>
    have e : p' + k + n ≤ p' + 10 := by rw [Nat.add_assoc]; exact Nat.add_le_add_left h p'
    ⟨Nat.le_trans e (Nat.le.intro a.hdr), Nat.le_trans e (Nat.le.intro a'.hdr)⟩
  exact ⟨rfl, (AgreeOn.append (fun j h2 hj => (hbody j h2 hj).symm) hown).append
      ((rd16_inj w w' ho ho' p' (inside 0 2 (by decide)) (by rw [a.typ, a'.typ])).append
        (rd16_inj w w' ho ho' (p' + 2) (inside 2 2 (by decide)) (by rw [a.cls, a'.cls]))),
    fun hs => rd32_inj w w' ho ho' _ (inside 4 4 (by decide)) (by rw [hst hs, hst' hs]),
    rd16_inj w w' ho ho' _ (inside 8 2 (by decide)) (by have := a.hdr; have := a'.hdr; omega),
    (hat.agreeOn hat').mono (Nat.le_sub_of_add_le (Nat.le_of_eq hq)) (Nat.le_of_eq hq.symm)⟩

/-- a single flipped bit: it lies in octet `i / 8`, the one place where the two messages differ -/
theorem flip_same_pair_location {V V' : Verifier} {tbl : List AlgEntry} {strict : Bool} {w : Bytes} {k k' : Key} {now now' : Nat}
    {rm : Bytes} {ctx : Option Ctx} {multi : Bool} {s p s' p' : Nat} {o o' : Name} {rd rd' : Rdata} {c c' : Ctx}
    {c1 c1' : Option Ctx} {i : Nat} (ho : OctetsOk w) (hi : i < 8 * w.length) (hfirst : multi = false ∨ ctx = none)
    (a : Accepted V tbl w k now rm ctx multi s p o rd c c1)
    (a' : Accepted V' tbl (flipBit w i) k' now' rm ctx multi s' p' o' rd' c' c1')
    (hst : strict = true → rd32 w (p + 4) = 0) (hst' : strict = true → rd32 (flipBit w i) (p' + 4) = 0)
    (hd : c'.data = c.data) (hm : rd'.mac = rd.mac) :
    i < 16 ∨ (8 * s ≤ i ∧ i < 8 * p) ∨ (strict = false ∧ 8 * (p + 4) ≤ i ∧ i < 8 * (p + 8))
      ∨ (8 * (p + 10) ≤ i ∧ i / 8 + (tsigTail rd).length < w.length) := by
  have hi8 : i / 8 < w.length := by omega
  have hne := flipBit_getElem_eq w i hi8
  by_cases h1 : s ≤ i / 8 ∧ i / 8 < p
  · exact Or.inr (Or.inl ⟨by omega, by omega⟩)
  obtain ⟨_, h2, h3, h4, h5⟩ := same_pair_agree ho (flipBit_octets w i ho) (flipBit_length w i) hfirst a a' hst hst' hd hm
    (fun x _ _ => flipBit_getElem_ne w i x (by omega))
  -- the altered octet lies in none of the places where the two agree
  have n2 : ¬ (2 ≤ i / 8 ∧ i / 8 < p + 4) := fun hh => hne (h2 _ hh.1 hh.2)
  have n4 : ¬ (p + 8 ≤ i / 8 ∧ i / 8 < p + 10) := fun hh => hne (h4 _ hh.1 hh.2)
  have n5 : ¬ (w.length - (tsigTail rd).length ≤ i / 8) := fun hh => hne (h5 _ hh hi8)
  by_cases httl : p + 4 ≤ i / 8 ∧ i / 8 < p + 8
  · cases strict with
    | false => exact Or.inr (Or.inr (Or.inl ⟨rfl, by omega, by omega⟩))
    | true => exact absurd (h3 rfl _ httl.1 httl.2) hne
  · omega

end Model.Tsig
