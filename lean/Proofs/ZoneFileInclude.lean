import Model.ZoneFile
import Proofs.ZoneFileGenLine
/-!
`$INCLUDE file [origin]`: the directive pushes the parent's state and switches to the included text (with the origin
given, completed with the current origin); the end of the included text pops it.  For an included file of record lines:
the whole episode adds the file's records — read under the include origin — and hands the parent back *exactly* its
state (current origin, last owner, last and default TTL), positioned after the `$INCLUDE` line.
-/
namespace Model

theorem init_eq_after (t : List Nat) : TState.init t = after 0 false t := by
  simp [TState.init, after]

/-- the state `$INCLUDE` pushes -/
def savedOf (r : PState) (rest : List Nat) : Saved :=
  ⟨after 0 false rest, r.currentOrigin, r.lastName, r.lastTTL, r.lastTTLKnown, r.defaultTTL, r.defaultTTLKnown⟩

/-- a line that starts with the word `$INCLUDE`.  What the dispatch asks of the word is closed; the string literals are
turned into character lists by unification (`s2l_ofList`: evaluating them is slow) and the kernel evaluates the rest
in one go. -/
theorem lineStep_include (r : PState) (T : List Nat) (hT : startsDelim T)
    (htok : r.tok = after 0 false (s2l "$INCLUDE" ++ T)) : lineStep r = includeDirective r (after 0 false T) := by
  obtain ⟨⟨w1, w2, w3⟩, c1, c2, c3, c4, c5⟩ :
      (identOK (s2l "$INCLUDE") = true ∧ s2l "$INCLUDE" ≠ [] ∧ (s2l "$INCLUDE").head? = some 36) ∧
      directiveOf (s2l "$INCLUDE") ≠ s2l "$TTL" ∧ directiveOf (s2l "$INCLUDE") ≠ s2l "$ORIGIN" ∧
      directiveOf (s2l "$INCLUDE") ≠ s2l "$GENERATE" ∧ directiveOf (s2l "$INCLUDE") ≠ s2l "$UNICODE" ∧
      directiveOf (s2l "$INCLUDE") = s2l "$INCLUDE" := by
    repeat rw [s2l_ofList]
    decide +kernel
  rw [lineStep_dollar r _ T w1 w2 w3 hT htok, directive, if_neg c1, if_neg c2, if_neg c3, if_neg c4, if_pos c5]

/-- `$INCLUDE file [origin]⏎`: the origin given is completed with the current one; without it the included file is
read under the current origin `o` -/
theorem lineStep_include_file (r : PState) (fname rest content : List Nat) (ot? : Option (List Nat)) (o : Name)
    (hallow : r.allowInclude = true) (kf : TokOK fname)
    (hot : ∀ ot ∈ ot?, TokOK ot ∧ fromText ot r.currentOrigin = .ok o) (hno : ot? = none → r.currentOrigin = some o)
    (hfile : lookupFile r.files fname = some content)
    (htok : r.tok = after 0 false (s2l "$INCLUDE" ++ (32 :: (fname ++ optField ot? (10 :: rest))))) :
    lineStep r = .ok (.nothing, { r with tok := after 0 false content, currentOrigin := some o,
                                         saved := savedOf r rest :: r.saved }) := by
  rw [lineStep_include r _ (sp_startsDelim _) htok]
  cases ot? with
  | some ot =>
    obtain ⟨ko, hname⟩ := hot ot rfl
    simp only [includeDirective, optField, hallow, Bool.not_true, Bool.false_eq_true, if_false, bind, Except.bind, liftT,
      get_sp _ _ kf.ok kf.ne (sp_startsDelim _), get_sp _ _ ko.ok ko.ne (nl_startsDelim rest), identToken,
      Token.isIdentifier, beq_self_eq_true, if_true, hname, getEol_nl, hfile, pure, Except.pure, init_eq_after, savedOf]
  | none =>
    simp only [includeDirective, optField, hallow, Bool.not_true, Bool.false_eq_true, if_false, bind, Except.bind, liftT,
      get_sp _ _ kf.ok kf.ne (nl_startsDelim rest), get_eol_after', identToken, Token.isIdentifier, Token.isEolOrEof,
      beq_self_eq_true, Bool.true_or, hfile, pure, Except.pure, init_eq_after, savedOf, hno rfl]
    simp

theorem lineStep_pop (r : PState) (sv : Saved) (rest : List Saved) (h : r.tok = after 0 false [])
    (hsv : r.saved = sv :: rest) : lineStep r = .ok (.nothing, r.restore sv rest) := by
  rw [lineStep_eof_tok r _ _ (h ▸ get_first_eof) rfl, hsv]

theorem restore_savedOf (x r : PState) (rest : List Nat)
    (h1 : x.zoneOrigin = r.zoneOrigin) (h2 : x.relativize = r.relativize) (h3 : x.gfix = r.gfix)
    (h4 : x.files = r.files) (h5 : x.allowInclude = r.allowInclude) :
    x.restore (savedOf r rest) r.saved = { r with tok := after 0 false rest } := by
  cases x; cases r
  simp only at h1 h2 h3 h4 h5
  subst h1 h2 h3 h4 h5
  rfl

/-- the included lines and the end of the included text: from any state already switched to it -/
theorem run_included (r1 r : PState) (co zo : Name) (rest : List Nat) (ls : List GLine) (d : Option Nat)
    (hco : r1.currentOrigin = some co) (hzo : r1.zoneOrigin = some zo) (htok : r1.tok = after 0 false (glinesText ls))
    (hsv : r1.saved = savedOf r rest :: r.saved)
    (e1 : r1.zoneOrigin = r.zoneOrigin) (e2 : r1.relativize = r.relativize) (e3 : r1.gfix = r.gfix)
    (e4 : r1.files = r.files) (e5 : r1.allowInclude = r.allowInclude)
    (hd : ∀ d', d = some d' → r1.defaultTTLKnown = true ∧ r1.defaultTTL = d')
    (hok : LinesOK co zo r1.relativize r1.gfix r1.lastName d ls) :
    Run (ls.length + 1) r1 r1.effOrigin (ls.map GLine.entry) { r with tok := after 0 false rest } := by
  have htok' : r1.tok = after 0 false (glinesText ls ++ []) := by simpa using htok
  obtain ⟨a, b, c, dd, e, ff, g, _⟩ := finalStateR_fields ls [] r1 htok'
  have hpop := lineStep_pop (finalStateR ls [] r1) (savedOf r rest) r.saved a (e.trans hsv)
  rw [restore_savedOf _ r rest (b.trans e1) (c.trans e2) (dd.trans e3) (ff.trans e4) (g.trans e5)] at hpop
  exact (run_lines ls [] r1 co zo hco hzo htok' d (inheritsThroughout_of_default ls hd) hok).append_nothing
    (Run.nothing hpop _)

/-- the whole episode: the directive, the file's lines, its end -/
theorem run_include (r : PState) (zo o : Name) (fname rest : List Nat) (ot? : Option (List Nat)) (ls : List GLine)
    (d : Option Nat)
    (hallow : r.allowInclude = true) (kf : TokOK fname)
    (hot : ∀ ot ∈ ot?, TokOK ot ∧ fromText ot r.currentOrigin = .ok o) (hno : ot? = none → r.currentOrigin = some o)
    (hfile : lookupFile r.files fname = some (glinesText ls)) (hzo : r.zoneOrigin = some zo)
    (htok : r.tok = after 0 false (s2l "$INCLUDE" ++ (32 :: (fname ++ optField ot? (10 :: rest)))))
    (hd : ∀ d', d = some d' → r.defaultTTLKnown = true ∧ r.defaultTTL = d')
    (hok : LinesOK o zo r.relativize r.gfix r.lastName d ls) :
    Run (1 + (ls.length + 1)) r r.effOrigin (ls.map GLine.entry) { r with tok := after 0 false rest } :=
  (Run.nothing (lineStep_include_file r fname rest (glinesText ls) ot? o hallow kf hot hno hfile htok) _).trans
    (run_included { r with tok := after 0 false (glinesText ls), currentOrigin := some o, saved := savedOf r rest :: r.saved }
      r o zo rest ls d rfl hzo rfl rfl rfl rfl rfl rfl rfl hd hok)

/-- `$ORIGIN ot⏎`, the lines of the file, `$ORIGIN pt⏎` (the parent's origin written back): the same records are added
and the reader goes on at the same place under the same origins — but with the last owner and the TTL bookkeeping the
inlined lines left behind, which `$INCLUDE` restores (`run_include`) -/
theorem run_inline (r : PState) (co zo o : Name) (ot pt rest : List Nat) (ls : List GLine) (d : Option Nat)
    (hzo : r.zoneOrigin = some zo)
    (ko : TokOK ot) (hname : (identToken ot).asName r.currentOrigin false none = .ok o) (hoabs : isAbs o = true)
    (kp : TokOK pt) (hpname : (identToken pt).asName (some o) false none = .ok co) (hcabs : isAbs co = true)
    (htok : r.tok = after 0 false (originsText [(ot, o)] ++ (glinesText ls ++ (originsText [(pt, co)] ++ rest))))
    (hd : ∀ d', d = some d' → r.defaultTTLKnown = true ∧ r.defaultTTL = d')
    (hok : LinesOK o zo r.relativize r.gfix r.lastName d ls) :
    Run (1 + (ls.length + 1)) r r.effOrigin (ls.map GLine.entry)
      { finalStateR ls (originsText [(pt, co)] ++ rest)
          { r with tok := after 0 false (glinesText ls ++ (originsText [(pt, co)] ++ rest)), currentOrigin := some o } with
        tok := after 0 false rest, currentOrigin := some co } := by
  obtain ⟨a, b, _, _, _, _, _, hcur⟩ := finalStateR_fields ls (originsText [(pt, co)] ++ rest)
    { r with tok := after 0 false (glinesText ls ++ (originsText [(pt, co)] ++ rest)), currentOrigin := some o } rfl
  have hL := run_lines ls (originsText [(pt, co)] ++ rest)
    { r with tok := after 0 false (glinesText ls ++ (originsText [(pt, co)] ++ rest)), currentOrigin := some o } o zo rfl hzo
    rfl d (inheritsThroughout_of_default ls hd) hok
  exact (run_origins [(ot, o)] _ r zo hzo htok ⟨ko.ok, ko.ne, hname, hoabs, trivial⟩ _).trans
    (hL.append_nothing (run_origins [(pt, co)] rest _ zo (b.trans hzo) a
      (by rw [hcur]; exact ⟨kp.ok, kp.ne, hpname, hcabs, trivial⟩) _))

end Model
