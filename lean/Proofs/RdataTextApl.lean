import Proofs.RdataTextIP6
import Proofs.RdataTextField
import Proofs.RdataTextFieldHex
/-! APL items `[!]family:address/prefix` (C05): `split(sep, 1)` on the address characters, the item round trip, and the
ranges of an item accepted from text. -/
namespace Model

theorem addrCh_ne47 (a : List Nat) (h : ∀ x ∈ a, AddrCh x) : 47 ∉ a := by
  intro hm
  rcases h 47 hm with h | h | h
  · revert h; decide
  · cases h
  · cases h

theorem splitFirst_append (c : Nat) (a b : List Nat) (h : c ∉ a) : splitFirst c (a ++ c :: b) = some (a, b) := by
  induction a with
  | nil => simp [splitFirst]
  | cons x xs ih =>
    have hx : x ≠ c := fun e => h (by simp [e])
    have := ih (fun hm => h (by simp [hm]))
    simp [splitFirst, hx, this]

theorem aplBody_parse (f : Nat) (neg : Bool) (a : Text) (bytes : Bytes) (p : Nat) (ha : ∀ x ∈ a, AddrCh x)
    (hres : (f = 1 ∧ ip4Aton a = some bytes ∧ p ≤ 32) ∨ (f = 2 ∧ ip6Aton a = some bytes ∧ p ≤ 128) ∨
      (f ≠ 1 ∧ f ≠ 2 ∧ f ≤ 65535 ∧ a.length ≤ 127 ∧ unhexlify a = some bytes ∧ p ≤ 255)) :
    parseAplBody neg (natToDec f ++ 58 :: (a ++ 47 :: natToDec p)) = some (f, neg, bytes, p) := by
  unfold parseAplBody
  rw [splitFirst_append 58 _ _ (natToDec_no 58 (Or.inr (by decide)) f)]
  simp only [pyInt10_natToDec]
  rw [splitFirst_append 47 _ _ (addrCh_ne47 a ha)]
  simp only [pyInt10_natToDec]
  rcases hres with ⟨rfl, h4, hp⟩ | ⟨rfl, h6, hp⟩ | ⟨h1, h2, hf, hl, hu, hp⟩
  · simp [h4, hp]
  · simp [h6, hp]
  · have hf' : ¬ f > 65535 := by omega
    have hl' : ¬ a.length > 127 := by omega
    simp [h1, h2, hf', hl', hu, hp]

/-- an item with a text form: family 1 (4 octets, prefix ≤ 32), 2 (16 octets, prefix ≤ 128), or another 16-bit family
with at most 63 address octets (127 hex characters are the constructor's limit) and a prefix ≤ 255 -/
def AplItemOk (it : Nat × Bool × Bytes × Nat) : Prop :=
  (it.1 = 1 ∧ (∃ x0 x1 x2 x3, it.2.2.1 = [x0, x1, x2, x3] ∧ x0 < 256 ∧ x1 < 256 ∧ x2 < 256 ∧ x3 < 256) ∧ it.2.2.2 ≤ 32) ∨
  (it.1 = 2 ∧ it.2.2.1.length = 16 ∧ (∀ x ∈ it.2.2.1, x < 256) ∧ it.2.2.2 ≤ 128) ∨
  (it.1 ≠ 1 ∧ it.1 ≠ 2 ∧ it.1 ≤ 65535 ∧ it.2.2.1.length ≤ 63 ∧ (∀ x ∈ it.2.2.1, x < 256) ∧ it.2.2.2 ≤ 255)

theorem natToDec_head_ne33 (n : Nat) : ∃ d ds, natToDec n = d :: ds ∧ d ≠ 33 := by
  cases h : natToDec n with
  | nil =>
    have := natToDec_ne_nil n
    exact absurd h this
  | cons d ds =>
    have := natToDec_digits n d (by rw [h]; simp)
    exact ⟨d, ds, rfl, by omega⟩

theorem aplItem_rt (it : Nat × Bool × Bytes × Nat) (h : AplItemOk it) :
    ∃ t tok, TokRT printAplItem parseAplItem it t tok := by
  obtain ⟨f, neg, bytes, p⟩ := it
  -- the address text and its facts
  have key : ∃ a, (if f = 1 then ip4Ntoa bytes else if f = 2 then ip6Ntoa bytes else some (hexlify bytes)) = some a ∧ (∀ x ∈ a, AddrCh x) ∧
      ((f = 1 ∧ ip4Aton a = some bytes ∧ p ≤ 32) ∨ (f = 2 ∧ ip6Aton a = some bytes ∧ p ≤ 128) ∨
        (f ≠ 1 ∧ f ≠ 2 ∧ f ≤ 65535 ∧ a.length ≤ 127 ∧ unhexlify a = some bytes ∧ p ≤ 255)) := by
    rcases h with ⟨hf, ⟨x0, x1, x2, x3, hb, h0, h1, h2, h3⟩, hp⟩ | ⟨hf, hlen, hb, hp⟩ | ⟨h1, h2, hf, hlen, hb, hp⟩
    rotate_left 2
    · simp only at h1 h2 hf hlen hb hp
      refine ⟨hexlify bytes, by simp [h1, h2], hexlify_addrCh bytes hb, Or.inr (Or.inr ⟨h1, h2, hf, ?_, unhexlify_hexlify bytes hb, hp⟩)⟩
      rw [hexlify_length]; omega
    · simp only at hf hb hp; subst hf; subst hb
      obtain ⟨t, ht, hat⟩ := ip4_roundtrip x0 x1 x2 x3 h0 h1 h2 h3
      have htext : t = v4Text x0 x1 x2 x3 := by
        simp [ip4Ntoa] at ht; exact ht.symm
      refine ⟨t, by simp [ht], ?_, Or.inl ⟨rfl, hat, hp⟩⟩
      rw [htext]; exact v4Text_addrCh x0 x1 x2 x3
    · simp only at hf hlen hb hp; subst hf
      obtain ⟨t, ht, hch, hat⟩ := ip6_text bytes hlen hb
      exact ⟨t, by simp [ht], hch, Or.inr (Or.inl ⟨rfl, hat, hp⟩)⟩
  obtain ⟨a, hpa, hch, hres⟩ := key
  have hbody := aplBody_parse f neg a bytes p hch hres
  have hplbody : Plain (natToDec f ++ 58 :: (a ++ 47 :: natToDec p)) :=
    plain_append _ _ (natToDec_plain f) (plain_cons (by decide) (plain_append _ _ (plain_of_addrCh a hch)
      (plain_cons (by decide) (natToDec_plain p))))
  obtain ⟨d, ds, hd, hd33⟩ := natToDec_head_ne33 f
  cases neg with
  | true =>
    have hpl : Plain (33 :: (natToDec f ++ 58 :: (a ++ 47 :: natToDec p))) := plain_cons (by decide) hplbody
    refine ⟨_, _, tokRT_plain (by simp) hpl (by simp only [printAplItem]; rw [hpa]; simp) ?_⟩
    simp only [parseAplItem, unescapeCP_plain_all _ hpl, if_true]
    exact hbody
  | false =>
    refine ⟨_, _, tokRT_plain (by simp) hplbody (by simp only [printAplItem]; rw [hpa]; simp) ?_⟩
    simp only [parseAplItem, unescapeCP_plain_all _ hplbody]
    rw [hd] at hbody ⊢
    simp only [List.cons_append, hd33, if_false]
    exact hbody

/-- what `parseAplItem` guarantees: a 16-bit family, an 8-bit prefix, 4 / 16 address octets for the families 1 / 2 and at
most 63 (127 hex characters) for any other -/
def AplRange : Nat × Bool × Bytes × Nat → Prop
  | (f, _, a, p) => f ≤ 65535 ∧ p ≤ 255 ∧ if f = 1 then a.length = 4 else if f = 2 then a.length = 16 else a.length ≤ 63

/-- the two shapes of step in `parseAplBody`: `split(sep, 1)` and `int()`, each failing or handing on a pair.  (The model
writes the failing alternative first here, so `int()` has another `match` than in `Returns.match_int`.) -/
theorem Returns.match_split {α : Type} {P : α → Prop} {o : Option (List Nat × List Nat)} {f : List Nat → List Nat → Option α}
    (h : ∀ a b, Returns P (f a b)) : Returns P (match o with | .none => .none | .some (a, b) => f a b) := by
  cases o with
  | none => exact .none
  | some p => exact h p.1 p.2

theorem Returns.match_sign {α : Type} {P : α → Prop} {o : Option (Bool × Nat)} {f : Bool → Nat → Option α}
    (h : ∀ a b, Returns P (f a b)) : Returns P (match o with | .none => .none | .some (a, b) => f a b) := by
  cases o with
  | none => exact .none
  | some p => exact h p.1 p.2

theorem parseAplBody_range (neg : Bool) (item : List Nat) : Returns AplRange (parseAplBody neg item) := by
  unfold parseAplBody
  refine .match_split fun _ _ => .match_sign fun _ f => .ite_none fun hf => .match_split fun addr _ =>
    .match_sign fun _ p => .ite_none fun _ => ?_
  refine .ite (fun _ => ?_) fun f1 => .ite (fun _ => ?_) fun f2 => .ite_none fun hl => ?_
  · exact .match_some_of (ip4Aton_length addr) fun a ha => .ite_some fun hp => .some ⟨by omega, by omega, ha⟩
  · exact .match_some_of (ip6Aton_length addr) fun a ha => .ite_some fun hp => .some ⟨by omega, by omega, ha⟩
  · exact .match_some_of (unhexlify_length addr) fun a ha => .ite_some fun hp =>
      .some ⟨by omega, hp, by simp only [f1, f2, if_false]; omega⟩

theorem parseAplItem_range (t : Tok) : Returns AplRange (parseAplItem t) := by
  unfold parseAplItem
  split
  · exact .none
  · exact .none
  · exact .ite (fun _ => parseAplBody_range _ _) fun _ => parseAplBody_range _ _

theorem parseApl_range (toks : List Tok) : Returns (fun items => ∀ it ∈ items, AplRange it) (parseApl toks) :=
  parseApl_eq_mapM ▸ .mapM fun t _ => parseAplItem_range t

end Model
