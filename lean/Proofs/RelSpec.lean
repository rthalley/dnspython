import Proofs.RenderBasic
import Proofs.NameCompress
/-! The relation "decoded name vs written name" the render/parse proofs are parametric in, with its two instances:
`eqvSpec` — equal up to ASCII case (always available), and `exactSpec S` — identical, available when the names
written all lie in a suffix-closed set `S` no two members of which differ only in ASCII case (`CaseClosed`). -/
namespace Model

/-- the library's `Name.__eq__`: equal up to ASCII case -/
def NameEqv (a b : Name) : Prop := lowerName a = lowerName b

theorem TableSound.mono {R out t} (h : TableSound R out t) (ext : Bytes) : TableSound R (out ++ ext) t :=
  fun p hp => (h p hp).mono ext

theorem TableSound.append {R out a b} (ha : TableSound R out a) (hb : TableSound R out b) : TableSound R out (a ++ b) := by
  intro p hp
  rcases List.mem_append.mp hp with h | h
  · exact ha p h
  · exact hb p h

/-- a relation `R decoded written` together with the class `Good` of names for which writing them with compression
keeps every table entry `R`-decodable and makes the name itself `R`-decodable where it was written -/
structure RelSpec where
  R : Name → Name → Prop
  Good : Name → Prop
  toEqv : ∀ {a b : Name}, R a b → NameEqv a b
  goodRoot : Good [[]]
  rootRefl : R [[]] [[]]
  sound : ∀ (A : Bytes) (t : CTable) (full : Name), WfName full → isAbs full = true → Good full →
    TableSound R A t →
    TableSound R (A ++ (cLoop A.length t full).1) (t ++ (cLoop A.length t full).2) ∧
    ∃ ls, Dec (A ++ (cLoop A.length t full).1) A.length A.length ls (A.length + (cLoop A.length t full).1.length)
      ∧ R (ls ++ [[]]) full

theorem cLoop_sound (A : Bytes) (t : CTable) (full : Name) (hw : WfName full) (ha : isAbs full = true)
    (hs : TableSound NameEqv A t) :
    TableSound NameEqv (A ++ (cLoop A.length t full).1) (t ++ (cLoop A.length t full).2) ∧
    ∃ ls, Dec (A ++ (cLoop A.length t full).1) A.length A.length ls (A.length + (cLoop A.length t full).1.length)
      ∧ NameEqv (ls ++ [[]]) full := by
  obtain ⟨h4, h3⟩ := cLoop_sound_rel NameEqv
    (by intro l a b hab; simp [NameEqv, lowerName] at hab ⊢; exact hab) rfl A t full hw ha hs
    (fun p _ k hk m hm => hm.trans hk)
  exact ⟨(hs.mono _).append fun p hp => (h4 p hp).2, h3⟩

/-- names compared with the library's own equality: no side condition -/
def eqvSpec : RelSpec where
  R := NameEqv
  Good := fun _ => True
  toEqv := fun h => h
  goodRoot := trivial
  rootRefl := rfl
  sound := fun A t full hw ha _ hs => cLoop_sound A t full hw ha hs

/-- a set of names closed under taking suffixes, no two members of which are equal only up to ASCII case
(DESIGN §6 `CaseConsistent`, stated for the whole message) -/
structure CaseClosed (S : Name → Prop) : Prop where
  root : S [[]]
  drop : ∀ n k, S n → k < n.length → S (n.drop k)
  consistent : ∀ a b, S a → S b → lowerName a = lowerName b → a = b

def ExactIn (S : Name → Prop) (a b : Name) : Prop := a = b ∧ S b

theorem cLoop_sound_exact (S : Name → Prop) (hS : CaseClosed S) (A : Bytes) (t : CTable) (full : Name)
    (hw : WfName full) (ha : isAbs full = true) (hfull : S full) (hs : TableSound (ExactIn S) A t) :
    TableSound (ExactIn S) (A ++ (cLoop A.length t full).1) (t ++ (cLoop A.length t full).2) ∧
    ∃ ls, Dec (A ++ (cLoop A.length t full).1) A.length A.length ls (A.length + (cLoop A.length t full).1.length)
      ∧ ExactIn S (ls ++ [[]]) full := by
  -- the table is in particular sound for plain equality
  have hsEq : TableSound Eq A t := fun p hp' =>
    let ⟨h1, ls, fwd, hd, hr⟩ := hs p hp'
    ⟨h1, ls, fwd, hd, hr.1⟩
  have hdropS : ∀ k, k < full.length → S (full.drop k) := fun k hk => hS.drop full k hfull hk
  -- a hit is for a member of `S` equal up to case to a suffix, which is in `S` too: they are identical
  have hhit : ∀ p ∈ t, ∀ k, lowerName p.1 = lowerName (full.drop k) → ∀ m, m = p.1 → m = full.drop k := by
    intro p hp' k hk m hm
    rw [hm]
    obtain ⟨_, ls, fwd, _, hr⟩ := hs p hp'
    by_cases hkl : k < full.length
    · exact hS.consistent _ _ hr.2 (hdropS k hkl) hk
    · rw [List.drop_eq_nil_of_le (by omega)] at hk ⊢
      have := congrArg List.length hk
      simp only [lowerName, List.length_map, List.length_nil] at this
      exact List.length_eq_zero_iff.mp this
  obtain ⟨h4, ls, hd, hr⟩ := cLoop_sound_rel Eq (fun l a b hab => by rw [hab]) rfl A t full hw ha hsEq hhit
  refine ⟨(hs.mono _).append fun p hp' => ?_, ls, hd, hr, hfull⟩
  obtain ⟨⟨k, hk⟩, h5, ls', fwd, hd', hr'⟩ := h4 p hp'
  refine ⟨h5, ls', fwd, hd', hr', ?_⟩
  rw [hk]
  by_cases hkl : k < full.length
  · exact hdropS k hkl
  · -- an entry for the empty suffix is never made; its key would be []
    rw [hk, List.drop_eq_nil_of_le (by omega)] at hr'
    simp at hr'

/-- names compared for identity, for messages all of whose names lie in a case-consistent suffix-closed set -/
def exactSpec (S : Name → Prop) (hS : CaseClosed S) : RelSpec where
  R := ExactIn S
  Good := S
  toEqv := fun h => by rw [h.1]; rfl
  goodRoot := hS.root
  rootRefl := ⟨rfl, hS.root⟩
  sound := fun A t full hw ha hg hs => cLoop_sound_exact S hS A t full hw ha hg hs

end Model
