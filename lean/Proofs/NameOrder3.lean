import Proofs.NameOrder
/-!
The second and third component of `fullcompare`: the reported relation and common-label count against their
specifications, hence `is_subdomain` / `is_superdomain` (the other name's `sortKey` is a prefix; so an ancestor sorts
first and the names below a name are an interval of the order), and `fullcompare` against a suffix, which is what
`parent` and `split` return.  Then relativity: what `relativize` returns below an origin and the two round trips of
`relativize` / `derelativize`.
-/
namespace Model
namespace NameOrder

theorem cpl_nil_right (xs : List Label) : commonPrefixLen xs [] = 0 := by
  cases xs <;> simp [commonPrefixLen]

theorem cpl_nil_left (ys : List Label) : commonPrefixLen [] ys = 0 := by
  cases ys <;> simp [commonPrefixLen]

theorem cpl_le (xs ys : List Label) :
    commonPrefixLen xs ys ≤ xs.length ∧ commonPrefixLen xs ys ≤ ys.length := by
  induction xs generalizing ys with
  | nil => simp [cpl_nil_left]
  | cons x xs ih =>
    cases ys with
    | nil => simp [cpl_nil_right]
    | cons y ys =>
      simp only [commonPrefixLen, List.length_cons]
      have := ih ys
      split <;> omega

theorem cpl_eq_right_iff (xs ys : List Label) :
    commonPrefixLen xs ys = ys.length ↔ ys.map lowerLabel <+: xs.map lowerLabel := by
  induction xs generalizing ys with
  | nil => cases ys <;> simp [cpl_nil_left]
  | cons x xs ih =>
    cases ys with
    | nil => simp [cpl_nil_right]
    | cons y ys =>
      simp only [commonPrefixLen, List.length_cons, List.map_cons, List.cons_prefix_cons]
      by_cases h : lowerLabel x = lowerLabel y
      · simp [h, ih ys]
      · have h' : ¬ lowerLabel y = lowerLabel x := fun e => h e.symm
        simp [h, h']

theorem relCode_sub (c la lb : Nat) : (relCode c la lb = 2 ∨ relCode c la lb = 3) ↔ c = lb := by
  unfold relCode
  repeat' split
  all_goals omega

/-- the loop stopped early -/
theorem relCode_lt {c la lb : Nat} (h1 : c < la) (h2 : c < lb) : relCode c la lb = if c > 0 then 4 else 0 := by
  rw [relCode, if_neg fun h => Nat.ne_of_lt h1 h.1, if_neg (Nat.ne_of_lt h1), if_neg (Nat.ne_of_lt h2)]

/-- the loop ran through the shorter name: the relation is read off the sign of `ldiff` -/
theorem relCode_min (la lb : Nat) : relCode (min la lb) la lb =
    if (la : Int) - lb < 0 then 1 else if (la : Int) - lb > 0 then 2 else 3 := by
  rcases Nat.lt_trichotomy la lb with h | rfl | h
  · rw [Nat.min_eq_left (Nat.le_of_lt h), relCode, if_neg fun e => Nat.ne_of_lt h e.2, if_pos rfl,
      if_pos (by omega)]
  · rw [Nat.min_self, relCode, if_pos ⟨rfl, rfl⟩, Int.sub_self]; rfl
  · rw [Nat.min_eq_right (Nat.le_of_lt h), relCode, if_neg fun e => Nat.ne_of_lt h e.1,
      if_neg (Nat.ne_of_lt h), if_pos rfl, if_neg (by omega), if_pos (by omega)]

theorem fullcompare_reln (a b : Name) :
    (fullcompare a b).1 = relationSpec a b ∧ (fullcompare a b).2.2 = commonLabels a b := by
  rw [relationSpec, commonLabels]
  by_cases h : isAbs a = isAbs b
  · rw [if_pos h, if_pos h]
    rcases fullcompare_same_cases a b h with ⟨h1, h2, e⟩ | ⟨h1, e, _⟩
    · rw [e]; exact ⟨(relCode_lt h1 h2).symm, rfl⟩
    · rw [e, h1]; exact ⟨(relCode_min _ _).symm, rfl⟩
  · rw [fullcompare_diff a b h, if_neg h, if_neg h]
    split <;> exact ⟨rfl, rfl⟩

theorem relationSpec_sub_iff (a b : Name) :
    (relationSpec a b = 2 ∨ relationSpec a b = 3) ↔
      isAbs a = isAbs b ∧ commonPrefixLen a.reverse b.reverse = b.length := by
  unfold relationSpec
  by_cases h : isAbs a = isAbs b
  · simp only [h, if_true, true_and]
    exact relCode_sub _ _ _
  · simp [h]

theorem isSubdomain_iff_spec (a b : Name) :
    isSubdomain a b = true ↔ (relationSpec a b = 2 ∨ relationSpec a b = 3) := by
  unfold isSubdomain
  rw [(fullcompare_reln a b).1]
  simp

theorem isSubdomain_iff (a b : Name) :
    isSubdomain a b = true ↔ isAbs a = isAbs b ∧ lowerName b <:+ lowerName a := by
  have h2 := cpl_eq_right_iff a.reverse b.reverse
  simp only [List.length_reverse] at h2
  rw [isSubdomain_iff_spec, relationSpec_sub_iff, h2, List.map_reverse, List.map_reverse, List.reverse_prefix]
  rfl

theorem isSubdomain_iff_revLower (a b : Name) :
    isSubdomain a b = true ↔ isAbs a = isAbs b ∧ revLower b <+: revLower a := by
  rw [isSubdomain_iff, revLower, revLower, List.reverse_prefix]

theorem isSubdomain_iff_sortKey (a b : Name) : isSubdomain a b = true ↔ sortKey b <+: sortKey a :=
  (isSubdomain_iff_revLower a b).trans (sortKey_prefix_iff a b).symm

theorem isSubdomain_refl (a : Name) : isSubdomain a a = true :=
  (isSubdomain_iff a a).2 ⟨rfl, List.suffix_refl _⟩

theorem isSubdomain_trans {a b c : Name} (h1 : isSubdomain a b = true) (h2 : isSubdomain b c = true) :
    isSubdomain a c = true :=
  let ⟨e1, s1⟩ := (isSubdomain_iff a b).1 h1
  let ⟨e2, s2⟩ := (isSubdomain_iff b c).1 h2
  (isSubdomain_iff a c).2 ⟨e1.trans e2, s2.trans s1⟩

theorem isSubdomain_length {a b : Name} (h : isSubdomain a b = true) : b.length ≤ a.length := by
  simpa only [length_lowerName] using ((isSubdomain_iff a b).1 h).2.length_le

theorem isSubdomain_congr {a a' b b' : Name} (ha : lowerName a = lowerName a') (hb : lowerName b = lowerName b') :
    isSubdomain a b = isSubdomain a' b' := by
  rw [isSubdomain, isSubdomain, fullcompare_congr ha hb]

theorem isSubdomain_of_suffix {r o : Name} (ho : o ≠ []) (hs : lowerName o <:+ lowerName r) :
    isSubdomain r o = true := by
  refine (isSubdomain_iff r o).2 ⟨?_, hs⟩
  rw [← isAbs_lowerName r, ← isAbs_lowerName o]
  exact isAbs_of_suffix _ _ (mt List.map_eq_nil_iff.1 ho) hs

/-! ### order and hierarchy: an ancestor comes first, subtrees are intervals, ancestors form a chain -/

theorem prefix_of_between {p y z : List Label} (hpz : p <+: z) (hpy : p ≤ y) (hyz : y ≤ z) : p <+: y := by
  induction p generalizing y z with
  | nil => exact List.nil_prefix
  | cons a as ih =>
    cases z with
    | nil => cases List.eq_nil_of_prefix_nil hpz
    | cons c cs =>
      obtain ⟨rfl, hp⟩ := List.cons_prefix_cons.1 hpz
      cases y with
      | nil => exact absurd (List.nil_lt_cons a as) (List.not_lt.2 hpy)
      | cons b bs =>
        -- `a :: as ≤ b :: bs ≤ a :: cs` squeezes the head
        rcases List.cons_le_cons_iff.1 hpy with h1 | ⟨rfl, h1⟩
        · rcases List.cons_le_cons_iff.1 hyz with h2 | ⟨rfl, _⟩
          · exact absurd h2 (List.lt_asymm h1)
          · exact absurd h1 (List.lt_irrefl _)
        · rcases List.cons_le_cons_iff.1 hyz with h2 | ⟨_, h2⟩
          · exact absurd h2 (List.lt_irrefl _)
          · exact List.cons_prefix_cons.2 ⟨rfl, ih hp h1 h2⟩

theorem isSubdomain_le {a b : Name} (h : isSubdomain a b = true) : cmpOrder b a ≤ 0 :=
  (cmpOrder_le_iff_sortKey b a).2 ((isSubdomain_iff_sortKey a b).1 h).le

theorem isSubdomain_convex {a b c : Name} (hc : isSubdomain c a = true) (h1 : cmpOrder a b ≤ 0) (h2 : cmpOrder b c ≤ 0) :
    isSubdomain b a = true :=
  (isSubdomain_iff_sortKey b a).2 (prefix_of_between ((isSubdomain_iff_sortKey c a).1 hc)
    ((cmpOrder_le_iff_sortKey a b).1 h1) ((cmpOrder_le_iff_sortKey b c).1 h2))

theorem isSubdomain_chain {m a b : Name} (ha : isSubdomain m a = true) (hb : isSubdomain m b = true) :
    isSubdomain a b = true ∨ isSubdomain b a = true :=
  (List.prefix_or_prefix_of_prefix ((isSubdomain_iff_sortKey m a).1 ha) ((isSubdomain_iff_sortKey m b).1 hb)).symm.imp
    (isSubdomain_iff_sortKey a b).2 (isSubdomain_iff_sortKey b a).2

/-! ### the relation from the other name's side and against a suffix, which is what `parent` and `split` return -/

theorem isSuperdomain_iff (a b : Name) : isSuperdomain a b = isSubdomain b a := by
  rw [isSuperdomain, isSubdomain, fullcompare_swap a b]
  dsimp only
  generalize (fullcompare a b).1 = r
  match r with
  | 0 | 1 | 2 | 3 | _ + 4 => rfl

theorem fullcompare_suffix (a b : Name) (h : isAbs a = isAbs b) (hs : b <:+ a) :
    fullcompare a b = (if a.length = b.length then 3 else 2, (a.length : Int) - b.length, b.length) := by
  have hlen : b.length ≤ a.length := hs.length_le
  have hc : commonPrefixLen a.reverse b.reverse = b.length := by
    have := (cpl_eq_right_iff a.reverse b.reverse).2
      (by rw [List.map_reverse, List.map_reverse, List.reverse_prefix]; exact hs.map _)
    simpa using this
  rcases fullcompare_same_cases a b h with ⟨_, h2, _⟩ | ⟨_, e, _⟩
  · exact absurd hc (Nat.ne_of_lt h2)
  · rw [e, Nat.min_eq_right hlen, if_neg (by omega)]
    by_cases c : a.length = b.length
    · rw [if_pos c, c, Int.sub_self]; rfl
    · rw [if_neg c, if_pos (by omega)]

/-- relation code 3 ("equal") means equal up to case -/
theorem relation_eq_three_iff (a b : Name) : (fullcompare a b).1 = 3 ↔ lowerName a = lowerName b := by
  constructor
  · intro h
    have h1 : isSubdomain a b = true := by rw [isSubdomain, h]; rfl
    have h2 : isSubdomain b a = true := by rw [← isSuperdomain_iff, isSuperdomain, h]; rfl
    exact (((isSubdomain_iff b a).1 h2).2.eq_of_length_le (by
      rw [length_lowerName, length_lowerName]; exact isSubdomain_length h1))
  · intro h
    rw [fullcompare_congr h rfl, fullcompare_suffix b b rfl (List.suffix_refl b), if_pos rfl]

/-- relation code 2 ("subdomain") means a proper subdomain -/
theorem relation_eq_two_iff (a b : Name) :
    (fullcompare a b).1 = 2 ↔ isSubdomain a b = true ∧ b.length < a.length := by
  have hne : (fullcompare a b).1 = 3 → a.length = b.length := fun h =>
    lowerName_length a b ((relation_eq_three_iff a b).1 h)
  constructor
  · intro h
    have hs : isSubdomain a b = true := by rw [isSubdomain, h]; rfl
    refine ⟨hs, Nat.lt_of_le_of_ne (isSubdomain_length hs) fun e => ?_⟩
    -- a subdomain with as many labels is the name itself up to case, which has code 3
    have := (relation_eq_three_iff a b).2 (((isSubdomain_iff a b).1 hs).2.eq_of_length_le (by
      rw [length_lowerName, length_lowerName, e]; exact Nat.le_refl _)).symm
    rw [h] at this; cases this
  · rintro ⟨hs, hl⟩
    rcases (isSubdomain_iff_spec a b).1 hs with h | h <;> rw [← (fullcompare_reln a b).1] at h
    · exact h
    · exact absurd (hne h) (Nat.ne_of_gt hl)

theorem parent_spec (a p : Name) (h : parent a = .ok p) :
    p = a.drop 1 ∧ p.length + 1 = a.length ∧ fullcompare a p = (2, 1, p.length) := by
  obtain ⟨hne, hp, _⟩ := parent_ok h
  cases a with
  | nil => exact absurd (Or.inr (nameEq_refl [])) hne
  | cons x s =>
    cases (hp : p = s)
    -- the name is not the root, so cutting off its first label does not change its relativity
    have hrel : isAbs (x :: s) = isAbs s := by
      cases s with
      | nil =>
        cases x with
        | nil => exact absurd (Or.inl (nameEq_refl [[]])) hne
        | cons _ _ => rfl
      | cons y t => exact isAbs_cons x _ (List.cons_ne_nil _ _)
    have := fullcompare_suffix (x :: s) s hrel (List.suffix_cons x s)
    simp only [List.length_cons] at this
    refine ⟨rfl, rfl, this.trans ?_⟩
    rw [if_neg (by omega)]
    congr 2
    omega

theorem split_spec (a x y : Name) (d : Nat) (h : split a d = .ok (x, y)) :
    x ++ y = a ∧ y.length = d ∧ d ≤ a.length := by
  rcases split_ok h with ⟨rfl, rfl, rfl⟩ | ⟨rfl, rfl, rfl⟩ | ⟨hd, h1, h2⟩
  · exact ⟨List.append_nil _, rfl, Nat.zero_le _⟩
  · exact ⟨rfl, rfl, Nat.le_refl _⟩
  · rw [validate_eq _ _ h1, validate_eq _ _ h2, List.length_drop]
    exact ⟨List.take_append_drop _ _, Nat.sub_sub_self (Nat.le_of_lt hd), Nat.le_of_lt hd⟩

theorem split_reln (a x y : Name) (d : Nat) (h : split a d = .ok (x, y)) (hd : 0 < d) :
    fullcompare a y = (if a.length = d then 3 else 2, (a.length : Int) - d, d) := by
  obtain ⟨h1, h2, _⟩ := split_spec a x y d h
  have hy : y ≠ [] := by intro e; subst e; simp at h2; omega
  have hs : y <:+ a := ⟨x, h1⟩
  have := fullcompare_suffix a y (isAbs_of_suffix a y hy hs) hs
  rw [h2] at this
  exact this

/-! ### relativity: `relativize` cuts off what `derelativize` appends, up to the case of the origin's labels -/

theorem below_of_append (n o : Name) (ho : isAbs o = true) :
    isAbs (n ++ o) = true ∧ isSubdomain (n ++ o) o = true ∧ lowerName o <:+ lowerName (n ++ o) :=
  have hsuf : lowerName o <:+ lowerName (n ++ o) := (List.suffix_append n o).map _
  ⟨isAbs_append_abs ho n, isSubdomain_of_suffix (ne_nil_of_isAbs ho) hsuf, hsuf⟩

theorem take_append_lower (a o : Name) (hsuf : lowerName o <:+ lowerName a) :
    lowerName (a.take (a.length - o.length) ++ o) = lowerName a := by
  obtain ⟨t, ht⟩ := hsuf
  have hk : a.length - o.length = t.length := by
    have := congrArg List.length ht
    simp only [lowerName, List.length_append, List.length_map] at this
    omega
  simp only [lowerName, List.map_append, List.map_take] at ht ⊢
  rw [hk, ← ht, List.take_left' rfl]

/-- what `relativize` returns for a legal name below a non-empty origin: the labels in front of the origin, a legal
relative name which, put back in front of the origin, is the name up to the case of the origin's labels -/
theorem relativize_below {a o : Name} (ha : WfName a) (ho : o ≠ []) (hs : isSubdomain a o = true) :
    relativize a o = .ok (a.take (a.length - o.length)) ∧ WfName (a.take (a.length - o.length)) ∧
      isAbs (a.take (a.length - o.length)) = false ∧
      lowerName (a.take (a.length - o.length) ++ o) = lowerName a :=
  have hpos : 0 < o.length := List.length_pos_iff.2 ho
  ⟨by rw [relativize_of_wf ha, if_pos hs], wf_take a ha _,
    isAbs_take_of_inner ha.2.2 (Nat.sub_lt (Nat.lt_of_lt_of_le hpos (isSubdomain_length hs)) hpos),
    take_append_lower a o ((isSubdomain_iff a o).1 hs).2⟩

theorem isAbs_take_of_sub {a o : Name} (ha : ∀ l ∈ a.dropLast, l ≠ []) (ho : isAbs o = true)
    (hs : isSubdomain a o = true) : isAbs (a.take (a.length - o.length)) = false :=
  have hpos : 0 < o.length := List.length_pos_iff.2 (ne_nil_of_isAbs ho)
  isAbs_take_of_inner ha (Nat.sub_lt (Nat.lt_of_lt_of_le hpos (isSubdomain_length hs)) hpos)

/-- labels put in front of a non-empty origin and cut off again are themselves, byte for byte (that they are legal
follows from the concatenation being legal) -/
theorem relativize_append {n o : Name} (ho : o ≠ []) (hw : WfName (n ++ o)) : relativize (n ++ o) o = .ok n := by
  have := relativize_of_wf hw o
  rwa [isSubdomain_of_suffix ho ((List.suffix_append n o).map _), if_pos rfl, List.length_append, Nat.add_sub_cancel,
    List.take_left' rfl] at this

theorem derel_rel (n o r : Name) (_ : WfName n) (hrel : isAbs n = false) (ho : isAbs o = true)
    (h : derelativize n o = .ok r) : r = n ++ o ∧ relativize r o = .ok n := by
  rw [derelativize_of_rel hrel] at h
  obtain ⟨rfl, hw⟩ := wf_of_validate _ _ h
  exact ⟨rfl, relativize_append (ne_nil_of_isAbs ho) hw⟩

/-- `relativize` then `derelativize` restores an absolute name, and any name below the origin (the empty origin
included: nothing is cut off and nothing appended), up to the case of the origin's labels -/
theorem rel_derel (a o : Name) (ha : WfName a) (hyp : isAbs a = true ∨ isSubdomain a o = true) :
    ∃ r a', relativize a o = .ok r ∧ derelativize r o = .ok a' ∧ lowerName a' = lowerName a ∧
      (o <:+ a → a' = a) := by
  cases hsub : isSubdomain a o with
  | false =>
    have habs : isAbs a = true := hyp.resolve_right fun h => absurd (hsub ▸ h) Bool.false_ne_true
    exact ⟨a, a, by rw [relativize_eq, hsub]; rfl, derelativize_of_abs habs o, rfl, fun _ => rfl⟩
  | true =>
    by_cases hone : o = []
    · subst hone
      have hrel : isAbs a = false := ((isSubdomain_iff a []).1 hsub).1
      refine ⟨a, a, ?_, ?_, rfl, fun _ => rfl⟩
      · rw [relativize_of_wf ha, hsub, if_pos rfl, List.length_nil, Nat.sub_zero, List.take_length]
      · rw [derelativize_of_rel hrel, List.append_nil]
        exact validate_of_wf a ha
    · obtain ⟨hr, _, hrel, hlow⟩ := relativize_below ha hone hsub
      refine ⟨_, _, hr, ?_, hlow, ?_⟩
      · rw [derelativize_of_rel hrel]
        exact validate_of_wf _ (wf_congr a _ hlow.symm ha)
      · rintro ⟨t, rfl⟩
        rw [List.length_append, Nat.add_sub_cancel, List.take_left' rfl]

end NameOrder
end Model
