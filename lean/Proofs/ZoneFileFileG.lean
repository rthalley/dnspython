import Model.ZoneFile
import Proofs.ZoneFileLineG
import Proofs.ZoneFileRebuild
/-!
Runs of record lines of any admissible shape: what one line leaves of the parser state (`afterG_frame`), the chain
conditions between consecutive lines (`LinesOK`), and the reader on such a run — it folds `txn.add` over the records
and goes on behind the run (`run_lines`, a `Run`: the notion "so many turns of the loop hand these records to `txn.add`",
which composes); a run from the initial state to the end of the text is a whole read (`zoneFromText_of_run`).
-/
namespace Model

theorem soaDefault_frame (r : PState) (ty : Nat) (rd : Rdata) :
    ∃ dt dk, soaDefault r ty rd = { r with defaultTTL := dt, defaultTTLKnown := dk } ∧
      (r.defaultTTLKnown = true → dk = true ∧ dt = r.defaultTTL) := by
  unfold soaDefault
  by_cases h : (!r.defaultTTLKnown) = true ∧ ty = tSOA
  · have hk : r.defaultTTLKnown ≠ true := by simpa using h.1
    rw [if_pos h]
    cases rd <;> exact ⟨_, _, rfl, fun h' => absurd h' hk⟩
  · rw [if_neg h]
    exact ⟨r.defaultTTL, r.defaultTTLKnown, rfl, fun h' => ⟨h', rfl⟩⟩

theorem soaDefault_other (r : PState) (ty : Nat) (rd : Rdata) (h : ty ≠ tSOA) : soaDefault r ty rd = r := by
  simp [soaDefault, h]

theorem afterG_frame (r : PState) (l : GLine) (rest : List Nat) :
    ∃ lt lk dt dk,
      afterG r l rest = { r with tok := after 0 false rest, lastName := some l.n, lastTTL := lt, lastTTLKnown := lk,
                                 defaultTTL := dt, defaultTTLKnown := dk } ∧
      (r.defaultTTLKnown = true → dk = true ∧ dt = r.defaultTTL) := by
  obtain ⟨dt, dk, h, hk⟩ := soaDefault_frame
    { ttlStated l.hdr.hasTTL l.ttl r with tok := after 0 false rest, lastName := some l.n } l.ty l.rd
  exact ⟨_, _, dt, dk, h, hk⟩

theorem afterG_inherit (r : PState) (l : GLine) (rest : List Nat) (h1 : l.hdr.hasTTL = false) (h2 : l.ty ≠ tSOA) :
    afterG r l rest = { r with tok := after 0 false rest, lastName := some l.n } := by
  rw [afterG, soaDefault_other _ _ _ h2, h1]
  rfl

theorem afterG_fields (r : PState) (l : GLine) (rest : List Nat) :
    (afterG r l rest).tok = after 0 false rest ∧ (afterG r l rest).currentOrigin = r.currentOrigin ∧
    (afterG r l rest).zoneOrigin = r.zoneOrigin ∧ (afterG r l rest).relativize = r.relativize ∧
    (afterG r l rest).gfix = r.gfix ∧ (afterG r l rest).lastName = some l.n ∧
    (r.defaultTTLKnown = true → (afterG r l rest).defaultTTLKnown = true ∧ (afterG r l rest).defaultTTL = r.defaultTTL) := by
  obtain ⟨_, _, _, _, h, hk⟩ := afterG_frame r l rest
  rw [h]
  exact ⟨rfl, rfl, rfl, rfl, rfl, rfl, hk⟩

theorem afterG_eff (r : PState) (l : GLine) (rest : List Nat) : (afterG r l rest).effOrigin = r.effOrigin := by
  obtain ⟨_, _, _, _, h, _⟩ := afterG_frame r l rest
  rw [h]
  rfl

def glinesText : List GLine → List Nat
  | [] => []
  | l :: rest => l.text ++ glinesText rest

theorem glinesText_eq_flatMap (ls : List GLine) : glinesText ls = ls.flatMap GLine.text := by
  induction ls with
  | nil => rfl
  | cons l r ih => simp [glinesText, ih]

/-- the lines are individually good, a blank owner repeats the previous line's owner, and an omitted TTL is the
`$TTL` default `d` -/
def LinesOK (co zo : Name) (rel gfix : Bool) : Option Name → Option Nat → List GLine → Prop
  | _, _, [] => True
  | ln, d, l :: rest =>
    l.Good co zo rel gfix ∧ (l.owner = none → ln = some l.n) ∧ (l.hdr.hasTTL = false → d = some l.ttl) ∧
    LinesOK co zo rel gfix (some l.n) d rest

theorem linesOK_of_owners {co zo : Name} {rel gfix : Bool} (ln : Option Name) (d : Option Nat) (ls : List GLine)
    (h : ∀ l ∈ ls, l.Good co zo rel gfix ∧ l.owner ≠ none ∧ (l.hdr.hasTTL = false → d = some l.ttl)) :
    LinesOK co zo rel gfix ln d ls := by
  induction ls generalizing ln with
  | nil => trivial
  | cons l rest ih =>
    obtain ⟨g, o, t⟩ := h l (by simp)
    exact ⟨g, fun e => absurd e o, t, ih _ fun x hx => h x (by simp [hx])⟩

def finalStateR : List GLine → List Nat → PState → PState
  | [], _, r => r
  | l :: ls, rest, r => finalStateR ls rest (afterG r l (glinesText ls ++ rest))

/-- `d` is what an omitted TTL stands for throughout the run `ls`: the reader inherits it at the start, and it stays
inherited because it is the known default (which record lines keep) or because no line of the run states a TTL or is an
SOA (so that the bookkeeping does not move) -/
def InheritsThroughout (d : Option Nat) (r : PState) (ls : List GLine) : Prop :=
  ∀ d', d = some d' → r.inheritedTTL = some d' ∧
    (r.defaultTTLKnown = true ∨ ∀ l ∈ ls, l.hdr.hasTTL = false ∧ l.ty ≠ tSOA)

theorem inheritsThroughout_of_default {d : Option Nat} {r : PState} (ls : List GLine)
    (hd : ∀ d', d = some d' → r.defaultTTLKnown = true ∧ r.defaultTTL = d') : InheritsThroughout d r ls :=
  fun d' h => ⟨by rw [inheritedTTL_default r (hd d' h).1, (hd d' h).2], Or.inl (hd d' h).1⟩

theorem InheritsThroughout.step {d : Option Nat} {r : PState} {l : GLine} {ls : List GLine}
    (h : InheritsThroughout d r (l :: ls)) (rest : List Nat) : InheritsThroughout d (afterG r l rest) ls := by
  intro d' hd'
  obtain ⟨i1, i2⟩ := h d' hd'
  rcases i2 with k | hall
  · obtain ⟨g1, g2⟩ := (afterG_fields r l rest).2.2.2.2.2.2 k
    rw [inheritedTTL_default r k] at i1
    exact ⟨by rw [inheritedTTL_default _ g1, g2]; exact i1, Or.inl g1⟩
  · rw [afterG_inherit r l rest (hall l (by simp)).1 (hall l (by simp)).2]
    exact ⟨i1, Or.inr fun x hx => hall x (by simp [hx])⟩

/-- `n` turns of the loop of `Reader.read` from `r` hand the records `es` to `txn.add`, in this order and all under the
effective origin `e`, and leave the parser in `r'`.  Stated on the parser's trace: the zone plays no part, and turns that
hand over nothing (blank lines, `$TTL`, `$ORIGIN`, the end of an included file) are runs under any `e`.  `Run.apply` is
the statement about `readLoop`. -/
def Run (n : Nat) (r : PState) (e : Option Name) (es : List Entry) (r' : PState) : Prop :=
  ∀ f, parseTrace (f + n) r = es.foldr (Trace.entry e) (parseTrace f r')

theorem Run.refl (r : PState) (e : Option Name) : Run 0 r e [] r := fun _ => rfl

theorem Run.trans {n m : Nat} {r r1 r2 : PState} {e : Option Name} {es es' : List Entry} (h1 : Run n r e es r1)
    (h2 : Run m r1 e es' r2) : Run (n + m) r e (es ++ es') r2 := fun f => by
  rw [← Nat.add_assoc, Nat.add_right_comm, h1, h2, List.foldr_append]

theorem Run.nothing {r r' : PState} (h : lineStep r = .ok (.nothing, r')) (e : Option Name) : Run 1 r e [] r' :=
  fun f => by simp only [parseTrace, h, List.foldr_nil]

theorem Run.entry {r r' : PState} {x : Entry} (h : lineStep r = .ok (.entry x, r')) : Run 1 r r'.effOrigin [x] r' :=
  fun f => by simp only [parseTrace, h, List.foldr_cons, List.foldr_nil]

theorem Run.append_nothing {n m : Nat} {r r1 r2 : PState} {e : Option Name} {es : List Entry} (h1 : Run n r e es r1)
    (h2 : Run m r1 e [] r2) : Run (n + m) r e es r2 :=
  List.append_nil es ▸ h1.trans h2

/-- what the loop does on a run, at a fuel that is `f + n` only propositionally -/
theorem Run.apply {n : Nat} {r r' : PState} {e : Option Name} {es : List Entry} (h : Run n r e es r') {F f : Nat}
    (hF : F = f + n) (z : ZoneMap) : readLoop F r z = (addAll e z es).bind fun z' => readLoop f r' z' := by
  simp only [readLoop_eq_interp, hF, h f, interpTrace_entries]

/-- turns that hand over nothing -/
theorem Run.skip {n : Nat} {r r' : PState} {e : Option Name} (h : Run n r e [] r') (f : Nat) (z : ZoneMap) :
    readLoop (f + n) r z = readLoop f r' z :=
  h.apply rfl z

/-- two runs that emit the same records and end in the same state are read alike -/
theorem Run.congr {n1 n2 : Nat} {r1 r2 r' : PState} {e : Option Name} {es : List Entry} (h1 : Run n1 r1 e es r')
    (h2 : Run n2 r2 e es r') (f : Nat) (z : ZoneMap) : readLoop (f + n1) r1 z = readLoop (f + n2) r2 z := by
  rw [h1.apply rfl, h2.apply rfl]

/-- a run that ends at the end of the text is a whole read, at the least fuel (`readLoop_mono` lifts it) -/
theorem Run.read_eof {n : Nat} {r r' : PState} {e : Option Name} {es : List Entry} (h : Run n r e es r')
    (heof : lineStep r' = .ok (.eof, r')) {z z' : ZoneMap} (hadd : addAll e z es = .ok z') :
    readLoop (n + 1) r z = .ok (r', z') := by
  rw [h.apply (Nat.add_comm n 1), hadd]
  simp [Except.bind, readLoop, readStep, bind, heof, pure, Except.pure]

theorem run_lines (ls : List GLine) (rest : List Nat) (r : PState) (co zo : Name)
    (hco : r.currentOrigin = some co) (hzo : r.zoneOrigin = some zo)
    (htok : r.tok = after 0 false (glinesText ls ++ rest)) (d : Option Nat)
    (hd : InheritsThroughout d r ls)
    (hok : LinesOK co zo r.relativize r.gfix r.lastName d ls) :
    Run ls.length r r.effOrigin (ls.map GLine.entry) (finalStateR ls rest r) := by
  induction ls generalizing r with
  | nil => exact Run.refl r _
  | cons l ls ih =>
    obtain ⟨h1, h2, h3, h4⟩ := hok
    have hstep := lineStep_G r l (glinesText ls ++ rest) co zo hco hzo
      (by simpa [glinesText, List.append_assoc] using htok) h1 (fun ho => h2 ho) (fun hh => (hd l.ttl (h3 hh)).1)
    obtain ⟨f1, f2, f3, f4, f5, f6, _⟩ := afterG_fields r l (glinesText ls ++ rest)
    have := (Run.entry hstep).trans
      (ih (afterG r l (glinesText ls ++ rest)) (f2 ▸ hco) (f3 ▸ hzo) f1 (hd.step _) (by rw [f4, f5, f6]; exact h4))
    rwa [afterG_eff, Nat.add_comm] at this

theorem finalStateR_frame (ls : List GLine) (rest : List Nat) (r : PState) :
    ∃ t ln lt lk dt dk,
      finalStateR ls rest r = { r with tok := t, lastName := ln, lastTTL := lt, lastTTLKnown := lk, defaultTTL := dt,
                                       defaultTTLKnown := dk } ∧
      (r.tok = after 0 false (glinesText ls ++ rest) → t = after 0 false rest) := by
  induction ls generalizing r with
  | nil => exact ⟨r.tok, r.lastName, r.lastTTL, r.lastTTLKnown, r.defaultTTL, r.defaultTTLKnown, rfl, fun h => h⟩
  | cons l ls ih =>
    obtain ⟨_, _, _, _, h, _⟩ := afterG_frame r l (glinesText ls ++ rest)
    obtain ⟨t, _, _, _, _, _, h', ht⟩ := ih (afterG r l (glinesText ls ++ rest))
    simp only [finalStateR]
    rw [h', h]
    exact ⟨t, _, _, _, _, _, rfl, fun _ => ht (by rw [h])⟩

/-- a line is at least as long as its non-empty first blank -/
theorem LinesOK.length_le {co zo : Name} {rel gfix : Bool} {ln : Option Name} {d : Option Nat} {ls : List GLine}
    (h : LinesOK co zo rel gfix ln d ls) : ls.length ≤ (glinesText ls).length := by
  induction ls generalizing ln with
  | nil => exact Nat.le_refl _
  | cons l r ih =>
    have hb : 1 ≤ l.b0.length := List.length_pos_iff.mpr h.1.b0.ne
    have := ih h.2.2.2
    simp only [glinesText, List.length_cons, List.length_append, GLine.text]
    omega

/-- what a run of record lines leaves of the parser state: it stands behind the run, and only the last owner and the TTL
bookkeeping have moved -/
theorem finalStateR_fields (ls : List GLine) (rest : List Nat) (r : PState)
    (htok : r.tok = after 0 false (glinesText ls ++ rest)) :
    (finalStateR ls rest r).tok = after 0 false rest ∧ (finalStateR ls rest r).zoneOrigin = r.zoneOrigin ∧
    (finalStateR ls rest r).relativize = r.relativize ∧ (finalStateR ls rest r).gfix = r.gfix ∧
    (finalStateR ls rest r).saved = r.saved ∧ (finalStateR ls rest r).files = r.files ∧
    (finalStateR ls rest r).allowInclude = r.allowInclude ∧ (finalStateR ls rest r).currentOrigin = r.currentOrigin := by
  obtain ⟨_, _, _, _, _, _, h, ht⟩ := finalStateR_frame ls rest r
  rw [h]
  exact ⟨ht htok, rfl, rfl, rfl, rfl, rfl, rfl, rfl⟩

/-- record lines that end the top file: the next turn is the end of the read -/
theorem finalStateR_eof (ls : List GLine) (r : PState) (htok : r.tok = after 0 false (glinesText ls ++ []))
    (hsv : r.saved = []) :
    lineStep (finalStateR ls [] r) = .ok (.eof, finalStateR ls [] r) ∧ (finalStateR ls [] r).zoneOrigin = r.zoneOrigin :=
  have h := finalStateR_fields ls [] r htok
  ⟨lineStep_eof _ h.1 (h.2.2.2.2.1.trans hsv), h.2.1⟩

/-- **a whole read from a run**: when the turns of a text, composed into one run from the initial state, end at the end
of the text, `dns.zone.from_text` returns the fold of `txn.add` over the run's records.  The loop starts with more fuel
than the text has characters; every turn of the run is charged to a character of its line (`hn`). -/
theorem zoneFromText_of_run {text : List Nat} {origin? : Option Name} {rel gfix : Bool} {n : Nat} {e : Option Name}
    {es : List Entry} {rf : PState} {zk : ZoneMap} {zo : Name}
    (h : Run n (PState.init text origin? rel gfix) e es rf) (hn : n ≤ text.length)
    (hend : lineStep rf = .ok (.eof, rf) ∧ rf.zoneOrigin = some zo) (hadd : addAll e [] es = .ok zk)
    (ho : origin? = some zo ∨ zk ≠ []) :
    zoneFromText text origin? rel false gfix = .ok (zk, some zo) := by
  rw [zoneFromText_def]
  simp only [bind, Except.bind, readLoop_mono (h.read_eof hend.1 hadd) (by omega : n + 1 ≤ text.length + 2),
    Bool.false_eq_true, if_false, pure, Except.pure]
  rcases ho with ho | ho
  · subst ho; simp [hend.2]
  · cases zk with
    | nil => exact absurd rfl ho
    | cons a b => simp [hend.2]

end Model
