import Proofs.NameWire
/-! `Name.to_wire(file, compress)` relative to the offset it writes at.  What the loop appends depends on the buffer only
through its length (`cLoop`, `toWireCLoop_eq`), and `cLoop_spec` says what that is: a front part of the name in full, then
a pointer to the first suffix the table knows; the suffixes passed on the way are remembered.  Soundness (NameCompress),
the shape of the octets (`cLoop_abs`), "new entries point into what was written" (`cLoop_new`) are read off it. -/
namespace Model

/-- `Name.to_wire(file, compress)` relative to the offset `off = file.tell()`: the octets appended and the
table entries added. -/
def cLoop (off : Nat) (t : CTable) : Name → Bytes × CTable
  | [] => ([], [])
  | l :: rest =>
    match ctGet t (l :: rest) with
    | some pos => ([(Consts.ptrBase + pos) / 256, (Consts.ptrBase + pos) % 256], [])
    | none =>
      let add : CTable := if (l :: rest).length > 1 ∧ off ≤ Consts.maxPtr then [(l :: rest, off)] else []
      let r := cLoop (off + 1 + l.length) (t ++ add) rest
      (l.length :: l ++ r.1, add ++ r.2)

theorem toWireCLoop_eq (out : Bytes) (t : CTable) (n : Name) :
    toWireCLoop out t n = (out ++ (cLoop out.length t n).1, t ++ (cLoop out.length t n).2) := by
  induction n generalizing out t with
  | nil => simp [toWireCLoop, cLoop]
  | cons l rest ih =>
    unfold toWireCLoop cLoop
    cases hget : ctGet t (l :: rest) with
    | some pos => simp
    | none =>
      simp only
      rw [ih]
      have hlen : (out ++ l.length :: l).length = out.length + 1 + l.length := by simp; omega
      rw [hlen]
      split <;> simp

theorem length_toWire_cons (off : Nat) (l : Label) (n : Name) :
    off + (toWire (l :: n)).length = off + 1 + l.length + (toWire n).length := by
  rw [toWire_cons, List.length_append, List.length_cons]; omega

theorem ctGet_some {t : CTable} {n : Name} {pos : Nat} (h : ctGet t n = some pos) :
    ∃ p ∈ t, p.2 = pos ∧ lowerName p.1 = lowerName n := by
  unfold ctGet at h
  split at h
  · rename_i p hp
    simp at h
    refine ⟨p, List.mem_of_find?_eq_some hp, h, ?_⟩
    have := List.find?_some hp
    simpa using this
  · simp at h

/-- the lookup compares up to case, so entries whose key has another number of labels do not matter -/
theorem ctGet_append_of_length {t add : CTable} {n : Name} (h : ∀ p ∈ add, p.1.length ≠ n.length) :
    ctGet (t ++ add) n = ctGet t n := by
  unfold ctGet
  rw [List.find?_append]
  have : add.find? (fun p => lowerName p.1 == lowerName n) = none := by
    rw [List.find?_eq_none]
    intro p hp he
    exact h p hp (lowerName_length _ _ (eq_of_beq he))
  rw [this, Option.or_none]

/-- What the loop does with a label sequence: it writes a front part in full and then, if it has come to a suffix `back`
that the table knows, a pointer to it.  Each suffix passed on the way (each split `a ++ b` of the front) is remembered
under the offset it was written at, if that offset fits a pointer and the suffix is more than one label.  The lookups are
stated for the table `t` the loop started with: what it adds on the way is longer than what is still to be looked up. -/
theorem cLoop_spec (off : Nat) (t : CTable) (n : Name) :
    ∃ front back tail, n = front ++ back ∧ (cLoop off t n).1 = toWire front ++ tail ∧
      (back = [] ∧ tail = [] ∨
        ∃ pos, back ≠ [] ∧ ctGet t back = some pos ∧ tail = [(Consts.ptrBase + pos) / 256, (Consts.ptrBase + pos) % 256]) ∧
      ∀ p, p ∈ (cLoop off t n).2 ↔ ∃ a b, front = a ++ b ∧ b ≠ [] ∧ p = (b ++ back, off + (toWire a).length) ∧
        1 < (b ++ back).length ∧ off + (toWire a).length ≤ Consts.maxPtr := by
  induction n generalizing off t with
  | nil => exact ⟨[], [], [], rfl, rfl, .inl ⟨rfl, rfl⟩, fun p => ⟨nofun, fun ⟨_, _, h, hb, _⟩ => absurd (List.append_eq_nil_iff.1 h.symm).2 hb⟩⟩
  | cons l rest ih =>
    unfold cLoop
    cases hget : ctGet t (l :: rest) with
    | some pos =>
      exact ⟨[], l :: rest, _, rfl, rfl, .inr ⟨pos, nofun, hget, rfl⟩, fun p => ⟨nofun, fun ⟨_, _, h, hb, _⟩ => absurd (List.append_eq_nil_iff.1 h.symm).2 hb⟩⟩
    | none =>
      obtain ⟨front, back, tail, rfl, hext, hback, hnew⟩ := ih (off + 1 + l.length)
        (t ++ if (l :: rest).length > 1 ∧ off ≤ Consts.maxPtr then [(l :: rest, off)] else [])
      refine ⟨l :: front, back, tail, rfl, by dsimp only; rw [hext, toWire_cons, List.append_assoc], ?_, fun p => ?_⟩
      · rwa [ctGet_append_of_length] at hback
        intro p hp
        split at hp
        · cases List.mem_singleton.1 hp
          rw [List.length_cons, List.length_append]; omega
        · cases hp
      · dsimp only
        rw [List.mem_append, hnew]
        constructor
        · rintro (hp | ⟨a, b, rfl, hb, rfl, h1, h2⟩)
          · split at hp
            · rename_i hc
              cases List.mem_singleton.1 hp
              exact ⟨[], l :: front, rfl, nofun, rfl, hc.1, hc.2⟩
            · cases hp
          · exact ⟨l :: a, b, rfl, hb, by rw [length_toWire_cons], h1, by rwa [length_toWire_cons]⟩
        · rintro ⟨a, b, hab, hb, rfl, h1, h2⟩
          cases a with
          | nil =>
            cases hab
            rw [if_pos ⟨h1, h2⟩]; exact .inl (List.mem_singleton.2 rfl)
          | cons x a =>
            cases hab
            rw [length_toWire_cons] at h2 ⊢
            exact .inr ⟨a, b, rfl, hb, rfl, h1, h2⟩

theorem concat_eq_append {α} {ls a b : List α} {x : α} (h : ls ++ [x] = a ++ b) (hb : b ≠ []) :
    ∃ b', b = b' ++ [x] ∧ ls = a ++ b' := by
  rw [← List.dropLast_concat_getLast hb, ← List.append_assoc] at h
  obtain ⟨h1, h2⟩ := List.append_inj' h rfl
  exact ⟨b.dropLast, by rw [List.cons.inj h2 |>.1, List.dropLast_concat_getLast hb], h1⟩

/-- … for an absolute name: plain labels, then the encoding of the suffix `back` that is left, which is the root octet or
a pointer; the root label takes the place of "nothing left", and every suffix passed has more than one label. -/
theorem cLoop_abs (off : Nat) (t : CTable) {ls : List Label} (hp : PlainLabels ls) :
    ∃ front back tail, ls ++ [[]] = front ++ back ∧ PlainLabels front ∧
      (cLoop off t (ls ++ [[]])).1 = toWire front ++ tail ∧
      (back = [[]] ∧ tail = [0] ∨
        ∃ pos, ctGet t back = some pos ∧ tail = [(Consts.ptrBase + pos) / 256, (Consts.ptrBase + pos) % 256]) ∧
      ∀ p ∈ (cLoop off t (ls ++ [[]])).2, ∃ a b, front = a ++ b ∧ p = (b ++ back, off + (toWire a).length) ∧
        off + (toWire a).length ≤ Consts.maxPtr := by
  obtain ⟨front, back, tail, hn, hext, hback, hnew⟩ := cLoop_spec off t (ls ++ [[]])
  rcases hback with ⟨rfl, rfl⟩ | ⟨pos, hne, hget, rfl⟩
  · rw [List.append_nil] at hn
    subst hn
    refine ⟨ls, [[]], [0], rfl, hp, by rw [hext, toWire_append, toWire_root, List.append_nil], .inl ⟨rfl, rfl⟩,
      fun p hp => ?_⟩
    obtain ⟨a, b, hab, hb, rfl, h1, h2⟩ := (hnew p).1 hp
    obtain ⟨b', rfl, rfl⟩ := concat_eq_append hab hb
    exact ⟨a, b', rfl, by rw [List.append_nil], h2⟩
  · obtain ⟨b', rfl, rfl⟩ := concat_eq_append hn hne
    refine ⟨front, _, _, hn, fun l hl => hp l (List.mem_append_left _ hl), hext, .inr ⟨pos, hget, rfl⟩, fun p hp => ?_⟩
    obtain ⟨a, b, hab, hb, rfl, h1, h2⟩ := (hnew p).1 hp
    exact ⟨a, b, hab, rfl, h2⟩

/-- what a write at offset `off` that appended `len` octets may add to the table: entries pointing into those
octets, under keys of more than one label (the root is never remembered) -/
def NewIn (off len : Nat) (new : CTable) : Prop := ∀ p ∈ new, off ≤ p.2 ∧ p.2 < off + len ∧ 1 < p.1.length

theorem NewIn.nil (off len : Nat) : NewIn off len [] := by
  intro p hp; cases hp

theorem NewIn.append {off len : Nat} {a b : CTable} (ha : NewIn off len a) (hb : NewIn off len b) :
    NewIn off len (a ++ b) := by
  intro p hp
  rcases List.mem_append.mp hp with h | h
  · exact ha p h
  · exact hb p h

theorem NewIn.mono {off len off' len' : Nat} {new : CTable} (h : NewIn off' len' new) (h1 : off ≤ off')
    (h2 : off' + len' ≤ off + len) : NewIn off len new := by
  intro p hp
  have := h p hp
  omega

theorem cLoop_new (off : Nat) (t : CTable) (n : Name) : NewIn off (cLoop off t n).1.length (cLoop off t n).2 := by
  obtain ⟨front, back, tail, _, hext, _, hnew⟩ := cLoop_spec off t n
  intro p hp
  obtain ⟨a, b, rfl, hb, rfl, h1, _⟩ := (hnew p).1 hp
  -- the suffix was written at its offset: at least the length octet of the first label of `b` follows
  have := wireLen_pos b hb
  rw [hext, toWire_append, List.length_append, List.length_append, length_toWire b]
  exact ⟨Nat.le_add_right .., by omega, h1⟩

/-- the name actually written by `toWireC`: the name itself, or the name with the origin appended -/
def wireName (n : Name) (origin : Option Name) : Option Name :=
  if isAbs n then some n
  else match origin with
    | some o => if isAbs o then some (n ++ o) else none
    | none => none

/-- an absolute name is written as it is, whatever the origin -/
theorem wireName_abs {n : Name} (h : isAbs n = true) (origin : Option Name) : wireName n origin = some n := if_pos h

theorem toWireC_eq (out : Bytes) (t : CTable) (n : Name) (origin : Option Name) :
    toWireC out t n origin =
      match wireName n origin with
      | some full => .ok (out ++ (cLoop out.length t full).1, t ++ (cLoop out.length t full).2)
      | none => .error .needAbsolute := by
  unfold toWireC wireName
  split
  · simp [toWireCLoop_eq]
  · split
    · split <;> simp [toWireCLoop_eq, *]
    · simp

/-- "appends only": result of a write that started with buffer `out` and table `t` -/
structure Appends (out : Bytes) (t : CTable) (out' : Bytes) (t' : CTable) : Prop where
  ext : ∃ e, out' = out ++ e
  tbl : ∃ new, t' = t ++ new ∧ ∀ p ∈ new, out.length ≤ p.2 ∧ p.2 < out'.length

theorem NewIn.appends {out : Bytes} {t : CTable} {e : Bytes} {new : CTable} (h : NewIn out.length e.length new) :
    Appends out t (out ++ e) (t ++ new) :=
  ⟨⟨e, rfl⟩, ⟨new, rfl, fun p hp => by have := h p hp; simp; omega⟩⟩

theorem Appends.trans {o0 t0 o1 t1 o2 t2} (a : Appends o0 t0 o1 t1) (b : Appends o1 t1 o2 t2) :
    Appends o0 t0 o2 t2 := by
  obtain ⟨⟨e1, he1⟩, ⟨n1, hn1, hp1⟩⟩ := a
  obtain ⟨⟨e2, he2⟩, ⟨n2, hn2, hp2⟩⟩ := b
  refine ⟨⟨e1 ++ e2, by rw [he2, he1]; simp⟩, ⟨n1 ++ n2, by rw [hn2, hn1]; simp, ?_⟩⟩
  intro p hp
  rcases List.mem_append.mp hp with h | h
  · have := hp1 p h
    rw [he2]; simp; omega
  · have := hp2 p h
    rw [he1] at this; simp at this; omega

end Model
