import Proofs.RenderRel
/-! The renderer state in terms of the relative writers.  One `add_*` call (`addItem_spec`, with the exact rollback); a run
of the section loops that is not cut short: it succeeds exactly when `itemsExt` does, the sections come in order and the
whole fits the budget, and then appends what `itemsExt` says (`addItems_false_iff`); a run that is cut short is such a run
over a prefix followed by one `TooBig` (`addItems_big`).  The tail of `to_wire` is two more runs of one item each, in
which `TooBig` propagates (`addAll`), around `write_header` (`finish_ok_iff`). -/
namespace Model

/-- every compression-table entry points into the buffer -/
def TblBelow (s : RState) : Prop := ∀ p ∈ s.tbl, p.2 < s.out.length

/-- `_rollback(start)` after a write that only appended restores buffer and table exactly -/
theorem rollback_appends (s : RState) (o : Bytes) (t : CTable) (ha : Appends s.out s.tbl o t) (hb : TblBelow s) :
    ({ s with out := o, tbl := t } : RState).rollback s.out.length = s := by
  obtain ⟨⟨e, rfl⟩, ⟨new, rfl, hp⟩⟩ := ha
  -- the filter keeps the old entries (below the old end) and drops the new ones (at or beyond it)
  have a : s.tbl.filter (fun p => decide (p.2 < s.out.length)) = s.tbl :=
    List.filter_eq_self.mpr fun p hp' => by simpa using hb p hp'
  have b : new.filter (fun p => decide (p.2 < s.out.length)) = [] :=
    List.filter_eq_nil_iff.mpr fun p hp' => by have := (hp p hp').1; simp; omega
  simp [RState.rollback, List.filter_append, a, b]

theorem TblBelow.ext {s : RState} (hb : TblBelow s) {b : Bytes} {new : CTable} (hn : NewIn s.out.length b.length new)
    (sec : Nat) (c : Counts) : TblBelow { s with sec := sec, out := s.out ++ b, tbl := s.tbl ++ new, counts := c } := by
  intro p hp
  rcases List.mem_append.mp hp with h | h
  · have := hb p h; simp; omega
  · have := hn p h; simp; omega

/-- outcome of one `add_question` / `add_rrset` call: the item's octets and table entries (`itemExt`) appended and
its records counted, or `_track_size` rolling the write back, or an exception other than `TooBig` -/
inductive AddOutcome (s : RState) (it : Item) : Step → Prop
  | ok (b : Bytes) (new : CTable) :
      itemExt s.out.length s.tbl s.origin it = .ok (b, new, itemCount it) → (s.out ++ b).length ≤ s.maxSize →
      s.sec ≤ it.sec →
      AddOutcome s it
        (.ok { s with sec := it.sec, out := s.out ++ b, tbl := s.tbl ++ new, counts := s.counts.bump it.sec (itemCount it) })
  | tooBig (b : Bytes) (new : CTable) :
      itemExt s.out.length s.tbl s.origin it = .ok (b, new, itemCount it) → s.sec ≤ it.sec →
      AddOutcome s it
        (.tooBig (({ s with sec := it.sec, out := s.out ++ b, tbl := s.tbl ++ new } : RState).rollback s.out.length))
  | err (e : RErr) : AddOutcome s it (.err e)

theorem addItem_spec (s : RState) (it : Item) : AddOutcome s it (s.addItem it) := by
  rw [addItem_rel]
  split
  · exact .err _
  · split
    · exact .err _
    · rename_i p hp
      obtain ⟨b, new, n⟩ := p
      obtain rfl : n = itemCount it := itemExt_count hp
      unfold RState.endTrack
      split
      · exact .tooBig b new hp (by omega)
      · exact .ok b new hp (by simp only at *; omega) (by omega)

theorem addItem_ok_iff {s s' : RState} {it : Item} :
    s.addItem it = .ok s' ↔ s.sec ≤ it.sec ∧ ∃ b new, itemExt s.out.length s.tbl s.origin it = .ok (b, new, itemCount it) ∧
      (s.out ++ b).length ≤ s.maxSize ∧
      s' = { s with sec := it.sec, out := s.out ++ b, tbl := s.tbl ++ new, counts := s.counts.bump it.sec (itemCount it) } := by
  constructor
  · intro h
    have hspec := addItem_spec s it
    rw [h] at hspec
    cases hspec with
    | ok b new hext hsz hle => exact ⟨hle, b, new, hext, hsz, rfl⟩
  · rintro ⟨hle, b, new, hext, hsz, rfl⟩
    rw [addItem_rel, if_neg (Nat.not_lt.mpr hle), hext]
    simp only [RState.endTrack, if_neg (Nat.not_lt.mpr hsz)]

theorem AddOutcome.tooBig_eq {s : RState} {it : Item} {s' : RState} (h : AddOutcome s it (.tooBig s'))
    (hb : TblBelow s) : s' = { s with sec := it.sec } ∧ s.sec ≤ it.sec := by
  cases h with
  | tooBig b new hext hle =>
    exact ⟨rollback_appends { s with sec := it.sec } _ _ (itemExt_new hext).appends hb, hle⟩

theorem stepToExcept_ok {st : Step} {s' : RState} : stepToExcept st = .ok s' ↔ st = .ok s' := by
  cases st <;> simp [stepToExcept]

/-- `add_rrset` where a `TooBig` propagates (OPT, TSIG) -/
theorem addRRset_ok {s : RState} {sec : Nat} {r : RRset} {s' : RState} (h : stepToExcept (s.addRRset sec r) = .ok s') :
    ∃ b new, rrsetExt s.out.length s.tbl s.origin r = .ok (b, new, max 1 r.rdatas.length) ∧
      (s.out ++ b).length ≤ s.maxSize ∧
      s' = { s with sec := sec, out := s.out ++ b, tbl := s.tbl ++ new,
                    counts := s.counts.bump sec (max 1 r.rdatas.length) } :=
  (addItem_ok_iff (it := .rr sec r)).mp (stepToExcept_ok.mp h) |>.2

/-- the counts after the items: each bumps its section by its number of records -/
def countItems (c : Counts) : List Item → Counts
  | [] => c
  | it :: rest => countItems (c.bump it.sec (itemCount it)) rest

/-- `_set_section` accepts the items one after the other: their sections do not decrease, from the marker `a` on -/
def SecsFrom (a : Nat) : List Item → Prop
  | [] => True
  | it :: rest => a ≤ it.sec ∧ SecsFrom it.sec rest

/-- the section marker after the items -/
def lastSec (a : Nat) (items : List Item) : Nat := items.foldl (fun _ it => it.sec) a

theorem lastSec_le {a n : Nat} {items : List Item} (ha : a ≤ n) (h : ∀ it ∈ items, it.sec ≤ n) : lastSec a items ≤ n := by
  induction items generalizing a with
  | nil => exact ha
  | cons it rest ih => exact ih (h it (List.mem_cons_self ..)) fun x hx => h x (List.mem_cons_of_mem _ hx)

/-- a run of the section loops over `items` from offset `off` with table `t` that is not cut short: it appends `q` and
stays within `L` — which is checked after each item, so not at all when there is none -/
structure ItemsRun (og : Option Name) (off : Nat) (t : CTable) (items : List Item) (L : Nat) (q : Bytes × CTable) : Prop where
  ext : itemsExt og off t items = .ok q
  fits : items = [] ∨ off + q.1.length ≤ L

theorem ItemsRun.le {og : Option Name} {off : Nat} {t : CTable} {items : List Item} {L : Nat} {q : Bytes × CTable}
    (h : ItemsRun og off t items L q) (hn : off ≤ L) : off + q.1.length ≤ L := by
  obtain ⟨he, rfl | hf⟩ := h
  · cases he; exact hn
  · exact hf

/-- the renderer state after a run of the loops that wrote all of `items`, appending `q` -/
def RState.ran (s : RState) (items : List Item) (q : Bytes × CTable) : RState :=
  { s with out := s.out ++ q.1, tbl := s.tbl ++ q.2, counts := countItems s.counts items, sec := lastSec s.sec items }

/-- The section loops run through without `TooBig` exactly when `itemsExt` succeeds, the sections come in order and the
whole run fits the budget (the buffer only grows, so the last size check implies the earlier ones); they have then
appended what `itemsExt` says and counted every record. -/
theorem addItems_false_iff (items : List Item) : ∀ {s s' : RState}, s.addItems items = .ok (s', false) ↔
    SecsFrom s.sec items ∧ ∃ q, ItemsRun s.origin s.out.length s.tbl items s.maxSize q ∧ s' = s.ran items q := by
  induction items with
  | nil =>
    intro s s'
    refine ⟨fun h => ?_, fun ⟨_, q, ⟨hq, _⟩, e⟩ => ?_⟩
    · cases h; exact ⟨trivial, ([], []), ⟨rfl, .inl rfl⟩, by simp [RState.ran, countItems, lastSec]⟩
    · cases hq; rw [e]; simp [RState.addItems, RState.ran, countItems, lastSec]
  | cons it rest ih =>
    intro s s'
    have hstep : s.addItems (it :: rest) = .ok (s', false) ↔
        ∃ s1, s.addItem it = .ok s1 ∧ s1.addItems rest = .ok (s', false) := by
      simp only [RState.addItems]
      cases s.addItem it <;> simp
    rw [hstep]
    constructor
    · rintro ⟨s1, h1, h2⟩
      obtain ⟨hle, b, new, hext, hsz, rfl⟩ := addItem_ok_iff.mp h1
      obtain ⟨hsec, q, ⟨hq, hfit⟩, rfl⟩ := ih.mp h2
      rw [List.length_append] at hq
      refine ⟨⟨hle, hsec⟩, (b ++ q.1, new ++ q.2), ⟨by simp only [itemsExt, hext, hq], .inr ?_⟩, ?_⟩
      · rcases hfit with rfl | hfit
        · cases hq; simpa using hsz
        · simpa [Nat.add_assoc] using hfit
      · simp [RState.ran, countItems, lastSec, List.append_assoc]
    · rintro ⟨⟨hle, hsec⟩, q, ⟨hq, hfit⟩, rfl⟩
      obtain ⟨p, p', hp, hp', rfl⟩ := itemsExt_cons_ok hq
      obtain ⟨b, new, n⟩ := p
      obtain rfl : n = itemCount it := itemExt_count hp
      have hfit := hfit.resolve_left (List.cons_ne_nil _ _)
      simp only [List.length_append] at hfit
      refine ⟨_, addItem_ok_iff.mpr ⟨hle, b, new, hp, by simp only [List.length_append]; omega, rfl⟩,
        ih.mpr ⟨hsec, p', ⟨by simpa only [List.length_append] using hp', .inr ?_⟩, ?_⟩⟩
      · simp only [List.length_append]; omega
      · simp [RState.ran, countItems, lastSec, List.append_assoc]

theorem addItems_big (items : List Item) : ∀ (s s' : RState), TblBelow s → s.addItems items = .ok (s', true) →
    ∃ k s'', ∃ hk : k < items.length,
      s.addItems (items.take k) = .ok (s'', false) ∧ s' = { s'' with sec := items[k].sec } ∧ s''.sec ≤ items[k].sec := by
  induction items with
  | nil => intro s s' _ h; cases h
  | cons it rest ih =>
    intro s s' hb h
    unfold RState.addItems at h
    have hspec := addItem_spec s it
    cases hs : s.addItem it with
    | err e => rw [hs] at h; cases h
    | tooBig s1 =>
      rw [hs] at h hspec
      cases h
      obtain ⟨e, hle⟩ := hspec.tooBig_eq hb
      exact ⟨0, s, Nat.zero_lt_succ _, rfl, e, hle⟩
    | ok s1 =>
      rw [hs] at h hspec
      have hb1 : TblBelow s1 := by
        cases hspec with
        | ok b new hext hsz hle => exact hb.ext (itemExt_new hext) _ _
      obtain ⟨k, s'', hk, h1, h3, h4⟩ := ih s1 s' hb1 h
      refine ⟨k + 1, s'', Nat.succ_lt_succ hk, ?_, h3, h4⟩
      simp only [List.take_succ_cons, RState.addItems, hs]
      exact h1

theorem writeHeader_length (s : RState) (h : 12 ≤ s.out.length) : s.writeHeader.out.length = s.out.length := by
  simp [RState.writeHeader, u16]; omega

/-- `Message.opt` and the OPT record actually rendered — what the parser finds in its place -/
def OptPadRel (pad : Nat) : Option EOpt → Option EOpt → Prop
  | none, none => True
  | some o, some o' =>
    (pad = 0 ∧ o' = o) ∨
    (pad ≠ 0 ∧ ∃ k, k < pad ∧ o' = { o with options := o.options ++ [(ConstsC03.optPADDING, List.replicate k 0)] })
  | _, _ => False

/-- the OPT record `add_opt` renders: with a PADDING option of `padLen` zero octets when a block size is given -/
def EOpt.padded (o : EOpt) (len pad a b : Nat) : EOpt :=
  if pad ≠ 0 then { o with options := o.options ++ [(ConstsC03.optPADDING, List.replicate (padLen len pad a b) 0)] } else o

theorem addOpt_zero (s : RState) (o : EOpt) (a b : Nat) : s.addOpt o 0 a b = s.addOptCore o 0 a b := by
  simp [RState.addOpt]

/-- `add_opt` is `add_rrset` of the padded OPT record, `was_padded` set whenever a PADDING option is written -/
theorem addOpt_eq (s : RState) (o : EOpt) (pad a b : Nat) :
    stepToExcept (s.addOpt o pad a b) =
      if pad ≠ 0 ∧ padLen s.out.length pad a b > 65535 then .error .tooBig
      else stepToExcept (({ s with wasPadded := if pad ≠ 0 then true else s.wasPadded } : RState).addRRset
        ConstsC03.secADDITIONAL (optRRset (o.padded s.out.length pad a b))) := by
  unfold RState.addOpt
  split
  · rfl
  · unfold RState.addOptCore EOpt.padded padLen
    by_cases hpad : pad ≠ 0
    · simp only [if_pos hpad]
      by_cases hr : (s.out.length + a + b) % pad ≠ 0
      · simp only [if_pos hr]
      · simp only [if_neg hr]; rfl
    · simp only [if_neg hpad]

theorem OptPadRel.padded (o : EOpt) (len pad a b : Nat) : OptPadRel pad (some o) (some (o.padded len pad a b)) := by
  unfold EOpt.padded padLen
  by_cases hpad : pad ≠ 0
  · rw [if_pos hpad]
    refine .inr ⟨hpad, _, ?_, rfl⟩
    have := Nat.mod_lt (len + a + b) (Nat.pos_of_ne_zero hpad)
    split <;> omega
  · rw [if_neg hpad]
    exact .inl ⟨by simpa using hpad, rfl⟩

theorem addOpt_ok {s : RState} {o : EOpt} {pad a b : Nat} {s' : RState} (h : stepToExcept (s.addOpt o pad a b) = .ok s') :
    stepToExcept (({ s with wasPadded := if pad ≠ 0 then true else s.wasPadded } : RState).addRRset ConstsC03.secADDITIONAL
      (optRRset (o.padded s.out.length pad a b))) = .ok s' := by
  rw [addOpt_eq] at h
  split at h
  · cases h
  · exact h

/-- the OPT record of the tail of `to_wire`, if the message has one -/
def RState.optStage (s : RState) (opt : Option EOpt) (pad a b : Nat) : Except RErr RState :=
  match opt with
  | none => .ok s
  | some o => stepToExcept (s.addOpt o pad a b)

/-- the TSIG record of the tail of `to_wire`, if the message has one, and the second `write_header` -/
def RState.tsigStage (s : RState) (tsig : Option Tsig) : Except RErr RState :=
  match tsig with
  | none => .ok s
  | some t =>
    match stepToExcept (({ s with tbl := [] } : RState).addRRset ConstsC03.secADDITIONAL (tsigRRset t)) with
    | .error e => .error e
    | .ok r => .ok r.writeHeader

theorem finish_eq (r : RState) (opt : Option EOpt) (tsig : Option Tsig) (pad a b : Nat) :
    r.finish opt tsig pad a b =
      (r.releaseReserved.optStage opt pad a b).bind fun r5 => r5.writeHeader.tsigStage tsig := by
  unfold RState.finish RState.optStage RState.tsigStage
  cases opt with
  | none => cases tsig <;> rfl
  | some o =>
    simp only
    cases stepToExcept (r.releaseReserved.addOpt o pad a b) with
    | error e => rfl
    | ok r5 => cases tsig <;> rfl

def optItems : Option EOpt → List Item
  | none => []
  | some o => [.rr ConstsC03.secADDITIONAL (optRRset o)]

def tsigItems : Option Tsig → List Item
  | none => []
  | some t => [.rr ConstsC03.secADDITIONAL (tsigRRset t)]

theorem secADD : ConstsC03.secADDITIONAL = 3 := by decide

theorem secsFrom_optItems {a : Nat} (h : a ≤ 3) (opt : Option EOpt) : SecsFrom a (optItems opt) := by
  cases opt with
  | none => trivial
  | some o => exact ⟨h, trivial⟩

theorem secsFrom_tsigItems {a : Nat} (h : a ≤ 3) (tsig : Option Tsig) : SecsFrom a (tsigItems tsig) := by
  cases tsig with
  | none => trivial
  | some t => exact ⟨h, trivial⟩

theorem lastSec_optItems {a : Nat} (ha : a ≤ 3) (opt : Option EOpt) : lastSec a (optItems opt) ≤ 3 := by
  cases opt with
  | none => exact ha
  | some o => exact Nat.le_refl 3

/-- a run of the section loop in which `TooBig` propagates: how the OPT and the TSIG record are added -/
def RState.addAll (s : RState) (items : List Item) : Except RErr RState :=
  (s.addItems items).bind fun p => if p.2 then .error .tooBig else .ok p.1

theorem addAll_ok_iff {s s' : RState} {items : List Item} :
    s.addAll items = .ok s' ↔ s.addItems items = .ok (s', false) := by
  unfold RState.addAll
  cases s.addItems items with
  | error e => simp [Except.bind]
  | ok p => obtain ⟨s1, b⟩ := p; cases b <;> simp [Except.bind]

theorem addAll_single (s : RState) (it : Item) : s.addAll [it] = stepToExcept (s.addItem it) := by
  simp only [RState.addAll, RState.addItems]
  cases s.addItem it <;> rfl

theorem OptPadRel.map_padded (opt : Option EOpt) (len pad a b : Nat) :
    OptPadRel pad opt (opt.map (·.padded len pad a b)) := by
  cases opt with
  | none => trivial
  | some o => exact .padded o len pad a b

theorem optStage_eq (s : RState) (opt : Option EOpt) (pad a b : Nat) :
    s.optStage opt pad a b =
      if opt.isSome ∧ pad ≠ 0 ∧ 65535 < padLen s.out.length pad a b then .error .tooBig else
      ({ s with wasPadded := if opt.isSome ∧ pad ≠ 0 then true else s.wasPadded } : RState).addAll
        (optItems (opt.map (·.padded s.out.length pad a b))) := by
  cases opt with
  | none => rfl
  | some o => simp only [RState.optStage, addOpt_eq, Option.isSome_some, true_and, Option.map_some, optItems, addAll_single,
      RState.addItem, gt_iff_lt]

theorem tsigStage_eq (s : RState) (tsig : Option Tsig) :
    s.tsigStage tsig =
      if tsig.isSome then (({ s with tbl := [] } : RState).addAll (tsigItems tsig)).map RState.writeHeader else .ok s := by
  cases tsig with
  | none => rfl
  | some t =>
    simp only [RState.tsigStage, tsigItems, addAll_single, RState.addItem, Option.isSome_some, if_true]
    cases stepToExcept (({ s with tbl := [] } : RState).addRRset ConstsC03.secADDITIONAL (tsigRRset t)) <;> rfl

theorem Except.bind_ok_iff {ε α β : Type} {x : Except ε α} {f : α → Except ε β} {b : β} :
    x.bind f = .ok b ↔ ∃ a, x = .ok a ∧ f a = .ok b := by
  cases x <;> simp [Except.bind]

theorem Except.map_ok_iff {ε α β : Type} {x : Except ε α} {f : α → β} {b : β} :
    x.map f = .ok b ↔ ∃ a, x = .ok a ∧ f a = b := by
  cases x <;> simp [Except.map]

theorem optionsWire_length (opts : List (Nat × Bytes)) :
    (optionsWire opts).length = (opts.map fun p => p.2.length + 4).sum := by
  induction opts with
  | nil => rfl
  | cons p rest ih =>
    obtain ⟨t, b⟩ := p
    simp [optionsWire, ih, u16]
    omega

theorem optionsWire_append (a b : List (Nat × Bytes)) : optionsWire (a ++ b) = optionsWire a ++ optionsWire b := by
  induction a with
  | nil => rfl
  | cons p rest ih => obtain ⟨t, x⟩ := p; simp [optionsWire, ih]

/-- a padding that a PADDING option cannot carry cannot be rendered either: the RDLENGTH of the OPT record would overflow -/
theorem padLen_le_of_run {og : Option Name} {off : Nat} {t : CTable} {o : EOpt} {len pad a b : Nat} {q : Bytes × CTable}
    (hpad : pad ≠ 0) (h : itemsExt og off t (optItems (some (o.padded len pad a b))) = .ok q) :
    padLen len pad a b ≤ 65535 := by
  obtain ⟨p, _, hp, -, -⟩ := itemsExt_cons_ok h
  obtain ⟨_, _, hb, -⟩ := rrsetExt_raw_ok (r := optRRset _) rfl hp
  simp only [EOpt.padded, if_pos hpad, optionsWire_append, List.length_append, optionsWire, u16_length,
    List.length_replicate] at hb
  omega

theorem optStage_ok_iff {s s' : RState} {opt opt' : Option EOpt} {pad a b : Nat} (hsec : s.sec ≤ 3)
    (ho : opt' = opt.map (·.padded s.out.length pad a b)) :
    s.optStage opt pad a b = .ok s' ↔
      ∃ qo, ItemsRun s.origin s.out.length s.tbl (optItems opt') s.maxSize qo ∧
        s' = ({ s with wasPadded := if opt.isSome ∧ pad ≠ 0 then true else s.wasPadded } : RState).ran (optItems opt') qo := by
  subst ho
  rw [optStage_eq]
  split
  · rename_i hg
    obtain ⟨o, rfl⟩ := Option.isSome_iff_exists.mp hg.1
    exact ⟨nofun, fun ⟨qo, hqo, _⟩ => absurd (padLen_le_of_run hg.2.1 hqo.ext) (by omega)⟩
  · simp only [addAll_ok_iff, addItems_false_iff, secsFrom_optItems hsec, true_and]

theorem tsigStage_ok_iff {s s' : RState} {tsig : Option Tsig} (hsec : s.sec ≤ 3) :
    s.tsigStage tsig = .ok s' ↔
      ∃ qt, ItemsRun s.origin s.out.length [] (tsigItems tsig) s.maxSize qt ∧
        s' = if tsig.isSome then (({ s with tbl := [] } : RState).ran (tsigItems tsig) qt).writeHeader else s := by
  rw [tsigStage_eq]
  cases tsig with
  | none => exact ⟨fun h => ⟨([], []), ⟨rfl, .inl rfl⟩, by cases h; rfl⟩, fun ⟨_, _, e⟩ => by rw [e]; rfl⟩
  | some t =>
    simp only [Option.isSome_some, if_true, Except.map_ok_iff, addAll_ok_iff, addItems_false_iff, secsFrom_tsigItems hsec,
      true_and]
    constructor
    · rintro ⟨_, ⟨qt, hq, rfl⟩, rfl⟩
      exact ⟨qt, hq, rfl⟩
    · rintro ⟨qt, hq, rfl⟩
      exact ⟨_, ⟨qt, hq, rfl⟩, rfl⟩

/-- the twelve header octets `write_header` writes -/
def hdrOf (id flags : Nat) (c : Counts) : Bytes := u16 id ++ u16 flags ++ u16 c.c0 ++ u16 c.c1 ++ u16 c.c2 ++ u16 c.c3

theorem hdrOf_length (id flags : Nat) (c : Counts) : (hdrOf id flags c).length = 12 := rfl

theorem drop_hdrOf (id fl : Nat) (c : Counts) (x : Bytes) : (hdrOf id fl c ++ x).drop 12 = x :=
  List.drop_left' (hdrOf_length id fl c)

theorem writeHeader_eq (s : RState) : s.writeHeader = { s with out := hdrOf s.id s.flags s.counts ++ s.out.drop 12 } := rfl

/-- the state in which the tail of `to_wire` ends: reserves released, the OPT run, the header, the TSIG run against an
empty table, the header again -/
def RState.finished (r : RState) (opt' : Option EOpt) (tsig : Option Tsig) (wp : Bool) (qo qt : Bytes × CTable) : RState :=
  let r5 := (({ r.releaseReserved with wasPadded := wp } : RState).ran (optItems opt') qo).writeHeader
  if tsig.isSome then (({ r5 with tbl := [] } : RState).ran (tsigItems tsig) qt).writeHeader else r5

/-- the header is written over the first twelve octets with the final counts -/
theorem finished_eq {r : RState} {opt' : Option EOpt} {tsig : Option Tsig} {wp : Bool} {qo qt : Bytes × CTable}
    {og : Option Name} {off : Nat} {t : CTable} (h12 : 12 ≤ r.out.length) (hqt : itemsExt og off t (tsigItems tsig) = .ok qt) :
    (r.finished opt' tsig wp qo qt).counts = countItems (countItems r.counts (optItems opt')) (tsigItems tsig) ∧
    (r.finished opt' tsig wp qo qt).out =
      hdrOf r.id r.flags (countItems (countItems r.counts (optItems opt')) (tsigItems tsig)) ++ r.out.drop 12 ++ qo.1 ++ qt.1 ∧
    (r.finished opt' tsig wp qo qt).tbl = if tsig.isSome then qt.2 else r.tbl ++ qo.2 := by
  cases tsig with
  | none =>
    cases hqt
    simp [RState.finished, writeHeader_eq, RState.ran, RState.releaseReserved, countItems, tsigItems,
      List.drop_append_of_le_length h12]
  | some t =>
    simp [RState.finished, writeHeader_eq, RState.ran, RState.releaseReserved, drop_hdrOf, List.drop_append_of_le_length h12]

/-- The tail of `to_wire`, in one statement.  It succeeds exactly when the OPT record actually rendered (`opt'`) and the
TSIG record can be written as runs of one item, the latter against an empty table, each within the limit `L` once the
reserves are released; `n` is the length of the buffer so far.  (The guard of `add_opt` against a padding no PADDING option
can carry needs no mention: `padLen_le_of_run`.) -/
theorem finish_ok_iff {r r' : RState} {opt opt' : Option EOpt} {tsig : Option Tsig} {pad a b n L : Nat}
    (hn : r.out.length = n) (hL : r.maxSize + r.reserved = L) (h12 : 12 ≤ n) (hsec : r.sec ≤ 3)
    (ho : opt' = opt.map (·.padded n pad a b)) :
    r.finish opt tsig pad a b = .ok r' ↔ ∃ qo qt,
      ItemsRun r.origin n r.tbl (optItems opt') L qo ∧ ItemsRun r.origin (n + qo.1.length) [] (tsigItems tsig) L qt ∧
      r' = r.finished opt' tsig (if opt.isSome ∧ pad ≠ 0 then true else r.wasPadded) qo qt := by
  subst hn hL
  -- the buffer handed to the TSIG step: header written, same length
  have hl : ∀ (c : Counts) (x : Bytes), (hdrOf r.id r.flags c ++ (r.out ++ x).drop 12).length = r.out.length + x.length :=
    fun c x => by simp only [List.length_append, hdrOf_length, List.length_drop]; omega
  rw [finish_eq, Except.bind_ok_iff]
  constructor
  · rintro ⟨r5, h5, h6⟩
    obtain ⟨qo, hqo, rfl⟩ := (optStage_ok_iff (s := r.releaseReserved) hsec ho).mp h5
    obtain ⟨qt, hqt, rfl⟩ := (tsigStage_ok_iff (lastSec_optItems hsec _)).mp h6
    simp only [writeHeader_eq, RState.ran, RState.releaseReserved, hl] at hqt
    exact ⟨qo, qt, hqo, hqt, rfl⟩
  · rintro ⟨qo, qt, hqo, hqt, rfl⟩
    refine ⟨_, (optStage_ok_iff (s := r.releaseReserved) hsec ho).mpr ⟨qo, hqo, rfl⟩,
      (tsigStage_ok_iff (lastSec_optItems hsec _)).mpr ⟨qt, ?_, rfl⟩⟩
    simpa only [writeHeader_eq, RState.ran, RState.releaseReserved, hl] using hqt

end Model
