import Proofs.RenderSize
/-! What `to_wire` does, as a specification in terms of the relative writers.  A finished rendering is the twelve header
octets with the final counts followed by three runs of `itemsExt` — the first `k` items, the OPT record actually rendered
(the message's own, or with a PADDING option appended), the TSIG record against an empty table — each within its budget
(`Rendered`).  Every successful rendering is of this form (`render_ok`), with `k` short of all items only when truncation
is preferred; conversely whatever is of this form with all items kept is what the ordinary rendering returns
(`Rendered.toWire`). -/
namespace Model

theorem reserve_ok {s s' : RState} {n : Nat} (h : s.reserve n = .ok s') :
    s' = { s with reserved := s.reserved + n, maxSize := s.maxSize - n } ∧ n ≤ s.maxSize := by
  unfold RState.reserve at h
  split at h
  · cases h
  · cases h; exact ⟨rfl, by omega⟩

theorem clampSize_bounds (a b : Nat) : ConstsC03.minSize ≤ clampSize a b ∧ clampSize a b ≤ ConstsC03.maxSize := by
  have hmm : ConstsC03.minSize ≤ ConstsC03.maxSize := by decide
  unfold clampSize
  generalize (if a = 0 then if b ≠ 0 then b else 65535 else a) = ms
  simp only
  split
  · exact ⟨Nat.le_refl _, hmm⟩
  · split
    · exact ⟨hmm, Nat.le_refl _⟩
    · omega

/-- renderer state when the section loops start: header placeholder written, reserves taken -/
def Message.baseState (m : Message) (L a b : Nat) : RState :=
  { RState.init m.id m.flags L m.origin with reserved := 0 + a + b, maxSize := L - a - b }

theorem renderSections_eq (m : Message) (L : Nat) (pt : Bool) (a b : Nat) :
    m.renderSections L pt a b =
      if a + b > L then .error .tooBig else
      ((m.baseState L a b).addItems m.items).bind fun p => p.1.afterItems p.2 pt := by
  unfold Message.renderSections RState.reserve Message.baseState RState.init
  split
  · rfl
  · rw [if_neg (show ¬ a > L by omega)]
    simp only [if_neg (show ¬ b > L - a by omega)]
    cases RState.addItems _ m.items <;> rfl

theorem renderSections_ok_iff {m : Message} {L : Nat} {pt : Bool} {a b : Nat} {r : RState} :
    m.renderSections L pt a b = .ok r ↔
      a + b ≤ L ∧ ∃ r3 big, (m.baseState L a b).addItems m.items = .ok (r3, big) ∧ r3.afterItems big pt = .ok r := by
  rw [renderSections_eq]
  split
  · exact ⟨nofun, fun h => by omega⟩
  · simp only [Except.bind_ok_iff, Prod.exists, Nat.le_of_not_gt ‹_›, true_and]

theorem items_sec_le (m : Message) : ∀ it ∈ m.items, it.sec ≤ 3 := by
  intro it h
  simp only [Message.items, List.mem_append, List.mem_map] at h
  rcases h with ((⟨r, _, rfl⟩ | ⟨r, _, rfl⟩) | ⟨r, _, rfl⟩) | ⟨r, _, rfl⟩ <;> simp [Item.sec]

theorem SecsFrom.mono {a a' : Nat} {items : List Item} (h : a ≤ a') (hs : SecsFrom a' items) : SecsFrom a items := by
  cases items with
  | nil => trivial
  | cons it rest => exact ⟨Nat.le_trans h hs.1, hs.2⟩

theorem secsFrom_block {f : RRset → Item} {k : Nat} (hk : ∀ r, (f r).sec = k) {a : Nat} (ha : a ≤ k) {rest : List Item}
    (hrest : SecsFrom k rest) : ∀ l : List RRset, SecsFrom a (l.map f ++ rest)
  | [] => hrest.mono ha
  | r :: l => ⟨by rw [hk]; exact ha, by rw [hk]; exact secsFrom_block hk (Nat.le_refl k) hrest l⟩

/-- `to_wire` hands the sections to the renderer in order -/
theorem items_secsFrom (m : Message) : SecsFrom 0 m.items := by
  simp only [Message.items, List.append_assoc]
  refine secsFrom_block (k := 0) (fun _ => rfl) (Nat.le_refl 0) (secsFrom_block (k := 1) (fun _ => rfl) (by omega)
    (secsFrom_block (k := 2) (fun _ => rfl) (by omega) ?_ _) _) _
  simpa using secsFrom_block (f := Item.rr 3) (fun _ => rfl) (show 2 ≤ 3 by omega) (rest := []) trivial m.ad

/-- the renderer state after the section loops and the `TooBig` handler: header placeholder, one run over the first `k`
items, the reserves still held -/
def Message.loopState (m : Message) (L a b k fl sec' : Nat) (q : Bytes × CTable) : RState :=
  { RState.init m.id fl L m.origin with
    out := List.replicate 12 0 ++ q.1, tbl := q.2, counts := countItems {} (m.items.take k), sec := sec'
    reserved := 0 + a + b, maxSize := L - a - b }

theorem loopState_below {m : Message} {L a b k fl sec' : Nat} {q : Bytes × CTable}
    (hq : ItemsRun m.origin 12 [] (m.items.take k) (L - a - b) q) : TblBelow (m.loopState L a b k fl sec' q) := fun p hp => by
  have := (newIn_spec _).items (fun it _ => it.namesAll_true) hq.ext p hp
  simp only [Message.loopState, List.length_append, List.length_replicate]
  omega

/-- The section loops and the `TooBig` handler leave an untruncated run over a prefix of the items within the budget left
by the reserves: all of them, or with `prefer_truncation` those before the first that did not fit, TC then being set when
that one lies before ADDITIONAL. -/
theorem renderSections_ok {m : Message} {L : Nat} {pt : Bool} {a b : Nat} {r : RState}
    (h : m.renderSections L pt a b = .ok r) :
    ∃ k q fl sec', a + b ≤ L ∧ ItemsRun m.origin 12 [] (m.items.take k) (L - a - b) q ∧
      (k = m.items.length ∧ fl = m.flags ∨ pt = true ∧ ∃ hk : k < m.items.length,
        fl = if m.items[k].sec < ConstsC03.secADDITIONAL then m.flags ||| ConstsC03.tcFlag else m.flags) ∧
      sec' ≤ 3 ∧ r = m.loopState L a b k fl sec' q := by
  obtain ⟨hab, r3, big, h3, h4⟩ := renderSections_ok_iff.mp h
  cases big with
  | false =>
    cases h4
    obtain ⟨-, q, hq, rfl⟩ := (addItems_false_iff _).mp h3
    exact ⟨m.items.length, q, m.flags, _, hab, by rw [List.take_length]; exact hq, .inl ⟨rfl, rfl⟩,
      lastSec_le (Nat.zero_le 3) (items_sec_le m), by rw [Message.loopState, List.take_length]; rfl⟩
  | true =>
    obtain ⟨k, s'', hk, h1, rfl, _⟩ := addItems_big m.items _ r3 (by intro _ hp; cases hp) h3
    obtain ⟨-, q, hq, rfl⟩ := (addItems_false_iff _).mp h1
    cases pt with
    | false => cases h4
    | true =>
      cases h4
      refine ⟨k, q, _, m.items[k].sec, hab, hq, .inr ⟨rfl, hk, rfl⟩, items_sec_le m _ (List.getElem_mem hk), ?_⟩
      simp only [Message.loopState, RState.ran, RState.init]
      split <;> rfl

/-- conversely, when all items can be written in one run within the budget, the loops do so -/
theorem renderSections_of_run {m : Message} {L a b : Nat} {q : Bytes × CTable} (hab : a + b ≤ L)
    (hq : ItemsRun m.origin 12 [] m.items (L - a - b) q) :
    m.renderSections L false a b = .ok (m.loopState L a b m.items.length m.flags (lastSec 0 m.items) q) := by
  refine renderSections_ok_iff.mpr ⟨hab, _, false, (addItems_false_iff _).mpr ⟨items_secsFrom m, q, hq, rfl⟩, ?_⟩
  rw [Message.loopState, List.take_length]
  rfl

/-- `_compute_tsig_reserve` succeeds only for an absolute key name, with the uncompressed size of the record -/
theorem tsigReserve_some {m : Message} {t : Tsig} {b : Nat} (ht : m.tsig = some t) (hb : m.tsigReserve = .ok b) :
    isAbs t.name = true ∧ b = (toWire t.name).length + 10 + (tsigRdataWire t).length := by
  simp only [Message.tsigReserve, ht] at hb
  split at hb
  · cases hb; exact ⟨‹_›, rfl⟩
  · cases hb

theorem render_eq (m : Message) (lim : Nat) (pt : Bool) :
    m.render lim pt =
      m.tsigReserve.bind fun b => (m.renderSections (clampSize lim m.requestPayload) pt m.optReserve b).bind fun r =>
        r.finish m.opt m.tsig m.pad m.optReserve b := by
  unfold Message.render
  cases m.tsigReserve with
  | error e => rfl
  | ok b =>
    simp only [Except.bind]
    cases m.renderSections (clampSize lim m.requestPayload) pt m.optReserve b <;> rfl

theorem render_ok_iff {m : Message} {lim : Nat} {pt : Bool} {r : RState} :
    m.render lim pt = .ok r ↔
      ∃ b, m.tsigReserve = .ok b ∧ ∃ r4, m.renderSections (clampSize lim m.requestPayload) pt m.optReserve b = .ok r4 ∧
        r4.finish m.opt m.tsig m.pad m.optReserve b = .ok r := by
  simp only [render_eq, Except.bind_ok_iff]

theorem toWire_eq (m : Message) (lim : Nat) (pt : Bool) : m.toWire lim pt = (m.render lim pt).map (·.out) := by
  unfold Message.toWire
  cases m.render lim pt <;> rfl

theorem toWire_ok_iff {m : Message} {lim : Nat} {pt : Bool} {w : Bytes} :
    m.toWire lim pt = .ok w ↔ ∃ r, m.render lim pt = .ok r ∧ r.out = w := by
  rw [toWire_eq, Except.map_ok_iff]

/-- What a rendering is: the header with the final counts, then three runs — the first `k` items within the limit less the
reserves, the OPT record actually rendered and the TSIG record, against an empty table, within the limit.  `fl` are the
flags written (TC may have been added), `b` the TSIG reserve.  Size, counts, the wire form and the soundness of the
compression table are read off this. -/
structure Rendered (m : Message) (lim : Nat) (r : RState) (k fl b : Nat) (opt' : Option EOpt) (q qo qt : Bytes × CTable) :
    Prop where
  res : m.tsigReserve = .ok b
  room : m.optReserve + b ≤ clampSize lim m.requestPayload
  items : ItemsRun m.origin 12 [] (m.items.take k) (clampSize lim m.requestPayload - m.optReserve - b) q
  pad : opt' = m.opt.map (·.padded (12 + q.1.length) m.pad m.optReserve b)
  opt : ItemsRun m.origin (12 + q.1.length) q.2 (optItems opt') (clampSize lim m.requestPayload) qo
  tsig : ItemsRun m.origin (12 + q.1.length + qo.1.length) [] (tsigItems m.tsig) (clampSize lim m.requestPayload) qt
  counts : r.counts = countItems (countItems (countItems {} (m.items.take k)) (optItems opt')) (tsigItems m.tsig)
  out : r.out = hdrOf m.id fl r.counts ++ q.1 ++ qo.1 ++ qt.1
  tbl : r.tbl = if m.tsig.isSome then qt.2 else q.2 ++ qo.2

theorem loopState_length (m : Message) (L a b k fl sec' : Nat) (q : Bytes × CTable) :
    (m.loopState L a b k fl sec' q).out.length = 12 + q.1.length := by
  simp only [Message.loopState, List.length_append, List.length_replicate]

theorem render_ok {m : Message} {lim : Nat} {pt : Bool} {r : RState} (h : m.render lim pt = .ok r) :
    ∃ k fl b opt' q qo qt, Rendered m lim r k fl b opt' q qo qt ∧
      (k = m.items.length ∧ fl = m.flags ∨ pt = true ∧ ∃ hk : k < m.items.length,
        fl = if m.items[k].sec < ConstsC03.secADDITIONAL then m.flags ||| ConstsC03.tcFlag else m.flags) := by
  obtain ⟨b, hb, r4, hs, hf⟩ := render_ok_iff.mp h
  obtain ⟨k, q, fl, sec', hab, hq, hk, hsec, rfl⟩ := renderSections_ok hs
  obtain ⟨qo, qt, hqo, hqt, rfl⟩ := (finish_ok_iff (loopState_length ..)
    (show _ - _ - _ + (0 + _ + _) = clampSize lim m.requestPayload by omega) (Nat.le_add_right ..) hsec rfl).mp hf
  obtain ⟨hc, ho, ht⟩ := finished_eq (r := m.loopState (clampSize lim m.requestPayload) m.optReserve b k fl sec' q)
    (opt' := _) (wp := _) (qo := qo) (by rw [loopState_length]; omega) hqt.ext
  refine ⟨k, fl, b, _, q, qo, qt, ⟨hb, hab, hq, rfl, hqo, hqt, hc, ?_, ht⟩, hk⟩
  rw [ho, hc]
  simp [Message.loopState, RState.init]

/-- the converse for the ordinary rendering: runs over all the items, the OPT and the TSIG record that succeed and fit
are what `to_wire` returns -/
theorem Rendered.toWire {m : Message} {lim : Nat} {r : RState} {b : Nat} {opt' : Option EOpt} {q qo qt : Bytes × CTable}
    (hR : Rendered m lim r m.items.length m.flags b opt' q qo qt) : m.toWire lim false = .ok r.out := by
  have hq := hR.items
  rw [List.take_length] at hq
  refine toWire_ok_iff.mpr ⟨_, render_ok_iff.mpr ⟨b, hR.res, _, renderSections_of_run hR.room hq,
    (finish_ok_iff (loopState_length ..) (show _ - _ - _ + (0 + _ + _) = clampSize lim m.requestPayload by have := hR.room; omega)
      (Nat.le_add_right ..) (lastSec_le (Nat.zero_le 3) (items_sec_le m)) hR.pad).mpr ⟨qo, qt, hR.opt, hR.tsig, rfl⟩⟩, ?_⟩
  refine (finished_eq (by rw [loopState_length]; omega) hR.tsig.ext).2.1.trans ?_
  rw [hR.out, hR.counts]
  simp [Message.loopState, RState.init]

/-- a rendering is within the limit -/
theorem Rendered.size {m : Message} {lim : Nat} {r : RState} {k fl b : Nat} {opt' : Option EOpt} {q qo qt : Bytes × CTable}
    (hR : Rendered m lim r k fl b opt' q qo qt) : r.out.length ≤ clampSize lim m.requestPayload := by
  have := (clampSize_bounds lim m.requestPayload).1
  have : 12 ≤ ConstsC03.minSize := by decide
  have h1 : 12 + q.1.length ≤ clampSize lim m.requestPayload := by
    obtain ⟨he, h0 | hf⟩ := hR.items
    · rw [h0] at he; cases he; exact Nat.le_trans ‹12 ≤ _› ‹_›
    · omega
  rw [hR.out]
  simpa only [List.length_append, hdrOf_length] using hR.tsig.le (hR.opt.le h1)

end Model
