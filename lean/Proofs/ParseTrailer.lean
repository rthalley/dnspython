import Proofs.ParseSection
import Proofs.RenderShape
/-! Parsing back the two records `to_wire` appends after the sections: the OPT pseudo-record and the TSIG record (MAC
abstract: whatever octets it holds; validation is C14's business). -/
namespace Model

variable {Rs : RelSpec}

/-- A record set of one opaque record, as the renderer writes it at `c`: what `_get_section` reads up to the RDATA,
and where the RDATA lies. -/
theorem At.rawRecord {W : Bytes} {c : Nat} {t : CTable} {r : RRset} {b : Bytes} {q : Bytes × CTable × Nat} (h : At W c q.1)
    (hs : TableSound Rs.R (W.take c) t) (hrd : r.rdatas = [.raw b]) (hb : b.length < 65536)
    (hown : NameOk Rs none r.name) (hty : r.rdtype < 65536) (hcl : r.wireClass < 65536) (httl : r.ttl < 4294967296)
    (hq : rrsetExt c t none r = .ok q) :
    TableSound Rs.R (W.take (c + q.1.length)) (t ++ q.2.1) ∧
    ∃ owner' c', Rs.R owner' r.name ∧ getName W W.length c = .ok (owner', c') ∧ ¬ W.length - c' < 10 ∧
      beVal (slice W c' 2) = r.rdtype ∧ beVal (slice W (c' + 2) 2) = r.wireClass ∧ beVal (slice W (c' + 4) 4) = r.ttl ∧
      beVal (slice W (c' + 8) 2) = b.length ∧ At W (c' + 10) b ∧ c + q.1.length = c' + 10 + b.length := by
  obtain ⟨q1, h1, _, rfl⟩ := rrsetExt_raw_ok hrd hq
  obtain ⟨s1, hY, owner', hown', hg, c10, e1, e2, e3, e4⟩ := h.rrHeader hs hown h1 hty hcl httl hb
  have hfin : c + (q1.1 ++ u16 r.rdtype ++ u16 r.wireClass ++ u32 r.ttl ++ u16 b.length ++ b).length
      = c + q1.1.length + 10 + b.length := by
    simp only [List.length_append, u16_length, u32_length]; omega
  exact ⟨hfin ▸ s1.take hY, owner', _, hown', hg, c10, e1, e2, e3, e4, hY, hfin⟩

/-- field ranges of the OPT record (`struct.pack` widths) -/
structure OptOk (o : EOpt) : Prop where
  ttl : o.ttl < 4294967296
  payload : o.payload < 65536
  options : ∀ p ∈ o.options, p.1 < 65536 ∧ p.2.length < 65536
  total : (optionsWire o.options).length < 65536
  notTsigClass : True

theorem parseOptions_wire (opts : List (Nat × Bytes)) : ∀ (W : Bytes) (c fuel : Nat), At W c (optionsWire opts) →
    (∀ p ∈ opts, p.1 < 65536 ∧ p.2.length < 65536) → (optionsWire opts).length ≤ fuel →
    parseOptions W (c + (optionsWire opts).length) fuel c = .ok opts := by
  induction opts with
  | nil =>
    intro W c fuel _ _ _
    cases fuel <;> simp [parseOptions, optionsWire]
  | cons p rest ih =>
    intro W c fuel hat hok hfuel
    obtain ⟨t, b⟩ := p
    obtain ⟨ht, hb⟩ := hok (t, b) (by simp)
    have hlen : (optionsWire ((t, b) :: rest)).length = 4 + b.length + (optionsWire rest).length := by
      simp only [optionsWire, List.length_append, u16_length]
    have hat : At W c (u16 t ++ u16 b.length ++ b ++ optionsWire rest) := hat
    cases fuel with
    | zero => omega
    | succ f =>
      unfold parseOptions
      have c0 : c + (optionsWire ((t, b) :: rest)).length - c > 0 := by omega
      have c1 : ¬ (c + (optionsWire ((t, b) :: rest)).length - c < 4) := by omega
      have c2 : ¬ (b.length > c + (optionsWire ((t, b) :: rest)).length - (c + 4)) := by omega
      simp only [c0, if_true, c1, if_false, hat.fst.fst.fst.val16 ht, (hat.fst.fst.snd 2).val16 hb, c2,
        (hat.fst.snd 4).slice_eq]
      have hend : c + (optionsWire ((t, b) :: rest)).length = c + 4 + b.length + (optionsWire rest).length := by omega
      have hrest : At W (c + 4 + b.length) (optionsWire rest) :=
        Nat.add_assoc c 4 _ ▸ hat.snd (4 + b.length) (by simp only [List.length_append, u16_length])
      rw [hend, ih W _ f hrest (fun x hx => hok x (by simp [hx])) (by omega)]

theorem reads_opt {cfg : PCfg} (horg : cfg.origin = none) {upd : Bool} {t : CTable} {o : EOpt}
    {q : Bytes × CTable × Nat} (count i : Nat) {st : PState} (ho : OptOk o) (hnone : st.opt = none)
    (h : rrsetExt st.cur t none (optRRset o) = .ok q) :
    Reads Rs t st.cur q.1 q.2.1 (fun W => parseRR cfg upd W ConstsC03.secADDITIONAL count i st) fun st' =>
      st' = { st with cur := st.cur + q.1.length, opt := some o } := by
  intro W hW hs
  obtain ⟨hsnd, n', c, hn', hg, c10, e1, e2, e3, e4, hb, hfin⟩ := hW.rawRecord hs (r := optRRset o) rfl ho.total
    (rootOk none) (show ConstsC03.typeOPT < 65536 by decide) ho.payload ho.ttl h
  refine ⟨hsnd, _, ?_, rfl, rfl⟩
  dsimp only
  have hpo := parseOptions_wire o.options W (c + 10) (optionsWire o.options).length hb ho.options (Nat.le_refl _)
  have hroot : lowerName n' = [[]] := by
    have : lowerName n' = lowerName [[]] := Rs.toEqv hn'
    simpa [lowerName, lowerLabel] using this
  have clen : ¬ ((optionsWire o.options).length > W.length - (c + 10)) := by have := hb.end_le; omega
  unfold parseRR
  rw [hg]
  simp only [horg, c10, if_false, e1, e2, e3, e4, optRRset, RRset.wireClass]
  simp only [true_or, if_true, parseSpecialHeader, hnone, Option.isSome_none, hroot, ne_eq, not_true_eq_false,
    Bool.false_eq_true, or_self, if_false, clen, hpo, hfin]

structure TsigOk (Rs : RelSpec) (t : Tsig) : Prop where
  name : NameOk Rs none t.name
  algWf : WfName t.alg
  algAbs : isAbs t.alg = true
  time : t.time < 281474976710656
  fudge : t.fudge < 65536
  mac : t.mac.length < 65536
  origId : t.origId < 65536
  error : t.error < 65536
  other : t.other.length < 65536
  total : (tsigRdataWire t).length < 65536

/-- equal up to the ASCII case of the (compressible) owner name -/
def Tsig.sim (Rs : RelSpec) (a b : Tsig) : Prop :=
  Rs.R a.name b.name ∧ a.alg = b.alg ∧ a.time = b.time ∧ a.fudge = b.fudge ∧ a.mac = b.mac ∧ a.origId = b.origId ∧
    a.error = b.error ∧ a.other = b.other

theorem parseTsigRData_wire {W : Bytes} {c : Nat} {t : Tsig} (h : At W c (tsigRdataWire t)) (owner : Name)
    (ht : TsigOk Rs t) :
    parseTsigRData W c (c + (tsigRdataWire t).length) owner = .ok { t with name := owner } := by
  obtain ⟨ls, halg, hpl⟩ := abs_split t.alg ht.algWf ht.algAbs
  obtain ⟨na, hna⟩ : ∃ na, na = (toWire t.alg).length := ⟨_, rfl⟩
  have f0 : At W c (toWire t.alg ++ (u48 t.time ++ (u16 t.fudge ++ (u16 t.mac.length ++ (t.mac ++ (u16 t.origId ++
      (u16 t.error ++ (u16 t.other.length ++ t.other)))))))) := by
    simpa only [tsigRdataWire, List.append_assoc] using h
  have hlen : (tsigRdataWire t).length = na + 10 + t.mac.length + 6 + t.other.length := by
    simp only [tsigRdataWire, List.length_append, u48_length, u16_length, ← hna]
  have hlW : c + (tsigRdataWire t).length ≤ W.length := h.end_le
  -- the algorithm name: never compressed
  obtain ⟨Z, hW, hl⟩ := f0.fst.split
  have hd := Dec_plain ls hpl (W.take c) Z (W.take c).length
  rw [← halg, ← hW, hl] at hd
  have hg := getName_of_Dec hd (c + (tsigRdataWire t).length) (by omega) hlW (by rw [← halg]; exact ht.algWf)
  rw [← halg, ← hna] at hg
  -- the fields behind it, at the offsets the parser computes
  obtain ⟨s1, f⟩ := (f0.snd na hna.symm).read48 ht.time
  obtain ⟨s2, f⟩ := f.read16 ht.fudge
  obtain ⟨s3, f⟩ := f.read16 ht.mac
  obtain ⟨s4, f⟩ := f.readBytes
  obtain ⟨s5, f⟩ := f.read16 ht.origId
  obtain ⟨s6, f⟩ := f.read16 ht.error
  obtain ⟨s7, f⟩ := f.read16 ht.other
  unfold parseTsigRData
  rw [hg, hlen]
  simp only [s1, s2, s3, s4, s5, s6, s7, f.slice_eq, show ¬ (c + (na + 10 + t.mac.length + 6 + t.other.length) - (c + na) < 10) by omega,
    show ¬ (t.mac.length > c + (na + 10 + t.mac.length + 6 + t.other.length) - (c + na + 10)) by omega,
    show ¬ (c + (na + 10 + t.mac.length + 6 + t.other.length) - (c + na + 10 + t.mac.length) < 4) by omega,
    show ¬ (c + (na + 10 + t.mac.length + 6 + t.other.length) - (c + na + 10 + t.mac.length + 4) < 2) by omega,
    show ¬ (t.other.length > c + (na + 10 + t.mac.length + 6 + t.other.length) - (c + na + 10 + t.mac.length + 4 + 2)) by omega,
    show ¬ (c + na + 10 + t.mac.length + 4 + 2 + t.other.length ≠ c + (na + 10 + t.mac.length + 6 + t.other.length)) by omega, if_false]

theorem tsigRRset_namesOk' (t : Tsig) (h : TsigOk Rs t) : (tsigRRset t).namesOk Rs none :=
  tsigRRset_namesOk none t h.name

theorem reads_tsig {cfg : PCfg} (horg : cfg.origin = none) (hkey : cfg.hasKey = true) {upd : Bool} {t : CTable}
    {ts : Tsig} {q : Bytes × CTable × Nat} {count i : Nat} {st : PState} (ht : TsigOk Rs ts) (hpos : i = count - 1)
    (h : rrsetExt st.cur t none (tsigRRset ts) = .ok q) :
    Reads Rs t st.cur q.1 q.2.1 (fun W => parseRR cfg upd W ConstsC03.secADDITIONAL count i st) fun st' =>
      ∃ ts', ts'.sim Rs ts ∧ st' = { st with cur := st.cur + q.1.length, tsig := some ts' } := by
  intro W hW hs
  obtain ⟨hsnd, n', c, hn', hg, c10, e1, e2, e3, e4, hb, hfin⟩ := hW.rawRecord hs (r := tsigRRset ts) rfl ht.total
    ht.name (show ConstsC03.typeTSIG < 65536 by decide) (show ConstsC03.classANY < 65536 by decide)
    (show 0 < 4294967296 by decide) h
  refine ⟨hsnd, _, ?_, rfl, { ts with name := n' }, ⟨hn', rfl, rfl, rfl, rfl, rfl, rfl, rfl⟩, rfl⟩
  dsimp only
  have hpt := parseTsigRData_wire hb n' ht
  have hne : ConstsC03.typeTSIG ≠ ConstsC03.typeOPT := by decide
  have clen : ¬ ((tsigRdataWire ts).length > W.length - (c + 10)) := by have := hb.end_le; omega
  unfold parseRR
  rw [hg]
  simp only [horg, c10, if_false, e1, e2, e3, e4, tsigRRset, RRset.wireClass]
  simp only [or_true, if_true, parseSpecialHeader, hne, if_false, ne_eq, not_true_eq_false, false_or, hpos, clen, hpt, hkey,
    Bool.false_eq_true, hfin]

def optSim (Rs : RelSpec) : Option Tsig → Option Tsig → Prop
  | none, none => True
  | some a, some b => a.sim Rs b
  | _, _ => False

/-- the two records `to_wire` appends to ADDITIONAL, each a run of at most one item: the OPT record, then the TSIG record
in last place, rendered against an empty table -/
theorem reads_tail {cfg : PCfg} (horg : cfg.origin = none) (upd : Bool) {t : CTable} {opt : Option EOpt}
    {tsig : Option Tsig} {qo qt : Bytes × CTable} (nad : Nat) {st : PState} (hso : st.opt = none)
    (hst : st.tsig = none) (hoo : ∀ o, opt = some o → OptOk o)
    (hto : ∀ ts, tsig = some ts → TsigOk Rs ts ∧ cfg.hasKey = true)
    (hop : itemsExt none st.cur t (optItems opt) = .ok qo)
    (htp : itemsExt none (st.cur + qo.1.length) [] (tsigItems tsig) = .ok qt) :
    Reads Rs t st.cur (qo.1 ++ qt.1) (qo.2 ++ qt.2)
      (fun W => parseSection cfg upd W ConstsC03.secADDITIONAL (nad + (optItems opt).length + (tsigItems tsig).length)
        ((optItems opt).length + (tsigItems tsig).length) nad st) fun st' =>
        ∃ ts', optSim Rs ts' tsig ∧ st' = { st with cur := st.cur + qo.1.length + qt.1.length, opt := opt, tsig := ts' } := by
  have step1 : Reads Rs t st.cur qo.1 qo.2 (fun W => parseSection cfg upd W ConstsC03.secADDITIONAL
      (nad + (optItems opt).length + (tsigItems tsig).length) (optItems opt).length nad st)
      fun st' => st' = { st with cur := st.cur + qo.1.length, opt := opt } := by
    cases opt with
    | none =>
      cases hop
      exact Reads.nil (by cases st; simp at hso ⊢; exact hso)
    | some o =>
      obtain ⟨p, _, hp, hnil, rfl⟩ := itemsExt_cons_ok hop
      cases hnil
      simp only [List.append_nil]
      exact (reads_opt horg _ _ (hoo o rfl) hso hp).congr fun W => parseSection_one ..
  have step2 : Reads Rs [] (st.cur + qo.1.length) qt.1 qt.2
      (fun W => parseSection cfg upd W ConstsC03.secADDITIONAL (nad + (optItems opt).length + (tsigItems tsig).length)
        (tsigItems tsig).length (nad + (optItems opt).length) { st with cur := st.cur + qo.1.length, opt := opt })
      fun st' => ∃ ts', optSim Rs ts' tsig ∧ st' = { st with cur := st.cur + qo.1.length + qt.1.length, opt := opt, tsig := ts' } := by
    cases tsig with
    | none =>
      cases htp
      exact Reads.nil (st := { st with cur := st.cur + qo.1.length, opt := opt }) ⟨st.tsig, by rw [hst]; trivial, rfl⟩
    | some ts =>
      obtain ⟨p, _, hp, hnil, rfl⟩ := itemsExt_cons_ok htp
      cases hnil
      simp only [List.append_nil]
      exact ((reads_tsig (st := { st with cur := st.cur + qo.1.length, opt := opt }) horg (hto ts rfl).2 (hto ts rfl).1
        (by simp [tsigItems]) hp).mono fun s _ ⟨ts', hsim, hs'⟩ => ⟨some ts', hsim, hs'⟩).congr fun W => parseSection_one ..
  exact step1.seq (g := fun W s => parseSection cfg upd W ConstsC03.secADDITIONAL
      (nad + (optItems opt).length + (tsigItems tsig).length) (tsigItems tsig).length (nad + (optItems opt).length) s)
    (fun s _ hs => hs ▸ step2.fresh) _ (fun W => parseSection_add ..)

end Model
