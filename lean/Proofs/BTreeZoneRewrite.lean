import Proofs.BTreeZoneGood
/-!
Single-key updates of a `Good` version.  Every operation of the model leaves the store as it was except that the
node at one name is replaced or removed and the nodes strictly below it are re-flagged (`Rewritten`); such an
update keeps the version `Good` as soon as the flags at and below the name and the index at and below the name
follow the new delegation status of the name — what that means is said by `flagsSpec_at`/`flagsSpec_below` in terms
of the store before, and off the subtree the frame theorem of the specification does the rest.
-/
namespace Model
namespace BTZ

/-- `N'` is `N` with the node at `name` set to `r` (`none` = removed) and every node strictly below `name`
rewritten by `f`, which keeps rdatasets -/
structure Rewritten (N N' : Nodes) (name : Name) (r : Option Node) (f : Name → Node → Node) : Prop where
  here : nget N' name = r
  below : ∀ k, LC k → properSub k name = true → nget N' k = (nget N k).map (f k)
  elsewhere : ∀ k, LC k → k ≠ name → properSub k name = false → nget N' k = nget N k
  frds : ∀ k nd, (f k nd).rds = nd.rds

theorem Rewritten.sameNS {N N' : Nodes} {name : Name} {r : Option Node} {f : Name → Node → Node}
    (h : Rewritten N N' name r f) : SameNSExcept N N' name := by
  intro a ha hne
  unfold NS
  by_cases hb : properSub a name = true
  · rw [h.below a ha hb]
    cases hg : nget N a with
    | none => simp
    | some nd => simp [h.frds]
  · rw [h.elsewhere a ha hne (by simpa using hb)]

theorem Rewritten.other {N N' : Nodes} {name : Name} {r : Option Node} {f : Name → Node → Node}
    (h : Rewritten N N' name r f) {k : Name} {nd : Node} (hk : LC k) (hne : k ≠ name)
    (hg : nget N' k = some nd) :
    ∃ nd0, nget N k = some nd0 ∧ nd.rds = nd0.rds ∧
      ((properSub k name = true ∧ nd = f k nd0) ∨ (properSub k name = false ∧ nd = nd0)) := by
  by_cases hb : properSub k name = true
  · rw [h.below k hk hb] at hg
    cases hg0 : nget N k with
    | none => rw [hg0] at hg; cases hg
    | some nd0 =>
      rw [hg0] at hg; simp at hg
      exact ⟨nd0, rfl, by rw [← hg, h.frds], Or.inl ⟨hb, hg.symm⟩⟩
  · have hb' : properSub k name = false := by simpa using hb
    rw [h.elsewhere k hk hne hb'] at hg
    exact ⟨nd, hg, rfl, Or.inr ⟨hb', rfl⟩⟩

theorem rewritten_map_nset {N : Nodes} (h : NWF N) {name : Name} (hn : LC name) (F : Name → Node → Node)
    (hF : ∀ k nd, (F k nd).rds = nd.rds) (r : Option Node) :
    Rewritten N (nset (N.map (fun e => (e.1, if properSub e.1 name then F e.1 e.2 else e.2))) name r) name r F := by
  have h2 := NWF_map (fun e => if properSub e.1 name then F e.1 e.2 else e.2) h
  refine ⟨?_, ?_, ?_, hF⟩
  · rw [nget_nset h2 hn hn, if_pos rfl]
  · intro k hk hp
    rw [nget_nset h2 hn hk, if_neg (ne_of_properSub hp),
      nget_map' (fun e => if properSub e.1 name then F e.1 e.2 else e.2) h hk]
    simp [hp]
  · intro k hk hne hp
    rw [nget_nset h2 hn hk, if_neg hne, nget_map' (fun e => if properSub e.1 name then F e.1 e.2 else e.2) h hk]
    simp [hp]

theorem rewritten_nset {N : Nodes} (h : NWF N) {name : Name} (hn : LC name) (r : Option Node) :
    Rewritten N (nset N name r) name r (fun _ nd => nd) := by
  have := rewritten_map_nset h hn (fun _ nd => nd) (fun _ _ => rfl) r
  rwa [(List.map_congr_left fun e _ => by rw [ite_self]; rfl).trans (List.map_id N)] at this

/-- `N1` and `N` hold the same nodes at every name but `name` -/
def AgreeOff (N N1 : Nodes) (name : Name) : Prop := ∀ k, LC k → k ≠ name → nget N1 k = nget N k

theorem AgreeOff.refl (N : Nodes) (name : Name) : AgreeOff N N name := fun _ _ _ => rfl

theorem AgreeOff.nins {N : Nodes} (h : NWF N) {name : Name} (hn : LC name) (nd : Node) :
    AgreeOff N (nins N name nd) name := by
  intro k hk hne
  rw [nget_nins h hn hk, if_neg hne]

theorem Rewritten.of_agree {N N1 N' : Nodes} {name : Name} {r : Option Node} {F : Name → Node → Node}
    (hrw : Rewritten N1 N' name r F) (hag : AgreeOff N N1 name) : Rewritten N N' name r F := by
  refine ⟨hrw.here, ?_, ?_, hrw.frds⟩
  · intro k hk hp
    rw [hrw.below k hk hp, hag k hk (ne_of_properSub hp)]
  · intro k hk hne hp
    rw [hrw.elsewhere k hk hne hp, hag k hk hne]

theorem AgreeOff.sameNS {N N1 : Nodes} {name : Name} (hag : AgreeOff N N1 name) : SameNSExcept N N1 name :=
  fun a ha hne => by unfold NS; rw [hag a ha hne]

theorem NSBetween_agree {N N1 : Nodes} {name k : Name} (hag : AgreeOff N N1 name) :
    NSBetween N1 k name ↔ NSBetween N k name :=
  NSBetween_congr hag.sameNS

theorem AgreeOff.mem {N N1 : Nodes} (hN : NWF N) (hN1 : NWF N1) {name : Name} (hag : AgreeOff N N1 name)
    {e : Name × Node} (hne : e.1 ≠ name) (he : e ∈ N1) : e ∈ N :=
  nget_some_mem hN (hN1.2 e he) (hag e.1 (hN1.2 e he) hne ▸ mem_nget hN1 he)

theorem keysLC_nins {N : Nodes} (h : NWF N) {name : Name} (hn : LC name) (nd : Node) :
    ∀ e ∈ nins N name nd, LC e.1 := (NWF_nins h hn).2

theorem rewritten_nins {N : Nodes} (h : NWF N) {name : Name} (hn : LC name) (node0 node3 : Node) :
    Rewritten N (nins (nins N name node0) name node3) name (some node3) (fun _ nd => nd) :=
  (rewritten_nset (NWF_nins h hn) hn (some node3)).of_agree (AgreeOff.nins h hn node0)

theorem rewritten_ndel {N : Nodes} (h : NWF N) {name : Name} (hn : LC name) (node0 : Node) :
    Rewritten N (ndel (nins N name node0) name) name none (fun _ nd => nd) :=
  (rewritten_nset (NWF_nins h hn) hn none).of_agree (AgreeOff.nins h hn node0)

theorem Rewritten.after_cow {N : Nodes} (h : NWF N) {name : Name} (hn : LC name) (node0 : Node)
    {N' : Nodes} {r : Option Node} {F : Name → Node → Node}
    (hrw : Rewritten (nins N name node0) N' name r F) : Rewritten N N' name r F :=
  hrw.of_agree (AgreeOff.nins h hn node0)

theorem NSBetween_nins {N : Nodes} (h : NWF N) {name k : Name} (hn : LC name) (nd : Node) :
    NSBetween (nins N name nd) k name ↔ NSBetween N k name :=
  NSBetween_agree (AgreeOff.nins h hn nd)

theorem Rewritten.nsAt {N N' : Nodes} {name : Name} {r : Option Node} {f : Name → Node → Node}
    (h : Rewritten N N' name r f) : nsAt N' name = r.any fun nd => hasNS nd.rds := by
  unfold BTZ.nsAt; rw [h.here]; cases r <;> rfl

/-- a single-key update keeps the version `Good` when the node stored at `name` carries the delegation status `d1`
that its NS ownership gives it, and the nodes below `name` and the index at and below `name` are brought in line
with `d1`; every hypothesis speaks of the store before -/
theorem good_rewritten {cfg : Cfg} {N N' : Nodes} {D D' c c' : List Name} {name : Name} {r : Option Node}
    {f : Name → Node → Node} {d1 : Bool}
    (hg : Good cfg ⟨N, D, c⟩) (hN' : NWF N') (hD' : DWF D') (hn : LC name)
    (hz : isSubdomain name (apex cfg) = true) (hrw : Rewritten N N' name r f)
    (hd1 : d1 = delegNow cfg N name (r.any fun nd => hasNS nd.rds))
    (hr : ∀ nd, r = some nd → RdsOK nd.rds ∧ nd.flags = ⟨isOrigin cfg name, d1, isGlueSpec cfg N name⟩)
    (hf : ∀ k nd, LC k → properSub k name = true → nget N k = some nd →
      (f k nd).flags.origin = false ∧
      ((f k nd).flags.glue = true ↔ NSBetween N k name ∨ d1 = true ∨ isGlueSpec cfg N name = true) ∧
      ((f k nd).flags.deleg = true ↔ hasNS nd.rds = true ∧ ¬ (f k nd).flags.glue = true))
    (hD : ∀ n, LC n → (n ∈ D' ↔
      if n = name then d1 = true
      else if properSub n name = true then
        NS N n ∧ ¬ (NSBetween N n name ∨ d1 = true ∨ isGlueSpec cfg N name = true)
      else n ∈ D)) :
    Good cfg ⟨N', D', c'⟩ := by
  have hs := hrw.sameNS
  have hat := flagsSpec_at (cfg := cfg) hg.wf hN' hs
  rw [hrw.nsAt, ← hd1] at hat
  have hbelow := fun k hk hp => flagsSpec_below (cfg := cfg) (k := k) hg.wf hN' hn hz hs hk hp
  rw [hrw.nsAt, ← hd1] at hbelow
  apply Good_intro (ver := ⟨N', D', c'⟩) hN' hD'
  · intro k nd hk hgk
    by_cases e : k = name
    · subst e
      obtain ⟨h1, h2⟩ := hr nd (hrw.here.symm.trans hgk)
      exact ⟨hz, h1, h2.trans hat.symm⟩
    · obtain ⟨nd0, hg0, hrds0, hcase⟩ := hrw.other hk e hgk
      obtain ⟨p1, p2, p3⟩ := hg.pointwise hk hg0
      refine ⟨p1, by rw [hrds0]; exact p2, ?_⟩
      rcases hcase with ⟨hb, hnd⟩ | ⟨hb, hnd⟩
      · obtain ⟨f1, f2, f3⟩ := hf k nd0 hk hb hg0
        obtain ⟨s1, s2⟩ := hbelow k hk hb
        rw [hnd]
        refine flags_ext (f1.trans (not_origin_of_below hz hb hk).symm) ?_ ?_
        · show _ = isDelegSpec cfg N' k
          rw [Bool.eq_iff_iff, f3, s2, f2, s1, NS_iff_hasNS hg0]
        · show _ = isGlueSpec cfg N' k
          rw [Bool.eq_iff_iff, f2, s1]
      · rw [hnd, p3, flagsSpec_elsewhere hg.wf hN' hs k hk e hb]
  · intro n hnl
    show n ∈ D' ↔ _
    rw [hD n hnl]
    split
    · rename_i e; subst e
      rw [show isDelegSpec cfg N' n = d1 from congrArg Flags.deleg hat]
    · rename_i e
      split
      · rename_i hb
        obtain ⟨s1, s2⟩ := hbelow n hnl hb
        rw [s2, s1]
      · rename_i hb
        have := congrArg Flags.deleg (flagsSpec_elsewhere (cfg := cfg) hg.wf hN' hs n hnl e (by simpa using hb))
        simp only [flagsSpec] at this
        rw [this]; exact hg.index n hnl

end BTZ
end Model
