import Model.Tokenizer
/-!
Layout independence of the tokenizer: separators made of blanks, tabs, parentheses and — inside
parentheses — newlines and comments never change the tokens `Tokenizer.get` returns.
-/
namespace Model

/-- text of an identifier token: plain non-delimiter characters and `\c` escapes (`c` not a newline) -/
def identOK : List Nat → Bool
  | [] => true
  | [92] => false
  | 92 :: c :: rest => c ≠ 10 && identOK rest
  | c :: rest => !isDelim false c && identOK rest

/-- body of a quoted string: anything but `"` and newline, and `\c` escapes (any `c`) -/
def quotedOK : List Nat → Bool
  | [] => true
  | [92] => false
  | 92 :: _ :: rest => quotedOK rest
  | c :: rest => c ≠ 34 && c ≠ 10 && quotedOK rest

/-- does the text contain an escape (a backslash)? -/
def hasEsc (w : List Nat) : Bool := w.contains 92

theorem identOK_esc (c : Nat) (rest : List Nat) : identOK (92 :: c :: rest) = (c != 10 && identOK rest) := by
  simp [identOK, bne]
  cases h : (c == 10) <;> simp_all

theorem identOK_plain (c : Nat) (rest : List Nat) (h : c ≠ 92) :
    identOK (c :: rest) = (!isDelim false c && identOK rest) := by
  -- the last equation of `identOK`, whose side conditions exclude the two backslash patterns
  rw [identOK]
  · exact fun h1 => absurd h1 h
  · exact fun _ _ h1 => absurd h1 h

theorem quotedOK_esc (c : Nat) (rest : List Nat) : quotedOK (92 :: c :: rest) = quotedOK rest := by
  simp [quotedOK]

theorem quotedOK_plain (c : Nat) (rest : List Nat) (h : c ≠ 92) :
    quotedOK (c :: rest) = (c ≠ 34 && c ≠ 10 && quotedOK rest) := by
  rw [quotedOK]
  · exact fun h1 => absurd h1 h
  · exact fun _ _ h1 => absurd h1 h

theorem identOK_digit (x : Nat) (rest : List Nat) (hx : x < 10) : identOK ((48 + x) :: rest) = identOK rest := by
  rw [identOK_plain _ _ (by omega)]
  have : isDelim false (48 + x) = false := by
    simp [isDelim, delimiters]; omega
  simp [this]

theorem identOK_decimal (ds : List Nat) (h : ds.all isDecimal = true) : identOK ds = true := by
  induction ds with
  | nil => rfl
  | cons d r ih =>
    simp only [List.all_cons, Bool.and_eq_true] at h
    have hd : 48 ≤ d ∧ d ≤ 57 := by simpa [isDecimal] using h.1
    have : d = 48 + (d - 48) := by omega
    rw [this, identOK_digit _ _ (by omega)]
    exact ih h.2

/-- the loop of `get` entered in skip mode at depth `d`, not quoting, nothing accumulated: where `get` stands behind a
token.  On a blank, a parenthesis, a newline, `;`, `"` or the end of the text it takes one step of the automaton, so the
equations for these first characters hold by computation. -/
def runSkip (wc : Bool) (d : Nat) (l : List Nat) : Except TokErr GOut :=
  getLoop wc { ml := d, mode := .skip } l

def isWs (ml : Bool) (c : Nat) : Bool := c = 32 ∨ c = 9 ∨ (c = 10 ∧ ml = true)

theorem skipWs_head (ml : Bool) (l : List Nat) : ∀ c ∈ (skipWs ml l).2.head?, isWs ml c = false := by
  induction l with
  | nil => simp [skipWs]
  | cons a as ih =>
    unfold skipWs
    split
    · simpa using ih
    · rename_i h
      intro c hc
      simp at hc; subst hc
      simpa [isWs] using h

theorem skipWs_of_head (ml : Bool) (l : List Nat) (h : ∀ c ∈ l.head?, isWs ml c = false) : skipWs ml l = (0, l) := by
  cases l with
  | nil => rfl
  | cons c cs =>
    have hc : ¬ (c = 32 ∨ c = 9 ∨ (c = 10 ∧ ml = true)) := by simpa [isWs] using h c rfl
    simp only [skipWs, hc, if_false]

theorem getLoop_skip_ws (wc : Bool) (s : LS) (hm : s.mode = .skip) (c : Nat) (cs : List Nat)
    (hc : c = 32 ∨ c = 9 ∨ (c = 10 ∧ s.ml > 0)) : getLoop wc s (c :: cs) = getLoop wc s cs := by
  rw [getLoop]
  simp only [stepChar, hm, hc, if_true]

theorem skip_eq_tok (wc : Bool) (s : LS) (hm : s.mode = .skip) (c : Nat) (cs : List Nat)
    (hc : ¬ (c = 32 ∨ c = 9 ∨ (c = 10 ∧ s.ml > 0))) :
    getLoop wc s (c :: cs) = getLoop wc { s with mode := .tok } (c :: cs) := by
  rw [getLoop, getLoop]
  simp only [stepChar, hm, hc, if_false]
  rfl

theorem getLoop_tok_after_skipWs (wc : Bool) (s : LS) (hm : s.mode = .tok) (l : List Nat) :
    getLoop wc s (skipWs (decide (s.ml > 0)) l).2 = getLoop wc { s with mode := .skip } l := by
  induction l with
  | nil => simp [skipWs, getLoop, stepEof, hm]
  | cons c cs ih =>
    unfold skipWs
    split
    · rename_i h
      rw [getLoop_skip_ws wc { s with mode := .skip } rfl c cs (by simpa using h)]
      exact ih
    · rename_i h
      rw [skip_eq_tok wc { s with mode := .skip } rfl c cs (by simpa using h)]
      cases s
      cases hm
      rfl

/-- result of `TState.get` in terms of the loop's output -/
def liftOut (r : Except TokErr GOut) : Except TokErr (Token × TState) :=
  match r with
  | .error e => .error e
  | .ok o => .ok (o.token, { input := o.rest, ungotten := none, multiline := o.ml, quoting := o.q })

/-- `get` with nothing ungotten, not quoting, and no leading whitespace to report -/
theorem get_eq_runSkip (wl wc : Bool) (inp : List Nat) (d : Nat)
    (h : wl = true → (skipWs (decide (d > 0)) inp).1 = 0) :
    ({ input := inp, ungotten := none, multiline := d, quoting := false } : TState).get wl wc =
      liftOut (runSkip wc d inp) := by
  have hl : ¬ (wl = true ∧ (skipWs (decide (d > 0)) inp).1 > 0) := fun hc => by have := h hc.1; omega
  unfold TState.get
  simp only [hl, if_false]
  exact congrArg liftOut (getLoop_tok_after_skipWs wc { ml := d, q := false } rfl inp)

/-- after a quoted string the first character read is the closing quote, which takes the loop to skip mode -/
theorem get_eq_runSkip_quote (wc : Bool) (inp : List Nat) (d : Nat) :
    ({ input := 34 :: inp, ungotten := none, multiline := d, quoting := true } : TState).get false wc =
      liftOut (runSkip wc d inp) := by
  unfold TState.get
  simp only [Bool.false_eq_true, false_and, if_false]
  rw [skipWs_of_head _ _ (by simp [isWs])]
  rfl

inductive SepItem where
  | sp | tab
  | nl                          -- only inside parentheses
  | comment (text : List Nat)   -- `;text` up to and including the newline; only inside parentheses
  | opn | cls
  deriving Repr, DecidableEq

def SepItem.render : SepItem → List Nat
  | .sp => [32] | .tab => [9] | .nl => [10]
  | .comment t => 59 :: t ++ [10]
  | .opn => [40] | .cls => [41]

def renderSep (items : List SepItem) : List Nat := items.flatMap SepItem.render

/-- parenthesis depth after the separator; `none` = ill-formed (newline or comment at depth 0, `)` at depth 0,
newline inside a comment) -/
def sepDepth : Nat → List SepItem → Option Nat
  | d, [] => some d
  | d, .sp :: r => sepDepth d r
  | d, .tab :: r => sepDepth d r
  | d, .nl :: r => if d > 0 then sepDepth d r else none
  | d, .comment t :: r => if d > 0 ∧ 10 ∉ t then sepDepth d r else none
  | d, .opn :: r => sepDepth (d + 1) r
  | d, .cls :: r => if d > 0 then sepDepth (d - 1) r else none

theorem getLoop_comment (s : LS) (acc t rest : List Nat) (hm : s.mode = .comment acc) (ht : 10 ∉ t) :
    getLoop false s (t ++ 10 :: rest) = getLoop false { s with mode := .comment (acc ++ t) } (10 :: rest) := by
  induction t generalizing s acc with
  | nil => simp [← hm]
  | cons c cs ih =>
    have hc : c ≠ 10 := fun h => ht (by simp [h])
    have hcs : 10 ∉ cs := fun h => ht (by simp [h])
    simp only [List.cons_append]
    rw [getLoop]
    simp only [stepChar, hm, hc, if_false]
    rw [ih _ (acc ++ [c]) rfl hcs]
    simp

theorem runSkip_sep (items : List SepItem) (d d' : Nat) (rest : List Nat) (h : sepDepth d items = some d') :
    runSkip false d (renderSep items ++ rest) = runSkip false d' rest := by
  induction items generalizing d with
  | nil => cases h; rfl
  | cons it r ih =>
    have hr : renderSep (it :: r) ++ rest = it.render ++ (renderSep r ++ rest) := by simp [renderSep]
    rw [hr]
    -- a blank, a parenthesis and, inside parentheses, a newline are one step of the automaton each: the goal is the
    -- induction hypothesis up to computation
    cases it <;> simp only [sepDepth] at h
    case sp => exact ih d h
    case tab => exact ih d h
    case opn => exact ih (d + 1) h
    case nl =>
      split at h
      · obtain ⟨k, rfl⟩ : ∃ k, d = k + 1 := ⟨d - 1, by omega⟩
        exact ih _ h
      · cases h
    case cls =>
      split at h
      · obtain ⟨k, rfl⟩ : ∃ k, d = k + 1 := ⟨d - 1, by omega⟩
        exact ih _ h
      · cases h
    case comment t =>
      split at h
      · rename_i hd
        obtain ⟨k, rfl⟩ : ∃ k, d = k + 1 := ⟨d - 1, by omega⟩
        simp only [SepItem.render, List.cons_append, List.append_assoc, List.nil_append]
        exact (getLoop_comment { ml := k + 1, mode := .comment [] } [] t _ rfl hd.2).trans (ih _ h)
      · cases h

theorem getLoop_char (wc : Bool) (s : LS) (c : Nat) (cs : List Nat) (hm : s.mode = .tok)
    (hd : isDelim s.q c = false) (hnl : ¬ (s.q = true ∧ c = 10)) (hc : c ≠ 92) :
    getLoop wc s (c :: cs) = getLoop wc { s with tok := s.tok ++ [c], mode := .tok } cs := by
  rw [getLoop]
  simp only [stepChar, hm, stepMain, hd, Bool.false_eq_true, if_false, hnl, hc]

theorem getLoop_escape (wc : Bool) (s : LS) (c : Nat) (cs : List Nat) (hm : s.mode = .tok)
    (hc : ¬ (c = 10 ∧ (!s.q) = true)) :
    getLoop wc s (92 :: c :: cs) = getLoop wc { s with tok := s.tok ++ [92, c], esc := true, mode := .tok } cs := by
  have hd : isDelim s.q 92 = false := by cases s.q <;> decide
  rw [getLoop]
  simp only [stepChar, hm, stepMain, hd, Bool.false_eq_true, if_false, hc]
  simp

theorem getLoop_delim (wc : Bool) (s : LS) (c : Nat) (cs : List Nat) (hm : s.mode = .tok)
    (hd : isDelim s.q c = true) (hne : ¬ (s.tok = [] ∧ s.tt ≠ .quotedString)) :
    getLoop wc s (c :: cs) = finishTok s.tok s.tt s.esc s.ml s.q (c :: cs) := by
  rw [getLoop]
  simp only [stepChar, hm, stepMain, hd, if_true, hne, if_false]

theorem getLoop_ident (wc : Bool) (w : List Nat) (s : LS) (dch : Nat) (rest : List Nat)
    (hw : identOK w = true) (hm : s.mode = .tok) (hq : s.q = false) (htt : s.tt = .identifier)
    (hd : isDelim false dch = true) (hne : s.tok ++ w ≠ []) :
    getLoop wc s (w ++ dch :: rest) =
      .ok ⟨{ ttype := .identifier, value := s.tok ++ w, hasEscape := s.esc || hasEsc w }, dch :: rest, s.ml, false⟩ := by
  induction w using identOK.induct generalizing s with
  | case1 =>
    rw [List.append_nil] at hne
    rw [List.nil_append, getLoop_delim wc s dch rest hm (hq ▸ hd) (fun h => hne h.1)]
    simp [finishTok, hne, htt, hq, hasEsc]
  | case2 => cases hw
  | case3 c r ih =>
    simp only [identOK, Bool.and_eq_true, decide_eq_true_eq] at hw
    rw [List.cons_append, List.cons_append, getLoop_escape wc s c _ hm (fun h => hw.1 h.1),
      ih { s with tok := s.tok ++ [92, c], esc := true, mode := .tok } hw.2 rfl hq htt (by simp)]
    simp [hasEsc]
  | case4 c r h1 h2 ih =>
    have hc : c ≠ 92 := fun h => by cases r with | nil => exact h1 h rfl | cons a b => exact h2 a b h rfl
    rw [identOK_plain c r hc] at hw
    simp only [Bool.and_eq_true, Bool.not_eq_true'] at hw
    rw [List.cons_append, getLoop_char wc s c _ hm (hq ▸ hw.1) (by simp [hq]) hc,
      ih { s with tok := s.tok ++ [c], mode := .tok } hw.2 rfl hq htt (by simp)]
    simp [hasEsc, Ne.symm hc]

theorem getLoop_quoted (b : List Nat) (s : LS) (rest : List Nat)
    (hb : quotedOK b = true) (hm : s.mode = .tok) (hq : s.q = true) (htt : s.tt = .quotedString) :
    getLoop false s (b ++ 34 :: rest) =
      .ok ⟨{ ttype := .quotedString, value := s.tok ++ b, hasEscape := s.esc || hasEsc b }, 34 :: rest, s.ml, true⟩ := by
  induction b using quotedOK.induct generalizing s with
  | case1 =>
    rw [List.nil_append, getLoop_delim false s 34 rest hm (by rw [hq]; rfl) (fun h => h.2 htt)]
    simp [finishTok, htt, hq, hasEsc]
  | case2 => cases hb
  | case3 c r ih =>
    rw [quotedOK_esc] at hb
    rw [List.cons_append, List.cons_append, getLoop_escape false s c _ hm (by simp [hq]),
      ih { s with tok := s.tok ++ [92, c], esc := true, mode := .tok } hb rfl hq htt]
    simp [hasEsc]
  | case4 c r h1 h2 ih =>
    have hc : c ≠ 92 := fun h => by cases r with | nil => exact h1 h rfl | cons a b => exact h2 a b h rfl
    rw [quotedOK_plain c r hc] at hb
    simp only [Bool.and_eq_true, decide_eq_true_eq] at hb
    rw [List.cons_append, getLoop_char false s c _ hm (by simp [hq, isDelim, quotingDelimiters, hb.1.1])
      (fun h => hb.1.2 h.2) hc, ih { s with tok := s.tok ++ [c], mode := .tok } hb.2 rfl hq htt]
    simp [hasEsc, Ne.symm hc]

theorem identOK_head_not_ws (a : Nat) (r : List Nat) (hw : identOK (a :: r) = true) (ml : Nat) :
    ¬ (a = 32 ∨ a = 9 ∨ (a = 10 ∧ ml > 0)) := by
  by_cases h92 : a = 92
  · omega
  · rw [identOK_plain a r h92] at hw
    simp [isDelim, delimiters] at hw
    omega

theorem runSkip_ident (wc : Bool) (w : List Nat) (d dch : Nat) (rest : List Nat)
    (hw : identOK w = true) (hne : w ≠ []) (hd : isDelim false dch = true) :
    runSkip wc d (w ++ dch :: rest) =
      .ok ⟨{ ttype := .identifier, value := w, hasEscape := hasEsc w }, dch :: rest, d, false⟩ := by
  unfold runSkip
  cases w with
  | nil => exact absurd rfl hne
  | cons c r =>
    have := identOK_head_not_ws c r hw d
    simp only [List.cons_append]
    rw [skip_eq_tok wc _ rfl c _ this]
    have := getLoop_ident wc (c :: r) { ml := d, mode := .tok } dch rest hw rfl rfl rfl hd (by simp)
    simpa using this

theorem runSkip_quoted (b : List Nat) (d : Nat) (rest : List Nat) (hb : quotedOK b = true) :
    runSkip false d (34 :: b ++ 34 :: rest) =
      .ok ⟨{ ttype := .quotedString, value := b, hasEscape := hasEsc b }, 34 :: rest, d, true⟩ := by
  have := getLoop_quoted b { tt := .quotedString, ml := d, q := true, mode := .tok } rest hb rfl rfl rfl
  simp only [List.nil_append, Bool.false_or] at this
  -- the opening quote switches to quoting mode
  exact this

theorem runSkip_eol (wc : Bool) (rest : List Nat) :
    runSkip wc 0 (10 :: rest) = .ok ⟨{ ttype := .eol, value := [10] }, rest, 0, false⟩ := rfl

theorem runSkip_nil (wc : Bool) : runSkip wc 0 [] = .ok ⟨{ ttype := .eof }, [], 0, false⟩ := rfl

theorem runSkip_eol_comment (t rest : List Nat) (ht : 10 ∉ t) :
    runSkip false 0 (59 :: t ++ 10 :: rest) = .ok ⟨{ ttype := .eol, value := [10], comment := some t }, rest, 0, false⟩ :=
  (getLoop_comment { ml := 0, mode := .comment [] } [] t rest rfl ht).trans rfl

inductive Word where
  | ident (w : List Nat)
  | quoted (b : List Nat)
  deriving Repr, DecidableEq

def Word.ok : Word → Bool
  | .ident w => identOK w && !w.isEmpty
  | .quoted b => quotedOK b

def Word.text : Word → List Nat
  | .ident w => w
  | .quoted b => 34 :: b ++ [34]

def Word.isQuoted : Word → Bool
  | .ident _ => false
  | .quoted _ => true

/-- the token `get()` returns for the word -/
def Word.token : Word → Token
  | .ident w => { ttype := .identifier, value := w, hasEscape := hasEsc w }
  | .quoted b => { ttype := .quotedString, value := b, hasEscape := hasEsc b }

/-- tokenizer state between two words: depth `d`; after a quoted string the closing quote is still unread -/
def after (d : Nat) (pq : Bool) (tail : List Nat) : TState :=
  { input := if pq then 34 :: tail else tail, ungotten := none, multiline := d, quoting := pq }

theorem get_after (wc : Bool) (d : Nat) (pq : Bool) (tail : List Nat) :
    (after d pq tail).get false wc = liftOut (runSkip wc d tail) := by
  cases pq
  · exact get_eq_runSkip false wc tail d nofun
  · exact get_eq_runSkip_quote wc tail d

/-- the first `get(want_leading=True)` of a line that does not start with a blank -/
theorem get_first (wc : Bool) (tail : List Nat) (h : ∀ c ∈ tail.head?, isWs false c = false) :
    (after 0 false tail).get true wc = liftOut (runSkip wc 0 tail) :=
  get_eq_runSkip true wc tail 0 fun _ => by rw [skipWs_of_head _ _ (by simpa using h)]

def startsDelim (l : List Nat) : Prop := ∃ c cs, l = c :: cs ∧ isDelim false c = true

theorem startsDelim.append {l : List Nat} (h : startsDelim l) (x : List Nat) : startsDelim (l ++ x) := by
  obtain ⟨c, cs, rfl, hc⟩ := h
  exact ⟨c, cs ++ x, rfl, hc⟩

theorem renderSep_startsDelim (sp : List SepItem) (x : List Nat) (h : sp ≠ []) : startsDelim (renderSep sp ++ x) := by
  cases sp with
  | nil => exact absurd rfl h
  | cons it r =>
    -- every item renders to a text that starts with a delimiter
    have : startsDelim it.render := by cases it <;> exact ⟨_, _, rfl, by decide⟩
    simpa [renderSep, List.append_assoc] using (this.append (renderSep r)).append x

theorem get_word (sp : List SepItem) (w : Word) (T : List Nat) (d d1 : Nat) (pq : Bool)
    (hsp : sepDepth d sp = some d1) (hw : w.ok = true) (hT : startsDelim T) :
    (after d pq (renderSep sp ++ (w.text ++ T))).get = .ok (w.token, after d1 w.isQuoted T) := by
  rw [get_after, runSkip_sep sp d d1 _ hsp]
  cases w with
  | ident w =>
    obtain ⟨dch, rest, rfl, hd⟩ := hT
    simp only [Word.ok, Bool.and_eq_true, Bool.not_eq_true', List.isEmpty_eq_false_iff] at hw
    simp only [Word.text]
    rw [runSkip_ident false w d1 dch rest hw.1 hw.2 hd]
    simp [liftOut, Word.token, after, Word.isQuoted]
  | quoted b =>
    simp only [Word.ok] at hw
    simp only [Word.text, List.append_assoc, List.cons_append, List.nil_append]
    have := runSkip_quoted b d1 T hw
    simp only [List.cons_append] at this
    rw [this]
    simp [liftOut, Word.token, after, Word.isQuoted]

def trailingText : Option (List Nat) → List Nat
  | some t => 59 :: t
  | none => []

def eolToken (trailing : Option (List Nat)) : Token := { ttype := .eol, value := [10], comment := trailing }

theorem get_end (sp : List SepItem) (trailing : Option (List Nat)) (rest : List Nat) (d : Nat) (pq : Bool)
    (hsp : sepDepth d sp = some 0) (ht : ∀ t ∈ trailing, 10 ∉ t) :
    (after d pq (renderSep sp ++ (trailingText trailing ++ 10 :: rest))).get = .ok (eolToken trailing, after 0 false rest) := by
  rw [get_after, runSkip_sep sp d 0 _ hsp]
  cases trailing with
  | none =>
    simp only [trailingText, List.nil_append]
    rw [runSkip_eol]
    simp [liftOut, eolToken, after]
  | some t =>
    simp only [trailingText, List.cons_append]
    have := runSkip_eol_comment t rest (ht t rfl)
    simp only [List.cons_append] at this
    rw [this]
    simp [liftOut, eolToken, after]

/-- text of a line: every word preceded by its separator, a closing separator, an optional comment, newline -/
def renderLine (items : List (List SepItem × Word)) (sepEnd : List SepItem) (trailing : Option (List Nat)) : List Nat :=
  match items with
  | [] => renderSep sepEnd ++ (trailingText trailing ++ [10])
  | (sp, w) :: r => renderSep sp ++ (w.text ++ renderLine r sepEnd trailing)

/-- parenthesis depth at the end of the line (`none` = ill-formed layout) -/
def lineDepth : Nat → List (List SepItem × Word) → List SepItem → Option Nat
  | d, [], e => sepDepth d e
  | d, (sp, _) :: r, e => (sepDepth d sp).bind fun d' => lineDepth d' r e

/-- `get()` until end of line: the tokens of the line including the final EOL/EOF token -/
def getLine : Nat → TState → Except TokErr (List Token × TState)
  | 0, _ => .error .syntaxError
  | f + 1, s =>
    match s.get with
    | .error e => .error e
    | .ok (t, s') =>
      if t.isEolOrEof then .ok ([t], s')
      else match getLine f s' with
        | .error e => .error e
        | .ok (ts, s'') => .ok (t :: ts, s'')

theorem renderLine_startsDelim (r : List (List SepItem × Word)) (sepEnd : List SepItem) (trailing : Option (List Nat))
    (hsep : ∀ p ∈ r, p.1 ≠ []) : startsDelim (renderLine r sepEnd trailing) := by
  cases r with
  | nil =>
    simp only [renderLine]
    cases sepEnd with
    | nil =>
      cases trailing <;> simp [renderSep, trailingText, startsDelim, isDelim, delimiters]
    | cons it e => exact renderSep_startsDelim _ _ (by simp)
  | cons p r =>
    obtain ⟨sp, w⟩ := p
    simp only [renderLine]
    exact renderSep_startsDelim _ _ (hsep (sp, w) (by simp))

theorem Word.token_not_eol (w : Word) : w.token.isEolOrEof = false := by
  cases w <;> simp [Word.token, Token.isEolOrEof]

theorem getLine_items (items : List (List SepItem × Word)) (sepEnd : List SepItem) (trailing : Option (List Nat))
    (rest : List Nat) (d : Nat) (pq : Bool) (fuel : Nat) (hf : items.length < fuel)
    (hdepth : lineDepth d items sepEnd = some 0) (hw : ∀ p ∈ items, p.2.ok = true)
    (hsep : ∀ p ∈ items.tail, p.1 ≠ []) (ht : ∀ t ∈ trailing, 10 ∉ t) :
    getLine fuel (after d pq (renderLine items sepEnd trailing ++ rest)) =
      .ok (items.map (fun p => p.2.token) ++ [eolToken trailing], after 0 false rest) := by
  induction items generalizing d pq fuel with
  | nil =>
    cases fuel with
    | zero => simp at hf
    | succ f =>
      simp only [lineDepth] at hdepth
      simp only [renderLine, List.append_assoc, List.cons_append, List.nil_append, getLine]
      rw [get_end sepEnd trailing rest d pq hdepth ht]
      simp [eolToken, Token.isEolOrEof]
  | cons p r ih =>
    obtain ⟨sp, w⟩ := p
    cases fuel with
    | zero => simp at hf
    | succ f =>
      simp only [lineDepth] at hdepth
      cases hd1 : sepDepth d sp with
      | none => simp [hd1] at hdepth
      | some d1 =>
        simp only [hd1, Option.bind_some] at hdepth
        have hT := (renderLine_startsDelim r sepEnd trailing (by simpa using hsep)).append rest
        simp only [renderLine, List.append_assoc, getLine]
        rw [get_word sp w _ d d1 pq hd1 (hw (sp, w) (by simp)) hT]
        simp only [Word.token_not_eol, Bool.false_eq_true, if_false]
        have hsep' : ∀ p ∈ r.tail, p.1 ≠ [] := by
          intro p hp
          exact hsep p (by simpa using List.mem_of_mem_tail hp)
        rw [ih d1 w.isQuoted f (by simpa using hf) hdepth (fun p hp => hw p (by simp [hp])) hsep']
        simp

theorem map_snd_zip {α β γ : Type} (f : β → γ) (l : List α) (ws : List β) (h : l.length = ws.length) :
    (l.zip ws).map (fun p => f p.2) = ws.map f :=
  (List.map_map (f := Prod.snd) (g := f)).symm.trans (by rw [List.map_snd_zip (Nat.le_of_eq h.symm)])

end Model
