import Proofs.SetAlg
import Proofs.NameOrder
import Model.Rdataset
/-!
C07: the record order (`Rdata._cmp`) and `Rdataset`: the single-field updates in closed form (`update_ttl`, the covers
check), `add` case by case, the loops over `add` (invariant, TTL, refinement to `Set.union_update`), TTL minimisation
over histories, and rdataset objects with the `ImmutableRdataset` flag — every in-place operation keeps the rdataset
invariant on a mutable object and leaves an immutable object exactly as it is.
-/
namespace Model
namespace RdsProofs
open SetAlg

/-- Python's three-way test on `bytes` is the sign of `cmpBytes`, which is already -1, 0 or 1 -/
theorem digCmp_eq_cmpBytes (x y : Bytes) : digCmp x y = cmpBytes x y := by
  have hr := NameOrder.cmpBytes_range x y
  have heq := NameOrder.cmpBytes_eq x y
  unfold digCmp
  by_cases e : x = y
  · rw [if_pos e, heq.2 e]
  · have := mt heq.1 e
    rw [if_neg e]
    split <;> omega

/-- specification of record order: relative records first, then octet order of the canonical encoding -/
def rdLt (a b : Rd) : Prop := (a.rel = true ∧ b.rel = false) ∨ (a.rel = b.rel ∧ a.dig < b.dig)

theorem rdCmp_lt (a b : Rd) : rdCmp a b < 0 ↔ rdLt a b := by
  unfold rdCmp rdLt
  have := digCmp_eq_cmpBytes a.dig b.dig ▸ NameOrder.cmpBytes_lt a.dig b.dig
  cases ha : a.rel <;> cases hb : b.rel <;> simp [this]

theorem rdCmp_eq (a b : Rd) : rdCmp a b = 0 ↔ a.rel = b.rel ∧ a.dig = b.dig := by
  unfold rdCmp
  have := digCmp_eq_cmpBytes a.dig b.dig ▸ NameOrder.cmpBytes_eq a.dig b.dig
  cases ha : a.rel <;> cases hb : b.rel <;> simp [this]

theorem rdCmp_gt (a b : Rd) : rdCmp a b > 0 ↔ rdLt b a := by
  unfold rdCmp rdLt
  have := digCmp_eq_cmpBytes a.dig b.dig ▸ NameOrder.cmpBytes_gt a.dig b.dig
  cases ha : a.rel <;> cases hb : b.rel <;> simp [this]

theorem rdLt_irrefl (a : Rd) : ¬ rdLt a a := by
  unfold rdLt
  rintro (⟨p, q⟩ | ⟨_, q⟩)
  · rw [p] at q; cases q
  · exact List.lt_irrefl _ q

theorem rdLt_trans {a b c : Rd} (h1 : rdLt a b) (h2 : rdLt b c) : rdLt a c := by
  unfold rdLt at *
  rcases h1 with ⟨p, q⟩ | ⟨p, q⟩ <;> rcases h2 with ⟨p', q'⟩ | ⟨p', q'⟩
  · rw [q] at p'; cases p'
  · left; exact ⟨p, p' ▸ q⟩
  · left; exact ⟨p ▸ p', q'⟩
  · right; exact ⟨p.trans p', List.lt_trans q q'⟩

/-- `update_ttl` touches the TTL only: the new one on an empty set, else the smaller of the two -/
theorem updateTtl_eq (s : Rds) (t : Nat) :
    updateTtl s t = { s with ttl := if s.items = [] then t else min t s.ttl } := by
  unfold updateTtl
  by_cases h : s.items = []
  · simp [h]
  · simp only [List.length_eq_zero_iff, h, if_false]
    split
    · rw [Nat.min_eq_left (by omega)]
    · rw [Nat.min_eq_right (by omega)]

theorem mergeTtl_eq (s : Rds) (ttl : Option Nat) : mergeTtl s ttl = { s with ttl := (mergeTtl s ttl).ttl } := by
  cases ttl with
  | none => rfl
  | some t => exact (updateTtl_eq s t).trans (by rw [mergeTtl, updateTtl_eq])

/-- the covers check touches `covers` only -/
theorem coversStep_eq (s : Rds) (rd : Rd) : ∃ c, (coversStep s rd).1 = { s with covers := c } := by
  unfold coversStep
  split
  · split
    · exact ⟨_, rfl⟩
    · split <;> exact ⟨_, rfl⟩
  · exact ⟨_, rfl⟩

theorem insertStep_eq (sing : List Nat) (s : Rds) (rd : Rd) : insertStep sing s rd =
    { s with items := if rd.typ ∈ sing ∧ s.items.length > 0 then [rd] else SetAlg.add s.items rd } := by
  unfold insertStep
  by_cases h : rd.typ ∈ sing ∧ s.items.length > 0 <;> simp [h, SetAlg.add]

theorem rdsAdd_incompatible (sing : List Nat) (s : Rds) (rd : Rd) (ttl : Option Nat)
    (h : s.cls ≠ rd.cls ∨ s.typ ≠ rd.typ) : rdsAdd sing s rd ttl = (s, some .incompatibleTypes) :=
  if_pos h

theorem rdsAdd_compatible (sing : List Nat) (s : Rds) (rd : Rd) (ttl : Option Nat)
    (hc : s.cls = rd.cls) (ht : s.typ = rd.typ) :
    rdsAdd sing s rd ttl =
      match coversStep (mergeTtl s ttl) rd with
      | (s2, some e) => (s2, some e)
      | (s2, none) => (insertStep sing s2 rd, none) :=
  if_neg (by simp [hc, ht])

theorem rdsAdd_ok (sing : List Nat) (s : Rds) (rd : Rd) (ttl : Option Nat)
    (hc : s.cls = rd.cls) (ht : s.typ = rd.typ) (hns : ¬ (s.typ = 46 ∨ s.typ = 24)) :
    rdsAdd sing s rd ttl = (insertStep sing (mergeTtl s ttl) rd, none) := by
  have hcs : coversStep (mergeTtl s ttl) rd = (mergeTtl s ttl, none) := by
    rw [mergeTtl_eq]
    exact if_neg hns
  rw [rdsAdd_compatible sing s rd ttl hc ht, hcs]

/-- invariant of an rdataset: duplicate-free, and every record has the set's class and type -/
def WfRds (s : Rds) : Prop := s.items.Nodup ∧ ∀ r ∈ s.items, r.cls = s.cls ∧ r.typ = s.typ

theorem insertStep_wf (sing : List Nat) (s : Rds) (rd : Rd) (h : WfRds s)
    (hc : s.cls = rd.cls) (ht : s.typ = rd.typ) : WfRds (insertStep sing s rd) := by
  rw [insertStep_eq]
  have hrd : rd.cls = s.cls ∧ rd.typ = s.typ := ⟨hc.symm, ht.symm⟩
  split
  · exact ⟨List.pairwise_singleton _ rd, fun r hr => List.mem_singleton.1 hr ▸ hrd⟩
  · exact ⟨nodup_add _ _ h.1, fun r hr => ((mem_add _ _ _).1 hr).elim (h.2 r) (· ▸ hrd)⟩

theorem rdsAdd_frame (sing : List Nat) (s : Rds) (rd : Rd) (ttl : Option Nat) :
    (WfRds s → WfRds (rdsAdd sing s rd ttl).1) ∧
    (rdsAdd sing s rd ttl).1.ttl =
      (if s.cls ≠ rd.cls ∨ s.typ ≠ rd.typ then s.ttl else (mergeTtl s ttl).ttl) := by
  by_cases h0 : s.cls ≠ rd.cls ∨ s.typ ≠ rd.typ
  · rw [rdsAdd_incompatible sing s rd ttl h0, if_pos h0]
    exact ⟨id, rfl⟩
  · have hc : s.cls = rd.cls := Classical.byContradiction fun x => h0 (Or.inl x)
    have ht : s.typ = rd.typ := Classical.byContradiction fun x => h0 (Or.inr x)
    rw [rdsAdd_compatible sing s rd ttl hc ht, if_neg h0, mergeTtl_eq]
    -- the state the record is inserted into differs from `s` in TTL and `covers` only, which the invariant does not read
    obtain ⟨c, hs2⟩ := coversStep_eq { s with ttl := (mergeTtl s ttl).ttl } rd
    cases hcs : coversStep { s with ttl := (mergeTtl s ttl).ttl } rd with
    | mk s2 err =>
      rw [hcs] at hs2
      cases hs2
      cases err with
      | some e => exact ⟨id, rfl⟩
      | none => exact ⟨fun h => insertStep_wf sing _ rd h hc ht, by simp only [insertStep_eq]⟩

theorem rdsAdd_wf (sing : List Nat) (s : Rds) (rd : Rd) (ttl : Option Nat) (h : WfRds s) :
    WfRds (rdsAdd sing s rd ttl).1 :=
  (rdsAdd_frame sing s rd ttl).1 h

/-- the loop stops at the first exception, so what `add` keeps whatever its outcome the loop keeps -/
theorem rdsAddAll_induct (sing : List Nat) (P : Rds → Prop)
    (hP : ∀ s x, P s → P (rdsAdd sing s x none).1) (s : Rds) (xs : List Rd) (h : P s) :
    P (rdsAddAll sing s xs).1 := by
  induction xs generalizing s with
  | nil => exact h
  | cons x xs ih =>
    have hx := hP s x h
    unfold rdsAddAll
    cases hadd : rdsAdd sing s x none with
    | mk s' err =>
      rw [hadd] at hx
      cases err with
      | some e => exact hx
      | none => exact ih s' hx

/-- the loop passes no TTL to `add`, so the merged TTL is the old one -/
theorem rdsAddAll_ttl (sing : List Nat) (s : Rds) (xs : List Rd) : (rdsAddAll sing s xs).1.ttl = s.ttl := by
  refine rdsAddAll_induct sing (fun s' => s'.ttl = s.ttl) (fun s' x h => ?_) s xs rfl
  have a := (rdsAdd_frame sing s' x none).2
  rw [show (mergeTtl s' none).ttl = s'.ttl from rfl, ite_self] at a
  exact a.trans h

theorem rdsAddAll_wf (sing : List Nat) (s : Rds) (xs : List Rd) (h : WfRds s) :
    WfRds (rdsAddAll sing s xs).1 :=
  rdsAddAll_induct sing WfRds (fun s x => rdsAdd_wf sing s x none) s xs h

/-- exactly `Set.union_update` on the items: the overridden `add` changes nothing -/
theorem rdsAddAll_refines (sing : List Nat) (s : Rds) (xs : List Rd)
    (hsing : s.typ ∉ sing) (hns : ¬ (s.typ = 46 ∨ s.typ = 24))
    (hx : ∀ r ∈ xs, r.cls = s.cls ∧ r.typ = s.typ) :
    rdsAddAll sing s xs = ({ s with items := SetAlg.unionUpdate s.items xs }, none) := by
  induction xs generalizing s with
  | nil => rfl
  | cons x xs ih =>
    obtain ⟨xc, xt⟩ := hx x (by simp)
    have hnot : ¬ (x.typ ∈ sing ∧ s.items.length > 0) := fun h => hsing (xt ▸ h.1)
    unfold rdsAddAll
    rw [rdsAdd_ok sing s x none xc.symm xt.symm hns, mergeTtl, insertStep_eq, if_neg hnot]
    exact ih { s with items := SetAlg.add s.items x } hsing hns (fun r hr => hx r (by simp [hr]))

/-- every mutating operation of an rdataset; the other operand of a binary operation is any rdataset value,
the `…Self` constructors are the aliased calls (`self is other`) -/
inductive Op where
  | add (rd : Rd) (ttl : Option Nat)
  | updateTtl (t : Nat)
  | unionUpdate (o : Rds) | unionUpdateSelf
  | interUpdate (o : Rds) | interUpdateSelf
  | update (o : Rds) | updateSelf
  | diffUpdate (o : Rds) | diffUpdateSelf
  | symDiffUpdate (o : Rds) | symDiffUpdateSelf
  | remove (rd : Rd) | discard (rd : Rd) | pop | clear
  | delItem (i : Nat) | delSlice (a : Nat) (b : Option Nat) (st : Nat)

/-- the state after an operation (whether or not it raised) -/
def step (sing : List Nat) (s : Rds) : Op → Rds
  | .add rd ttl => (rdsAdd sing s rd ttl).1
  | .updateTtl t => updateTtl s t
  | .unionUpdate o => (rdsUnionUpdate sing s o false).1
  | .unionUpdateSelf => (rdsUnionUpdate sing s s true).1
  | .interUpdate o => (rdsInterUpdate s o false).1
  | .interUpdateSelf => (rdsInterUpdate s s true).1
  | .update o => (rdsUpdate sing s o).1
  | .updateSelf => (rdsUpdate sing s s).1
  | .diffUpdate o => (rdsDiffUpdate s o false).1
  | .diffUpdateSelf => (rdsDiffUpdate s s true).1
  | .symDiffUpdate o => (rdsSymDiffUpdate sing s o false).1
  | .symDiffUpdateSelf => (rdsSymDiffUpdate sing s s true).1
  | .remove rd => (match SetAlg.remove s.items rd with | some v => { s with items := v } | none => s)
  | .discard rd => { s with items := SetAlg.discard s.items rd }
  | .pop => (match SetAlg.pop s.items with | some (_, v) => { s with items := v } | none => s)
  | .clear => { s with items := [] }
  | .delItem i => (match SetAlg.delItem s.items i with | some v => { s with items := v } | none => s)
  | .delSlice a b st => { s with items := SetAlg.delSlice s.items a b st }

/-- the TTL an operation merges into the set (the argument of the `update_ttl` call it makes), if any;
read off the call, not off the model's state change -/
def merged (s : Rds) : Op → Option Nat
  | .add rd ttl => if s.cls ≠ rd.cls ∨ s.typ ≠ rd.typ then none else ttl
  | .updateTtl t => some t
  | .unionUpdate o => some o.ttl
  | .unionUpdateSelf => some s.ttl
  | .interUpdate o => some o.ttl
  | .interUpdateSelf => some s.ttl
  | .update o => some o.ttl
  | .updateSelf => some s.ttl
  | .symDiffUpdate o => some o.ttl
  | _ => none

/-- the TTLs merged since a merge last found the set empty -/
def ghostStep (g : List Nat) (s : Rds) (op : Op) : List Nat :=
  match merged s op with
  | some t => if s.items = [] then [t] else t :: g
  | none => g

def run (sing : List Nat) : Rds × List Nat → List Op → Rds × List Nat
  | p, [] => p
  | (s, g), op :: ops => run sing (step sing s op, ghostStep g s op) ops

def minOf : List Nat → Nat
  | [] => 0
  | [x] => x
  | x :: y :: r => min x (minOf (y :: r))

theorem minOf_cons (t : Nat) (g : List Nat) (h : g ≠ []) : minOf (t :: g) = min t (minOf g) := by
  cases g with
  | nil => exact absurd rfl h
  | cons y r => rfl

theorem step_ttl (sing : List Nat) (s : Rds) (op : Op) :
    (step sing s op).ttl = (match merged s op with | some t => (updateTtl s t).ttl | none => s.ttl) := by
  have hall (o : Rds) : (rdsAddAll sing (updateTtl s o.ttl) o.items).1.ttl = (updateTtl s o.ttl).ttl :=
    rdsAddAll_ttl sing _ _
  cases op with
  | add rd ttl =>
    simp only [step, merged]
    rw [(rdsAdd_frame sing s rd ttl).2]
    split
    · rfl
    · cases ttl <;> rfl
  | unionUpdate o => exact hall o
  | update o => exact hall o
  | updateSelf => exact hall s
  | symDiffUpdate o =>
    -- the union's TTL survives the final `difference_update`, which the TTL does not enter
    simp only [step, merged, rdsSymDiffUpdate, Bool.false_eq_true, if_false]
    have hu : (rdsUnionUpdate sing s o false).1.ttl = (updateTtl s o.ttl).ttl := hall o
    cases hh : rdsUnionUpdate sing s o false with
    | mk s1 err =>
      rw [hh] at hu
      cases err with
      | some e => exact hu
      | none => exact hu
  | remove rd =>
    simp only [step, merged]
    split <;> rfl
  | pop =>
    simp only [step, merged]
    split <;> rfl
  | delItem i =>
    simp only [step, merged]
    split <;> rfl
  | _ => rfl

theorem ttl_invariant (sing : List Nat) (s : Rds) (g : List Nat) (op : Op)
    (h : g ≠ [] ∧ s.ttl = minOf g) :
    ghostStep g s op ≠ [] ∧ (step sing s op).ttl = minOf (ghostStep g s op) := by
  rw [step_ttl]
  unfold ghostStep
  cases hm : merged s op with
  | none => exact h
  | some t =>
    simp only
    rw [updateTtl_eq]
    by_cases he : s.items = []
    · simp [he, minOf]
    · simp only [he, if_false]
      exact ⟨List.cons_ne_nil _ _, by rw [minOf_cons t g h.1, h.2]⟩

theorem run_ttl (sing : List Nat) (ops : List Op) (s : Rds) (g : List Nat)
    (h : g ≠ [] ∧ s.ttl = minOf g) :
    (run sing (s, g) ops).2 ≠ [] ∧ (run sing (s, g) ops).1.ttl = minOf (run sing (s, g) ops).2 := by
  induction ops generalizing s g with
  | nil => exact h
  | cons op ops ih => exact ih _ _ (ttl_invariant sing s g op h)

theorem wf_of_sublist (s : Rds) (l : List Rd) (h : WfRds s) (hl : l.Sublist s.items) :
    WfRds { s with items := l } :=
  ⟨h.1.sublist hl, fun r hr => h.2 r (hl.subset hr)⟩

theorem updateTtl_wf (s : Rds) (t : Nat) (h : WfRds s) : WfRds (updateTtl s t) := by
  rw [updateTtl_eq]; exact h

/-- the operations that do not go through `add` leave a sublist of the items -/
theorem mutApply_wf (sing : List Nat) (s : Rds) (op : InPlace) (o : Rds) (alias : Bool) (h : WfRds s) :
    WfRds (mutApply sing s op o alias).1 := by
  have hu := updateTtl_wf s o.ttl h
  have hclear : WfRds { s with items := [] } := wf_of_sublist s [] h (List.nil_sublist _)
  have hdiff : WfRds (rdsDiffUpdate s o alias).1 := by
    unfold rdsDiffUpdate
    split
    · exact hclear
    · exact wf_of_sublist s _ h (diffUpdate_sublist _ _ h.1)
  cases op with
  | add rd ttl => exact rdsAdd_wf sing s rd ttl h
  | updateTtl t => exact updateTtl_wf s t h
  | remove rd =>
    simp only [mutApply]
    cases hr : SetAlg.remove s.items rd with
    | none => exact h
    | some v => exact wf_of_sublist s v h (remove_sublist hr)
  | discard rd => exact wf_of_sublist s _ h (discard_sublist _ _)
  | pop =>
    simp only [mutApply]
    cases hp : SetAlg.pop s.items with
    | none => exact h
    | some p => exact wf_of_sublist s p.2 h (pop_sublist hp)
  | clear => exact hclear
  | delItem i =>
    simp only [mutApply]
    cases hd : SetAlg.delItem s.items i with
    | none => exact h
    | some v => exact wf_of_sublist s v h (delItem_sublist hd)
  | delSlice a b st => exact wf_of_sublist s _ h (delSlice_sublist _ a b st h.1)
  | unionUpdate =>
    simp only [mutApply, rdsUnionUpdate]
    split
    · exact hu
    · exact rdsAddAll_wf sing _ _ hu
  | interUpdate =>
    simp only [mutApply, rdsInterUpdate]
    split
    · exact hu
    · exact wf_of_sublist _ _ hu (interUpdate_sublist _ _ hu.1)
  | update => exact rdsAddAll_wf sing _ _ hu
  | diffUpdate => exact hdiff
  | isub => exact hdiff
  | symDiffUpdate =>
    simp only [mutApply, rdsSymDiffUpdate]
    split
    · exact hclear
    · have hw1 : WfRds (rdsUnionUpdate sing s o false).1 := rdsAddAll_wf sing _ _ hu
      cases hh : rdsUnionUpdate sing s o false with
      | mk s1 err =>
        rw [hh] at hw1
        cases err with
        | some e => exact hw1
        | none => exact wf_of_sublist s1 _ hw1 (diffUpdate_sublist _ _ hw1.1)

theorem regApply_imm_fst (sing : List Nat) (r : Reg) (hi : r.imm = true) (op : InPlace) (o : Rds) (alias : Bool) :
    (regApply sing r op o alias).1 = r := by
  unfold regApply
  rw [if_pos hi]
  cases op <;> try rfl
  show (if (!alias && o.items.isEmpty) = true then (r, none) else (r, some RdsErr.immutable)).1 = r
  split <;> rfl

/-- a history of in-place operations (operation, other operand's value, aliased?) on one object -/
def regRun (sing : List Nat) : Reg → List (InPlace × Rds × Bool) → Reg
  | r, [] => r
  | r, (op, o, al) :: rest => regRun sing (regApply sing r op o al).1 rest

theorem regRun_imm (sing : List Nat) (s : Rds) (h : List (InPlace × Rds × Bool)) :
    regRun sing ⟨s, true⟩ h = ⟨s, true⟩ := by
  induction h with
  | nil => rfl
  | cons x rest ih =>
    obtain ⟨op, o, al⟩ := x
    rw [regRun, regApply_imm_fst sing ⟨s, true⟩ rfl]
    exact ih

end RdsProofs
end Model
