import Model.ZoneTxn
/-! The value layer under the reference model (C10): what `Rdataset.add`, `update_ttl` and the fold of
`union_update` do to header, TTL and items; RFC 1982 serial comparison as inequalities and `+` as arithmetic
modulo 2^32. -/
namespace Model.ZT
open Model

theorem add_hdr (s : Rdataset) (rd : Rdata) :
    (s.add rd).rdclass = s.rdclass ∧ (s.add rd).rdtype = s.rdtype ∧ (s.add rd).covers = s.covers ∧
      (s.add rd).ttl = s.ttl := by
  unfold Rdataset.add
  dsimp only
  split <;> split <;> exact ⟨rfl, rfl, rfl, rfl⟩

theorem foldl_add_hdr (l : List Rdata) (s : Rdataset) :
    (l.foldl Rdataset.add s).rdclass = s.rdclass ∧ (l.foldl Rdataset.add s).rdtype = s.rdtype ∧
      (l.foldl Rdataset.add s).covers = s.covers ∧ (l.foldl Rdataset.add s).ttl = s.ttl := by
  induction l generalizing s with
  | nil => exact ⟨rfl, rfl, rfl, rfl⟩
  | cons x xs ih =>
    have h1 := ih (s.add x)
    have h2 := add_hdr s x
    exact ⟨h1.1.trans h2.1, h1.2.1.trans h2.2.1, h1.2.2.1.trans h2.2.2.1, h1.2.2.2.trans h2.2.2.2⟩

theorem updateTtl_hdr (s : Rdataset) (ttl : Nat) :
    (s.updateTtl ttl).rdclass = s.rdclass ∧ (s.updateTtl ttl).rdtype = s.rdtype ∧ (s.updateTtl ttl).covers = s.covers := by
  unfold Rdataset.updateTtl
  split
  · exact ⟨rfl, rfl, rfl⟩
  · split <;> exact ⟨rfl, rfl, rfl⟩

theorem union_hdr (a b : Rdataset) :
    (a.union b).rdclass = a.rdclass ∧ (a.union b).rdtype = a.rdtype ∧ (a.union b).covers = a.covers := by
  have h1 := foldl_add_hdr b.items (a.updateTtl b.ttl)
  have h2 := updateTtl_hdr a b.ttl
  exact ⟨h1.1.trans h2.1, h1.2.1.trans h2.2.1, h1.2.2.1.trans h2.2.2⟩

theorem updateTtl_items (s : Rdataset) (ttl : Nat) : (s.updateTtl ttl).items = s.items := by
  unfold Rdataset.updateTtl; split
  · rfl
  · split <;> rfl

theorem updateTtl_ttl (s : Rdataset) (ttl : Nat) :
    (s.updateTtl ttl).ttl = if s.items = [] then ttl else min s.ttl ttl := by
  unfold Rdataset.updateTtl
  by_cases h : s.items.length = 0
  · rw [if_pos h, if_pos (List.eq_nil_of_length_eq_zero h)]
  · rw [if_neg h, if_neg fun e : s.items = [] => h (by rw [e]; rfl)]
    by_cases h2 : ttl < s.ttl
    · rw [if_pos h2]; show ttl = min s.ttl ttl; omega
    · rw [if_neg h2]; show s.ttl = min s.ttl ttl; omega

theorem add_mem_plain (s : Rdataset) (rd x : Rdata) (h : isSingleton rd.rdtype = false) :
    x ∈ (s.add rd).items ↔ x ∈ s.items ∨ x = rd := by
  unfold Rdataset.add
  simp only [h, Bool.false_eq_true, false_and, if_false]
  by_cases hm : rd ∈ s.items
  · rw [if_pos hm]
    constructor
    · intro hx; exact Or.inl hx
    · rintro (hx | hx)
      · exact hx
      · rw [hx]; exact hm
  · rw [if_neg hm]; simp

theorem foldl_add_mem_plain (l : List Rdata) (s : Rdataset) (x : Rdata)
    (h : ∀ rd ∈ l, isSingleton rd.rdtype = false) :
    x ∈ (l.foldl Rdataset.add s).items ↔ x ∈ s.items ∨ x ∈ l := by
  induction l generalizing s with
  | nil => simp
  | cons y ys ih =>
    rw [List.foldl_cons, ih (s.add y) (fun rd hrd => h rd (List.mem_cons_of_mem _ hrd)),
      add_mem_plain s y x (h y (List.mem_cons_self ..)), List.mem_cons, or_assoc]

theorem add_nodup (s : Rdataset) (rd : Rdata) (h : s.items.Nodup) : (s.add rd).items.Nodup := by
  unfold Rdataset.add
  dsimp only
  split
  · split
    · exact List.nodup_nil
    · simp
  · split
    · exact h
    · rename_i hm
      rw [List.nodup_append]
      refine ⟨h, by simp, ?_⟩
      intro a ha b hb
      simp at hb; subst hb
      intro e; subst e; exact hm ha

theorem foldl_add_nodup (l : List Rdata) (s : Rdataset) (h : s.items.Nodup) : (l.foldl Rdataset.add s).items.Nodup := by
  induction l generalizing s with
  | nil => exact h
  | cons x xs ih => simp only [List.foldl_cons]; exact ih _ (add_nodup s x h)

theorem add_singleton (s : Rdataset) (rd : Rdata) (h : isSingleton rd.rdtype = true) : (s.add rd).items = [rd] := by
  unfold Rdataset.add
  by_cases hl : s.items.length > 0
  · simp [h, hl]
  · have : s.items = [] := by
      cases hs : s.items with
      | nil => rfl
      | cons a b => rw [hs] at hl; simp at hl
    simp [h, this]

theorem difference_ttl (a b : Rdataset) : (a.difference b).ttl = a.ttl := rfl

theorem half_eq : Serial.half = 2147483648 := by decide
theorem modulus_eq : Serial.modulus = 4294967296 := by decide

theorem serial_make_id (v : Nat) (h : v < 4294967296) : Serial.make v = v := by
  unfold Serial.make
  rw [modulus_eq, Int.emod_eq_of_lt (Int.natCast_nonneg v) (Int.ofNat_lt.mpr h), Int.toNat_natCast]

theorem serial_add_some (v : Nat) (d : Int) (hd : d.natAbs ≤ 2147483647) :
    Serial.add v d = some ((((v : Int) + d) % 4294967296).toNat) := by
  unfold Serial.add
  rw [half_eq, modulus_eq, if_neg (by omega)]
  rfl

theorem serial_add_none (v : Nat) (d : Int) (hd : d.natAbs > 2147483647) : Serial.add v d = none := by
  unfold Serial.add
  rw [half_eq, if_pos (by omega)]

/-- RFC 1982 §3.2 as coded -/
theorem serial_lt_iff (a b : Nat) :
    Serial.lt a b = true ↔ (a < b ∧ b - a < 2147483648) ∨ (b < a ∧ 2147483648 < a - b) := by
  unfold Serial.lt
  rw [half_eq]
  split
  · simp [*]
  · split <;> simp [*]

theorem serial_gt_iff (a b : Nat) :
    Serial.gt a b = true ↔ (a < b ∧ 2147483648 < b - a) ∨ (b < a ∧ a - b < 2147483648) := by
  unfold Serial.gt
  rw [half_eq]
  split
  · simp [*]
  · split <;> simp [*]

theorem toNat_emod_eq_zero (x : Int) : (x % 4294967296).toNat = 0 ↔ x % 4294967296 = 0 := by omega

end Model.ZT
