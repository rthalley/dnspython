import Proofs.WritersEv
/-!
FIFO admission: `arrivals = admitted ++ pending`, where `pending` is, in this order, the holder of the wake-up token
(if the token is out and not yet consumed), the owners of the queued events, and the writer that is inside its first
critical section and has neither been admitted nor queued yet.  The reason is a statement about one step,
`pending_step`: `pending` is a queue, left at the front by the thread that is admitted and joined at the back by the
thread that arrives, while `arrivals` and `admitted` log exactly these two events (`Trans.arrivals_eq`, `Trans.admitted_eq`).
`queue_position`, `admitted_iff_position`: where a queued writer stands in the arrival order.
`InvArr`: the arrival order lists every writer once.
-/
namespace Model.Writers

/-- the thread is in its first critical section of `writer()` and not yet admitted nor queued -/
def firstCS (l : Local) : Bool :=
  match l.pc with
  | .wNewEv | .wAppend => true
  | .wTest | .wMkTxn => l.ev.isNone
  | _ => false

theorem firstCS_pc {l : Local} (h : firstCS l = true) :
    l.pc = .wNewEv ∨ l.pc = .wAppend ∨ l.pc = .wTest ∨ l.pc = .wMkTxn := by
  unfold firstCS at h
  split at h <;> simp_all

def tokPart (s : State) : List Tid :=
  match s.writeEvent with
  | some e => if s.writeTxn = none then [s.owner e] else []
  | none => []

def inCS (s : State) : List Tid :=
  match s.lock with
  | some u => if firstCS (s.loc u) then [u] else []
  | none => []

def pending (s : State) : List Tid := tokPart s ++ s.waiters.map s.owner ++ inCS s

structure InvQ (s : State) : Prop where
  queue : s.arrivals = s.admitted ++ pending s
  ends : s.admitted.length = s.ends + (if s.writeTxn = none then 0 else 1)

theorem invQ_init : InvQ init := by
  constructor <;> simp [init, pending, tokPart, inCS]

@[simp] theorem tokPart_setLoc (x : State) (t : Tid) (l : Local) : tokPart (x.setLoc t l) = tokPart x := rfl

theorem pending_setLoc (x : State) (t : Tid) (l : Local) :
    pending (x.setLoc t l) = tokPart x ++ x.waiters.map x.owner ++ inCS (x.setLoc t l) := rfl

theorem inCS_setLoc_ne {x : State} {t : Tid} (l : Local) (h : x.lock ≠ some t) : inCS (x.setLoc t l) = inCS x := by
  unfold inCS
  rcases hl : x.lock with _ | u
  · simp [hl]
  · have : u ≠ t := by intro e; apply h; rw [hl, e]
    simp [hl, this]

theorem inCS_setLoc_self {x : State} {t : Tid} (l : Local) (h : x.lock = some t) :
    inCS (x.setLoc t l) = if firstCS l then [t] else [] := by
  simp [inCS, h]

theorem inCS_of_lock {x : State} {t : Tid} (h : x.lock = some t) : inCS x = if firstCS (x.loc t) then [t] else [] := by
  simp [inCS, h]

theorem inCS_of_none {x : State} (h : x.lock = none) : inCS x = [] := by
  simp [inCS, h]

variable {c : Cfg} {s s' : State} {t : Tid}

/-- `pending` is a queue: a step takes the thread it admits from the front and puts the thread that arrives at the back; every
other step only regroups the three segments -/
theorem pending_step (hL : InvLock s) (hE : InvEv s) (htr : Trans c s t s') :
    pending s ++ (if (s.loc t).pc = .wAcq ∧ (s.loc t).ev = none then [t] else []) =
      (if (s.loc t).pc = .wMkTxn then [t] else []) ++ pending s' := by
  rw [show pending s = tokPart s ++ s.waiters.map s.owner ++ inCS s from rfl]
  cases hh : holdsLock (s.loc t).pc
  · have hne := hL.lock_ne hh
    cases htr <;> (have hpc : (s.loc t).pc = _ := ‹_›) <;> simp [hpc] at hh <;> rw [pending_setLoc]
    case wAcqAgain hl hev =>
      rw [inCS_setLoc_self _ rfl, inCS_of_none hl]
      cases hev' : (s.loc t).ev <;> simp_all [tokPart, firstCS]
    case wAcqFirst hl hev =>
      rw [inCS_setLoc_self _ rfl, inCS_of_none hl]
      simp [tokPart, firstCS, hpc, hev]
    case cAcq hl | rAcq hl | rdAcq hl | xAcq hl =>
      rw [inCS_setLoc_self _ rfl, inCS_of_none hl]
      simp [tokPart, firstCS, hpc]
    all_goals (rw [inCS_setLoc_ne _ hne]; simp [hpc])
  · have hl := (hL.lock t).mp hh
    rw [inCS_of_lock hl]
    cases htr <;> (have hpc : (s.loc t).pc = _ := ‹_›) <;> simp [hpc] at hh <;> rw [pending_setLoc]
    case wRelA | wRelB | eRel | rdRel | rdFail | xRel =>
      rw [inCS_setLoc_ne _ (by simp), inCS_of_none rfl]
      simp [firstCS, hpc, tokPart]
    all_goals (rw [inCS_setLoc_self]; rotate_left; exact hl)
    case wTestFail hf =>
      have hev := hE.ev_none_of_test_fails hpc hf
      simp [firstCS, hpc, hev]
    case wMkTxn =>
      have hnt := hL.mkTxn t hpc
      have hwe := hE.mkEv t hpc
      rcases hev : (s.loc t).ev with _ | e
      · -- a newcomer is admitted directly only when nobody is queued
        rw [hev] at hwe
        have hat : ∀ p, p ≠ .wMkTxn → ¬ s.lockAt p := fun p hp h1 => hp ((h1.2 t hl).symm.trans hpc)
        have hw := hE.waiters_nil hnt hwe (hat _ nofun) (hat _ nofun)
        simp [firstCS, hpc, hev, tokPart, hwe, hw]
      · rw [hev] at hwe
        have ho := (hE.evLt t e hev).2
        simp [firstCS, hpc, hev, tokPart, hwe, hnt, ho]
    case wClrEv =>
      have hown : s.writeTxn = some t := hL.own_at hpc
      cases hwe : s.writeEvent <;> simp [firstCS, hpc, tokPart, hown, hwe]
    case wNewEv =>
      -- the new event is fresh: it is neither queued nor the token
      have hmap : s.waiters.map (fun e => if e = s.nextEv then t else s.owner e) = s.waiters.map s.owner :=
        List.map_congr_left fun e he => if_neg (Nat.ne_of_lt (hE.wq e he).1)
      have htok : tokPart { s with nextEv := s.nextEv + 1, owner := fun e => if e = s.nextEv then t else s.owner e } = tokPart s := by
        unfold tokPart
        rcases hwe : s.writeEvent with _ | e
        · simp
        · simp [Nat.ne_of_lt (hE.tok e hwe).1]
      rw [htok]
      simp only [hmap]
      simp [firstCS, hpc]
    case wAppend e _ hev =>
      have ho := (hE.evLt t e hev).2
      simp [firstCS, hpc, tokPart, ho]
    case eTxnNone =>
      have hwe := hE.writeEvent_none_of_owner hL hpc
      simp [firstCS, hpc, tokPart, hwe]
    case ePop e rest _ hw =>
      have hp := hE.pop t hpc
      simp [firstCS, hpc, tokPart, hp.2.1, hp.2.2, hw]
    all_goals simp [firstCS, hpc, tokPart]

theorem invQ_trans (hL : InvLock s) (hE : InvEv s) (h : InvQ s) (htr : Trans c s t s') : InvQ s' where
  queue := by
    rw [htr.arrivals_eq, htr.admitted_eq, h.queue, List.append_assoc, pending_step hL hE htr, List.append_assoc]
  ends := by
    have h0 := h.ends
    rcases htr.own_cases with ⟨h1, _, h2, h3⟩ | ⟨hpc, h1, _, h2, h3⟩ | ⟨hpc, h1, _, h2, h3⟩ <;> rw [h1, h2, h3]
    · exact h0
    · rw [hL.mkTxn t hpc] at h0; simpa using h0
    · rw [hL.own_at hpc] at h0; simpa using h0

theorem queue_position (h : InvQ s) {k : Nat} {e : Ev} (hk : s.waiters[k]? = some e) :
    s.arrivals[s.admitted.length + (tokPart s).length + k]? = some (s.owner e) := by
  rw [h.queue, pending]
  rw [List.getElem?_append_right (by omega)]
  rw [List.append_assoc, List.getElem?_append_right (by omega)]
  have : s.admitted.length + (tokPart s).length + k - s.admitted.length - (tokPart s).length = k := by omega
  rw [this]
  have hk' : k < s.waiters.length := (List.getElem?_eq_some_iff.mp hk).1
  rw [List.getElem?_append_left (by simpa using hk')]
  simp [hk]

/-- in a list without repetition an element stands in a prefix exactly if its position does -/
theorem mem_left_iff_lt {α} {a b : List α} (hn : (a ++ b).Nodup) {p : Nat} {u : α} (hp : (a ++ b)[p]? = some u) :
    u ∈ a ↔ p < a.length := by
  constructor
  · intro hm
    obtain ⟨j, hj, hju⟩ := List.getElem_of_mem hm
    have hj' : j < (a ++ b).length := by rw [List.length_append]; omega
    have : (a ++ b)[j]? = some u := by rw [List.getElem?_append_left hj, List.getElem?_eq_getElem hj, hju]
    have := (List.getElem?_inj hj' hn).mp (this.trans hp.symm)
    omega
  · intro hlt
    rw [List.getElem?_append_left hlt, List.getElem?_eq_getElem hlt] at hp
    exact Option.some.inj hp ▸ List.getElem_mem _

theorem admitted_iff_position (hq : InvQ s) (hn : s.arrivals.Nodup) {p : Nat} {u : Tid} (hp : s.arrivals[p]? = some u) :
    u ∈ s.admitted ↔ p < s.admitted.length :=
  mem_left_iff_lt (hq.queue ▸ hn) (hq.queue ▸ hp)

theorem pending_ne_nil (hq : InvQ s) {w : Tid} (hw : w ∈ s.arrivals) (hna : w ∉ s.admitted) : pending s ≠ [] := by
  intro e
  have := hq.queue
  rw [e, List.append_nil] at this
  rw [this] at hw; exact hna hw

theorem tokPart_length_le (s : State) : (tokPart s).length ≤ 1 := by
  unfold tokPart; split <;> (try split) <;> simp

theorem arrivals_trans (htr : Trans c s t s') : ∃ l, s'.arrivals = s.arrivals ++ l := ⟨_, htr.arrivals_eq⟩

theorem mem_arrivals_trans {w : Tid} (hw : w ∈ s.arrivals) (htr : Trans c s t s') : w ∈ s'.arrivals :=
  htr.arrivals_eq ▸ List.mem_append_left _ hw

theorem idxOf_trans {w : Tid} (hw : w ∈ s.arrivals) (htr : Trans c s t s') : s'.arrivals.idxOf w = s.arrivals.idxOf w := by
  rw [htr.arrivals_eq, List.idxOf_append, if_pos hw]

/-- the thread is not before its first acquisition of `_version_lock` in `writer()` (or never will be: readers) -/
def mayHaveArrived (l : Local) : Prop := l.pc ≠ .idle ∧ l.pc ≠ .wInit ∧ ¬ (l.pc = .wAcq ∧ l.ev = none)

/-- the thread is a writer that has taken `_version_lock` in `writer()` at least once and is not finished -/
def hasArrived (l : Local) : Prop := arrivedPc l.pc = true ∨ (l.pc = .wAcq ∧ l.ev ≠ none)

theorem arrive_step (htr : Trans c s t s') (h : hasArrived (s'.loc t)) :
    hasArrived (s.loc t) ∨ s'.arrivals = s.arrivals ++ [t] := by
  have hq := htr.pc_mem
  rcases h with h | ⟨hq', hev⟩
  · rcases arrivedPc_pred _ _ hq h with hp | hp
    · exact .inl (.inl hp)
    · by_cases hev : (s.loc t).ev = none
      · exact .inr (by rw [htr.arrivals_eq, if_pos ⟨hp, hev⟩])
      · exact .inl (.inr ⟨hp, hev⟩)
  · -- back at `wAcq` with an event: after `wait()`, not after `event = None`
    rw [hq'] at hq
    rcases mem_succPc_wAcq _ hq with hp | hp
    · rw [htr.ev_eq, if_pos hp] at hev; exact absurd rfl hev
    · exact .inl (.inl (by rw [hp]; rfl))

/-- the arrival order lists every writer once, from its first critical section in `writer()` on -/
structure InvArr (s : State) : Prop where
  nodup : s.arrivals.Nodup
  mem : ∀ t, t ∈ s.arrivals → mayHaveArrived (s.loc t)
  arrived : ∀ t, hasArrived (s.loc t) → t ∈ s.arrivals

theorem invArr_init : InvArr init := ⟨by simp [init], by simp [init], by simp [init, hasArrived]⟩

theorem invArr_trans (h : InvArr s) (htr : Trans c s t s') : InvArr s' where
  nodup := by
    rw [htr.arrivals_eq]; split
    next hc =>
      refine List.nodup_append.mpr ⟨h.nodup, List.pairwise_singleton _ _, fun a ha b hb hab => ?_⟩
      cases hab.trans (List.mem_singleton.mp hb)
      exact (h.mem t ha).2.2 hc
    next => exact (List.append_nil _).symm ▸ h.nodup
  mem := by
    intro u hu
    by_cases hut : u = t
    · subst hut
      -- no step leads back to `idle`; `wInit` and a first `wAcq` are only reached by a thread that has not arrived yet
      cases htr <;> rw [setLoc_loc_self]
      case idleW hpc _ => exact absurd hpc (h.mem u hu).1
      case wInit hpc => exact absurd hpc (h.mem u hu).2.1
      case wWait hev _ => exact ⟨nofun, nofun, fun h => nomatch hev.symm.trans h.2⟩
      all_goals exact ⟨nofun, nofun, fun h => nomatch h.1⟩
    · rw [htr.loc_ne hut]
      refine h.mem u ((List.mem_append.mp (htr.arrivals_eq ▸ hu)).resolve_right fun h => ?_)
      split at h
      · exact hut (List.mem_singleton.mp h)
      · cases h
  arrived := by
    intro u hu
    by_cases hut : u = t
    · subst hut
      rcases arrive_step htr hu with h1 | h1
      · exact mem_arrivals_trans (h.arrived u h1) htr
      · rw [h1]; exact List.mem_append_right _ (List.mem_singleton_self u)
    · rw [htr.loc_ne hut] at hu
      exact mem_arrivals_trans (h.arrived u hu) htr

end Model.Writers
