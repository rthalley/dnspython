import Model.Resolver
import Proofs.NameOps
/-!
Candidate names, `resolve_chaining` (the CNAME walk and the negative-caching walk), the cache as a timed map.
-/
namespace Model.Resolver
open Model


theorem concatenate_ok {a b r : Name} (h : concatenate a b = .ok r) : r = a ++ b :=
  ((concatenate_eq_ok_iff a b r).mp h).2.1

theorem concatAll_ok {q : Name} : ∀ {l : List Name} {r : List Name}, concatAll q l = .ok r → r = l.map (q ++ ·)
  | [], r, h => by simp [concatAll] at h; simp [h]
  | s :: rest, r, h => by
    unfold concatAll at h
    split at h
    · cases h
    · rename_i c hc
      split at h
      · cases h
      · rename_i cs hcs
        cases h
        simp [concatenate_ok hc, concatAll_ok hcs]


theorem sameName_refl (n : Name) : sameName n n = true := by simp [sameName]

theorem sameName_of_mkKey {n m : Name} {ty cls : Nat} (h : mkKey n ty cls = mkKey m ty cls) : sameName n m = true := by
  simp only [mkKey, Prod.mk.injEq] at h
  simp [sameName, h.1]

theorem mkKey_of_sameName {n m : Name} (ty cls : Nat) (h : sameName n m = true) : mkKey n ty cls = mkKey m ty cls := by
  simp only [sameName, beq_iff_eq] at h
  simp [mkKey, h]

theorem sameName_trans {a b c : Name} (h1 : sameName a b = true) (h2 : sameName b c = true) : sameName a c = true := by
  simp only [sameName, beq_iff_eq] at *
  rw [h1, h2]


theorem findRRset_some {sec : List RRset} {n : Name} {cls ty : Nat} {a : RRset}
    (h : findRRset sec n cls ty = some a) :
    a ∈ sec ∧ sameName a.owner n = true ∧ a.rdclass = cls ∧ a.rdtype = ty := by
  unfold findRRset at h
  have hm := List.mem_of_find?_eq_some h
  have hp := List.find?_some h
  simp only [Bool.and_eq_true, beq_iff_eq] at hp
  exact ⟨hm, hp.1.1, hp.1.2, hp.2⟩

theorem findSoa_some {sec : List Soa} {n : Name} {cls : Nat} {a : Soa}
    (h : findSoa sec n cls = some a) : a ∈ sec ∧ sameName a.owner n = true ∧ a.rdclass = cls := by
  unfold findSoa at h
  have hm := List.mem_of_find?_eq_some h
  have hp := List.find?_some h
  simp only [Bool.and_eq_true, beq_iff_eq] at hp
  exact ⟨hm, hp.1, hp.2⟩


/-- minimum of `m` and a list of TTLs -/
def listMin (m : Nat) (l : List Nat) : Nat := l.foldl min m

theorem listMin_append (m : Nat) (a b : List Nat) : listMin m (a ++ b) = listMin (listMin m a) b := by
  simp [listMin, List.foldl_append]

theorem listMin_le_init (m : Nat) (l : List Nat) : listMin m l ≤ m := by
  induction l generalizing m with
  | nil => simp [listMin]
  | cons x xs ih =>
    have := ih (min m x)
    simp only [listMin, List.foldl_cons] at this ⊢
    omega

theorem listMin_le_mem (m : Nat) (l : List Nat) : ∀ x ∈ l, listMin m l ≤ x := by
  induction l generalizing m with
  | nil => simp
  | cons y ys ih =>
    intro x hx
    simp only [listMin, List.foldl_cons]
    rcases List.mem_cons.mp hx with rfl | hx
    · have := listMin_le_init (min m x) ys
      simp only [listMin] at this
      omega
    · exact ih (min m y) x hx

/-- `links` is a CNAME path through the answer section `sec` leading from `a` to `b` -/
def IsCnamePath (sec : List RRset) (cls : Nat) : Name → List RRset → Name → Prop
  | a, [], b => a = b
  | a, c :: rest, b =>
    c ∈ sec ∧ sameName c.owner a = true ∧ c.rdclass = cls ∧ c.rdtype = tyCNAME ∧ IsCnamePath sec cls c.target rest b

theorem IsCnamePath_append {sec : List RRset} {cls : Nat} :
    ∀ {a : Name} {l1 : List RRset} {b : Name} {l2 : List RRset} {c : Name},
      IsCnamePath sec cls a l1 b → IsCnamePath sec cls b l2 c → IsCnamePath sec cls a (l1 ++ l2) c
  | a, [], b, l2, c, h1, h2 => by simp [IsCnamePath] at h1; subst h1; simpa using h2
  | a, x :: xs, b, l2, c, h1, h2 => by
    simp only [IsCnamePath] at h1
    simp only [List.cons_append, IsCnamePath]
    exact ⟨h1.1, h1.2.1, h1.2.2.1, h1.2.2.2.1, IsCnamePath_append h1.2.2.2.2 h2⟩

theorem chainLoop_spec (sec : List RRset) (cls ty : Nat) (f : Nat) (q : Name) (m : Nat) (cn : List RRset)
    (s : ChainState) (hs : chainLoop sec cls ty f q m cn = s) :
      ∃ ext : List RRset, s.cnames = cn ++ ext ∧ IsCnamePath sec cls q ext s.qname ∧
        (s.tooLong = true → ext.length = f ∧ s.answer = none) ∧ (s.tooLong = false → ext.length < f) ∧
        (∀ a, s.answer = some a → a ∈ sec ∧ sameName a.owner s.qname = true ∧ a.rdclass = cls ∧ a.rdtype = ty ∧
            s.minTtl = listMin m (ext.map (·.ttl) ++ [a.ttl])) ∧
        (s.answer = none → s.minTtl = listMin m (ext.map (·.ttl)) ∧
            (s.tooLong = false → findRRset sec s.qname cls ty = none ∧
              (ty ≠ tyCNAME → findRRset sec s.qname cls tyCNAME = none))) := by
  subst hs
  fun_induction chainLoop sec cls ty f q m cn with
  | case1 q m cn => exact ⟨[], by simp [IsCnamePath, listMin]⟩
  | case2 f q m cn a ha =>
    obtain ⟨h1, h2, h3, h4⟩ := findRRset_some ha
    exact ⟨[], by simp [IsCnamePath, listMin, h1, h2, h3, h4]⟩
  | case3 f q m cn hnone hty c hc ih =>
    obtain ⟨c1, c2, c3, c4⟩ := findRRset_some hc
    obtain ⟨ext, e1, e2, e3, e4, e5, e6⟩ := ih
    refine ⟨c :: ext, by simp [e1], ⟨c1, c2, c3, c4, e2⟩, fun h => ?_, fun h => ?_, fun a ha => ?_, fun ha => ?_⟩
    · have := e3 h; simp [this.1, this.2]
    · have := e4 h; simp; omega
    · obtain ⟨x1, x2, x3, x4, x5⟩ := e5 a ha
      exact ⟨x1, x2, x3, x4, by simp only [List.map_cons, List.cons_append, x5, listMin, List.foldl_cons]⟩
    · obtain ⟨x1, x2⟩ := e6 ha
      exact ⟨by simp only [List.map_cons, x1, listMin, List.foldl_cons], x2⟩
  | case4 f q m cn hnone hty hc => exact ⟨[], by simp [IsCnamePath, listMin, hnone, hc]⟩
  | case5 f q m cn hnone hty =>
    have : ty = tyCNAME := by simpa using hty
    subst this
    exact ⟨[], by simp [IsCnamePath, listMin, hnone]⟩

/-- the owner names at which `resolve_chaining` looks for an SOA: the name, its parent, … up to the root
(or the empty name for a relative name) -/
def ancestors : Name → List Name
  | [] => [[]]
  | l :: rest => (l :: rest) :: (if l = [] ∧ rest = [] then [] else ancestors rest)

theorem soaWalk_spec (auth : List Soa) (cls : Nat) : ∀ (n : Name) (m : Nat),
    soaWalk auth cls n m =
      match (ancestors n).findSome? (fun a => findSoa auth a cls) with
      | some s => min m (min s.ttl s.minimum)
      | none => m
  | [], m => by
    simp only [soaWalk, ancestors, List.findSome?_cons, List.findSome?_nil]
    cases findSoa auth [] cls <;> simp
  | l :: rest, m => by
    simp only [soaWalk, ancestors, List.findSome?_cons]
    cases h : findSoa auth (l :: rest) cls with
    | some s => simp
    | none =>
      simp only
      by_cases hr : l = [] ∧ rest = []
      · simp [hr]
      · simp only [hr, if_false]
        exact soaWalk_spec auth cls rest m

theorem soaWalk_le (auth : List Soa) (cls : Nat) (n : Name) (m : Nat) : soaWalk auth cls n m ≤ m := by
  rw [soaWalk_spec]
  split
  · exact Nat.min_le_left _ _
  · exact Nat.le_refl _


theorem find_filter_key (c : Cache) (k k' : Key) :
    List.find? (fun e => e.1 == k') (List.filter (fun e => !(e.1 == k)) c) =
      if k' = k then none else List.find? (fun e => e.1 == k') c := by
  rw [List.find?_filter]
  split
  · rename_i h
    subst h
    simp
  · rename_i h
    congr 1
    funext e
    by_cases he : e.1 = k' <;> simp [he, h]

theorem cacheGet_put (c : Cache) (k k' : Key) (a : Answer) (now : Nat) :
    cacheGet (cachePut c k a) k' now =
      if k' = k then (if a.expiration ≤ now then none else some a) else cacheGet c k' now := by
  unfold cacheGet cachePut
  rw [List.find?_append, find_filter_key]
  by_cases hk : k' = k
  · simp [hk]
  · have : (k == k') = false := by simpa using fun h => hk h.symm
    cases hf : List.find? (fun e => e.1 == k') c <;> simp [hk, this]

/-- a put, made or not, is not seen under another key -/
theorem cacheGet_putIf_ne {on : Bool} {c : Cache} {k k' : Key} {a : Answer} {now : Nat} (h : k' ≠ k) :
    cacheGet (if on then cachePut c k a else c) k' now = cacheGet c k' now := by
  split
  · rw [cacheGet_put, if_neg h]
  · rfl

end Model.Resolver
