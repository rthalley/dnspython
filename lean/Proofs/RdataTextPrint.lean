import Proofs.RdataTextRange
import Proofs.RdataTextIP6
/-! "Producing text never fails for a record the library accepted from text" (C05): whatever the model's `from_text`
returns has the shape its printer expects (`FieldRange`, `TailRange`); the only way `to_text` can raise is `NameTooLong`
when a style asks to derelativize a relative name against an origin it does not fit. -/
namespace Model
open Dnssec

/-- the style can print the name (`choose_relativity` succeeds: always, except derelativizing an over-long combination) -/
def NamePrints (st : Style) (n : Name) : Prop := ∃ t, nameToStyled n st.origin st.relativize = .ok t

def NamesPrint (st : Style) (vals : List FV) (tail : Option FV) : Prop :=
  (∀ v ∈ vals, ∀ n ∈ namesOfFV v, NamePrints st n) ∧ (∀ t, tail = some t → ∀ n ∈ namesOfFV t, NamePrints st n)

theorem ip6Ntoa_isSome (a : Bytes) (h : a.length = 16) : (ip6Ntoa a).isSome = true := by
  rw [ntoa_unfold a h]
  have hdl : (a.drop 12).length = 4 := by simp [h]
  obtain ⟨b0, b1, b2, b3, hb⟩ := list4 _ hdl
  have hv4 : ip4Ntoa (a.drop 12) = some (v4Text b0 b1 b2 b3) := by rw [hb]; rfl
  simp only [hv4]
  split
  · split <;> rfl
  · rfl

theorem ip4Ntoa_isSome (a : Bytes) (h : a.length = 4) : (ip4Ntoa a).isSome = true := by
  obtain ⟨b0, b1, b2, b3, rfl⟩ := list4 _ h
  rfl

theorem isSome_cons {a : Option Text} {b : Option (List Text)} (ha : a.isSome = true) (hb : b.isSome = true) :
    (match a, b with | some x, some y => some (x :: y) | _, _ => none).isSome = true := by
  cases a with
  | none => cases ha
  | some x => cases b with
    | none => cases hb
    | some y => rfl

theorem printField_isSome (st : Style) (k : FK) (v : FV) (h : FieldRange k v) (hn : ∀ n ∈ namesOfFV v, NamePrints st n) :
    (printField st k v).isSome = true := by
  cases h with
  | @name n | @nameRaw n =>
    obtain ⟨tx, htx⟩ := hn n (by simp [namesOfFV])
    simp [printField, htx]
  | ip4 h => exact ip4Ntoa_isSome _ h
  | ip6 h => exact ip6Ntoa_isSome _ h
  | _ => rfl

theorem printFields_isSome (st : Style) (ks : List FK) (vals : List FV) (h : FieldsRange ks vals)
    (hn : ∀ v ∈ vals, ∀ n ∈ namesOfFV v, NamePrints st n) : (printFields st ks vals).isSome = true := by
  induction h with
  | nil => rfl
  | cons hv _ ih =>
    exact isSome_cons (printField_isSome st _ _ hv (hn _ (by simp))) (ih fun w hw => hn w (by simp [hw]))

theorem printNames_isSome (st : Style) (ns : List Name) (h : ∀ n ∈ ns, NamePrints st n) : (printNames st ns).isSome = true := by
  rw [printNames_eq_mapM]
  exact mapM_isSome fun n hn => (h n hn).elim fun t ht => by rw [ht]; rfl

theorem printAplItem_isSome (it : Nat × Bool × Bytes × Nat) (h : AplRange it) : (printAplItem it).isSome = true := by
  obtain ⟨f, neg, a, p⟩ := it
  obtain ⟨-, -, ha⟩ := h
  have key : (if f = 1 then ip4Ntoa a else if f = 2 then ip6Ntoa a else some (hexlify a)).isSome = true := by
    split at ha
    · simp only [*, if_true]; exact ip4Ntoa_isSome a ha
    · split at ha
      · simp only [*, if_true]; exact ip6Ntoa_isSome a ha
      · simp only [*, if_false]; rfl
  obtain ⟨t, ht⟩ := Option.isSome_iff_exists.mp key
  simp only [printAplItem, ht]
  rfl

theorem printAplItems_isSome (items : List (Nat × Bool × Bytes × Nat)) (h : ∀ it ∈ items, AplRange it) :
    (printAplItems items).isSome = true := by
  rw [printAplItems_eq_mapM]
  exact mapM_isSome fun it hit => printAplItem_isSome it (h it hit)

/-- everything but the type-bitmap tail (which `printRec` prints itself) -/
theorem printTail_isSome (st : Style) (tk : TK) (tail : Option FV) (h : TailRange tk tail) (hnb : tk ≠ .bitmap)
    (hn : ∀ t, tail = some t → ∀ n ∈ namesOfFV t, NamePrints st n) : (printTail st tk tail).isSome = true := by
  cases h with
  | bitmap => exact absurd rfl hnb
  | names => exact printNames_isSome st _ fun n hm => hn _ rfl n (by simpa [namesOfFV] using hm)
  | apl h => exact printAplItems_isSome _ h
  | wks ha =>
    obtain ⟨a, hat⟩ := Option.isSome_iff_exists.mp (ip4Ntoa_isSome _ ha)
    simp [printTail, hat]
  | @gateway ti ai kind addr nm key h =>
    obtain ⟨tx, htx⟩ := hn _ rfl nm (by simp [namesOfFV])
    have : (gatewayText st kind addr nm).isSome = true := by
      unfold gatewayText
      rcases h with rfl | ⟨rfl, _⟩ | ⟨rfl, _⟩ | rfl
      · rfl
      · rfl
      · rfl
      · simp [htx]
    obtain ⟨g, hg⟩ := Option.isSome_iff_exists.mp this
    simp [printTail, hg]
  | _ => rfl

theorem record_printable (sch : Schema) (env : PEnv) (st : Style) (toks : List Tok) (vals : List FV) (tail : Option FV)
    (h : parseRec sch env toks = some (vals, tail)) (hn : NamesPrint st vals tail) :
    (printRec sch st vals tail).isSome = true := by
  obtain ⟨hf, ht⟩ := parseRec_range sch env toks _ h
  obtain ⟨fs, hfs⟩ := Option.isSome_iff_exists.mp (printFields_isSome st _ _ hf hn.1)
  by_cases hb : sch.tail = .bitmap
  · -- the bitmap tail: the windows come from `Bitmap.from_rdtypes`
    rw [hb] at ht
    cases ht with
    | bitmap hw =>
      rename_i ws
      simp only [printRec, hb, windowTypes_all_le ws hw, if_true, hfs]
      rfl
  · obtain ⟨ts, hts⟩ := Option.isSome_iff_exists.mp (printTail_isSome st _ _ ht hb hn.2)
    rw [printRec_of_tail hb hfs hts]
    rfl

end Model
