import Proofs.BTreeSearch
/-!
The shape invariant of the B-tree model, the in-order flattening of a node split at a child index, the two
outcomes of searching an internal node (`node_cases`: the node is cut at a child in whose window the key lies — `Cut` —
or the key is that of a separating element), the root condition `RootOk`, and layer L1 (`get`, `height`, `minimum`).
-/
namespace Model.BTree

theorem flatL_eq_map (cs : List Node) : flatL cs = cs.map flat := by
  induction cs with
  | nil => simp [flatL]
  | cons c cs ih => simp [flatL, ih]

@[simp] theorem flat_leaf (es : List Elt) : flat (.leaf es) = es := by simp [flat]

@[simp] theorem flat_node (es : List Elt) (cs : List Node) : flat (.node es cs) = inter (cs.map flat) es := by
  simp [flat, flatL_eq_map]

/-- flattened left part: children `cl` interleaved with as many elements `el` -/
abbrev LF (cl : List Node) (el : List Elt) : List Elt := inter (cl.map flat) el
/-- flattened right part: elements `er` each followed by a child of `cr` -/
abbrev RF (cr : List Node) (er : List Elt) : List Elt := tailI (cr.map flat) er

theorem flat_node_split (el er : List Elt) (cl : List Node) (c : Node) (cr : List Node)
    (h : cl.length = el.length) :
    flat (.node (el ++ er) (cl ++ c :: cr)) = LF cl el ++ flat c ++ RF cr er := by
  simp [inter_append, inter_cons, h]

theorem RF_cons (c : Node) (cr : List Node) (e : Elt) (er : List Elt) :
    RF (c :: cr) (e :: er) = e :: (flat c ++ RF cr er) := by
  simp [RF, tailI_cons]

theorem LF_snoc (cl : List Node) (c : Node) (el : List Elt) (e : Elt) (h : cl.length = el.length) :
    LF (cl ++ [c]) (el ++ [e]) = LF cl el ++ flat c ++ [e] := by
  simp [LF, inter_append, h, inter]

theorem kids_split {cs : List Node} {el er : List Elt} (h : cs.length = (el ++ er).length + 1) :
    ∃ cl c cr, cs = cl ++ c :: cr ∧ cl.length = el.length ∧ cr.length = er.length := by
  obtain ⟨cl, c, cr, rfl, hcl⟩ := split_at_lt cs el.length (by simp at h; omega)
  refine ⟨cl, c, cr, rfl, hcl, ?_⟩
  simp at h; omega

theorem elts_sublist (cls : List (List Elt)) (es : List Elt) : es.Sublist (inter cls es) := by
  induction cls generalizing es with
  | nil => simp [inter]
  | cons c cls ih =>
    cases es with
    | nil => simp
    | cons e es =>
      simp only [inter]
      exact List.Sublist.trans ((ih es).cons_cons e) (List.sublist_append_right c _)

theorem mem_LF_of_mem {cl : List Node} {el : List Elt} {x : Elt} (h : x ∈ el) : x ∈ LF cl el :=
  (elts_sublist (cl.map flat) el).subset h

theorem mem_RF_of_mem {cr : List Node} {er : List Elt} {x : Elt} (h : x ∈ er) : x ∈ RF cr er :=
  (elts_sublist ([] :: cr.map flat) er).subset h

theorem mem_flat_of_mem_elts {n : Node} {x : Elt} (h : x ∈ n.elts) : x ∈ flat n := by
  cases n with
  | leaf es => simpa [Node.elts] using h
  | node es cs =>
    rw [flat_node]
    exact (elts_sublist _ _).subset (by simpa [Node.elts] using h)

theorem sorted_elts {es : List Elt} {cs : List Node} (h : Sorted (flat (.node es cs))) : Sorted es := by
  rw [flat_node] at h
  exact h.sublist (elts_sublist _ _)

theorem LF_lt {cl : List Node} {el : List Elt} {k : Nat} (hlen : cl.length = el.length)
    (hs : Sorted (LF cl el)) (h : ∀ x ∈ el, x.1 < k) : ∀ x ∈ LF cl el, x.1 < k := by
  rcases nil_or_snoc el with rfl | ⟨el', e, rfl⟩
  · obtain rfl : cl = [] := List.eq_nil_of_length_eq_zero hlen
    exact fun x hx => nomatch hx
  · -- the listing ends with the last element `e`, everything else comes before it
    obtain ⟨cl', c, rfl⟩ := snoc_of_pos cl (by simp at hlen; omega)
    rw [LF_snoc cl' c el' e (by simpa using hlen)] at hs ⊢
    have he := h e (by simp)
    exact List.forall_mem_append.mpr ⟨fun x hx => Nat.lt_trans ((sorted_append_iff.mp hs).2.2 x hx e (by simp)) he,
      List.forall_mem_singleton.mpr he⟩

theorem RF_gt {cr : List Node} {er : List Elt} {k : Nat} (hlen : cr.length = er.length)
    (hs : Sorted (RF cr er)) (h : ∀ x ∈ er, k < x.1) : ∀ x ∈ RF cr er, k < x.1 := by
  cases er with
  | nil =>
    have : cr = [] := by cases cr <;> simp_all
    subst this
    simp [RF]
  | cons e er =>
    cases cr with
    | nil => simp at hlen
    | cons c cr =>
      rw [RF_cons] at hs ⊢
      have ⟨h1, _⟩ := sorted_cons_iff.mp hs
      have he := h e (by simp)
      intro x hx
      rcases List.mem_cons.mp hx with rfl | hx
      · exact he
      · have := h1 x hx; omega

theorem mem_child_window {el er : List Elt} {cl cr : List Node} {c : Node} {x : Elt} (hcl : cl.length = el.length)
    (hs : Sorted (flat (.node (el ++ er) (cl ++ c :: cr)))) (hx : x ∈ flat c) :
    (∀ y ∈ el, y.1 < x.1) ∧ (∀ y ∈ er, x.1 < y.1) := by
  rw [flat_node_split el er cl c cr hcl] at hs
  have ⟨hs1, _, hcross⟩ := sorted_append_iff.mp hs
  exact ⟨fun y hy => (sorted_append_iff.mp hs1).2.2 y (mem_LF_of_mem hy) x hx,
    fun y hy => hcross x (List.mem_append_right _ hx) y (mem_RF_of_mem hy)⟩

theorem flat_node_elt (el er : List Elt) (e : Elt) (cl : List Node) (c c' : Node) (cr : List Node)
    (hcl : cl.length = el.length) :
    flat (.node (el ++ e :: er) (cl ++ c :: c' :: cr)) = (LF cl el ++ flat c) ++ e :: (flat c' ++ RF cr er) := by
  rw [flat_node_split el (e :: er) cl c (c' :: cr) hcl, RF_cons]

theorem elt_window {el er : List Elt} {e : Elt} {cl cr : List Node} {c c' : Node} (hcl : cl.length = el.length)
    (hs : Sorted (flat (.node (el ++ e :: er) (cl ++ c :: c' :: cr)))) :
    (∀ x ∈ LF cl el ++ flat c, x.1 < e.1) ∧ (∀ x ∈ flat c' ++ RF cr er, e.1 < x.1) := by
  rw [flat_node_elt el er e cl c c' cr hcl] at hs
  have ⟨_, hsr, hlt⟩ := sorted_append_iff.mp hs
  exact ⟨fun x hx => hlt x hx e (List.mem_cons_self ..), (sorted_cons_iff.mp hsr).1⟩

/-- occupancy of a non-root node -/
def Occ (t : Nat) (c : Node) : Prop := minKeys t ≤ c.elts.length ∧ c.elts.length ≤ maxKeys t

theorem minKeys_lt_maxKeys {t : Nat} (ht : 1 ≤ t) : minKeys t < maxKeys t := by
  simp only [minKeys, maxKeys]
  omega

theorem occ_of_minimal {t : Nat} {x : Node} (ht : 1 ≤ t) (hx : x.elts.length = minKeys t) : Occ t x :=
  ⟨Nat.le_of_eq hx.symm, hx ▸ Nat.le_of_lt (minKeys_lt_maxKeys ht)⟩

theorem occ_pos {t : Nat} {a : Node} (ha : Occ t a) (hmin : a.elts.length ≠ minKeys t) : 0 < a.elts.length := by
  have := ha.1
  omega

theorem occ_steal {t : Nat} {a a' b b' : Node} (ha : Occ t a) (hb : Occ t b) (hmin : a.elts.length ≠ minKeys t)
    (hmax : b.elts.length < maxKeys t) (h1 : a'.elts.length + 1 = a.elts.length)
    (h2 : b'.elts.length = b.elts.length + 1) : Occ t a' ∧ Occ t b' ∧ minKeys t < b'.elts.length := by
  simp only [Occ] at *
  omega

/-- `Shape t h n`: `n` is a tree of height `h` (all leaves at depth `h`), every internal node has one more
child than elements, and every node below `n` holds between `t-1` and `2t-1` elements. -/
def Shape (t : Nat) : Nat → Node → Prop
  | 0, .leaf _ => True
  | 0, .node _ _ => False
  | _ + 1, .leaf _ => False
  | h + 1, .node es cs => cs.length = es.length + 1 ∧ ∀ c ∈ cs, Shape t h c ∧ Occ t c

@[simp] theorem shape_zero_leaf (t : Nat) (es : List Elt) : Shape t 0 (.leaf es) := by simp [Shape]
@[simp] theorem shape_zero_node (t : Nat) (es : List Elt) (cs : List Node) : ¬ Shape t 0 (.node es cs) := by
  simp [Shape]
@[simp] theorem shape_succ_leaf (t h : Nat) (es : List Elt) : ¬ Shape t (h + 1) (.leaf es) := by simp [Shape]

/-- the children part of `Shape t (h+1) (.node es cs)` -/
def Kids (t h : Nat) (es : List Elt) (cs : List Node) : Prop :=
  cs.length = es.length + 1 ∧ ∀ c ∈ cs, Shape t h c ∧ Occ t c

theorem shape_node_iff {t h : Nat} {es : List Elt} {cs : List Node} :
    Shape t (h + 1) (.node es cs) ↔ Kids t h es cs := by
  simp [Shape, Kids]

theorem shape_zero {t : Nat} {n : Node} (h : Shape t 0 n) : ∃ es, n = .leaf es := by
  cases n with
  | leaf es => exact ⟨es, rfl⟩
  | node es cs => simp at h

theorem shape_succ {t h : Nat} {n : Node} (hn : Shape t (h + 1) n) :
    ∃ es cs, n = .node es cs ∧ cs.length = es.length + 1 ∧ ∀ c ∈ cs, Shape t h c ∧ Occ t c := by
  cases n with
  | leaf es => simp at hn
  | node es cs => exact ⟨es, cs, rfl, shape_node_iff.mp hn⟩

theorem shape_isLeaf {t h : Nat} {n : Node} (hn : Shape t h n) : n.isLeaf = true ↔ h = 0 := by
  cases h with
  | zero => obtain ⟨es, rfl⟩ := shape_zero hn; simp [Node.isLeaf]
  | succ h => obtain ⟨es, cs, rfl, _, _⟩ := shape_succ hn; simp [Node.isLeaf]

theorem kids_at {t h : Nat} {es : List Elt} {cl cr : List Node} {c : Node} (hk : Kids t h es (cl ++ c :: cr)) :
    Shape t h c ∧ Occ t c := hk.2 c (by simp)

theorem kids_at_succ {t h : Nat} {es : List Elt} {cl cr : List Node} {c c' : Node}
    (hk : Kids t h es (cl ++ c :: c' :: cr)) : Shape t h c' ∧ Occ t c' := hk.2 c' (by simp)

theorem kids_cr_length {t h : Nat} {el er : List Elt} {cl cr : List Node} {c : Node}
    (hk : Kids t h (el ++ er) (cl ++ c :: cr)) (hcl : cl.length = el.length) : cr.length = er.length := by
  have := hk.1
  simp only [List.length_append, List.length_cons] at this
  omega

/-- The internal node `(el ++ er, cl ++ c :: cr)`, well shaped and sorted, cut at the child `c` between whose bounding
elements `key` lies: what a search that misses produces (`node_cases`), what a descent after `key` goes through, and what
`balance` and `delPrep` re-establish (with another child) before `delete` descends. -/
structure Cut (t h key : Nat) (el er : List Elt) (cl : List Node) (c : Node) (cr : List Node) : Prop where
  kids : Kids t h (el ++ er) (cl ++ c :: cr)
  len : cl.length = el.length
  sorted : Sorted (flat (.node (el ++ er) (cl ++ c :: cr)))
  lo : ∀ x ∈ el, x.1 < key
  hi : ∀ x ∈ er, key < x.1

/-- the window of `key` in the listing: the subtree `c` holds every element between the bounds -/
theorem Cut.window {t h key : Nat} {el er : List Elt} {cl cr : List Node} {c : Node} (w : Cut t h key el er cl c cr) :
    Sorted (flat c) ∧ (∀ x ∈ LF cl el, x.1 < key) ∧ (∀ x ∈ RF cr er, key < x.1) := by
  have hs := w.sorted
  rw [flat_node_split el er cl c cr w.len] at hs
  have ⟨hs1, hsR, _⟩ := sorted_append_iff.mp hs
  have ⟨hsL, hsc, _⟩ := sorted_append_iff.mp hs1
  exact ⟨hsc, LF_lt w.len hsL w.lo, RF_gt (kids_cr_length w.kids w.len) hsR w.hi⟩

/-- The two outcomes of searching an internal node for `k`, with the window of `k` in the flattening: the search
index is that of a child `c` at which the node is cut (`Cut.window`: its subtree holds every element between the bounds),
or that of an element with key `k` that separates the subtrees `c` and `c'`. -/
theorem node_cases {t h : Nat} {es : List Elt} {cs : List Node} (k : Nat) (hk : Kids t h es cs)
    (hs : Sorted (flat (.node es cs))) :
    (∃ el er cl c cr, es = el ++ er ∧ cs = cl ++ c :: cr ∧ searchInNode es k = (el.length, false) ∧
        Cut t h k el er cl c cr) ∨
    (∃ el e er cl c c' cr, es = el ++ e :: er ∧ cs = cl ++ c :: c' :: cr ∧ cl.length = el.length ∧ e.1 = k ∧
        searchInNode es k = (el.length, true) ∧ (∀ x ∈ el, x.1 < k) ∧ (∀ x ∈ er, k < x.1) ∧
        (∀ x ∈ LF cl el ++ flat c, x.1 < k) ∧ (∀ x ∈ flat c' ++ RF cr er, k < x.1)) := by
  rcases search_cases k (sorted_elts hs) with ⟨el, er, rfl, hl, hr, hres⟩ | ⟨el, e, er, rfl, rfl, hl, hr, hres⟩
  · obtain ⟨cl, c, cr, rfl, hcl, _⟩ := kids_split hk.1
    exact Or.inl ⟨el, er, cl, c, cr, rfl, rfl, hres, hk, hcl, hs, hl, hr⟩
  · obtain ⟨cl, c, cr, rfl, hcl, hcr⟩ := kids_split (el := el) (er := e :: er) hk.1
    cases cr with
    | nil => simp at hcr
    | cons c' cr => exact Or.inr ⟨el, e, er, cl, c, c', cr, rfl, rfl, hcl, rfl, hres, hl, hr, elt_window hcl hs⟩

theorem height_of_shape {t : Nat} : ∀ {h : Nat} {n : Node}, Shape t h n → height n = h := by
  intro h
  induction h with
  | zero => intro n hn; obtain ⟨es, rfl⟩ := shape_zero hn; simp [height]
  | succ h ih =>
    intro n hn
    obtain ⟨es, cs, rfl, hlen, hc⟩ := shape_succ hn
    cases cs with
    | nil => simp at hlen
    | cons c cs => simp [height, heightL, ih (hc c (by simp)).1]

/-- the well-formedness of a whole tree with root `n` -/
structure Wf (t : Nat) (n : Node) : Prop where
  shape : ∃ h, Shape t h n
  top : n.elts.length ≤ maxKeys t
  sorted : Sorted (flat n)

/-- an internal root holds at least one element; for any node: `delete` on it cannot run into the `IndexError` of a
minimal only child -/
def RootOk (n : Node) : Prop := n.isLeaf = true ∨ 1 ≤ n.elts.length

theorem get_refines_aux (t : Nat) (k : Nat) : ∀ (h : Nat) (n : Node), Shape t h n → Sorted (flat n) →
    get h n k = lookup (flat n) k := by
  intro h
  induction h with
  | zero =>
    intro n hn hs
    obtain ⟨es, rfl⟩ := shape_zero hn
    simp only [flat_leaf] at hs ⊢
    unfold get
    rcases search_cases k hs with ⟨el, er, rfl, hl, hr, hres⟩ | ⟨el, e, er, rfl, rfl, hl, hr, hres⟩
    · simp only [Node.elts, hres]
      simp [lookup_none_of_gap hl hr]
    · simp [Node.elts, hres, lookup_found rfl hl]
  | succ h ih =>
    intro n hn hs
    obtain ⟨es, cs, rfl, hlen, hc⟩ := shape_succ hn
    unfold get
    rcases node_cases k ⟨hlen, hc⟩ hs with ⟨el, er, cl, c, cr, rfl, rfl, hres, w⟩ |
      ⟨el, e, er, cl, c, c', cr, rfl, rfl, hcl, rfl, hres, _, _, hA, _⟩
    · obtain ⟨hsc, hA, hB⟩ := w.window
      have hcl := w.len
      simp only [Node.elts, hres, Bool.false_eq_true, if_false]
      rw [kidAt_at hcl, ih c (hc c (by simp)).1 hsc, flat_node_split el er cl c cr hcl]
      exact (lookup_window hA hB (flat c)).symm
    · simp only [Node.elts, hres, if_true, eltAt_append_cons]
      rw [flat_node_elt el er e cl c c' cr hcl]
      exact (lookup_found rfl hA).symm

theorem minimum_head (t : Nat) (ht : 2 ≤ t) : ∀ (h : Nat) (n : Node), Shape t h n → Occ t n →
    ∃ rest, flat n = minimum h n :: rest := by
  intro h
  induction h with
  | zero =>
    intro n hn ho
    obtain ⟨es, rfl⟩ := shape_zero hn
    cases es with
    | nil => simp [Occ, Node.elts, minKeys] at ho; omega
    | cons e es => exact ⟨es, by simp [minimum]⟩
  | succ h ih =>
    intro n hn ho
    obtain ⟨es, cs, rfl, hlen, hc⟩ := shape_succ hn
    cases cs with
    | nil => simp at hlen
    | cons c cs =>
      obtain ⟨rest, hrest⟩ := ih c (hc c (by simp)).1 (hc c (by simp)).2
      refine ⟨rest ++ tailI (cs.map flat) es, ?_⟩
      simp [minimum, inter_cons, hrest]

end Model.BTree
