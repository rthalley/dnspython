import Proofs.Resolver
import Proofs.ResolverSpec
/-!
What one call of `query_result`, `next_request`, `next_nameserver` does to the resolution state, each read once and
never unfolded again.  `query_result` is "judge the reply (`verdict`), then act on the judgement" (`leaves`: the
state left, verdict by verdict; `actOn`: what is returned or raised); `next_request` passes over a prefix of candidates
with a cached NXDOMAIN and does with the next one what the cache says about it (`probe`, `nextRequest_spec`);
`next_nameserver` picks in one of three ways that differ in five values (`Picks`, `Choice`).  Together: the relation
`Iter` lists the ways one iteration of the loop can go, each with the state it leaves written out as an update of the
state it found, so that an invariant of the loop is checked against seven named cases and, where a reply is judged,
the six rows of `leaves` (`judge`: how the loop goes on).
-/
namespace Model.Resolver
open Model


/-- "a server that proved broken": the outcomes after which `query_result` takes the nameserver out of the mix —
a malformed reply / EOF / network error / unsupported transport, truncation over TCP, a NOERROR or NXDOMAIN response
that does not survive `Answer()` validation, and any rcode other than NOERROR/NXDOMAIN/YXDOMAIN except SERVFAIL when
`retry_servfail` is set. -/
def provesBroken (env : Env) (q : Name) (tcp : Bool) : Outcome → Bool
  | .exc .formError => true
  | .exc .eof => true
  | .exc .os => true
  | .exc .notImpl => true
  | .exc .truncated => tcp
  | .exc .timeout => false
  | .exc .other => false
  | .resp r =>
    if r.rcode = rcNOERROR ∨ r.rcode = rcNXDOMAIN then
      match resolveChaining env.maxChain r q env.rdclass env.rdtype with
      | .error _ => true
      | .ok _ => false
    else if r.rcode = rcYXDOMAIN then false
    else (r.rcode ≠ rcSERVFAIL || !env.cfg.retryServfail)

/-- a name has NXDOMAIN evidence recorded -/
def covered (nx : List Name) (q : Name) : Prop := nx.any (fun m => sameName m q) = true

theorem covered_recordNx_self (nx : List Name) (q : Name) : covered (recordNx nx q) q := by
  unfold covered recordNx
  split
  · assumption
  · simp [List.any_append, sameName_refl]

theorem covered_recordNx_mono (nx : List Name) (q p : Name) (h : covered nx p) : covered (recordNx nx q) p := by
  unfold covered recordNx at *
  split
  · exact h
  · simp [List.any_append, h]

theorem mkAnswer_error_iff {mc : Nat} {q : Name} {ty cls qcls qty : Nat} {r : Resp} {srv : Option Nat} {now : Nat} :
    (∃ e, mkAnswer mc q ty cls qcls qty r srv now = .error e) ↔ (∃ e, resolveChaining mc r q qcls qty = .error e) := by
  unfold mkAnswer
  cases resolveChaining mc r q qcls qty <;> simp

theorem mkAnswer_ok {mc : Nat} {q : Name} {ty cls qcls qty : Nat} {r : Resp} {srv : Option Nat} {now : Nat}
    {a : Answer} (h : mkAnswer mc q ty cls qcls qty r srv now = .ok a) :
    (∃ c, resolveChaining mc r q qcls qty = .ok c) ∧ a.rcode = r.rcode := by
  unfold mkAnswer at h
  cases hc : resolveChaining mc r q qcls qty with
  | error e => simp [hc] at h
  | ok c =>
    simp only [hc, Except.ok.injEq] at h
    subst h
    exact ⟨⟨c, rfl⟩, rfl⟩


/-- the state `query_result` leaves behind, verdict by verdict: an accepted answer and a validated NXDOMAIN are put in
the cache (if the resolver has one), the NXDOMAIN is recorded for the candidate; a broken server leaves the mix; a
truncated UDP reply arms the TCP retry -/
def leaves (env : Env) (st : St) (ns : Server) : Verdict → St
  | .accept a =>
    { st with cache := if env.cfg.cacheOn then cachePut st.cache (mkKey st.qname env.rdtype env.rdclass) a
                       else st.cache }
  | .nxdomain a =>
    { st with nxNames := recordNx st.nxNames st.qname,
              cache := if env.cfg.cacheOn then cachePut st.cache (mkKey st.qname tyANY env.rdclass) a else st.cache }
  | .yxdomain => st
  | .broken => { st with nameservers := st.nameservers.erase ns }
  | .truncatedUdp => { st with retryWithTcp := true }
  | .soft => st

/-- what `query_result` returns or raises once the reply has been judged -/
def actOn (env : Env) (st : St) (ns : Server) (v : Verdict) : QR :=
  match v with
  | .accept a =>
    if !a.hasRRset && env.raiseOnNoAnswer then .raise .noAnswer (leaves env st ns v)
    else .ret (some a) true (leaves env st ns v)
  | .nxdomain _ => .ret none true (leaves env st ns v)
  | .yxdomain => .raise .yxdomain (leaves env st ns v)
  | _ => .ret none false (leaves env st ns v)

theorem queryResult_eq (env : Env) (st : St) (ns : Server) (out : Outcome) :
    queryResult env st ns out = actOn env st ns (verdict env st.qname ns st.tcpAttempt st.now out) := by
  cases out with
  | exc k =>
    cases k
    case truncated => cases h : st.tcpAttempt <;> simp [queryResult, verdict, actOn, leaves, removeNs, h]
    all_goals rfl
  | resp r =>
    simp only [queryResult, verdict]
    split
    · cases mkAnswer env.maxChain st.qname env.rdtype env.rdclass env.rdclass env.rdtype r (some ns.id) st.now
      · rfl
      · cases hc : env.cfg.cacheOn <;> simp [actOn, leaves, hc]
    · split
      · cases mkAnswer env.maxChain st.qname tyANY clsIN env.rdclass env.rdtype r none st.now
        · rfl
        · cases hc : env.cfg.cacheOn <;> simp [actOn, leaves, hc]
      · split
        · rfl
        · cases hs : decide (r.rcode = rcSERVFAIL) <;> cases hr : env.cfg.retryServfail <;>
            simp_all [actOn, leaves, removeNs]

/-- the state a `query_result` call leaves behind, however it ends -/
def QR.st : QR → St
  | .raise _ st => st
  | .ret _ _ st => st

theorem queryResult_st (env : Env) (st : St) (ns : Server) (out : Outcome) :
    (queryResult env st ns out).st = leaves env st ns (verdict env st.qname ns st.tcpAttempt st.now out) := by
  rw [queryResult_eq]
  cases verdict env st.qname ns st.tcpAttempt st.now out
  case accept =>
    simp only [actOn]
    split <;> rfl
  all_goals rfl

/-- what a trace monitor can read off a reply without the clock is what the verdict says — the server proved broken,
the reply was truncated over UDP — and the three verdicts that rest on a response say which -/
theorem verdict_cases (env : Env) (q : Name) (s : Server) (tcp : Bool) (now : Nat) (out : Outcome) :
    (provesBroken env q tcp out = true ↔ verdict env q s tcp now out = .broken) ∧
    ((out = .exc .truncated ∧ tcp = false) ↔ verdict env q s tcp now out = .truncatedUdp) ∧
    match verdict env q s tcp now out with
    | .accept a => ∃ r, out = .resp r ∧ r.rcode = rcNOERROR ∧
        mkAnswer env.maxChain q env.rdtype env.rdclass env.rdclass env.rdtype r (some s.id) now = .ok a
    | .nxdomain a => ∃ r, out = .resp r ∧ r.rcode = rcNXDOMAIN ∧
        mkAnswer env.maxChain q tyANY clsIN env.rdclass env.rdtype r none now = .ok a
    | .yxdomain => ∃ r, out = .resp r ∧ r.rcode = rcYXDOMAIN
    | _ => True := by
  cases out with
  | exc k => cases k <;> cases tcp <;> simp [verdict, provesBroken]
  | resp r =>
    simp only [verdict, provesBroken, mkAnswer]
    by_cases h0 : r.rcode = rcNOERROR
    · cases hc : resolveChaining env.maxChain r q env.rdclass env.rdtype <;> simp [h0, hc]
    · by_cases h3 : r.rcode = rcNXDOMAIN
      · have : rcNXDOMAIN ≠ rcNOERROR := by decide
        cases hc : resolveChaining env.maxChain r q env.rdclass env.rdtype <;> simp [h3, hc, this]
      · by_cases h6 : r.rcode = rcYXDOMAIN
        · have : rcYXDOMAIN ≠ rcNOERROR ∧ rcYXDOMAIN ≠ rcNXDOMAIN := by decide
          simp [h6, this]
        · by_cases h2 : r.rcode = rcSERVFAIL
          · cases hr : env.cfg.retryServfail <;> simp [h0, h3, h6, eq_true h2]
          · simp [h0, h3, h6, h2]

theorem verdict_truncatedUdp {env : Env} {q : Name} {s : Server} {tcp : Bool} {now : Nat} {out : Outcome}
    (h : verdict env q s tcp now out = .truncatedUdp) : tcp = false :=
  ((verdict_cases env q s tcp now out).2.1.mpr h).2

theorem queryResult_cache (env : Env) (st : St) (ns : Server) (out : Outcome) :
    (∀ k' t, k' ≠ mkKey st.qname env.rdtype env.rdclass → k' ≠ mkKey st.qname tyANY env.rdclass →
        cacheGet (queryResult env st ns out).st.cache k' t = cacheGet st.cache k' t) ∧
    (env.cfg.cacheOn = false → (queryResult env st ns out).st.cache = st.cache) := by
  rw [queryResult_st]
  -- only an accepted answer and a validated NXDOMAIN are put, each under its key
  cases verdict env st.qname ns st.tcpAttempt st.now out with
  | accept a => exact ⟨fun k' t h _ => cacheGet_putIf_ne h, fun h => by simp [leaves, h]⟩
  | nxdomain a => exact ⟨fun k' t _ h => cacheGet_putIf_ne h, fun h => by simp [leaves, h]⟩
  | _ => exact ⟨fun _ _ _ _ => rfl, fun _ => rfl⟩

/-- only an accepted answer is returned -/
theorem queryResult_ret_some {env : Env} {st : St} {ns : Server} {out : Outcome} {a : Answer} {d : Bool} {st' : St}
    (h : queryResult env st ns out = .ret (some a) d st') : st' = leaves env st ns (.accept a) := by
  rw [queryResult_eq] at h
  cases hv : verdict env st.qname ns st.tcpAttempt st.now out <;> rw [hv] at h
  case accept a' =>
    simp only [actOn] at h
    split at h <;> cases h
    rfl
  all_goals cases h

/-- an outcome that ends the resolution with an answer: a NOERROR response that survives `Answer()` -/
def acceptable (env : Env) (st : St) (ns : Server) (out : Outcome) (a : Answer) : Prop :=
  ∃ r, out = .resp r ∧ r.rcode = rcNOERROR ∧
    mkAnswer env.maxChain st.qname env.rdtype env.rdclass env.rdclass env.rdtype r (some ns.id) st.now = .ok a


/-- the state `next_request` builds for candidate `q` -/
def armed (env : Env) (q : Name) (rest : List Name) (st : St) : St :=
  { st with phase := .querying, qnames := rest, qname := q,
            nameservers := env.cfg.servers, current := env.cfg.servers, nameserver := none,
            tcpAttempt := false, retryWithTcp := false, backoff := env.bo.init }

theorem mem_recordNx {nx : List Name} {q p : Name} (h : p ∈ recordNx nx q) : p ∈ nx ∨ p = q := by
  unfold recordNx at h
  split at h
  · exact Or.inl h
  · simpa using h

/-- recording evidence for each name of `l` covers what was covered and the names of `l` -/
theorem covered_foldl_recordNx {l nx : List Name} {p : Name} (h : covered nx p ∨ p ∈ l) :
    covered (l.foldl recordNx nx) p := by
  induction l generalizing nx with
  | nil => exact h.resolve_right nofun
  | cons q l ih =>
    refine ih (h.elim (fun h => Or.inl (covered_recordNx_mono _ _ _ h)) fun h => ?_)
    exact (List.mem_cons.mp h).imp (fun (e : p = q) => e ▸ covered_recordNx_self _ _) id

theorem mem_foldl_recordNx {l nx : List Name} {p : Name} (h : p ∈ l.foldl recordNx nx) : p ∈ nx ∨ p ∈ l := by
  induction l generalizing nx with
  | nil => exact Or.inl h
  | cons q l ih =>
    rcases ih h with h | h
    · exact (mem_recordNx h).imp_right fun (e : p = q) => e ▸ List.mem_cons_self ..
    · exact Or.inr (List.mem_cons_of_mem _ h)

/-- what the cache says about a candidate name when `next_request` comes to it -/
inductive Probe where
  | hit (a : Answer)   -- a live entry under (candidate, type, class): the answer
  | noAnswer           -- such an entry without an RRset, `raise_on_no_answer` set
  | skip               -- a live NXDOMAIN entry under (candidate, ANY, class): recorded as evidence, candidate passed over
  | ask                -- nothing of use (or no cache): the nameservers are asked

def probe (env : Env) (c : Cache) (now : Nat) (q : Name) : Probe :=
  if env.cfg.cacheOn then
    match cacheGet c (mkKey q env.rdtype env.rdclass) now with
    | some a => if !a.hasRRset && env.raiseOnNoAnswer then .noAnswer else .hit a
    | none =>
      match cacheGet c (mkKey q tyANY env.rdclass) now with
      | some a => if a.rcode = rcNXDOMAIN then .skip else .ask
      | none => .ask
  else .ask

theorem probe_cases (env : Env) (c : Cache) (now : Nat) (q : Name) :
    match probe env c now q with
    | .hit a => env.cfg.cacheOn = true ∧ (a.hasRRset = true ∨ env.raiseOnNoAnswer = false) ∧
        cacheGet c (mkKey q env.rdtype env.rdclass) now = some a
    | .noAnswer => env.cfg.cacheOn = true ∧ env.raiseOnNoAnswer = true ∧
        ∃ a, cacheGet c (mkKey q env.rdtype env.rdclass) now = some a ∧ a.hasRRset = false
    | .skip => ∃ a, cacheGet c (mkKey q tyANY env.rdclass) now = some a ∧ a.rcode = rcNXDOMAIN
    | .ask => True := by
  unfold probe
  cases hc : env.cfg.cacheOn with
  | false => trivial
  | true =>
    cases h1 : cacheGet c (mkKey q env.rdtype env.rdclass) now with
    | some a => cases hr : a.hasRRset <;> cases hn : env.raiseOnNoAnswer <;> simp [hr]
    | none =>
      cases h2 : cacheGet c (mkKey q tyANY env.rdclass) now with
      | some a => by_cases hx : a.rcode = rcNXDOMAIN <;> simp [hx]
      | none => trivial

/-- the two cache look-ups as `next_request` (and the specification's candidate loop) nests them, read through `probe` -/
theorem probe_elim {α : Type} (env : Env) (c : Cache) (now : Nat) (q : Name) (kh : Answer → α) (kn ks ka : α) :
    (if env.cfg.cacheOn then
      match cacheGet c (mkKey q env.rdtype env.rdclass) now with
      | some a => if !a.hasRRset && env.raiseOnNoAnswer then kn else kh a
      | none =>
        match cacheGet c (mkKey q tyANY env.rdclass) now with
        | some a => if a.rcode = rcNXDOMAIN then ks else ka
        | none => ka
    else ka) =
      match probe env c now q with
      | .hit a => kh a
      | .noAnswer => kn
      | .skip => ks
      | .ask => ka := by
  unfold probe
  cases env.cfg.cacheOn with
  | false => rfl
  | true =>
    cases cacheGet c (mkKey q env.rdtype env.rdclass) now with
    | some a => cases hr : a.hasRRset <;> cases hn : env.raiseOnNoAnswer <;> simp [hr]
    | none =>
      cases cacheGet c (mkKey q tyANY env.rdclass) now with
      | some a => by_cases hx : a.rcode = rcNXDOMAIN <;> simp [hx]
      | none => rfl

theorem nextRequest_cons (env : Env) (q : Name) (rest : List Name) (st : St) :
    nextRequest env (q :: rest) st =
      match probe env st.cache st.now q with
      | .hit a => .hit a
      | .noAnswer => .raise .noAnswer
      | .skip => nextRequest env rest { st with qnames := rest, qname := q, nxNames := recordNx st.nxNames q }
      | .ask => .request (armed env q rest st) := by
  rw [nextRequest]
  exact probe_elim ..

/-- `next_request` called with the remaining candidates `qs`: it passes over a prefix of candidates with a cached
NXDOMAIN, recording each, and then finds none left or does what the cache says about the next one -/
theorem nextRequest_spec (env : Env) : ∀ (qs : List Name) (st : St),
    ∃ skipped, (∀ p ∈ skipped, probe env st.cache st.now p = .skip) ∧
      ((qs = skipped ∧
          nextRequest env qs st = .raise (.nxdomain env.qnamesToTry (skipped.foldl recordNx st.nxNames))) ∨
       ∃ q rest, qs = skipped ++ q :: rest ∧
         match probe env st.cache st.now q with
         | .hit a => nextRequest env qs st = .hit a
         | .noAnswer => nextRequest env qs st = .raise .noAnswer
         | .skip => False
         | .ask => nextRequest env qs st =
             .request (armed env q rest { st with nxNames := skipped.foldl recordNx st.nxNames }))
  | [], st => ⟨[], nofun, Or.inl ⟨rfl, by rw [nextRequest]; rfl⟩⟩
  | q :: rest, st => by
    rw [nextRequest_cons]
    cases hp : probe env st.cache st.now q
    case skip =>
      obtain ⟨skipped, hsk, h⟩ :=
        nextRequest_spec env rest { st with qnames := rest, qname := q, nxNames := recordNx st.nxNames q }
      refine ⟨q :: skipped, List.forall_mem_cons.mpr ⟨hp, hsk⟩, h.imp (fun ⟨e, r⟩ => ⟨by rw [e], r⟩) ?_⟩
      exact fun ⟨q', rest', e, r⟩ => ⟨q', rest', by rw [e]; rfl, r⟩
    all_goals exact ⟨[], nofun, Or.inr ⟨q, rest, rfl, by simp only [hp] <;> rfl⟩⟩


/-- a query is only issued while the lifetime has not expired; its timeout is the smaller of what is left of the
lifetime and the per-query timeout, so a nameserver that honours it cannot overrun the lifetime -/
theorem computeTimeout_some {env : Env} {now t : Nat} (h : computeTimeout env now = some t) :
    now - env.start < env.lifetime ∧ t = min (env.lifetime - (now - env.start)) env.cfg.timeout ∧
    (env.start ≤ now → now + t ≤ env.start + env.lifetime) := by
  unfold computeTimeout at h
  simp only at h
  split at h
  · cases h
  · cases h
    exact ⟨by omega, rfl, fun _ => by rw [Nat.min_def]; split <;> omega⟩

theorem computeTimeout_none {env : Env} {now : Nat} (h : computeTimeout env now = none) :
    env.lifetime ≤ now - env.start := by
  unfold computeTimeout at h
  simp only at h
  split at h
  · assumption
  · cases h

/-- the back-off sleep of a pass, as the loop reports it -/
def sleepEvs (env : Env) (b now : Nat) : List Event := if b ≠ 0 then [.sleep (sleepFor env b now)] else []

theorem sleepFor_zero (env : Env) (now : Nat) : sleepFor env 0 now = 0 := by
  unfold sleepFor
  split <;> simp

/-- how the loop goes on after `query_result` -/
def conclude (evs : List Event) : QR → StepR
  | .raise r st => .done evs r st
  | .ret (some a) _ st => .done evs (.answer a) st
  | .ret none done st => .cont evs (if done then { st with phase := .needRequest } else st)

def StepR.evs : StepR → List Event
  | .cont evs _ => evs
  | .done evs _ _ => evs

theorem afterPick_eq (env : Env) (q : Name) (ns : Server) (tcp : Bool) (b : Nat) (st1 : St) :
    afterPick env q ns tcp b st1 =
      match computeTimeout env (st1.now + sleepFor env b st1.now) with
      | none => .done (sleepEvs env b st1.now) .lifetimeTimeout { st1 with now := st1.now + sleepFor env b st1.now }
      | some t =>
        conclude (sleepEvs env b st1.now ++ [.query q ns tcp t (doQuery st1.script t).1])
          (queryResult env { st1 with now := st1.now + sleepFor env b st1.now + (doQuery st1.script t).2.1,
                                      script := (doQuery st1.script t).2.2 } ns (doQuery st1.script t).1) := by
  unfold afterPick conclude sleepEvs
  simp only
  cases computeTimeout env (st1.now + sleepFor env b st1.now) <;> rfl


/-- a property of an iteration's outcome: `I` if the loop goes on, `Q` if it ends -/
@[simp] def StepR.sat (I : List Event → St → Prop) (Q : List Event → Result → St → Prop) : StepR → Prop
  | .cont evs st => I evs st
  | .done evs r st => Q evs r st

theorem StepR.sat_imp {I I' : List Event → St → Prop} {Q Q' : List Event → Result → St → Prop} {res : StepR}
    (h : res.sat I Q) (hI : ∀ evs st, I evs st → I' evs st) (hQ : ∀ evs r st, Q evs r st → Q' evs r st) :
    res.sat I' Q' := by
  cases res with
  | cont evs st => exact hI _ _ h
  | done evs r st => exact hQ _ _ _ h

/-- what `next_nameserver` decides: server and transport of the next query, the back-off to sleep before it (`0`: none),
what is left of the round, the back-off of the next re-arming -/
structure Choice where
  ns : Server
  tcp : Bool
  sleep : Nat
  rest : List Server
  backoff : Nat

/-- the three ways `next_nameserver` picks: the pending TCP retry (same server, at once), the next server of the round,
or — the round being over — the first of the servers still in the mix, after the back-off, which then grows -/
inductive Picks (env : Env) (st : St) : Choice → Prop
  | retry {ns} (hr : st.retryWithTcp = true) (hn : st.nameserver = some ns) :
      Picks env st ⟨ns, true, 0, st.current, st.backoff⟩
  | next {ns rest} (hr : st.retryWithTcp = false) (hc : st.current = ns :: rest) :
      Picks env st ⟨ns, env.tcp || ns.alwaysMax, 0, rest, st.backoff⟩
  | rearm {ns rest} (hr : st.retryWithTcp = false) (hc : st.current = []) (hn : st.nameservers = ns :: rest) :
      Picks env st ⟨ns, env.tcp || ns.alwaysMax, st.backoff, rest, min (st.backoff * env.bo.factor) env.bo.cap⟩

/-- the state once `c` is picked, at clock `now` with `script` unread -/
def St.asked (st : St) (c : Choice) (now : Nat) (script : List ScriptStep) : St :=
  { st with current := c.rest, nameserver := some c.ns, tcpAttempt := c.tcp, retryWithTcp := false,
            backoff := c.backoff, now := now, script := script }

theorem nextNameserver_cases (env : Env) (st : St) :
    (nextNameserver env st = .raise .noNameservers ∧
      ((st.retryWithTcp = false ∧ st.current = [] ∧ st.nameservers = []) ∨
       (st.retryWithTcp = true ∧ st.nameserver = none))) ∨
    ∃ c, Picks env st c ∧ nextNameserver env st = .ok c.ns c.tcp c.sleep (st.asked c st.now st.script) := by
  unfold nextNameserver
  split
  · rename_i hr
    split
    · rename_i ns hn
      refine Or.inr ⟨_, .retry hr hn, ?_⟩
      cases st
      simp_all [St.asked]
    · rename_i hn
      exact Or.inl ⟨rfl, Or.inr ⟨hr, hn⟩⟩
  · rename_i hr
    have hr : st.retryWithTcp = false := by simpa using hr
    split
    · rename_i hc
      split
      · rename_i hn
        exact Or.inl ⟨rfl, Or.inl ⟨hr, hc, hn⟩⟩
      · rename_i ns rest hn
        refine Or.inr ⟨_, .rearm hr hc hn, ?_⟩
        cases st
        simp_all [St.asked]
    · rename_i ns rest hc
      refine Or.inr ⟨_, .next hr hc, ?_⟩
      cases st
      simp_all [St.asked]

/-- how an iteration ends once the reply is judged: with the answer or an exception, or it goes on — to the next
candidate after a validated NXDOMAIN, else to `next_nameserver` again -/
def judge (env : Env) (evs : List Event) (st : St) (ns : Server) (v : Verdict) : StepR :=
  match v with
  | .accept a => .done evs (if !a.hasRRset && env.raiseOnNoAnswer then .noAnswer else .answer a) (leaves env st ns v)
  | .nxdomain _ => .cont evs { leaves env st ns v with phase := .needRequest }
  | .yxdomain => .done evs .yxdomain (leaves env st ns v)
  | _ => .cont evs (leaves env st ns v)

theorem conclude_queryResult (env : Env) (evs : List Event) (st : St) (ns : Server) (out : Outcome) :
    conclude evs (queryResult env st ns out) =
      judge env evs st ns (verdict env st.qname ns st.tcpAttempt st.now out) := by
  rw [queryResult_eq]
  cases verdict env st.qname ns st.tcpAttempt st.now out <;> simp only [actOn, judge]
  · split <;> rfl
  all_goals rfl

/-- the ways one iteration can go from `st`: `next_request` passes over the candidates with a cached NXDOMAIN and then
finds none left, answers from the cache or arms the next candidate; `next_nameserver` has no server left; or it picks
one, the back-off is slept and then either the lifetime is over or the query is made and its reply judged (`w` the clock
after the sleep, `t` the timeout, `d` what the nameserver does) -/
inductive Iter (env : Env) (st : St) : StepR → Prop
  | nxdomain (hph : st.phase = .needRequest) (hsk : ∀ p ∈ st.qnames, probe env st.cache st.now p = .skip) :
      Iter env st (.done [] (.nxdomain env.qnamesToTry (st.qnames.foldl recordNx st.nxNames)) st)
  | noAnswer {skipped q rest} (hph : st.phase = .needRequest) (hqs : st.qnames = skipped ++ q :: rest)
      (hsk : ∀ p ∈ skipped, probe env st.cache st.now p = .skip) (hq : probe env st.cache st.now q = .noAnswer) :
      Iter env st (.done [] .noAnswer st)
  | hit {skipped q rest a} (hph : st.phase = .needRequest) (hqs : st.qnames = skipped ++ q :: rest)
      (hsk : ∀ p ∈ skipped, probe env st.cache st.now p = .skip) (hq : probe env st.cache st.now q = .hit a) :
      Iter env st (.done [] (.answer a) st)
  | request {skipped q rest} (hph : st.phase = .needRequest) (hqs : st.qnames = skipped ++ q :: rest)
      (hsk : ∀ p ∈ skipped, probe env st.cache st.now p = .skip) (hq : probe env st.cache st.now q = .ask) :
      Iter env st (.cont [.candidate q] (armed env q rest { st with nxNames := skipped.foldl recordNx st.nxNames }))
  | noNs (hph : st.phase = .querying)
      (h : (st.retryWithTcp = false ∧ st.current = [] ∧ st.nameservers = []) ∨
        (st.retryWithTcp = true ∧ st.nameserver = none)) : Iter env st (.done [] .noNameservers st)
  | expired {c w} (hph : st.phase = .querying) (hp : Picks env st c) (hw : w = st.now + sleepFor env c.sleep st.now)
      (ht : computeTimeout env w = none) :
      Iter env st (.done (sleepEvs env c.sleep st.now) .lifetimeTimeout (st.asked c w st.script))
  | reply {c w t d} (hph : st.phase = .querying) (hp : Picks env st c)
      (hw : w = st.now + sleepFor env c.sleep st.now) (ht : computeTimeout env w = some t)
      (hd : d = doQuery st.script t) :
      Iter env st (judge env (sleepEvs env c.sleep st.now ++ [.query st.qname c.ns c.tcp t d.1])
        (st.asked c (w + d.2.1) d.2.2) c.ns (verdict env st.qname c.ns c.tcp (w + d.2.1) d.1))

theorem step_iter (env : Env) (st : St) : Iter env st (step env st) := by
  unfold step
  split
  · rename_i hph
    obtain ⟨skipped, hsk, ⟨hqs, hr⟩ | ⟨q, rest, hqs, hr⟩⟩ := nextRequest_spec env st.qnames st
    · rw [hr, ← hqs]
      exact .nxdomain hph (hqs ▸ hsk)
    · cases hq : probe env st.cache st.now q <;> rw [hq] at hr <;> simp only at hr
      · exact hr ▸ .hit hph hqs hsk hq
      · exact hr ▸ .noAnswer hph hqs hsk hq
      · exact hr ▸ .request hph hqs hsk hq
  · rename_i hph
    rcases nextNameserver_cases env st with ⟨hr, h⟩ | ⟨c, hp, hr⟩ <;> rw [hr]
    · exact .noNs hph h
    · simp only
      rw [afterPick_eq]
      split
      · rename_i ht
        exact .expired hph hp rfl ht
      · rename_i t ht
        rw [conclude_queryResult]
        exact .reply hph hp rfl ht rfl

theorem step_sat {env : Env} {st : St} {I : List Event → St → Prop} {Q : List Event → Result → St → Prop}
    (h : ∀ res, Iter env st res → res.sat I Q) : (step env st).sat I Q :=
  h _ (step_iter env st)

end Model.Resolver
