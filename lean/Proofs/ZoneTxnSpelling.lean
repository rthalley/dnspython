import Proofs.ZoneTxnStep
import Proofs.ZoneTxnFrame
import Proofs.NameOps
import Proofs.NameOrder
import Proofs.NameOrder3
/-! C10: a call sees its owner name, and the decision points of the configuration, only through `_validate_name`,
the "SOA only at the origin" test and `delete_rdataset`.  Hence (i) an owner given relative to the origin and the
same owner given absolute give the same call; (ii) the LEGACY variant of the model (D09/D10, the code before repairs
48a5b1a / 32c445c) coincides with the repaired one on owner names given in the zone's own spelling; (iii) the
decision point `gn` (`get_node` without `_check_ended()`) only matters for a `get_node` call on an ended
transaction. -/
namespace Model.ZT
open Model

theorem addCore_congr (cfg cfg' : Cfg) {n n' : Name} (hc : cfg.rdclass = cfg'.rdclass)
    (hv : validateName cfg n = validateName cfg' n') (hs : soaNameOk cfg n = soaNameOk cfg' n')
    (s : Txn) (rep : Bool) (r : Rdataset) (extra veto : Bool) :
    addCore cfg s rep n r extra veto = addCore cfg' s rep n' r extra veto := by
  unfold addCore checkedPut putRdataset getRdataset
  simp only [hc, hv, hs]

theorem deleteCore_congr (cfg cfg' : Cfg) {n n' : Name} (hc : cfg.rdclass = cfg'.rdclass)
    (hv : validateName cfg n = validateName cfg' n')
    (hdel : ∀ v t c, deleteRdataset cfg v n t c = deleteRdataset cfg' v n' t c)
    (s : Txn) (exact : Bool) (sel : Sel) (veto : Bool) :
    deleteCore cfg s exact n sel veto = deleteCore cfg' s exact n' sel veto := by
  unfold deleteCore deleteAll checkedDeleteName checkedDeleteRdataset checkedPut deleteNode putRdataset getRdataset getNode
  simp only [hc, hv, hdel]

theorem updateSerial_congr (cfg cfg' : Cfg) {n n' : Name} (hc : cfg.rdclass = cfg'.rdclass)
    (hv : validateName cfg n = validateName cfg' n') (hs : soaNameOk cfg n = soaNameOk cfg' n')
    (s : Txn) (value : Int) (rel veto : Bool) :
    txnUpdateSerial cfg s value rel n veto = txnUpdateSerial cfg' s value rel n' veto := by
  unfold txnUpdateSerial txnAdd
  simp only [parseAddArgs_name_rds, getRdataset, hc, hv, addCore_congr cfg cfg' hc hv hs]

theorem deleteRdataset_spelling (cfg : Cfg) (hd : cfg.d09 = false) {n n' : Name}
    (hv : validateName cfg n = validateName cfg n') (v : Nodes) (t c : Nat) :
    deleteRdataset cfg v n t c = deleteRdataset cfg v n' t c := by
  unfold deleteRdataset
  simp only [hv, hd, Bool.false_eq_true, if_false]

/-- The origin is a legal absolute name. -/
structure WfOrigin (cfg : Cfg) : Prop where
  abs : isAbs cfg.origin = true
  valid : validate cfg.origin = .ok cfg.origin

theorem WfOrigin.ne_nil {cfg : Cfg} (ho : WfOrigin cfg) : cfg.origin ≠ [] := NameOrder.ne_nil_of_isAbs ho.abs

theorem validateName_rel_abs (cfg : Cfg) (ho : WfOrigin cfg) (r : Name) (hr : isAbs r = false)
    (hfull : validate (r ++ cfg.origin) = .ok (r ++ cfg.origin)) :
    validateName cfg r = validateName cfg (r ++ cfg.origin) := by
  unfold validateName
  obtain ⟨h1, h2, _⟩ := NameOrder.below_of_append r cfg.origin ho.abs
  simp only [hr, h1, h2, Bool.false_eq_true, if_false, if_true, Bool.not_true]
  have hrel : relativize (r ++ cfg.origin) cfg.origin = .ok r := by
    rw [relativize_of_wf (wf_of_validate _ _ hfull).2, if_pos h2]; simp
  rw [(derelativize_of_rel hr _).trans hfull, hrel]
  cases cfg.relativize <;> simp

theorem soaNameOk_eq_false {cfg : Cfg} (hd10 : cfg.d10 = false) {n : Name} (hn : n ≠ [])
    (ho : lowerName n ≠ lowerName cfg.origin) : soaNameOk cfg n = false := by
  unfold soaNameOk effectiveOrigin
  cases cfg.relativize <;> simp [hd10, hn, ho, show lowerName n = [] ↔ n = [] from List.map_eq_nil_iff, show lowerName [] = [] from rfl]

theorem soaNameOk_rel_abs (cfg : Cfg) (hd10 : cfg.d10 = false) (ho : WfOrigin cfg) (r : Name) (hr : isAbs r = false) :
    soaNameOk cfg r = soaNameOk cfg (r ++ cfg.origin) := by
  by_cases hnil : r = []
  · subst hnil
    unfold soaNameOk
    simp [hd10]
  · -- a non-empty relative name is no spelling of the origin, and neither is anything longer than the origin
    rw [soaNameOk_eq_false hd10 hnil fun e => Bool.false_ne_true (hr.symm.trans ((NameOrder.isAbs_of_lower_eq e).trans ho.abs)),
      soaNameOk_eq_false hd10 (fun e => hnil (List.append_eq_nil_iff.mp e).1) fun e => hnil ?_]
    have := lowerName_length _ _ e
    rw [List.length_append] at this
    exact List.eq_nil_of_length_eq_zero (by omega)

/-- the decision points `d09`/`d10` at their repaired setting, `gn` untouched -/
def modernCfg (cfg : Cfg) : Cfg := { cfg with d09 := false, d10 := false }

/-- the owner is valid and is given in the spelling the zone stores (relative in a relativized zone, absolute
otherwise): `_validate_name` returns it unchanged (up to case) -/
def NativeName (cfg : Cfg) (n : Name) : Prop := validateName cfg n = .ok (lowerName n)

/-- the owner name a mutating call is about (after argument parsing) -/
def Op.owner : Op → Option Name
  | .add args _ => match parseAddArgs args with
    | .ok (n, _, _) => some n
    | .error _ => none
  | .replace args _ => match parseAddArgs args with
    | .ok (n, _, _) => some n
    | .error _ => none
  | .delete args _ => match parseDeleteArgs args with
    | .ok (n, _) => some n
    | .error _ => none
  | .deleteExact args _ => match parseDeleteArgs args with
    | .ok (n, _) => some n
    | .error _ => none
  | .updateSerial _ _ n _ => some n
  | _ => none

theorem not_native_nil {cfg : Cfg} (ho : WfOrigin cfg) (hrel : cfg.relativize = false) : ¬NativeName cfg [] := by
  intro hn
  unfold NativeName validateName at hn
  rw [if_neg (by decide), (derelativize_of_rel (n := []) rfl cfg.origin).trans ho.valid] at hn
  simp only [hrel, Bool.not_false, if_true] at hn
  have := ho.abs
  rw [← NameOrder.isAbs_lowerName, Except.ok.inj hn] at this
  cases this

theorem not_native_origin {cfg : Cfg} (ho : WfOrigin cfg) (hrel : cfg.relativize = true) {n : Name}
    (hn : NativeName cfg n) (e : lowerName n = lowerName cfg.origin) : False := by
  have habs : isAbs n = true := (NameOrder.isAbs_of_lower_eq e).trans ho.abs
  have hsub : isSubdomain n cfg.origin = true :=
    (NameOrder.isSubdomain_congr e rfl).trans (NameOrder.isSubdomain_refl _)
  unfold NativeName validateName at hn
  -- relativizing a name as long as the origin leaves the empty name
  rw [if_pos habs, hsub, relativize_eq, if_pos hsub, lowerName_length n _ e, Nat.sub_self, List.take_zero] at hn
  simp only [Bool.not_true, Bool.false_eq_true, if_false, hrel, if_true] at hn
  exact NameOrder.ne_nil_of_isAbs habs (List.map_eq_nil_iff.mp (Except.ok.inj hn).symm)

theorem soaNameOk_native (cfg : Cfg) (ho : WfOrigin cfg) (n : Name) (hn : NativeName cfg n) :
    soaNameOk cfg n = soaNameOk (modernCfg cfg) n := by
  cases hd : cfg.d10 with
  | false => unfold soaNameOk modernCfg effectiveOrigin; simp [hd]
  | true =>
    -- the repaired test also accepts `@` and the absolute origin; a native owner spelled so passes the old test too
    unfold soaNameOk modernCfg effectiveOrigin
    simp only [hd, if_true, Bool.false_eq_true, if_false]
    cases hrel : cfg.relativize with
    | false =>
      have : n ≠ [] := fun e => not_native_nil ho hrel (e ▸ hn)
      simp [this]
    | true =>
      rw [beq_eq_false_iff_ne.mpr (not_native_origin ho hrel hn), Bool.or_false]
      cases n <;> rfl

theorem deleteRdataset_native (cfg : Cfg) (v : Nodes) (n : Name) (t c : Nat) (hn : NativeName cfg n) :
    deleteRdataset cfg v n t c = deleteRdataset (modernCfg cfg) v n t c :=
  (deleteRdataset_key cfg v n _ t c hn fun _ => rfl).trans
    (deleteRdataset_key (modernCfg cfg) v n _ t c hn fun _ => rfl).symm

theorem step_native (cfg : Cfg) (ho : WfOrigin cfg) (s : Txn) (op : Op)
    (h : ∀ n, op.owner = some n → NativeName cfg n) : step cfg s op = step (modernCfg cfg) s op := by
  cases op with
  | add args veto | replace args veto =>
    simp only [step, txnAdd]
    cases hp : parseAddArgs args with
    | error e => rfl
    | ok x =>
      have hn := h x.1 (by simp [Op.owner, hp])
      simp only [addCore_congr cfg (modernCfg cfg) rfl rfl (soaNameOk_native cfg ho x.1 hn) s]
  | delete args veto | deleteExact args veto =>
    simp only [step, txnDelete]
    cases hp : parseDeleteArgs args with
    | error e => rfl
    | ok x =>
      have hn := h x.1 (by simp [Op.owner, hp])
      simp only [deleteCore_congr cfg (modernCfg cfg) rfl rfl (fun v t c => deleteRdataset_native cfg v x.1 t c hn) s]
  | updateSerial value rel n veto =>
    simp only [step]
    rw [updateSerial_congr cfg (modernCfg cfg) rfl rfl (soaNameOk_native cfg ho n (h n rfl)) s]
  | _ => rfl

def closedCfg (cfg : Cfg) : Cfg := { cfg with gn := false }

/-- does the history call `get_node` on an already ended transaction? -/
def lateGetNode (cfg : Cfg) : Txn → List Op → Bool
  | _, [] => false
  | s, op :: rest => (op.isGetNode && s.ended) || lateGetNode cfg (step cfg s op).1 rest

theorem step_gn (cfg : Cfg) (s : Txn) (op : Op) (h : (op.isGetNode && s.ended) = false) :
    step cfg s op = step (closedCfg cfg) s op := by
  cases op with
  | getNode n =>
    have he : s.ended = false := by simpa [Op.isGetNode] using h
    simp only [step, he]
    rfl
  | _ => rfl

theorem run_gn (cfg : Cfg) (ops : List Op) (s : Txn) (h : lateGetNode cfg s ops = false) :
    run cfg s ops = run (closedCfg cfg) s ops := by
  induction ops generalizing s with
  | nil => rfl
  | cons op rest ih =>
    simp only [lateGetNode, Bool.or_eq_false_iff] at h
    simp only [run]
    rw [← step_gn cfg s op h.1, ih _ h.2]

end Model.ZT
