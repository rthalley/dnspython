import Proofs.RdataTextField
import Proofs.RdataTextIP6
/-! More prefix field kinds: octal (Chaosnet A), EUI48/64, NID/L64 `xxxx:xxxx:xxxx:xxxx`, NSAP `0x…` (C05). -/
namespace Model

theorem field_oct16 (st : Style) (env : PEnv) (v : Nat) (hv : v ≤ 65535) :
    FieldRT st env .oct16 (.n v) (natToOct v) ⟨.ident, natToOct v⟩ := by
  refine tokRT_plain (natToOct_ne_nil v) (natToOct_plain v) rfl ?_
  simp [parseField, asUint, unescapeCP_plain_all _ (natToOct_plain v), pyInt8_natToOct]
  omega

theorem filter_id_of_not_mem (c : Nat) (l : List Nat) (h : c ∉ l) : l.filter (· ≠ c) = l := by
  rw [List.filter_eq_self]
  intro x hx
  simp
  intro e; exact h (e ▸ hx)

theorem field_nsap (st : Style) (env : PEnv) (s : Bytes) (hs : ∀ x ∈ s, x < 256) :
    FieldRT st env .nsap (.b s) (48 :: 120 :: hexlify s) ⟨.ident, 48 :: 120 :: hexlify s⟩ := by
  have hpl : Plain (48 :: 120 :: hexlify s) := by
    intro c hc
    simp at hc
    rcases hc with e | e | e
    · subst e; decide
    · subst e; decide
    · exact hexlify_plain s hs c e
  refine tokRT_plain (by simp) hpl rfl ?_
  have hf : (hexlify s).filter (fun x => !decide (x = 46)) = hexlify s := by
    have := filter_id_of_not_mem 46 _ fun h => absurd (hexlify_isHexL s hs 46 h) (by decide)
    simpa using this
  have hlen : (hexlify s).length % 2 = 0 := by rw [hexlify_length]; omega
  simp [parseField, parseFieldExtra, unescapeCP_plain_all _ hpl, hf, hlen, unhexlify_hexlify s hs]

/-- `int(s, 16)` on lower-case hex digits: no blank to strip, no sign, no `0x` prefix -/
theorem pyIntHex_digits (ds : List Nat) (hd : ∀ c ∈ ds, isHexL c = true) :
    pyIntHex ds = (digitsUS16 ds 0 true).map fun v => (false, v) := by
  have hns : ∀ c ∈ ds, isIntSpace c = false := by
    intro c hc; have := hd c hc; simp [isHexL] at this; simp [isIntSpace]; omega
  unfold pyIntHex
  rw [stripIntSpace_id _ hns]
  have hsign := pySign_of_no_sign ds fun c hc => by
    have := hd c (List.mem_of_mem_head? hc)
    constructor <;> rintro rfl <;> revert this <;> decide
  simp only [hsign]
  split
  · rename_i x r
    have := hd x (by simp)
    rw [if_neg (by rintro (rfl | rfl) <;> revert this <;> decide)]
  · rfl

theorem pyIntHex_quad (c3 c2 c1 c0 v3 v2 v1 v0 : Nat)
    (r3 : isHexL c3 = true) (r2 : isHexL c2 = true) (r1 : isHexL c1 = true) (r0 : isHexL c0 = true)
    (h3 : hexDigitVal c3 = some v3) (h2 : hexDigitVal c2 = some v2) (h1 : hexDigitVal c1 = some v1)
    (h0 : hexDigitVal c0 = some v0) :
    pyIntHex [c3, c2, c1, c0] = some (false, ((v3 * 16 + v2) * 16 + v1) * 16 + v0) := by
  rw [pyIntHex_digits _ (by simp only [List.forall_mem_cons]; exact ⟨r3, r2, r1, r0, nofun⟩)]
  simp [digitsUS16, h3, h2, h1, h0]

theorem parseFormattedHex4_quads (a0 a1 a2 a3 b0 b1 b2 b3 c0 c1 c2 c3 d0 d1 d2 d3 x0 x1 x2 x3 x4 x5 x6 x7 : Nat)
    (ha : ∃ v, pyIntHex [a0, a1, a2, a3] = some (false, v) ∧ ([a0, a1, a2, a3].all fun c => (hexDigitVal c).isSome) = true ∧
      v / 256 % 256 = x0 ∧ v % 256 = x1)
    (hb : ∃ v, pyIntHex [b0, b1, b2, b3] = some (false, v) ∧ ([b0, b1, b2, b3].all fun c => (hexDigitVal c).isSome) = true ∧
      v / 256 % 256 = x2 ∧ v % 256 = x3)
    (hc : ∃ v, pyIntHex [c0, c1, c2, c3] = some (false, v) ∧ ([c0, c1, c2, c3].all fun c => (hexDigitVal c).isSome) = true ∧
      v / 256 % 256 = x4 ∧ v % 256 = x5)
    (hd : ∃ v, pyIntHex [d0, d1, d2, d3] = some (false, v) ∧ ([d0, d1, d2, d3].all fun c => (hexDigitVal c).isSome) = true ∧
      v / 256 % 256 = x6 ∧ v % 256 = x7) :
    parseFormattedHex4 [a0, a1, a2, a3, 58, b0, b1, b2, b3, 58, c0, c1, c2, c3, 58, d0, d1, d2, d3] =
      some [x0, x1, x2, x3, x4, x5, x6, x7] := by
  obtain ⟨va, pa, ya, rfl, rfl⟩ := ha
  obtain ⟨vb, pb, yb, rfl, rfl⟩ := hb
  obtain ⟨vc, pc, yc, rfl, rfl⟩ := hc
  obtain ⟨vd, pd, yd, rfl, rfl⟩ := hd
  unfold parseFormattedHex4
  simp only [List.length_cons, List.length_nil, List.drop, List.take, List.head?]
  simp [pa, pb, pc, pd, ya, yb, yc, yd]

theorem pyIntHex_pair (a b : Nat) (ha : a < 256) (hb : b < 256) :
    ∃ v, pyIntHex [hexDigitLower (a / 16), hexDigitLower (a % 16), hexDigitLower (b / 16), hexDigitLower (b % 16)] = some (false, v) ∧
      ([hexDigitLower (a / 16), hexDigitLower (a % 16), hexDigitLower (b / 16), hexDigitLower (b % 16)].all
        fun c => (hexDigitVal c).isSome) = true ∧ v / 256 % 256 = a ∧ v % 256 = b := by
  have v := fun d (h : d < 16) => hexDigitVal_lower d h
  have r := fun d (h : d < 16) => hexDigitLower_isHexL d h
  have h1 : a / 16 < 16 := by omega
  have h2 : a % 16 < 16 := by omega
  have h3 : b / 16 < 16 := by omega
  have h4 : b % 16 < 16 := by omega
  exact ⟨_, pyIntHex_quad _ _ _ _ _ _ _ _ (r _ h1) (r _ h2) (r _ h3) (r _ h4) (v _ h1) (v _ h2) (v _ h3) (v _ h4),
    by simp [v _ h1, v _ h2, v _ h3, v _ h4], by omega, by omega⟩

theorem field_hex16x4 (st : Style) (env : PEnv) (a b c d e f g h : Nat)
    (ha : a < 256) (hb : b < 256) (hc : c < 256) (hd : d < 256) (he : e < 256) (hf : f < 256) (hg : g < 256) (hh : h < 256) :
    ∃ text, FieldRT st env .hex16x4 (.b [a, b, c, d, e, f, g, h]) text ⟨.ident, text⟩ := by
  have hparse := parseFormattedHex4_quads _ _ _ _ _ _ _ _ _ _ _ _ _ _ _ _ _ _ _ _ _ _ _ _
    (pyIntHex_pair a b ha hb) (pyIntHex_pair c d hc hd) (pyIntHex_pair e f he hf) (pyIntHex_pair g h hg hh)
  have hpl : Plain (wordbreak (hexlify [a, b, c, d, e, f, g, h]) 4 [58]) :=
    plain_wordbreak _ (hexlify_plain _ (by simp; omega)) 4 [58] (by intro x hx; simp at hx; subst hx; decide)
  have htext : wordbreak (hexlify [a, b, c, d, e, f, g, h]) 4 [58] =
      [hexDigitLower (a / 16), hexDigitLower (a % 16), hexDigitLower (b / 16), hexDigitLower (b % 16), 58,
        hexDigitLower (c / 16), hexDigitLower (c % 16), hexDigitLower (d / 16), hexDigitLower (d % 16), 58,
        hexDigitLower (e / 16), hexDigitLower (e % 16), hexDigitLower (f / 16), hexDigitLower (f % 16), 58,
        hexDigitLower (g / 16), hexDigitLower (g % 16), hexDigitLower (h / 16), hexDigitLower (h % 16)] := by
    simp [hexlify, wordbreak, chunksOf, joinSep]
  rw [htext] at hpl
  refine ⟨_, tokRT_plain (by simp) hpl (congrArg some htext) ?_⟩
  simp [parseField, parseFieldExtra, unescapeCP_plain_all _ hpl, hparse]

def dashJoin : Bytes → List Nat
  | [] => []
  | [x] => [hexDigitLower (x / 16), hexDigitLower (x % 16)]
  | x :: y :: r => hexDigitLower (x / 16) :: hexDigitLower (x % 16) :: 45 :: dashJoin (y :: r)

theorem wordbreak_eui (s : Bytes) : wordbreak (hexlify s) 2 [45] = dashJoin s := by
  unfold wordbreak
  simp only [show (2 : Nat) ≠ 0 by decide, if_false]
  induction s with
  | nil => simp [hexlify, chunksOf, joinSep, dashJoin]
  | cons x xs ih =>
    have e : hexlify (x :: xs) = hexDigitLower (x / 16) :: hexDigitLower (x % 16) :: hexlify xs := by simp [hexlify]
    rw [e, chunksOf_two_cons]
    cases xs with
    | nil => simp [hexlify, chunksOf, joinSep, dashJoin]
    | cons y ys =>
      have e2 : hexlify (y :: ys) = hexDigitLower (y / 16) :: hexDigitLower (y % 16) :: hexlify ys := by simp [hexlify]
      rw [e2, chunksOf_two_cons] at ih ⊢
      simp only [joinSep] at ih ⊢
      rw [ih]
      simp [dashJoin]

theorem dashJoin_facts (s : Bytes) (hs : ∀ x ∈ s, x < 256) (hne : s ≠ []) :
    (dashJoin s).length = 3 * s.length - 1 ∧
    (dashJoin s).filter (fun x => !decide (x = 45)) = hexlify s ∧
    (∀ i, i < s.length - 1 → (dashJoin s)[3 * i + 2]? = some 45) := by
  induction s with
  | nil => exact absurd rfl hne
  | cons x xs ih =>
    have hx := hs x (by simp)
    -- a hex digit is not the dash
    have n45 : ∀ d, d < 16 → hexDigitLower d ≠ 45 := fun d hd e =>
      absurd (e ▸ hexDigitLower_isHexL d hd) (by decide)
    have n1 := n45 (x / 16) (by omega)
    have n2 := n45 (x % 16) (by omega)
    cases xs with
    | nil => exact ⟨by simp [dashJoin], by simp [dashJoin, hexlify, n1, n2], by intro i hi; simp at hi⟩
    | cons y ys =>
      obtain ⟨i1, i3, i4⟩ := ih (fun z hz => hs z (by simp [hz])) (by simp)
      have e : dashJoin (x :: y :: ys) = hexDigitLower (x / 16) :: hexDigitLower (x % 16) :: 45 :: dashJoin (y :: ys) := rfl
      rw [e]
      refine ⟨by simp only [List.length_cons] at i1 ⊢; omega, ?_, ?_⟩
      · have e2 : hexlify (x :: y :: ys) = hexDigitLower (x / 16) :: hexDigitLower (x % 16) :: hexlify (y :: ys) := by simp [hexlify]
        rw [e2, ← i3]
        simp [n1, n2]
      · intro i hi
        cases i with
        | zero => rfl
        | succ j =>
          rw [show 3 * (j + 1) + 2 = (3 * j + 2) + 3 by omega]
          simp only [List.getElem?_cons_succ]
          exact i4 j (by simp only [List.length_cons] at hi ⊢; omega)

theorem field_eui (st : Style) (env : PEnv) (n : Nat) (s : Bytes) (hs : ∀ x ∈ s, x < 256) (hlen : s.length = n) (hn : 0 < n) :
    FieldRT st env (.eui n) (.b s) (dashJoin s) ⟨.ident, dashJoin s⟩ := by
  have hne : s ≠ [] := by intro e; subst e; simp at hlen; omega
  obtain ⟨f1, f3, f4⟩ := dashJoin_facts s hs hne
  have f2 : Plain (dashJoin s) := by
    rw [← wordbreak_eui]
    exact plain_wordbreak _ (hexlify_plain s hs) 2 [45] (by intro x hx; simp at hx; subst hx; decide)
  have hne2 : dashJoin s ≠ [] := by
    intro e; rw [e] at f1; simp at f1; omega
  refine tokRT_plain hne2 f2 (by simp [printField, wordbreak_eui]) ?_
  have hd : euiDashesOk (dashJoin s) n = true := by
    unfold euiDashesOk
    rw [List.all_eq_true]
    intro i hi
    simp only [List.mem_range] at hi
    rw [f4 i (by omega)]
    simp
  have hl : ¬ (dashJoin s).length ≠ 3 * n - 1 := by rw [f1, hlen]; simp
  simp only [parseField, parseFieldExtra, unescapeCP_plain_all _ f2, hl, if_false, hd, Bool.not_true, Bool.false_eq_true]
  have : (dashJoin s).filter (fun x => decide (x ≠ 45)) = hexlify s := by
    rw [← f3]; congr 1; funext x; simp
  rw [this, unhexlify_hexlify s hs]
  simp [hlen]

end Model
