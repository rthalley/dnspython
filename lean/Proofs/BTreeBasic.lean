import Model.BTree
/-!
Basic lemmas for the B-tree model: Python list operations on decomposed lists, the in-order
interleaving `inter`, sorted association lists (`lookup`, `insSorted`, `delKey`, `replKey`) and their behaviour on
`A ++ M ++ B` when the key falls in the window `M`: the key found in the window, or absent from it; every sorted list is
cut in one of these two ways at any key (`cut_cases`).
-/
namespace Model.BTree

@[simp] theorem insAt_append {α} (l r : List α) (x : α) : insAt (l ++ r) l.length x = l ++ x :: r := by
  simp [insAt]

@[simp] theorem popAt_append_cons {α} (l r : List α) (x : α) : popAt (l ++ x :: r) l.length = l ++ r := by
  simp [popAt]

@[simp] theorem setAt_append_cons {α} (l r : List α) (x y : α) :
    setAt (l ++ x :: r) l.length y = l ++ y :: r := by
  simp [setAt]

@[simp] theorem eltAt_append_cons (l r : List Elt) (x : Elt) : eltAt (l ++ x :: r) l.length = x := by
  simp [eltAt, List.getD]

@[simp] theorem kidAt_append_cons (l r : List Node) (x : Node) : kidAt (l ++ x :: r) l.length = x := by
  simp [kidAt, List.getD]

theorem eltAt_append_cons_succ (l r : List Elt) (x y : Elt) :
    eltAt (l ++ x :: y :: r) (l.length + 1) = y := by
  have := eltAt_append_cons (l ++ [x]) r y
  simpa using this

@[simp] theorem eltAt_zero_cons (x : Elt) (r : List Elt) : eltAt (x :: r) 0 = x := by
  simp [eltAt]

@[simp] theorem kidAt_zero_cons (x : Node) (r : List Node) : kidAt (x :: r) 0 = x := by
  simp [kidAt]

theorem kidAt_at {l r : List Node} {x : Node} {n : Nat} (h : l.length = n) : kidAt (l ++ x :: r) n = x := by
  subst h; exact kidAt_append_cons _ _ _
theorem kidAt_at_succ {l r : List Node} {x y : Node} {n : Nat} (h : l.length = n) :
    kidAt (l ++ x :: y :: r) (n + 1) = y := by
  subst h; simpa using kidAt_append_cons (l ++ [x]) r y
theorem eltAt_at {l r : List Elt} {x : Elt} {n : Nat} (h : l.length = n) : eltAt (l ++ x :: r) n = x := by
  subst h; exact eltAt_append_cons _ _ _
theorem setAt_at {α} {l r : List α} {x y : α} {n : Nat} (h : l.length = n) :
    setAt (l ++ x :: r) n y = l ++ y :: r := by
  subst h; exact setAt_append_cons _ _ _ _
theorem setAt_at_succ {α} {l r : List α} {x y z : α} {n : Nat} (h : l.length = n) :
    setAt (l ++ x :: y :: r) (n + 1) z = l ++ x :: z :: r := by
  subst h; simpa using setAt_append_cons (l ++ [x]) r y z
theorem popAt_at {α} {l r : List α} {x : α} {n : Nat} (h : l.length = n) : popAt (l ++ x :: r) n = l ++ r := by
  subst h; exact popAt_append_cons _ _ _
theorem popAt_at_succ {α} {l r : List α} {x y : α} {n : Nat} (h : l.length = n) :
    popAt (l ++ x :: y :: r) (n + 1) = l ++ x :: r := by
  subst h; simpa using popAt_append_cons (l ++ [x]) r y
theorem insAt_at {α} {l r : List α} {x : α} {n : Nat} (h : l.length = n) : insAt (l ++ r) n x = l ++ x :: r := by
  subst h; exact insAt_append _ _ _
theorem insAt_at_succ {α} {l r : List α} {x y : α} {n : Nat} (h : l.length = n) :
    insAt (l ++ x :: r) (n + 1) y = l ++ x :: y :: r := by
  subst h; simpa using insAt_append (l ++ [x]) r y

theorem drop_at_succ {α} (a b : List α) (x : α) : (a ++ x :: b).drop (a.length + 1) = b := by
  simp
theorem take_at_succ {α} (a b : List α) (x : α) : (a ++ x :: b).take (a.length + 1) = a ++ [x] := by
  have := List.take_left (l₁ := a ++ [x]) (l₂ := b)
  simpa using this

theorem snoc_of_pos {α} (l : List α) (h : 0 < l.length) : ∃ l' x, l = l' ++ [x] := by
  have hne : l ≠ [] := by intro h0; subst h0; simp at h
  exact ⟨l.dropLast, l.getLast hne, (List.dropLast_concat_getLast hne).symm⟩

theorem nil_or_snoc {α} (l : List α) : l = [] ∨ ∃ l' x, l = l' ++ [x] := by
  cases l with
  | nil => exact Or.inl rfl
  | cons a l => exact Or.inr (snoc_of_pos _ (Nat.succ_pos _))

@[simp] theorem eltAt_concat_last (l : List Elt) (x : Elt) : eltAt (l ++ [x]) ((l ++ [x]).length - 1) = x := by
  have : (l ++ [x]).length - 1 = l.length := by simp
  rw [this]; exact eltAt_append_cons _ _ _

@[simp] theorem kidAt_concat_last (l : List Node) (x : Node) : kidAt (l ++ [x]) ((l ++ [x]).length - 1) = x := by
  have : (l ++ [x]).length - 1 = l.length := by simp
  rw [this]; exact kidAt_append_cons _ _ _

theorem split_at {α} (l : List α) (i : Nat) (h : i ≤ l.length) :
    ∃ a b, l = a ++ b ∧ a.length = i :=
  ⟨l.take i, l.drop i, (List.take_append_drop i l).symm, by simp [List.length_take]; omega⟩

theorem split_at_lt {α} (l : List α) (i : Nat) (h : i < l.length) :
    ∃ a x b, l = a ++ x :: b ∧ a.length = i := by
  obtain ⟨a, b, rfl, ha⟩ := split_at l i (Nat.le_of_lt h)
  cases b with
  | nil => simp at h; omega
  | cons x b => exact ⟨a, x, b, rfl, ha⟩

theorem append_cut_unique {α} {P : α → Prop} {A B A' B' : List α} (h : A ++ B = A' ++ B')
    (hA : ∀ x ∈ A, P x) (hB : ∀ x ∈ B, ¬ P x) (hA' : ∀ x ∈ A', P x) (hB' : ∀ x ∈ B', ¬ P x) :
    A = A' ∧ B = B' := by
  induction A generalizing A' with
  | nil =>
    cases A' with
    | nil => exact ⟨rfl, h⟩
    | cons a A' =>
      rw [List.nil_append, List.cons_append] at h
      exact absurd (hA' a (List.mem_cons_self ..)) (hB a (h ▸ List.mem_cons_self ..))
  | cons a A ih =>
    cases A' with
    | nil =>
      rw [List.nil_append, List.cons_append] at h
      exact absurd (hA a (List.mem_cons_self ..)) (hB' a (h ▸ List.mem_cons_self ..))
    | cons a' A' =>
      rw [List.cons_append, List.cons_append] at h
      injection h with ha h
      subst ha
      obtain ⟨rfl, hb⟩ := ih h (fun x hx => hA x (List.mem_cons_of_mem _ hx))
        (fun x hx => hA' x (List.mem_cons_of_mem _ hx))
      exact ⟨rfl, hb⟩

@[simp] theorem inter_nil_nil : inter [] [] = [] := rfl

theorem inter_append (cl : List (List Elt)) (el : List Elt) (cs : List (List Elt)) (es : List Elt)
    (h : cl.length = el.length) : inter (cl ++ cs) (el ++ es) = inter cl el ++ inter cs es := by
  induction cl generalizing el with
  | nil =>
    cases el with
    | nil => simp
    | cons e el => simp at h
  | cons c cl ih =>
    cases el with
    | nil => simp at h
    | cons e el =>
      simp only [List.length_cons, Nat.add_right_cancel_iff] at h
      simp [inter, ih el h]

/-- two runs of children with the element `p` between them -/
theorem inter_merge (cs rc : List (List Elt)) (es re : List Elt) (p : Elt) (h : cs.length = es.length + 1) :
    inter (cs ++ rc) (es ++ p :: re) = inter cs es ++ p :: inter rc re := by
  obtain ⟨cs', c, rfl⟩ := snoc_of_pos cs (by omega)
  have h' : cs'.length = es.length := by simpa using h
  have e := inter_append cs' es [c] [] h'
  rw [List.append_nil] at e
  rw [List.append_assoc, inter_append cs' es _ _ h', e]
  simp [inter]

/-- what follows the first child: elt, child, elt, child, … -/
def tailI (cr : List (List Elt)) (er : List Elt) : List Elt := inter ([] :: cr) er

theorem inter_cons (c : List Elt) (cr : List (List Elt)) (er : List Elt) :
    inter (c :: cr) er = c ++ tailI cr er := by
  cases er <;> simp [inter, tailI]

@[simp] theorem tailI_nil_nil : tailI [] [] = [] := rfl

theorem tailI_cons (c : List Elt) (cr : List (List Elt)) (e : Elt) (er : List Elt) :
    tailI (c :: cr) (e :: er) = e :: (c ++ tailI cr er) := by
  show inter ([] :: c :: cr) (e :: er) = _
  simp only [inter, List.nil_append]
  rw [inter_cons]

theorem mem_inter {x : Elt} (cl : List (List Elt)) (el : List Elt) (hx : x ∈ inter cl el) :
    x ∈ el ∨ ∃ c ∈ cl, x ∈ c := by
  induction cl generalizing el with
  | nil => simp [inter] at hx; exact Or.inl hx
  | cons c cl ih =>
    cases el with
    | nil =>
      simp only [inter, List.mem_append] at hx
      rcases hx with hx | hx
      · exact Or.inr ⟨c, by simp, hx⟩
      · rcases ih [] hx with h | ⟨c', hc', h⟩
        · exact Or.inl h
        · exact Or.inr ⟨c', by simp [hc'], h⟩
    | cons e el =>
      simp only [inter, List.mem_append, List.mem_cons] at hx
      rcases hx with hx | hx | hx
      · exact Or.inr ⟨c, by simp, hx⟩
      · exact Or.inl (by simp [hx])
      · rcases ih el hx with h | ⟨c', hc', h⟩
        · exact Or.inl (by simp [h])
        · exact Or.inr ⟨c', by simp [hc'], h⟩

abbrev Sorted (l : List Elt) : Prop := l.Pairwise (fun a b => a.1 < b.1)

def lookup : List Elt → Nat → Option Elt
  | [], _ => none
  | e :: es, k => if e.1 = k then some e else lookup es k

/-- insertion into a sorted association list, replacing an element with the same key -/
def insSorted (e : Elt) : List Elt → List Elt
  | [] => [e]
  | x :: xs => if e.1 < x.1 then e :: x :: xs else if e.1 = x.1 then e :: xs else x :: insSorted e xs

def delKey (k : Nat) (l : List Elt) : List Elt := l.filter (fun x => x.1 ≠ k)

theorem lookup_append_left {A : List Elt} {k : Nat} (h : ∀ x ∈ A, x.1 ≠ k) (M : List Elt) :
    lookup (A ++ M) k = lookup M k := by
  induction A with
  | nil => rfl
  | cons a A ih =>
    have := h a (by simp)
    simp [lookup, this, ih (fun x hx => h x (by simp [hx]))]

theorem lookup_eq_none {B : List Elt} {k : Nat} (h : ∀ x ∈ B, x.1 ≠ k) : lookup B k = none := by
  induction B with
  | nil => rfl
  | cons a B ih =>
    have := h a (by simp)
    simp [lookup, this, ih (fun x hx => h x (by simp [hx]))]

theorem lookup_append_right {B : List Elt} {k : Nat} (h : ∀ x ∈ B, x.1 ≠ k) (M : List Elt) :
    lookup (M ++ B) k = lookup M k := by
  induction M with
  | nil => simpa [lookup] using lookup_eq_none h
  | cons a M ih => simp [lookup, ih]

theorem lookup_window {A B : List Elt} {k : Nat} (hA : ∀ x ∈ A, x.1 < k) (hB : ∀ x ∈ B, k < x.1) (M : List Elt) :
    lookup (A ++ M ++ B) k = lookup M k := by
  rw [List.append_assoc, lookup_append_left (fun x hx => Nat.ne_of_lt (hA x hx))]
  exact lookup_append_right (fun x hx => Nat.ne_of_gt (hB x hx)) M

theorem ne_of_gap {A B : List Elt} {k : Nat} (hA : ∀ x ∈ A, x.1 < k) (hB : ∀ x ∈ B, k < x.1) :
    ∀ x ∈ A ++ B, x.1 ≠ k :=
  List.forall_mem_append.mpr ⟨fun x hx => Nat.ne_of_lt (hA x hx), fun x hx => Nat.ne_of_gt (hB x hx)⟩

theorem lookup_none_of_gap {A B : List Elt} {k : Nat} (hA : ∀ x ∈ A, x.1 < k) (hB : ∀ x ∈ B, k < x.1) :
    lookup (A ++ B) k = none :=
  lookup_eq_none (ne_of_gap hA hB)

theorem lookup_found {A B : List Elt} {e : Elt} {k : Nat} (h0 : e.1 = k) (hA : ∀ x ∈ A, x.1 < k) :
    lookup (A ++ e :: B) k = some e := by
  rw [lookup_append_left (fun x hx => Nat.ne_of_lt (hA x hx))]
  simp [lookup, h0]

theorem lookup_mem_key {l : List Elt} {k : Nat} {e : Elt} (h : lookup l k = some e) : e.1 = k := by
  induction l with
  | nil => simp [lookup] at h
  | cons a l ih =>
    simp only [lookup] at h
    split at h
    · rename_i ha; simp at h; subst h; exact ha
    · exact ih h

theorem insSorted_append_left {A : List Elt} {e : Elt} (h : ∀ x ∈ A, x.1 < e.1) (M : List Elt) :
    insSorted e (A ++ M) = A ++ insSorted e M := by
  induction A with
  | nil => rfl
  | cons a A ih =>
    have h1 := h a (by simp)
    have h2 : ¬ e.1 < a.1 := by omega
    have h3 : ¬ e.1 = a.1 := by omega
    simp [insSorted, h2, h3, ih (fun x hx => h x (by simp [hx]))]

theorem insSorted_append_right {B : List Elt} {e : Elt} (h : ∀ x ∈ B, e.1 < x.1) (M : List Elt) :
    insSorted e (M ++ B) = insSorted e M ++ B := by
  induction M with
  | nil =>
    cases B with
    | nil => rfl
    | cons b B => simp [insSorted, h b (by simp)]
  | cons a M ih =>
    simp only [List.cons_append, insSorted]
    split
    · rfl
    · split
      · rfl
      · simp [ih]

theorem insSorted_window {A B : List Elt} {e : Elt} (hA : ∀ x ∈ A, x.1 < e.1) (hB : ∀ x ∈ B, e.1 < x.1)
    (M : List Elt) : insSorted e (A ++ M ++ B) = A ++ insSorted e M ++ B := by
  rw [List.append_assoc, insSorted_append_left hA, insSorted_append_right hB, List.append_assoc]

theorem delKey_append (k : Nat) (A B : List Elt) : delKey k (A ++ B) = delKey k A ++ delKey k B := by
  simp [delKey]

theorem delKey_of_ne {A : List Elt} {k : Nat} (h : ∀ x ∈ A, x.1 ≠ k) : delKey k A = A := by
  simp only [delKey]
  rw [List.filter_eq_self]
  intro x hx
  simpa using h x hx

theorem delKey_window {A B : List Elt} {k : Nat} (hA : ∀ x ∈ A, x.1 < k) (hB : ∀ x ∈ B, k < x.1)
    (M : List Elt) : delKey k (A ++ M ++ B) = A ++ delKey k M ++ B := by
  rw [delKey_append, delKey_append, delKey_of_ne (fun x hx => Nat.ne_of_lt (hA x hx)),
    delKey_of_ne (fun x hx => Nat.ne_of_gt (hB x hx))]

theorem sorted_append_iff {A B : List Elt} :
    Sorted (A ++ B) ↔ Sorted A ∧ Sorted B ∧ ∀ a ∈ A, ∀ b ∈ B, a.1 < b.1 :=
  List.pairwise_append

theorem sorted_cons_iff {a : Elt} {B : List Elt} : Sorted (a :: B) ↔ (∀ b ∈ B, a.1 < b.1) ∧ Sorted B :=
  List.pairwise_cons

theorem insSorted_found {A B : List Elt} {e e0 : Elt} (hA : ∀ x ∈ A, x.1 < e.1) (h0 : e0.1 = e.1) :
    insSorted e (A ++ e0 :: B) = A ++ e :: B := by
  rw [insSorted_append_left hA]
  simp [insSorted, h0]

theorem insSorted_gap {A B : List Elt} {e : Elt} (hA : ∀ x ∈ A, x.1 < e.1) (hB : ∀ x ∈ B, e.1 < x.1) :
    insSorted e (A ++ B) = A ++ e :: B := by
  have := insSorted_window hA hB []
  simpa [insSorted] using this

/-- a sorted list is cut at a key: the key falls into a gap, or one element has it -/
theorem cut_cases {l : List Elt} (k : Nat) (hs : Sorted l) :
    (∃ A B, l = A ++ B ∧ (∀ x ∈ A, x.1 < k) ∧ (∀ x ∈ B, k < x.1)) ∨
    (∃ A e B, l = A ++ e :: B ∧ e.1 = k ∧ (∀ x ∈ A, x.1 < k) ∧ (∀ x ∈ B, k < x.1)) := by
  induction l with
  | nil => exact Or.inl ⟨[], [], rfl, by simp, by simp⟩
  | cons a l ih =>
    have ⟨h1, h2⟩ := sorted_cons_iff.mp hs
    rcases Nat.lt_trichotomy a.1 k with hlt | heq | hgt
    · -- `a` joins the part before the cut of the tail
      have hcons : ∀ {A : List Elt}, (∀ x ∈ A, x.1 < k) → ∀ x ∈ a :: A, x.1 < k :=
        fun hA => List.forall_mem_cons.mpr ⟨hlt, hA⟩
      rcases ih h2 with ⟨A, B, rfl, hA, hB⟩ | ⟨A, e, B, rfl, h0, hA, hB⟩
      · exact Or.inl ⟨a :: A, B, rfl, hcons hA, hB⟩
      · exact Or.inr ⟨a :: A, e, B, rfl, h0, hcons hA, hB⟩
    · exact Or.inr ⟨[], a, l, rfl, heq, by simp, fun x hx => heq ▸ h1 x hx⟩
    · exact Or.inl ⟨[], a :: l, rfl, by simp,
        List.forall_mem_cons.mpr ⟨hgt, fun x hx => Nat.lt_trans hgt (h1 x hx)⟩⟩

theorem insSorted_sorted {e : Elt} {l : List Elt} (hs : Sorted l) : Sorted (insSorted e l) := by
  -- the new element stands at the cut of its key
  have hmid : ∀ {A B : List Elt}, Sorted A → Sorted B → (∀ a ∈ A, ∀ b ∈ B, a.1 < b.1) → (∀ x ∈ A, x.1 < e.1) →
      (∀ x ∈ B, e.1 < x.1) → Sorted (A ++ e :: B) := fun sA sB hAB hA hB =>
    sorted_append_iff.mpr ⟨sA, sorted_cons_iff.mpr ⟨hB, sB⟩,
      fun a ha b hb => (List.mem_cons.mp hb).elim (fun h => h ▸ hA a ha) (hAB a ha b)⟩
  rcases cut_cases e.1 hs with ⟨A, B, rfl, hA, hB⟩ | ⟨A, e0, B, rfl, h0, hA, hB⟩
  · obtain ⟨sA, sB, hAB⟩ := sorted_append_iff.mp hs
    rw [insSorted_gap hA hB]
    exact hmid sA sB hAB hA hB
  · obtain ⟨sA, sB, hAB⟩ := sorted_append_iff.mp hs
    rw [insSorted_found hA h0]
    exact hmid sA (sorted_cons_iff.mp sB).2 (fun a ha b hb => hAB a ha b (List.mem_cons_of_mem _ hb)) hA hB

/-- replace the element with key `k` by `s` -/
def replKey (k : Nat) (s : Elt) (l : List Elt) : List Elt := l.map (fun x => if x.1 = k then s else x)

theorem replKey_append (k : Nat) (s : Elt) (A B : List Elt) :
    replKey k s (A ++ B) = replKey k s A ++ replKey k s B := by simp [replKey]

theorem replKey_of_ne {A : List Elt} {k : Nat} {s : Elt} (h : ∀ x ∈ A, x.1 ≠ k) : replKey k s A = A := by
  induction A with
  | nil => rfl
  | cons a A ih =>
    have := h a (by simp)
    have ih' := ih (fun x hx => h x (by simp [hx]))
    simp only [replKey, List.map_cons, this, if_false] at ih' ⊢
    rw [ih']

theorem replKey_window {A B : List Elt} {k : Nat} {s : Elt} (hA : ∀ x ∈ A, x.1 < k) (hB : ∀ x ∈ B, k < x.1)
    (M : List Elt) : replKey k s (A ++ M ++ B) = A ++ replKey k s M ++ B := by
  rw [replKey_append, replKey_append, replKey_of_ne (fun x hx => Nat.ne_of_lt (hA x hx)),
    replKey_of_ne (fun x hx => Nat.ne_of_gt (hB x hx))]

theorem replKey_found {A B : List Elt} {e0 s : Elt} {k : Nat} (h0 : e0.1 = k) (hA : ∀ x ∈ A, x.1 < k)
    (hB : ∀ x ∈ B, k < x.1) : replKey k s (A ++ e0 :: B) = A ++ s :: B := by
  have := replKey_window (s := s) hA hB [e0]
  simpa [replKey, h0] using this

theorem delKey_found {A B : List Elt} {e0 : Elt} {k : Nat} (h0 : e0.1 = k) (hA : ∀ x ∈ A, x.1 < k)
    (hB : ∀ x ∈ B, k < x.1) : delKey k (A ++ e0 :: B) = A ++ B := by
  have := delKey_window hA hB [e0]
  simpa [delKey, h0] using this

theorem delKey_gap {A B : List Elt} {k : Nat} (hA : ∀ x ∈ A, x.1 < k) (hB : ∀ x ∈ B, k < x.1) :
    delKey k (A ++ B) = A ++ B := by
  have := delKey_window hA hB []
  simpa [delKey] using this

theorem length_insSorted {e : Elt} {l : List Elt} (hs : Sorted l) :
    (insSorted e l).length = if (lookup l e.1).isNone then l.length + 1 else l.length := by
  rcases cut_cases e.1 hs with ⟨A, B, rfl, hA, hB⟩ | ⟨A, e0, B, rfl, h0, hA, hB⟩
  · rw [insSorted_gap hA hB, lookup_none_of_gap hA hB]
    simp [Nat.add_assoc]
  · rw [insSorted_found hA h0, lookup_found h0 hA]
    simp

theorem length_delKey {l : List Elt} {k : Nat} (hs : Sorted l) :
    (delKey k l).length = if (lookup l k).isSome then l.length - 1 else l.length := by
  rcases cut_cases k hs with ⟨A, B, rfl, hA, hB⟩ | ⟨A, e0, B, rfl, h0, hA, hB⟩
  · rw [delKey_gap hA hB, lookup_none_of_gap hA hB]
    simp
  · rw [delKey_found h0 hA hB, lookup_found h0 hA]
    simp

theorem delKey_sorted {l : List Elt} (k : Nat) (h : Sorted l) : Sorted (delKey k l) :=
  List.Pairwise.filter _ h

/-- deleting the successor `s` of `e0` and putting it in the place of `e0` is deleting `e0` -/
theorem succ_replace {P Q : List Elt} {e0 s : Elt} (hs : Sorted (P ++ e0 :: s :: Q)) :
    lookup (P ++ e0 :: s :: Q) s.1 = some s ∧
    replKey e0.1 s (delKey s.1 (P ++ e0 :: s :: Q)) = delKey e0.1 (P ++ e0 :: s :: Q) ∧
    lookup (delKey s.1 (P ++ e0 :: s :: Q)) e0.1 = some e0 ∧
    lookup (P ++ e0 :: s :: Q) e0.1 = some e0 := by
  have ⟨_, hs2, hcross⟩ := sorted_append_iff.mp hs
  have ⟨he0, hs3⟩ := sorted_cons_iff.mp hs2
  have ⟨hsq, _⟩ := sorted_cons_iff.mp hs3
  have hes : e0.1 < s.1 := he0 s (by simp)
  have hP0 : ∀ x ∈ P, x.1 < e0.1 := fun x hx => hcross x hx e0 (by simp)
  have hQs : ∀ x ∈ Q, s.1 < x.1 := hsq
  have hQ0 : ∀ x ∈ Q, e0.1 < x.1 := fun x hx => Nat.lt_trans hes (hQs x hx)
  have hPe : ∀ x ∈ P ++ [e0], x.1 < s.1 :=
    List.forall_mem_append.mpr ⟨fun x hx => Nat.lt_trans (hP0 x hx) hes, List.forall_mem_singleton.mpr hes⟩
  have e1 : P ++ e0 :: s :: Q = (P ++ [e0]) ++ s :: Q := by simp
  have hdel : delKey s.1 (P ++ e0 :: s :: Q) = P ++ e0 :: Q := by
    rw [e1, delKey_found rfl hPe hQs]; simp
  refine ⟨?_, ?_, ?_, ?_⟩
  · rw [e1]; exact lookup_found rfl hPe
  · rw [hdel, replKey_found rfl hP0 hQ0, delKey_found rfl hP0 (List.forall_mem_cons.mpr ⟨hes, hQ0⟩)]
  · rw [hdel]; exact lookup_found rfl hP0
  · exact lookup_found rfl hP0

end Model.BTree
