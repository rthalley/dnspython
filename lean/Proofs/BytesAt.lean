import Model.Bytes
/-! "The octets `x` stand at offset `p` of `w`": `At w p x`, for the message parser and for the TSIG reader.  A layout (a
concatenation of fields) is located once, by exhibiting what stands before and after it; `At.append` then places every
field at the offset the widths before it give, fixed or not, and no proof does list surgery on the message.  What the
readers of the two models return at such a place is said where the readers are: `Proofs/ParseBasic.lean` (`slice`,
`beVal`), `Proofs/TsigBytes.lean` (`rd16` … `rd48`, `Tsig.slice`). -/
namespace Model

def At (w : Bytes) (p : Nat) (x : Bytes) : Prop := ∃ a r, w = a ++ x ++ r ∧ a.length = p

theorem At.mid (a x r : Bytes) : At (a ++ x ++ r) a.length x := ⟨a, r, rfl, rfl⟩

theorem At.of_drop {w x r : Bytes} {p : Nat} (hp : p ≤ w.length) (h : w.drop p = x ++ r) : At w p x :=
  ⟨w.take p, r, by rw [List.append_assoc, ← h, List.take_append_drop], List.length_take_of_le hp⟩

theorem At.append {w x y : Bytes} {p : Nat} : At w p (x ++ y) ↔ At w p x ∧ At w (p + x.length) y := by
  constructor
  · rintro ⟨a, r, rfl, rfl⟩
    exact ⟨⟨a, y ++ r, by simp only [List.append_assoc], rfl⟩, ⟨a ++ x, r, by simp only [List.append_assoc], List.length_append⟩⟩
  · rintro ⟨⟨a, r, rfl, rfl⟩, ⟨a', r', e, hl⟩⟩
    rw [← List.length_append] at hl
    obtain ⟨rfl, rfl⟩ := List.append_inj (by simpa only [List.append_assoc] using e) hl.symm
    exact ⟨a, r', by simp only [List.append_assoc], rfl⟩

theorem At.fst {w x y : Bytes} {p : Nat} (h : At w p (x ++ y)) : At w p x := (At.append.1 h).1

/-- the width `k` of the first field is found by `rfl` for the fixed-width encoders -/
theorem At.snd {w x y : Bytes} {p : Nat} (h : At w p (x ++ y)) (k : Nat) (hk : x.length = k := by rfl) : At w (p + k) y :=
  hk ▸ (At.append.1 h).2

theorem At.drop {w x : Bytes} {p : Nat} (h : At w p x) : w.drop p = x ++ w.drop (p + x.length) := by
  obtain ⟨a, r, rfl, rfl⟩ := h
  rw [List.append_assoc, List.drop_left, ← List.length_append, ← List.append_assoc, List.drop_left]

theorem At.end_le {w x : Bytes} {p : Nat} (h : At w p x) : p + x.length ≤ w.length := by
  obtain ⟨a, r, rfl, rfl⟩ := h
  simp only [List.length_append]
  omega

theorem At.split {w x : Bytes} {p : Nat} (h : At w p x) : ∃ r, w = w.take p ++ x ++ r ∧ (w.take p).length = p := by
  obtain ⟨a, r, rfl, rfl⟩ := h
  rw [List.append_assoc, List.take_left' rfl]
  exact ⟨r, (List.append_assoc ..).symm, rfl⟩

theorem At.take_eq {w x : Bytes} {p : Nat} (h : At w p x) : w.take (p + x.length) = w.take p ++ x := by
  obtain ⟨a, r, rfl, rfl⟩ := h
  rw [List.append_assoc, List.take_left' rfl, ← List.append_assoc, ← List.length_append, List.take_left' rfl]

end Model
