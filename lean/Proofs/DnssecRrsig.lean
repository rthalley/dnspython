import Model.Dnssec
import Proofs.NameOps
import Proofs.DnssecBasic
/-! C15: the RRSIG signing input, wildcard label reduction included, against RFC 4034 §3.1.8.1 / RFC 4035 §5.3. -/
namespace Model
namespace Dnssec

theorem lowerName_length (n : Name) : (lowerName n).length = n.length := length_lowerName n

/-! ## RFC 4034 §3.1.8.1 / RFC 4035 §5.3.2, written independently of the model -/

namespace Rfc

/-- RFC 4034 §3.1.3: the number of labels of the owner name, not counting the root label nor a leading `*` -/
def labelCount (fqdn : Name) : Nat :=
  fqdn.dropLast.length - (if fqdn.head? = some [42] then 1 else 0)

/-- RFC 4035 §5.3.2: `name = fqdn` if `rrsig_labels = fqdn_labels`; otherwise
`name = "*." | the rightmost rrsig_label labels of the fqdn` -/
def sigOwner (fqdn : Name) (labels : Nat) : Name :=
  if labels = labelCount fqdn then fqdn
  else [42] :: (fqdn.dropLast.drop (fqdn.dropLast.length - labels) ++ [[]])

/-- `RR(i) = owner | type | class | TTL | RDATA length | RDATA`, owner in canonical form, TTL = Original TTL -/
def rr (owner : Name) (ty cls ttl : Nat) (rdata : Bytes) : Bytes :=
  toWire (lowerName owner) ++ be16 ty ++ be16 cls ++ be32 ttl ++ be16 rdata.length ++ rdata

/-- `RRSIG_RDATA | RR(1) | RR(2)…`: the RRSIG RDATA fields without the signature, signer's name in canonical form -/
def sigData (s : RRSig) (signerFqdn ownerFqdn : Name) (ty cls : Nat) (sortedCanon : List Bytes) : Bytes :=
  be16 s.typeCovered ++ [s.algorithm, s.labels] ++ be32 s.originalTtl ++ be32 s.expiration ++ be32 s.inception
    ++ be16 s.keyTag ++ toWire (lowerName signerFqdn)
    ++ sortedCanon.flatMap (rr (sigOwner ownerFqdn s.labels) ty cls s.originalTtl)

end Rfc

theorem rrRecord_eq (owner : Name) (ty cls ttl : Nat) :
    rrRecord (toWire (lowerName owner)) (be16 ty ++ be16 cls ++ be32 ttl) = Rfc.rr owner ty cls ttl := by
  funext rd
  simp [rrRecord, Rfc.rr]

theorem owner_eq_sigOwner (rrname : Name) (labels : Nat) (ha : isAbs rrname = true)
    (hl : labels ≤ Rfc.labelCount rrname) (hw : rrname.head? = some wildLabel → labels = Rfc.labelCount rrname) :
    (if (labels : Int) < (rrname.length : Int) - 1 then wildLabel :: rrname.drop (rrname.length - (labels + 1)) else rrname)
      = Rfc.sigOwner rrname labels := by
  obtain ⟨d, rfl⟩ : ∃ d, rrname = d ++ [[]] := ⟨_, (dropLast_append_root ha).symm⟩
  unfold Rfc.sigOwner Rfc.labelCount at *
  simp only [List.dropLast_concat, List.length_append, List.length_singleton, wildLabel] at *
  by_cases hwild : (d ++ [[]]).head? = some [42]
  · -- `*.t.`: the only accepted count is that of `t`, and reducing to it reproduces the name
    cases d with
    | nil => cases hwild
    | cons h t =>
      obtain rfl : h = [42] := by simpa using hwild
      have hL : labels = t.length := by simpa [hwild] using hw hwild
      subst hL
      simp
  · simp only [hwild, if_false, Nat.sub_zero] at hl ⊢
    by_cases heq : labels = d.length
    · rw [if_neg (by omega), if_pos heq]
    · rw [if_pos (by omega), if_neg heq, show d.length + 1 - (labels + 1) = d.length - labels by omega,
        List.drop_append_of_le_length (by omega)]

theorem isAbs_sigOwner (rrname : Name) (labels : Nat) (ha : isAbs rrname = true) :
    isAbs (Rfc.sigOwner rrname labels) = true := by
  unfold Rfc.sigOwner
  split
  · exact ha
  · exact NameOrder.isAbs_append ([42] :: List.drop (rrname.dropLast.length - labels) rrname.dropLast) [[]] nofun

/-- The two tests of the code on the Labels field (in Python integers, against `len(rrname)`) reject exactly the
label counts RFC 4035 §5.3.1 rejects. -/
theorem labels_rejected_iff (n : Name) (labels : Nat) (ha : isAbs n = true) :
    ((n.head? = some wildLabel ∧ (labels : Int) ≠ (n.length : Int) - 2) ∨ (n.length : Int) - 1 < (labels : Int)) ↔
      (labels > Rfc.labelCount n ∨ (n.head? = some wildLabel ∧ labels ≠ Rfc.labelCount n)) := by
  obtain ⟨d, rfl⟩ : ∃ d, n = d ++ [[]] := ⟨_, (dropLast_append_root ha).symm⟩
  unfold Rfc.labelCount
  simp only [List.dropLast_concat, List.length_append, List.length_singleton]
  by_cases hw : (d ++ [[]]).head? = some wildLabel
  · -- a wildcard owner has at least the label `*` before the root
    have hpos : 1 ≤ d.length := by
      cases d with
      | nil => cases hw
      | cons _ _ => exact Nat.succ_pos _
    simp only [hw, true_and, wildLabel, if_true]
    omega
  · have hw' : ¬ (d ++ [[]]).head? = some [42] := hw
    simp only [hw, false_and, false_or, or_false, hw', if_false]
    omega
/-- `_make_rrsig_signature_data` once signer and owner are completed by the origin (`derelativize`): a Labels field
RFC 4035 §5.3.1 rejects raises ValidationFailure; otherwise the canonical RDATAs are computed (their errors
propagate) and the signing input is RFC 4034 §3.1.8.1 over the completed names.  `hw`: the RRSIG RDATA itself must
be renderable with the completed signer as origin (`rrsig.to_wire(origin=signer)`, of which only the first 18
octets are used). -/
theorem rrsigData_resolved (t : CanonTable) (sig : RRSig) (origin : Option Name) (rrname : Name)
    (rdtype rdclass : Nat) (rdatas : List Rdata) (signer owner : Name) (w : Bytes)
    (hs : derelativizeD sig.signer origin = .ok signer) (hsa : isAbs signer = true)
    (hw : nameWireFile sig.signer (some signer) false = .ok w)
    (hr : derelativizeD rrname origin = .ok owner) (hoa : isAbs owner = true) :
    rrsigData t sig origin rrname rdtype rdclass rdatas =
      if sig.labels > Rfc.labelCount owner ∨ (owner.head? = some wildLabel ∧ sig.labels ≠ Rfc.labelCount owner) then
        .error .validation
      else match mapExcept (fun rd => toDigestable t rdclass rdtype rd origin) rdatas with
        | .error e => .error e
        | .ok ds => .ok (Rfc.sigData sig signer owner rdtype rdclass (insSort bytesLe ds)) := by
  unfold rrsigData
  simp only [hs, hw, hr, nameDigestable_abs signer none hsa]
  by_cases hbad : sig.labels > Rfc.labelCount owner ∨
      (owner.head? = some wildLabel ∧ sig.labels ≠ Rfc.labelCount owner)
  · rw [if_pos hbad]
    rcases (labels_rejected_iff owner sig.labels hoa).mpr hbad with h | h <;> simp [h]
  · rw [if_neg hbad]
    obtain ⟨hc1, hc2⟩ := not_or.mp (mt (labels_rejected_iff owner sig.labels hoa).mp hbad)
    have hl : sig.labels ≤ Rfc.labelCount owner := Nat.le_of_not_gt fun h => hbad (Or.inl h)
    have hwild : owner.head? = some wildLabel → sig.labels = Rfc.labelCount owner :=
      fun h1 => Decidable.by_contra fun h2 => hbad (Or.inr ⟨h1, h2⟩)
    simp only [hc1, hc2, if_false, owner_eq_sigOwner owner sig.labels hoa hl hwild,
      nameDigestable_abs _ none (isAbs_sigOwner owner sig.labels hoa), rrRecord_eq]
    cases mapExcept (fun rd => toDigestable t rdclass rdtype rd origin) rdatas with
    | error e => rfl
    | ok ds => simp [Rfc.sigData, rrsigHeader]

end Dnssec
end Model
