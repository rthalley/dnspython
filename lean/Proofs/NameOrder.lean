import Proofs.NameOps
/-!
The RFC 4034 §6.1 canonical order written independently of `fullcompare`, and the proof that
`fullcompare` (as coded: relativity test, right-to-left loop over lower-cased labels, `ldiff` tie-break)
decides exactly that order (C06).  `fullcompare` is characterised once (`fullcompare_diff`, `fullcompare_same_cases`,
and `fullcompare_swap` for the other direction); the order is read off that.  `cmpOrder a b` then compares the keys
`sortKey a`, `sortKey b` (relativity, then the lower-cased labels most significant first) in core Lean's order on lists,
which is where the laws of the specification order and of `cmpOrder` come from.  Rests only on the model and the
constructor check, not on the codec proofs.
-/
namespace Model
namespace NameOrder

/-! ## The specification (RFC 4034 §6.1)

"sort the names according to their least significant (rightmost) labels … labels are compared as
unsigned left-justified octet strings, the absence of an octet sorts before a zero octet, uppercase
US-ASCII letters are treated as if they were lowercase".  `<` on `List Nat` and on
`List (List Nat)` is core Lean's lexicographic order `List.Lex (· < ·)` (a proper prefix is smaller).
dnspython adds: a relative name sorts before an absolute one. -/

/-- the labels of a name, most significant first, lower-cased -/
def revLower (n : Name) : List Label := (lowerName n).reverse

/-- RFC 4034 §6.1 canonical order (plus "relative before absolute") -/
def canonLt (a b : Name) : Prop :=
  (isAbs a = false ∧ isAbs b = true) ∨ (isAbs a = isAbs b ∧ revLower a < revLower b)

instance (a b : Name) : Decidable (canonLt a b) := by unfold canonLt; exact inferInstance

/-- number of common most-significant labels (up to ASCII case) of two label lists given most significant first -/
def commonPrefixLen : List Label → List Label → Nat
  | a :: as, b :: bs => if lowerLabel a = lowerLabel b then commonPrefixLen as bs + 1 else 0
  | _, _ => 0

/-- spec of `nlabels` -/
def commonLabels (a b : Name) : Nat :=
  if isAbs a = isAbs b then commonPrefixLen a.reverse b.reverse else 0

/-- relation code from the number `c` of common labels and the two label counts:
0 none, 1 superdomain, 2 subdomain, 3 equal, 4 commonancestor -/
def relCode (c la lb : Nat) : Nat :=
  if c = la ∧ c = lb then 3
  else if c = la then 1
  else if c = lb then 2
  else if c > 0 then 4 else 0

/-- spec of the reported relation -/
def relationSpec (a b : Name) : Nat :=
  if isAbs a = isAbs b then relCode (commonPrefixLen a.reverse b.reverse) a.length b.length else 0

/-! ## three-way comparison

`cmpBytes` on octet strings and the loop of `fullcompare` on label lists are the same lexicographic
three-way comparison at two levels; `Sign` says what such a comparison returns, and its consequences
(`lt_iff`, `eq_iff`, `gt_iff`) are then read off once. -/

/-- `c` compares `x` with `y`: it is `-1`, `0` or `1` as `x < y`, `x = y` or `y < x` -/
def Sign {α} [LT α] (c : Int) (x y : α) : Prop :=
  (c = -1 ∧ x < y) ∨ (c = 0 ∧ x = y) ∨ (c = 1 ∧ y < x)

section Sign
variable {α : Type} [LT α] {c : Int} {x y : α}

theorem Sign.range (h : Sign c x y) : c = -1 ∨ c = 0 ∨ c = 1 :=
  h.imp And.left (Or.imp And.left And.left)

variable [Std.Asymm (α := α) (· < ·)]

theorem Sign.lt_iff (h : Sign c x y) : c < 0 ↔ x < y := by
  rcases h with ⟨rfl, h⟩ | ⟨rfl, rfl⟩ | ⟨rfl, h⟩
  · exact iff_of_true (by decide) h
  · exact iff_of_false (by decide) fun h => Std.Asymm.asymm _ _ h h
  · exact iff_of_false (by decide) (Std.Asymm.asymm _ _ h)

theorem Sign.gt_iff (h : Sign c x y) : c > 0 ↔ y < x := by
  rcases h with ⟨rfl, h⟩ | ⟨rfl, rfl⟩ | ⟨rfl, h⟩
  · exact iff_of_false (by decide) (Std.Asymm.asymm _ _ h)
  · exact iff_of_false (by decide) fun h => Std.Asymm.asymm _ _ h h
  · exact iff_of_true (by decide) h

theorem Sign.eq_iff (h : Sign c x y) : c = 0 ↔ x = y := by
  rcases h with ⟨rfl, h⟩ | ⟨rfl, rfl⟩ | ⟨rfl, h⟩
  · exact iff_of_false (by decide) fun e => Std.Asymm.asymm _ _ h (e ▸ h)
  · exact iff_of_true rfl rfl
  · exact iff_of_false (by decide) fun e => Std.Asymm.asymm _ _ h (e ▸ h)

end Sign

section SignCons
variable {α : Type} [LT α] {a b : α} {as bs : List α} {c : Int}

theorem Sign.cons_lt (h : a < b) : Sign (-1) (a :: as) (b :: bs) :=
  Or.inl ⟨rfl, List.cons_lt_cons_iff.mpr (Or.inl h)⟩

theorem Sign.cons_gt (h : b < a) : Sign 1 (a :: as) (b :: bs) :=
  Or.inr (Or.inr ⟨rfl, List.cons_lt_cons_iff.mpr (Or.inl h)⟩)

theorem Sign.cons_eq (a : α) (h : Sign c as bs) : Sign c (a :: as) (a :: bs) :=
  h.imp (And.imp_right fun h => List.cons_lt_cons_iff.mpr (Or.inr ⟨rfl, h⟩))
    (Or.imp (And.imp_right (congrArg _)) (And.imp_right fun h => List.cons_lt_cons_iff.mpr (Or.inr ⟨rfl, h⟩)))

theorem Sign.nil_cons : Sign (-1) ([] : List α) (b :: bs) := Or.inl ⟨rfl, List.nil_lt_cons _ _⟩

theorem Sign.cons_nil : Sign 1 (a :: as) ([] : List α) := Or.inr (Or.inr ⟨rfl, List.nil_lt_cons _ _⟩)

theorem Sign.nil_nil : Sign 0 ([] : List α) [] := Or.inr (Or.inl ⟨rfl, rfl⟩)

end SignCons

theorem cmpBytes_sign (a b : Bytes) : Sign (cmpBytes a b) a b := by
  induction a generalizing b with
  | nil =>
    cases b with
    | nil => exact Sign.nil_nil
    | cons => exact Sign.nil_cons
  | cons x xs ih =>
    cases b with
    | nil => exact Sign.cons_nil
    | cons y ys =>
      rw [cmpBytes]
      split
      · rename_i h; exact Sign.cons_lt h
      · split
        · rename_i h; exact Sign.cons_gt h
        · rename_i h1 h2
          cases Nat.le_antisymm (Nat.not_lt.mp h2) (Nat.not_lt.mp h1)
          exact Sign.cons_eq x (ih ys)

theorem cmpBytes_range (a b : Bytes) : cmpBytes a b = -1 ∨ cmpBytes a b = 0 ∨ cmpBytes a b = 1 :=
  (cmpBytes_sign a b).range

theorem cmpBytes_lt (a b : Bytes) : cmpBytes a b < 0 ↔ a < b := (cmpBytes_sign a b).lt_iff
theorem cmpBytes_eq (a b : Bytes) : cmpBytes a b = 0 ↔ a = b := (cmpBytes_sign a b).eq_iff
theorem cmpBytes_gt (a b : Bytes) : cmpBytes a b > 0 ↔ b < a := (cmpBytes_sign a b).gt_iff

theorem cmpBytes_self (b : Bytes) : cmpBytes b b = 0 := (cmpBytes_eq b b).2 rfl

theorem cmpBytes_swap (a b : Bytes) : cmpBytes b a = - cmpBytes a b := by
  induction a generalizing b with
  | nil => cases b <;> rfl
  | cons x xs ih =>
    cases b with
    | nil => rfl
    | cons y ys =>
      rw [cmpBytes, cmpBytes, ih ys]
      rcases Nat.lt_trichotomy x y with h | rfl | h
      · simp only [h, Nat.lt_asymm h, if_true, if_false]; rfl
      · simp only [Nat.lt_irrefl, gt_iff_lt, if_false]
      · simp only [h, Nat.lt_asymm h, if_true, if_false]

theorem cmpLabel_swap (a b : Label) : cmpLabel b a = - cmpLabel a b := cmpBytes_swap _ _

theorem cmpLabel_sign (a b : Label) : Sign (cmpLabel a b) (lowerLabel a) (lowerLabel b) := cmpBytes_sign _ _

theorem cmpLabel_cases (a b : Label) :
    (cmpLabel a b < 0 ∧ lowerLabel a < lowerLabel b ∧ lowerLabel a ≠ lowerLabel b) ∨
    (¬ cmpLabel a b < 0 ∧ cmpLabel a b > 0 ∧ lowerLabel b < lowerLabel a ∧ lowerLabel a ≠ lowerLabel b) ∨
    (¬ cmpLabel a b < 0 ∧ ¬ cmpLabel a b > 0 ∧ lowerLabel a = lowerLabel b) := by
  have hs := cmpLabel_sign a b
  by_cases h1 : cmpLabel a b < 0
  · exact Or.inl ⟨h1, hs.lt_iff.1 h1, fun e => Int.ne_of_lt h1 (hs.eq_iff.2 e)⟩
  · by_cases h2 : cmpLabel a b > 0
    · exact Or.inr (Or.inl ⟨h1, h2, hs.gt_iff.1 h2, fun e => Int.ne_of_gt h2 (hs.eq_iff.2 e)⟩)
    · exact Or.inr (Or.inr ⟨h1, h2, hs.eq_iff.1 (Int.le_antisymm (Int.not_lt.mp h2) (Int.not_lt.mp h1))⟩)

/-- three-way lexicographic comparison of label lists, as the loop of `fullcompare` performs it -/
def lexCmp : List Label → List Label → Int
  | [], [] => 0
  | [], _ :: _ => -1
  | _ :: _, [] => 1
  | a :: as, b :: bs =>
    if cmpLabel a b < 0 then -1 else if cmpLabel a b > 0 then 1 else lexCmp as bs

theorem lexCmp_sign (xs ys : List Label) : Sign (lexCmp xs ys) (xs.map lowerLabel) (ys.map lowerLabel) := by
  induction xs generalizing ys with
  | nil =>
    cases ys with
    | nil => exact Sign.nil_nil
    | cons => exact Sign.nil_cons
  | cons x xs ih =>
    cases ys with
    | nil => exact Sign.cons_nil
    | cons y ys =>
      rw [lexCmp, List.map_cons, List.map_cons]
      rcases cmpLabel_cases x y with ⟨h1, hlt, _⟩ | ⟨h1, h2, hgt, _⟩ | ⟨h1, h2, he⟩
      · rw [if_pos h1]; exact Sign.cons_lt hlt
      · rw [if_neg h1, if_pos h2]; exact Sign.cons_gt hgt
      · rw [if_neg h1, if_neg h2, he]; exact Sign.cons_eq _ (ih ys)

theorem lexCmp_range (xs ys : List Label) : lexCmp xs ys = -1 ∨ lexCmp xs ys = 0 ∨ lexCmp xs ys = 1 :=
  (lexCmp_sign xs ys).range

theorem fcLoop_nil_left (ys : List Label) (k : Nat) : fcLoop [] ys k = none := by
  cases ys <;> rfl

theorem fcLoop_nil_right (xs : List Label) (k : Nat) : fcLoop xs [] k = none := by
  cases xs <;> rfl

/-- truncating both lists to the common length (as the code does through `l`) does not change the loop -/
theorem fcLoop_take (xs ys : List Label) (k : Nat) :
    fcLoop (xs.take (min xs.length ys.length)) (ys.take (min xs.length ys.length)) k = fcLoop xs ys k := by
  induction xs generalizing ys k with
  | nil => rw [List.take_nil, fcLoop_nil_left, fcLoop_nil_left]
  | cons x xs ih =>
    cases ys with
    | nil => rw [List.take_nil, fcLoop_nil_right, fcLoop_nil_right]
    | cons y ys =>
      rw [List.length_cons, List.length_cons, Nat.succ_min_succ, List.take_succ_cons, List.take_succ_cons,
        fcLoop, fcLoop, ih]

/-- what the loop of `fullcompare` finds, `commonPrefixLen` being the number of leading labels equal up to case: it
stops at the first pair of labels that differ, with their order, or runs through the shorter list -/
theorem fcLoop_spec (xs ys : List Label) (k : Nat) :
    (fcLoop xs ys k = some (lexCmp xs ys, k + commonPrefixLen xs ys) ∧
      commonPrefixLen xs ys < xs.length ∧ commonPrefixLen xs ys < ys.length) ∨
    (fcLoop xs ys k = none ∧ commonPrefixLen xs ys = min xs.length ys.length ∧
      lexCmp xs ys = if xs.length < ys.length then -1 else if xs.length > ys.length then 1 else 0) := by
  induction xs generalizing ys k with
  | nil => cases ys <;> exact Or.inr ⟨rfl, rfl, rfl⟩
  | cons x xs ih =>
    cases ys with
    | nil => exact Or.inr ⟨rfl, rfl, rfl⟩
    | cons y ys =>
      rw [fcLoop, lexCmp, commonPrefixLen]
      rcases cmpLabel_cases x y with ⟨h1, _, hne⟩ | ⟨h1, h2, _, hne⟩ | ⟨h1, h2, he⟩
      · rw [if_pos h1, if_pos h1, if_neg hne]
        exact Or.inl ⟨rfl, Nat.succ_pos _, Nat.succ_pos _⟩
      · rw [if_neg h1, if_pos h2, if_neg h1, if_pos h2, if_neg hne]
        exact Or.inl ⟨rfl, Nat.succ_pos _, Nat.succ_pos _⟩
      · rw [if_neg h1, if_neg h2, if_neg h1, if_neg h2, if_pos he, List.length_cons, List.length_cons,
          Nat.succ_min_succ, show k + (commonPrefixLen xs ys + 1) = k + 1 + commonPrefixLen xs ys by omega]
        simp only [Nat.add_lt_add_iff_right, gt_iff_lt, Nat.succ_inj]
        exact ih ys (k + 1)

theorem fcLoop_swap (xs ys : List Label) (k : Nat) :
    fcLoop ys xs k = (fcLoop xs ys k).map fun p => (-p.1, p.2) := by
  induction xs generalizing ys k with
  | nil => rw [fcLoop_nil_left, fcLoop_nil_right]; rfl
  | cons x xs ih =>
    cases ys with
    | nil => rfl
    | cons y ys =>
      rw [fcLoop, fcLoop, cmpLabel_swap x y, ih]
      rcases Int.lt_trichotomy (cmpLabel x y) 0 with h | h | h
      · rw [if_neg (by omega), if_pos (by omega), if_pos h]; rfl
      · rw [if_neg (by omega), if_neg (by omega), if_neg (by omega), if_neg (by omega)]
      · rw [if_pos (by omega), if_neg (by omega), if_pos h]; rfl

theorem fullcompare_diff (a b : Name) (h : isAbs a ≠ isAbs b) :
    fullcompare a b = if isAbs a then (0, 1, 0) else (0, -1, 0) := by
  unfold fullcompare
  simp [h]

theorem fullcompare_same (a b : Name) (h : isAbs a = isAbs b) :
    fullcompare a b =
      match fcLoop a.reverse b.reverse 0 with
      | some (o, k) => (if k > 0 then 4 else 0, o, k)
      | none =>
        let ldiff : Int := (a.length : Int) - (b.length : Int)
        (if ldiff < 0 then 1 else if ldiff > 0 then 2 else 3, ldiff, min a.length b.length) := by
  unfold fullcompare
  have := fcLoop_take a.reverse b.reverse 0
  simp only [List.length_reverse] at this
  simp only [h, bne_self_eq_false, Bool.false_eq_true, if_false, this]
  cases fcLoop a.reverse b.reverse 0 <;> rfl

/-- `fullcompare` on names of the same relativity, by the number of common labels: either the names part ways inside
both, or the one with fewer labels is a suffix of the other up to case and the label counts decide -/
theorem fullcompare_same_cases (a b : Name) (h : isAbs a = isAbs b) :
    (commonPrefixLen a.reverse b.reverse < a.length ∧ commonPrefixLen a.reverse b.reverse < b.length ∧
      fullcompare a b = (if commonPrefixLen a.reverse b.reverse > 0 then 4 else 0, lexCmp a.reverse b.reverse,
        commonPrefixLen a.reverse b.reverse)) ∨
    (commonPrefixLen a.reverse b.reverse = min a.length b.length ∧
      fullcompare a b = (if (a.length : Int) - b.length < 0 then 1 else if (a.length : Int) - b.length > 0 then 2 else 3,
        (a.length : Int) - b.length, min a.length b.length) ∧
      lexCmp a.reverse b.reverse = if a.length < b.length then -1 else if a.length > b.length then 1 else 0) := by
  rw [fullcompare_same a b h]
  have := fcLoop_spec a.reverse b.reverse 0
  rw [List.length_reverse, List.length_reverse, Nat.zero_add] at this
  rcases this with ⟨e, h1, h2⟩ | ⟨e, h1, h2⟩
  · exact Or.inl ⟨h1, h2, by rw [e]⟩
  · exact Or.inr ⟨h1, by rw [e], h2⟩

theorem fcLoop_lower (xs ys : List Label) (k : Nat) :
    fcLoop (xs.map lowerLabel) (ys.map lowerLabel) k = fcLoop xs ys k := by
  induction xs generalizing ys k with
  | nil => rw [List.map_nil, fcLoop_nil_left, fcLoop_nil_left]
  | cons x xs ih =>
    cases ys with
    | nil => rfl
    | cons y ys => rw [List.map_cons, List.map_cons, fcLoop, fcLoop, ih, cmpLabel, lowerLabel_idem, lowerLabel_idem]; rfl

/-- `fullcompare` sees its arguments only through their lower-cased labels -/
theorem fullcompare_lower (a b : Name) : fullcompare (lowerName a) (lowerName b) = fullcompare a b := by
  unfold fullcompare
  rw [isAbs_lowerName, isAbs_lowerName, length_lowerName, length_lowerName]
  simp only [lowerName, ← List.map_reverse, ← List.map_take, fcLoop_lower]

theorem fullcompare_congr {a a' b b' : Name} (ha : lowerName a = lowerName a') (hb : lowerName b = lowerName b') :
    fullcompare a b = fullcompare a' b' := by
  rw [← fullcompare_lower a b, ha, hb, fullcompare_lower]

theorem isAbs_eq_bool (a b : Name) : isAbs a ≠ isAbs b → (isAbs a = true ∧ isAbs b = false) ∨ (isAbs a = false ∧ isAbs b = true) := by
  cases isAbs a <;> cases isAbs b <;> simp

/-- a relation code seen from the other name: superdomain and subdomain change places -/
def mirror : Nat → Nat
  | 1 => 2
  | 2 => 1
  | r => r

theorem fullcompare_swap (a b : Name) :
    fullcompare b a = (mirror (fullcompare a b).1, - (fullcompare a b).2.1, (fullcompare a b).2.2) := by
  by_cases h : isAbs a = isAbs b
  · rw [fullcompare_same a b h, fullcompare_same b a h.symm, fcLoop_swap]
    cases fcLoop a.reverse b.reverse 0 with
    | some p => dsimp only [Option.map]; split <;> rfl
    | none =>
      dsimp only [Option.map]
      rw [Nat.min_comm, show (b.length : Int) - a.length = -((a.length : Int) - b.length) by omega]
      rcases Int.lt_trichotomy ((a.length : Int) - b.length) 0 with h | h | h
      · rw [if_neg (by omega), if_pos (by omega), if_pos h]; rfl
      · rw [if_neg (by omega), if_neg (by omega), if_neg (by omega), if_neg (by omega)]; rfl
      · rw [if_pos (by omega), if_neg (by omega), if_pos h]; rfl
  · rw [fullcompare_diff a b h, fullcompare_diff b a (Ne.symm h)]
    rcases isAbs_eq_bool a b h with ⟨h1, h2⟩ | ⟨h1, h2⟩ <;> rw [h1, h2] <;> rfl

theorem cmpOrder_swap (a b : Name) : cmpOrder b a = - cmpOrder a b := congrArg (·.2.1) (fullcompare_swap a b)

theorem cmpOrder_same (a b : Name) (h : isAbs a = isAbs b) :
    (cmpOrder a b < 0 ↔ lexCmp a.reverse b.reverse < 0) ∧ (cmpOrder a b = 0 ↔ lexCmp a.reverse b.reverse = 0) := by
  unfold cmpOrder
  rcases fullcompare_same_cases a b h with ⟨_, _, e⟩ | ⟨_, e, hl⟩
  · rw [e]; exact ⟨Iff.rfl, Iff.rfl⟩
  · rw [e, hl]
    dsimp only
    split
    · omega
    · split <;> omega

theorem revLower_eq (a : Name) : revLower a = a.reverse.map lowerLabel := by
  rw [revLower, lowerName, List.map_reverse]

theorem revLower_length (a : Name) : (revLower a).length = a.length := by
  rw [revLower, List.length_reverse, length_lowerName]

/-- the key of the suffix of `k` labels is the first `k` entries of the key -/
theorem revLower_drop (name : Name) {k : Nat} (hk : k ≤ name.length) :
    revLower (name.drop (name.length - k)) = (revLower name).take k := by
  rw [revLower, revLower, lowerName, lowerName, List.map_drop, List.reverse_drop, List.length_map,
    Nat.sub_sub_self hk]

theorem revLower_eq_iff {a b : Name} : revLower a = revLower b ↔ lowerName a = lowerName b := List.reverse_inj

theorem revLower_append (a b : Name) : revLower (a ++ b) = revLower b ++ revLower a := by
  simp [revLower, lowerName]

theorem revLower_cons (x : Label) (s : Name) : revLower (x :: s) = revLower s ++ [lowerLabel x] := by
  simp [revLower, lowerName]

theorem canonLt_same {a b : Name} (h : isAbs a = isAbs b) :
    canonLt a b ↔ a.reverse.map lowerLabel < b.reverse.map lowerLabel := by
  rw [canonLt, revLower_eq, revLower_eq]
  exact ⟨fun hl => hl.elim (fun hd => absurd (hd.1.symm.trans (h.trans hd.2)) Bool.false_ne_true) And.right,
    fun hl => Or.inr ⟨h, hl⟩⟩

theorem cmpOrder_lt_iff (a b : Name) : cmpOrder a b < 0 ↔ canonLt a b := by
  by_cases h : isAbs a = isAbs b
  · rw [(cmpOrder_same a b h).1, (lexCmp_sign _ _).lt_iff, canonLt_same h]
  · unfold cmpOrder
    rw [fullcompare_diff a b h, canonLt]
    rcases isAbs_eq_bool a b h with ⟨h1, h2⟩ | ⟨h1, h2⟩ <;> simp [h1, h2]

theorem cmpOrder_gt_iff (a b : Name) : cmpOrder a b > 0 ↔ canonLt b a := by
  rw [← cmpOrder_lt_iff b a, cmpOrder_swap a b]
  omega

theorem cmpOrder_eq_iff (a b : Name) : cmpOrder a b = 0 ↔ lowerName a = lowerName b := by
  by_cases h : isAbs a = isAbs b
  · rw [(cmpOrder_same a b h).2, (lexCmp_sign _ _).eq_iff, List.map_reverse, List.map_reverse, List.reverse_inj]
    exact Iff.rfl
  · refine iff_of_false (fun h0 => ?_) fun hl => h (isAbs_of_lower_eq hl)
    unfold cmpOrder at h0
    rw [fullcompare_diff a b h] at h0
    split at h0 <;> cases h0

theorem cmpOrder_eq_iff_key (a b : Name) : cmpOrder a b = 0 ↔ isAbs a = isAbs b ∧ revLower a = revLower b := by
  rw [cmpOrder_eq_iff, revLower_eq_iff]
  exact ⟨fun h => ⟨isAbs_of_lower_eq h, h⟩, And.right⟩

theorem cmpOrder_self (a : Name) : cmpOrder a a = 0 := (cmpOrder_eq_iff a a).2 rfl

theorem nameEq_iff (a b : Name) : nameEq a b = true ↔ lowerName a = lowerName b := by
  unfold nameEq
  rw [← cmpOrder_eq_iff]
  simp

theorem nameEq_refl (a : Name) : nameEq a a = true := (nameEq_iff a a).2 rfl

theorem nameHash_lower (n : Name) :
    nameHash n = (lowerName n).foldl (fun h l => l.foldl (fun h c => h + h * 8 + c) h) 0 := by
  simp [nameHash, lowerName, List.foldl_map]

/-! ## the order on one key

`sortKey n` puts the relativity in front of `revLower n` as a label of its own (`[0]` relative, `[1]` absolute).  The
specification order, equality up to case and (in `NameOrder3`) the subdomain relation are then `<`, `=` and `<+:` of
core Lean on one list, and their laws are core's: no proof below this point splits on relativity.  Proofs about the
names of one zone, where relativity is constant, want `isAbs` and `revLower` apart: `sortKey_eq_iff`, `sortKey_le_iff`,
`sortKey_prefix_iff` take the key apart, once. -/

/-- the relativity of a name as a label: relative names sort first -/
def relTag (n : Name) : Label := [if isAbs n then 1 else 0]

def sortKey (n : Name) : List Label := relTag n :: revLower n

theorem relTag_lt_iff (a b : Name) : relTag a < relTag b ↔ isAbs a = false ∧ isAbs b = true := by
  unfold relTag
  cases isAbs a <;> cases isAbs b <;> decide

theorem relTag_eq_iff (a b : Name) : relTag a = relTag b ↔ isAbs a = isAbs b := by
  unfold relTag
  cases isAbs a <;> cases isAbs b <;> decide

theorem sortKey_lt_iff (a b : Name) : sortKey a < sortKey b ↔ canonLt a b := by
  rw [sortKey, sortKey, List.cons_lt_cons_iff, relTag_lt_iff, relTag_eq_iff]
  rfl

theorem sortKey_eq_iff (a b : Name) : sortKey a = sortKey b ↔ isAbs a = isAbs b ∧ revLower a = revLower b := by
  rw [sortKey, sortKey, List.cons.injEq, relTag_eq_iff]

theorem sortKey_le_iff (a b : Name) : sortKey a ≤ sortKey b ↔
    (isAbs a = false ∧ isAbs b = true) ∨ (isAbs a = isAbs b ∧ revLower a ≤ revLower b) := by
  rw [sortKey, sortKey, List.cons_le_cons_iff, relTag_lt_iff, relTag_eq_iff]

theorem sortKey_prefix_iff (a b : Name) :
    sortKey b <+: sortKey a ↔ isAbs a = isAbs b ∧ revLower b <+: revLower a := by
  rw [sortKey, sortKey, List.cons_prefix_cons, relTag_eq_iff, eq_comm]

/-- labels in front of a non-empty name come last in the key -/
theorem sortKey_append (a : Name) {b : Name} (hb : b ≠ []) : sortKey (a ++ b) = sortKey b ++ revLower a := by
  rw [sortKey, sortKey, relTag, relTag, isAbs_append a b hb, revLower_append]
  rfl

/-- the key of a suffix is a prefix of the key; the empty suffix of an absolute name apart, since the empty name is relative -/
theorem sortKey_drop (name : Name) {k : Nat} (hk : k ≤ name.length) (h0 : 1 ≤ k ∨ isAbs name = false) :
    sortKey (name.drop (name.length - k)) = (sortKey name).take (k + 1) := by
  rw [sortKey, sortKey, List.take_succ_cons, revLower_drop name hk]
  congr 1
  rw [relTag_eq_iff]
  rcases Nat.eq_zero_or_pos k with rfl | e
  · rw [Nat.sub_zero, List.drop_length, h0.resolve_left (by omega)]; rfl
  · exact isAbs_drop name e hk

theorem cmpOrder_lt_iff_sortKey (a b : Name) : cmpOrder a b < 0 ↔ sortKey a < sortKey b :=
  (cmpOrder_lt_iff a b).trans (sortKey_lt_iff a b).symm

theorem cmpOrder_eq_iff_sortKey (a b : Name) : cmpOrder a b = 0 ↔ sortKey a = sortKey b :=
  (cmpOrder_eq_iff_key a b).trans (sortKey_eq_iff a b).symm

theorem cmpOrder_le_iff_sortKey (a b : Name) : cmpOrder a b ≤ 0 ↔ sortKey a ≤ sortKey b := by
  rw [Int.le_iff_lt_or_eq, List.le_iff_lt_or_eq, cmpOrder_lt_iff_sortKey, cmpOrder_eq_iff_sortKey]

theorem cmpOrder_le_iff (a b : Name) :
    cmpOrder a b ≤ 0 ↔ (isAbs a = false ∧ isAbs b = true) ∨ (isAbs a = isAbs b ∧ revLower a ≤ revLower b) :=
  (cmpOrder_le_iff_sortKey a b).trans (sortKey_le_iff a b)

/-! ## laws of the specification order, and what they give for `cmpOrder` -/

theorem canonLt_congr (a a' b b' : Name) (ha : lowerName a = lowerName a') (hb : lowerName b = lowerName b') :
    canonLt a b ↔ canonLt a' b' := by
  unfold canonLt revLower
  rw [isAbs_of_lower_eq ha, isAbs_of_lower_eq hb, ha, hb]

theorem canonLt_irrefl (a : Name) : ¬ canonLt a a :=
  fun h => List.lt_irrefl _ ((sortKey_lt_iff a a).2 h)

theorem canonLt_trans {a b c : Name} (h1 : canonLt a b) (h2 : canonLt b c) : canonLt a c :=
  (sortKey_lt_iff a c).1 (List.lt_trans ((sortKey_lt_iff a b).2 h1) ((sortKey_lt_iff b c).2 h2))

theorem canonLt_asymm {a b : Name} (h1 : canonLt a b) : ¬ canonLt b a :=
  fun h2 => canonLt_irrefl a (canonLt_trans h1 h2)

theorem cmpOrder_trichotomy (a b : Name) :
    canonLt a b ∨ lowerName a = lowerName b ∨ canonLt b a :=
  (Std.lt_trichotomy (sortKey a) (sortKey b)).imp (sortKey_lt_iff a b).1
    (Or.imp (fun h => revLower_eq_iff.1 ((sortKey_eq_iff a b).1 h).2) (sortKey_lt_iff b a).1)

theorem cmpOrder_lt_trans {a b c : Name} (h1 : cmpOrder a b < 0) (h2 : cmpOrder b c < 0) : cmpOrder a c < 0 :=
  (cmpOrder_lt_iff_sortKey a c).2
    (List.lt_trans ((cmpOrder_lt_iff_sortKey a b).1 h1) ((cmpOrder_lt_iff_sortKey b c).1 h2))

theorem cmpOrder_lt_of_lt_of_le {a b c : Name} (h1 : cmpOrder a b < 0) (h2 : cmpOrder b c ≤ 0) : cmpOrder a c < 0 :=
  (cmpOrder_lt_iff_sortKey a c).2
    (Std.lt_of_lt_of_le ((cmpOrder_lt_iff_sortKey a b).1 h1) ((cmpOrder_le_iff_sortKey b c).1 h2))

theorem cmpOrder_lt_of_le_of_lt {a b c : Name} (h1 : cmpOrder a b ≤ 0) (h2 : cmpOrder b c < 0) : cmpOrder a c < 0 :=
  (cmpOrder_lt_iff_sortKey a c).2
    (List.lt_of_le_of_lt ((cmpOrder_le_iff_sortKey a b).1 h1) ((cmpOrder_lt_iff_sortKey b c).1 h2))

theorem cmpOrder_le_trans {a b c : Name} (h1 : cmpOrder a b ≤ 0) (h2 : cmpOrder b c ≤ 0) : cmpOrder a c ≤ 0 :=
  (cmpOrder_le_iff_sortKey a c).2
    (List.le_trans ((cmpOrder_le_iff_sortKey a b).1 h1) ((cmpOrder_le_iff_sortKey b c).1 h2))

end NameOrder
end Model
