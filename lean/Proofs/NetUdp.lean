import Proofs.NetWait
import Proofs.ExceptEq
/-! The datagram side of `Model.Net`: the flag tests as arithmetic on the header octets, the acceptance predicate
(`is_response`, source check, parser outcome) read backwards from an accepted datagram, the `receive_udp` loop and the
`udp()` exchange, and their `dns.asyncquery` twins. -/
namespace Model.Net

/-- masking with `2 ^ k` keeps bit `k` and clears the others -/
theorem land_two_pow_ne_zero (f k : Nat) : (f &&& 2 ^ k != 0) = decide (f / 2 ^ k % 2 = 1) := by
  rw [← Nat.testBit_eq_decide_div_mod_eq]
  cases h : f.testBit k
  · have : f &&& 2 ^ k = 0 := Nat.eq_of_testBit_eq fun i => by
      rw [Nat.testBit_and, Nat.testBit_two_pow, Nat.zero_testBit]
      by_cases e : k = i
      · subst e; simp [h]
      · simp [e]
    simp [this]
  · have : (f &&& 2 ^ k).testBit k = true := by rw [Nat.testBit_and, h, Nat.testBit_two_pow_self]; rfl
    exact bne_iff_ne.2 fun e => by rw [e, Nat.zero_testBit] at this; cases this

theorem qr_iff (f : Nat) : qr f = true ↔ f / 32768 % 2 = 1 := by
  have : ConstsC18.QR = 2 ^ 15 := by decide
  unfold qr; rw [this, land_two_pow_ne_zero]; simp

theorem tc_iff (f : Nat) : tc f = true ↔ f / 512 % 2 = 1 := by
  have : ConstsC18.TC = 2 ^ 9 := by decide
  unfold tc; rw [this, land_two_pow_ne_zero]; simp

theorem opcodeOf_eq (f : Nat) : opcodeOf f = f / 2048 % 16 := by
  have h1 : ConstsC18.opcodeMask = 30720 := by decide
  have h2 : ConstsC18.opcodeShift = 11 := by decide
  unfold opcodeOf
  rw [h1, h2, Nat.shiftRight_and_distrib]
  have : (30720 : Nat) >>> 11 = 2 ^ 4 - 1 := by decide
  rw [this, Nat.and_two_pow_sub_one_eq_mod, Nat.shiftRight_eq_div_pow]

theorem beVal_two (a b : Nat) : beVal [a, b] = a * 256 + b := by simp [beVal]

theorem header_some (b : Bytes) (i f : Nat) (h : header b = some (i, f)) :
    12 ≤ b.length ∧ ∃ o0 o1 o2 o3 rest, b = o0 :: o1 :: o2 :: o3 :: rest ∧ i = o0 * 256 + o1 ∧ f = o2 * 256 + o3 := by
  unfold header at h
  split at h
  · simp at h
  · rename_i hl
    refine ⟨by omega, ?_⟩
    match b, hl with
    | o0 :: o1 :: o2 :: o3 :: rest, _ =>
      simp [beVal] at h
      exact ⟨o0, o1, o2, o3, rest, rfl, h.1.symm, h.2.symm⟩
    | [], hl => simp at hl
    | [_], hl => simp at hl
    | [_, _], hl => simp at hl
    | [_, _, _], hl => simp at hl

theorem header_none (b : Bytes) : header b = none ↔ b.length < 12 := by
  unfold header; split <;> simp_all

theorem flags_octets (o2 o3 : Nat) (h2 : o2 < 256) (h3 : o3 < 256) :
    (qr (o2 * 256 + o3) = true ↔ 128 ≤ o2) ∧ (tc (o2 * 256 + o3) = true ↔ o2 / 2 % 2 = 1) ∧
    opcodeOf (o2 * 256 + o3) = o2 / 8 % 16 := by
  rw [qr_iff, tc_iff, opcodeOf_eq]
  refine ⟨by omega, by omega, by omega⟩

/-- the datagrams of a script, in order -/
def dgrams : List UEv → List (Addr × Wire)
  | [] => []
  | .dgram s w :: rest => (s, w) :: dgrams rest
  | .block _ :: rest => dgrams rest

theorem isResponse_iff (q r : Msg) :
    isResponse q r = true ↔
      qr r.flags = true ∧ q.id = r.id ∧ opcodeOf q.flags = opcodeOf r.flags ∧
      ((ConstsC18.rcodeNoQuestion.contains (rcodeOf r.flags r.ednsflags) = true ∧ r.question = []) ∨
        opcodeOf q.flags = ConstsC18.opUpdate ∨ questionsMatch q.question r.question = true) := by
  unfold isResponse
  by_cases h1 : qr r.flags = true <;> by_cases h2 : q.id = r.id <;> by_cases h3 : opcodeOf q.flags = opcodeOf r.flags <;>
    simp [h1, h2, h3]

/-- `_addresses_equal` is a comparison of the *binary* forms of the two hosts plus the rest of the tuples. -/
theorem addressesEqual_iff (af : Nat) (a b : Addr) :
    addressesEqual af a b = .ok true ↔
      ∃ n, inetPton af a.host = .ok n ∧ inetPton af b.host = .ok n ∧ a.rest = b.rest := by
  unfold addressesEqual
  cases h1 : inetPton af a.host <;> cases h2 : inetPton af b.host <;> simp
  intro _; exact eq_comm

/-- what a passed source check means -/
def SrcOk (af : Nat) (src dest : Addr) : Prop :=
  (∃ n, inetPton af src.host = .ok n ∧ inetPton af dest.host = .ok n ∧ src.rest = dest.rest) ∨
  (isMulticast dest.host = .ok true ∧ src.rest = dest.rest)

theorem matchesDestination_true (af : Nat) (src dest : Addr) (iu : Bool)
    (h : matchesDestination af src (some dest) iu = .ok true) : SrcOk af src dest := by
  unfold matchesDestination at h
  simp only at h
  split at h
  · simp at h
  · rename_i he; exact Or.inl ((addressesEqual_iff af src dest).1 he)
  · split at h
    · simp at h
    · rename_i mc hmc
      split at h
      · rename_i hc
        simp only [Bool.and_eq_true, beq_iff_eq] at hc
        exact Or.inr ⟨by rw [hmc, hc.1], hc.2⟩
      · split at h <;> simp at h


theorem matchesDestination_foreign (af : Nat) (src dest : Addr) (iu mc : Bool)
    (h1 : addressesEqual af src dest = .ok false) (h2 : isMulticast dest.host = .ok mc)
    (h3 : (mc && src.rest == dest.rest) = false) :
    matchesDestination af src (some dest) iu = if iu then .ok false else .error .unexpectedSource := by
  unfold matchesDestination
  simp only [h1, h2, h3]
  cases iu <;> simp

theorem matchesDestination_none (af : Nat) (src : Addr) (iu : Bool) :
    matchesDestination af src none iu = .ok true := rfl

theorem fromWire_ok_iff (w : Wire) (it rt : Bool) (m : Msg) :
    fromWire w it rt false = .ok m ↔
      header w.octets = some (m.id, m.flags) ∧ (questionSection w.octets m.flags).2.isSome = true ∧
      m.question = (questionSection w.octets m.flags).1 ∧ m.ednsflags = w.body.ednsflags ∧
      w.body.broken = none ∧ (w.body.trailing = true → it = true) ∧ (tc m.flags && rt) = false := by
  constructor
  · intro h
    unfold fromWire at h
    cases hh : header w.octets with
    | none => rw [hh] at h; cases h
    | some p =>
      obtain ⟨i, f⟩ := p
      simp only [hh, Bool.false_eq_true, if_false, Bool.not_false, Bool.and_true] at h
      split at h
      · split at h
        · split at h <;> cases h
        · cases h
      · rename_i hnone
        split at h
        · split at h <;> cases h
        · rename_i htr
          split at h
          · cases h
          · rename_i htc
            cases h
            -- the body was looked at only because the question section could be read
            have hq : (questionSection w.octets f).2.isSome = true := by
              by_cases hq : (questionSection w.octets f).2.isSome = true
              · exact hq
              · rw [if_neg hq] at hnone; cases hnone
            rw [if_pos hq] at hnone
            refine ⟨rfl, hq, rfl, if_pos hq, hnone, fun ht => ?_, by simpa using htc⟩
            simpa [ht] using htr
  · rintro ⟨hh, hq, hmq, hme, hb, htr, htc⟩
    obtain ⟨mi, mf, me, mq⟩ := m
    simp only at hh hq hmq hme htc
    have htr' : (w.body.trailing && !it) = false := by
      cases ht : w.body.trailing
      · rfl
      · simp [htr ht]
    simp [fromWire, hh, hq, hb, htr', htc, hmq, hme]

theorem fromWire_truncated (w : Wire) (it rt coe : Bool) (pm : Msg)
    (h : fromWire w it rt coe = .error (.truncated pm)) :
    header w.octets = some (pm.id, pm.flags) ∧ tc pm.flags = true ∧ rt = true ∧
      pm.question = (questionSection w.octets pm.flags).1 := by
  unfold fromWire at h
  cases hh : header w.octets with
  | none => rw [hh] at h; cases h
  | some p =>
    obtain ⟨i, f⟩ := p
    simp only [hh] at h
    -- every `Truncated` is raised under the test `tc flags && raise_on_truncation`, with the message built so far
    split at h <;> (repeat' split at h) <;> cases h
    all_goals
      have ht : tc f = true ∧ rt = true := Bool.and_eq_true _ _ ▸ ‹(tc f && rt) = true›
      exact ⟨rfl, ht.1, ht.2, rfl⟩

theorem judge_accept_iff (coe : Bool) (af : Nat) (dest : Option Addr) (o : UOpts) (query : Option Msg) (src : Addr) (w : Wire) (m : Msg) :
    judge coe af dest o query src w = .accept m ↔
      matchesDestination af src dest o.ignoreUnexpected = .ok true ∧
      fromWire w o.ignoreTrailing o.raiseOnTruncation (coe && o.ignoreErrors) = .ok m ∧
      rejects o.ignoreErrors query m = false := by
  unfold judge
  cases hm : matchesDestination af src dest o.ignoreUnexpected with
  | error e => simp
  | ok b =>
    cases b
    · simp
    · cases hf : fromWire w o.ignoreTrailing o.raiseOnTruncation (coe && o.ignoreErrors) with
      | error e => cases e <;> simp <;> split <;> simp
      | ok r =>
        simp only [true_and, Except.ok.injEq]
        cases hr : rejects o.ignoreErrors query r
        · simp; intro h; subst h; exact hr
        · simp; intro h; subst h; simp [hr]

/-- the datagram is passed over by `receive_udp` -/
def Skipped (coe : Bool) (af : Nat) (dest : Option Addr) (o : UOpts) (query : Option Msg) (src : Addr) (w : Wire) : Prop :=
  judge coe af dest o query src w = .skip

/-- the source check answers `False` only under `ignore_unexpected` -/
theorem skipped_iff (coe : Bool) (af : Nat) (dest : Option Addr) (o : UOpts) (query : Option Msg) (src : Addr) (w : Wire) :
    Skipped coe af dest o query src w ↔
      matchesDestination af src dest o.ignoreUnexpected = .ok false ∨
      (matchesDestination af src dest o.ignoreUnexpected = .ok true ∧ o.ignoreErrors = true ∧
        match fromWire w o.ignoreTrailing o.raiseOnTruncation (coe && o.ignoreErrors) with
        | .error (.truncated pm) => rejects true query pm = true
        | .error _ => True
        | .ok m => rejects true query m = true) := by
  unfold Skipped judge
  cases hm : matchesDestination af src dest o.ignoreUnexpected with
  | error e => simp
  | ok b =>
    cases b
    · simp
    · cases hie : o.ignoreErrors <;>
        cases hf : fromWire w o.ignoreTrailing o.raiseOnTruncation (coe && o.ignoreErrors) with
        | error e => cases e <;> simp_all [rejects]
        | ok r => simp_all [rejects]

theorem receiveUdp_ok (coe : Bool) (af : Nat) (dest : Option Addr) (exp : Option Nat) (o : UOpts) (query : Option Msg)
    (script : List UEv) (now idx : Nat) (r : URet)
    (h : receiveUdp coe af dest exp o query script now idx = .ok r) :
    idx ≤ r.idx ∧ ∃ w, (dgrams script)[r.idx - idx]? = some (r.src, w) ∧
      judge coe af dest o query r.src w = .accept r.msg := by
  fun_induction receiveUdp coe af dest exp o query script now idx
  case case3 ih => exact ih h
  case case5 src w rest now idx hj ih =>
    obtain ⟨h1, w', h2, h3⟩ := ih h
    refine ⟨by omega, w', ?_, h3⟩
    rw [show r.idx - idx = (r.idx - (idx + 1)) + 1 by omega]
    exact h2
  case case6 src w rest now idx m hj =>
    cases h
    exact ⟨Nat.le_refl _, w, by simp [dgrams], hj⟩
  all_goals cases h

theorem receiveUdp_skip (coe : Bool) (af : Nat) (dest : Option Addr) (exp : Option Nat) (o : UOpts) (query : Option Msg)
    (src : Addr) (w : Wire) (rest : List UEv) (now idx : Nat) (h : Skipped coe af dest o query src w) :
    receiveUdp coe af dest exp o query (.dgram src w :: rest) now idx =
      receiveUdp coe af dest exp o query rest now (idx + 1) := by
  unfold Skipped at h
  simp [receiveUdp, h]

theorem receiveUdp_skip_prefix (coe : Bool) (af : Nat) (dest : Option Addr) (exp : Option Nat) (o : UOpts) (query : Option Msg)
    (pre : List (Addr × Wire)) (rest : List UEv) (now idx : Nat)
    (h : ∀ p ∈ pre, Skipped coe af dest o query p.1 p.2) :
    receiveUdp coe af dest exp o query (pre.map (fun p => UEv.dgram p.1 p.2) ++ rest) now idx =
      receiveUdp coe af dest exp o query rest now (idx + pre.length) := by
  induction pre generalizing idx with
  | nil => rfl
  | cons p ps ih =>
    rw [List.map_cons, List.cons_append, receiveUdp_skip coe af dest exp o query p.1 p.2 _ now idx (h p (by simp)),
      ih (idx + 1) (fun q hq => h q (by simp [hq])), List.length_cons, Nat.add_assoc, Nat.add_comm 1]

theorem udp_ok {coe : Bool} {q : Msg} {af : Nat} {dest : Addr} {timeout : Option Nat} {o : UOpts}
    {blocks : List Nat} {script : List UEv} {now : Nat} {r : URet}
    (h : udp coe q af dest timeout o blocks script now = .ok r) :
    ∃ now1, udpSend (expiration timeout now) blocks now = .ok now1 ∧
      receiveUdp coe af (some dest) (expiration timeout now) o (some q) script now1 0 = .ok r ∧
      (o.ignoreErrors || isResponse q r.msg) = true := by
  simp only [udp] at h
  cases hs : udpSend (expiration timeout now) blocks now with
  | error e => simp only [hs] at h; cases h
  | ok now1 =>
    cases hr : receiveUdp coe af (some dest) (expiration timeout now) o (some q) script now1 0 with
    | error f => simp only [hs, hr] at h; cases h
    | ok r' =>
      simp only [hs, hr] at h
      split at h
      · cases h
      · rename_i hb
        cases h
        exact ⟨now1, rfl, hr, by revert hb; cases (o.ignoreErrors || isResponse q r.msg) <;> simp⟩

theorem udp_returns {coe : Bool} {q : Msg} {af : Nat} {dest : Addr} {timeout : Option Nat} {o : UOpts}
    {blocks : List Nat} {script : List UEv} {now : Nat} {r : URet}
    (h : udp coe q af dest timeout o blocks script now = .ok r) :
    isResponse q r.msg = true ∧ ∃ w, (dgrams script)[r.idx]? = some (r.src, w) ∧
      matchesDestination af r.src (some dest) o.ignoreUnexpected = .ok true ∧
      fromWire w o.ignoreTrailing o.raiseOnTruncation (coe && o.ignoreErrors) = .ok r.msg := by
  obtain ⟨now1, _, hr, hok⟩ := udp_ok h
  obtain ⟨_, w, hw, hj⟩ := receiveUdp_ok _ _ _ _ _ _ _ _ _ _ hr
  obtain ⟨hm, hf, hrej⟩ := (judge_accept_iff _ _ _ _ _ _ _ _).1 hj
  refine ⟨?_, w, hw, hm, hf⟩
  -- without `ignore_errors` it is `udp()` that tests `is_response`, with it `receive_udp` has
  cases hie : o.ignoreErrors
  · simpa [hie] using hok
  · simpa [rejects, hie] using hrej

/-- `dns.asyncquery.receive_udp` over a backend that spends a per-call timeout computes exactly what
`dns.query.receive_udp` computes with `_wait_for` and an absolute deadline. -/
theorem receiveUdpA_eq (coe : Bool) (af : Nat) (dest : Option Addr) (exp : Option Nat) (o : UOpts) (query : Option Msg)
    (script : List UEv) (now idx : Nat) :
    receiveUdpA coe af dest exp o query script (timeoutOf exp now) now idx =
      receiveUdp coe af dest exp o query script now idx := by
  fun_induction receiveUdp coe af dest exp o query script now idx <;>
    simp [receiveUdpA, waitB_timeoutOf, starvedB_timeoutOf, giveUp_timeoutOf, *]

theorem sendB_eq (exp : Option Nat) (blocks : List Nat) (now : Nat) :
    sendB blocks (timeoutOf exp now) now = udpSend exp blocks now := by
  fun_induction udpSend exp blocks now <;> simp [sendB, waitB_timeoutOf, giveUp_timeoutOf, *]

/-- `dns.asyncquery.udp` = `dns.query.udp`, as functions of the script -/
theorem udpA_eq (coe : Bool) (q : Msg) (af : Nat) (dest : Addr) (timeout : Option Nat) (o : UOpts)
    (blocks : List Nat) (script : List UEv) (now : Nat) :
    udpA coe q af dest timeout o blocks script now = udp coe q af dest timeout o blocks script now := by
  unfold udpA udp
  simp only [sendB_eq, receiveUdpA_eq]

end Model.Net
