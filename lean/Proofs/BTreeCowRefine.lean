import Proofs.BTreeCowInsert
import Proofs.BTreeCowDelete
import Proofs.BTreeCowSess
import Proofs.BTreeTree
/-!
Mechanism level: every operation of a session refines the persistent model.  `insert_element` and `_delete` of a tree
with creator token `c` change only cells created by `c` (or fresh ones) and do on their own tree what `Model.BTree`
does (`step_insert`, `step_delete`, from `insertRoot_sim` / `deleteRoot_sim` and `step_mut`); with the steps that only
add or freeze a handle this gives `step_refines` and `run_refines`.
-/
namespace Model.BTreeCow
open Model.BTree

theorem treeWf_of_ok {w : World} {hd : Handle} (ok : TreeOk w hd) {h : Nat} (ht : HT w.heap h hd.root)
    (nd : (reach w.heap h hd.root).Nodup) (hw : Wf hd.t (absN w.heap h hd.root))
    (hsz : hd.size = (flat (absN w.heap h hd.root)).length) : TreeWf (Handle.toTree w hd) := by
  refine ⟨ok.t_ok, ?_, ?_⟩
  · simp only [Handle.toTree, handle_abs_eq ht nd]; exact hw
  · simp only [Handle.toTree, handle_abs_eq ht nd]; exact hsz

theorem step_insert {s : Sess} (ok : SessOk s) (i : Nat) (e : Elt) :
    SessOk (s.step (.insert i e)) ∧ (s.step (.insert i e)).abs = refStep s.abs (.insert i e) ∧
    ∀ hd, s.hs[i]? = some hd → Footprint hd.creator s.w.heap (s.step (.insert i e)).w.heap := by
  simp only [Sess.step, refStep]
  rw [abs_getElem?]
  cases hi : s.hs[i]? with
  | none => exact ⟨ok, rfl, fun _ h => by cases h⟩
  | some hd =>
    simp only [Option.map_some, Option.some.injEq, forall_eq']
    have okd := ok.trees hd (List.mem_of_getElem? hi)
    obtain ⟨h, t1, t2, t3, t4, t5⟩ := okd.tree
    have htr := handle_abs_eq t1 t2
    cases hm : hd.immutable with
    | true =>
      exact step_idle ok hi (by simp [Handle.insert, hm]) (by simp [Handle.insert, hm])
        (by rw [frozen_insert e (by simp [Handle.toTree, hm])])
    | false =>
      have ht2 : 2 ≤ hd.t := by have := okd.t_ok; omega
      obtain ⟨H', r, old, n', h', e1, e2, u⟩ := insertRoot_sim (c := hd.creator) ht2 hd.inOrder e t1 t2 t3
      obtain ⟨p1, p2, p3⟩ := insertRoot_spec ht2 hd.inOrder e t3
      have p4 := insertRoot_rootOk ht2 hd.inOrder e t3 t4
      rw [e2] at p1 p2 p3 p4
      refine step_mut (sz := if old.isNone then hd.size + 1 else hd.size) ok hi hm t1 u ⟨p1, p4, ?_⟩
        (by simp [Handle.insert, hm, e1]) (by simp [Handle.insert, hm, e1])
        (by simp only [Tree.insert, Handle.toTree, hm, Bool.false_eq_true, if_false, htr, e2])
      rw [p2, show old = _ from p3]
      exact size_insert t3.sorted t5

theorem step_delete {s : Sess} (ok : SessOk s) (i : Nat) (k : Nat) :
    SessOk (s.step (.delete i k)) ∧ (s.step (.delete i k)).abs = refStep s.abs (.delete i k) ∧
    ∀ hd, s.hs[i]? = some hd → Footprint hd.creator s.w.heap (s.step (.delete i k)).w.heap := by
  simp only [Sess.step, refStep]
  rw [abs_getElem?]
  cases hi : s.hs[i]? with
  | none => exact ⟨ok, rfl, fun _ h => by cases h⟩
  | some hd =>
    simp only [Option.map_some, Option.some.injEq, forall_eq']
    have okd := ok.trees hd (List.mem_of_getElem? hi)
    obtain ⟨h, t1, t2, t3, t4, t5⟩ := okd.tree
    have htr := handle_abs_eq t1 t2
    cases hm : hd.immutable with
    | true =>
      exact step_idle ok hi (by simp [Handle.delete, hm]) (by simp [Handle.delete, hm])
        (by rw [frozen_delete k none (by simp [Handle.toTree, hm])])
    | false =>
      have ht2 : 2 ≤ hd.t := by have := okd.t_ok; omega
      obtain ⟨H', r, res, n', h', e1, e2, u⟩ :=
        deleteRoot_sim (c := hd.creator) ht2 hd.collapseAlways k none t1 t2 t3 t4
      rw [okd.ca] at e1 e2
      obtain ⟨p1, p2, p3, p4⟩ := deleteRoot_intended ht2 k t3 t4
      rw [e2] at p1 p2 p3 p4
      obtain rfl : res = .ok (lookup (flat (absN s.w.heap h hd.root)) k) := p4
      refine step_mut (sz := if (lookup (flat (absN s.w.heap h hd.root)) k).isSome then hd.size - 1 else hd.size) ok hi
        hm t1 u ⟨p1, p2, ?_⟩ (by simp [Handle.delete, hm, okd.ca, e1])
        (by simp [Handle.delete, hm, okd.ca, e1])
        (by simp only [Tree.delete, Handle.toTree, hm, Bool.false_eq_true, if_false, htr, okd.ca, e2])
      rw [p3]
      exact size_delete t3.sorted t5

theorem step_refines {s : Sess} (ok : SessOk s) (op : Op) (hop : OpOk op) :
    SessOk (s.step op) ∧ (s.step op).abs = refStep s.abs op := by
  cases op with
  | new t io ca => exact step_new ok t io ca hop.1 hop.2
  | insert i e => exact ⟨(step_insert ok i e).1, (step_insert ok i e).2.1⟩
  | delete i k => exact ⟨(step_delete ok i k).1, (step_delete ok i k).2.1⟩
  | clone i io => exact step_clone ok i io
  | freeze i => exact step_freeze ok i

theorem sessOk_init : SessOk Sess.init := by
  refine ⟨by simp [Sess.init], by simp [Sess.init], by simp [Sess.init], ?_⟩
  intro i j hi hj hij
  simp [Sess.init] at hij

theorem run_refines (ops : List Op) (hops : ∀ op ∈ ops, OpOk op) {s : Sess} (ok : SessOk s) :
    SessOk (ops.foldl Sess.step s) ∧ (ops.foldl Sess.step s).abs = ops.foldl refStep s.abs := by
  induction ops generalizing s with
  | nil => exact ⟨ok, rfl⟩
  | cons op ops ih =>
    obtain ⟨h1, h2⟩ := step_refines ok op (hops op (by simp))
    have := ih (fun o ho => hops o (by simp [ho])) h1
    simp only [List.foldl_cons]
    rw [← h2]
    exact this

theorem refStep_other (ts : List Tree) (op : Op) (j : Nat) (hj : j < ts.length)
    (hne : op.target ≠ some j) :
    (refStep ts op)[j]? = ts[j]? := by
  cases op with
  | new t io ca => simp [refStep, List.getElem?_append_left hj]
  | insert i _ | delete i _ | freeze i =>
    have hne' : i ≠ j := fun e => hne (by simp [Op.target, e])
    simp only [refStep]
    cases ts[i]? <;> simp [hne']
  | clone i io =>
    simp only [refStep]
    cases ts[i]? with
    | none => rfl
    | some tr =>
      cases hc : tr.clone io with
      | none => simp [hc]
      | some c => simp [hc, List.getElem?_append_left hj]

end Model.BTreeCow
