import Proofs.BTreeCowSplit
import Proofs.BTreeCowSteal
import Proofs.BTreeInsert
/-!
Mechanism level: insertion.  `optimize_in_order_insertion`, the loop of `insert_nonfull`, `insert_nonfull` itself and
`insert_element` (`maybe_cow` on the root, root growth) on the heap simulate `Model.BTree` and write only owned cells.
Order enters in one place: `adopt` searches the parent for the middle key, and the right half goes next to the left one
only because that search finds the index of the child just split (`Model.BTree.adopt_after_split`).
-/
namespace Model.BTreeCow
open Model.BTree

/-! ## `optimize_in_order_insertion` -/

theorem optLoop_sim {c t : Nat} {h p i : Nat} : ∀ (k : Nat) (H : Heap) (es : List Elt) (cs : List Node),
    Own c H (h + 1) p (.node es cs) → i < cs.length → (rd H (kidA (rd H p).kids i)).creator = c → Kids t h es cs →
    Upd c H (hOptLoop t k H (kidA (rd H p).kids i) p i) (h + 1) p
      (.node (optLoop t k es cs i).1 (optLoop t k es cs i).2) := by
  intro k
  induction k with
  | zero => intro H es cs o _ _ _; exact o.refl
  | succ k ih =>
    intro H es cs o hi hown hk
    unfold hOptLoop optLoop
    rw [o.kid_elts hi]
    split
    · rename_i hlt
      obtain ⟨hn, hs⟩ := rightSteal_own (t := t) o hown fun n hn => (hk.2 n hn).2.1
      cases hp : tryRightSteal t es cs i with
      | none => rw [hn hp]; exact o.refl
      | some r =>
        obtain ⟨H4, e, u, hkid, _⟩ := hs r hp
        obtain ⟨hk', hlen', _⟩ := tryRightSteal_preserves hk hlt hp
        rw [e]
        have := ih H4 r.1 r.2 (o.upd u) (by have := hk.1; have := hk'.1; omega)
          (by rw [hkid, u.creator _ (HT_lt (o.kid_ht hi))]; exact hown) hk'
        rw [hkid] at this
        exact u.trans this
    · exact o.refl

theorem optimize_sim {c t : Nat} {H : Heap} {h p : Nat} {es : List Elt} {cs : List Node} (i : Nat)
    (o : Own c H (h + 1) p (.node es cs)) (hk : Kids t h es cs) (hi : i < cs.length) :
    Upd c H (hOptimize t H p i) (h + 1) p (.node (optimizeInOrder t es cs i).1 (optimizeInOrder t es cs i).2) := by
  unfold hOptimize optimizeInOrder
  rw [o.kid_elts (i := i - 1) (by omega)]
  split
  · exact o.refl
  · split
    · exact o.refl
    · obtain ⟨H1, l1, e, u, hl1, ol, _⟩ := cowChild_own o (i := i - 1) (by omega)
      have := optLoop_sim (t := t) (i := i - 1) (maxKeys t + 1) H1 es cs (o.upd u) (by omega)
        (by rw [hl1]; exact ol.own) hk
      rw [e]
      rw [hl1] at this
      exact u.trans this

/-! ## `insert_nonfull` -/

/-- the heap `insert_nonfull` at height `h` simulates the persistent one -/
def InsSim (c t : Nat) (io : Bool) (h : Nat) : Prop :=
  ∀ (H : Heap) (a : Nat) (e : Elt) (n : Node), Own c H h a n → Shape t h n → Sorted (flat n) →
    Sim c H h a (hInsertNonfull t io h H a e) (insertNonfull t io h n e)

theorem insLoop_sim {c t : Nat} {io : Bool} {h : Nat} (ht : 2 ≤ t) (e : Elt) (hrec : InsSim c t io h) {p : Nat} :
    ∀ (k : Nat) (H : Heap) (es : List Elt) (cs : List Node), Own c H (h + 1) p (.node es cs) → Kids t h es cs →
    Sorted (flat (.node es cs)) →
    Sim c H (h + 1) p (hInsLoop t io (fun H' a => hInsertNonfull t io h H' a e) e k H p)
      (insLoop t io (fun n => insertNonfull t io h n e) e k es cs) := by
  intro k
  induction k with
  | zero => intro H es cs o _ _; exact .intro o.refl
  | succ k ih =>
    intro H es cs o hk hso
    unfold hInsLoop insLoop
    simp only [o.elts, Node.elts]
    rcases node_cases e.1 hk hso with ⟨el, er, cl, n0, cr, rfl, rfl, hres, w⟩ |
      ⟨el, e0, er, cl, n0, n1, cr, rfl, rfl, _, _, hres, _, _, _, _⟩
    · -- not in this node: copy the child at the search index
      have hsc := w.window.1
      have hcl := w.len
      have hi : el.length < (cl ++ n0 :: cr).length := by simp; omega
      obtain ⟨H1, k1, e1, u1, hkid, ok, _⟩ := cowChild_own o hi
      have o1 := o.upd u1
      simp only [hres, Bool.false_eq_true, if_false, e1, kidAt_at hcl] at ok ⊢
      have hn0 := kids_at hk
      rw [show isMaximalC t (rd H1 k1) = isMaximal t n0 by simp [isMaximalC, isMaximal, ok.elts]]
      cases hmx : isMaximal t n0 with
      | true =>
        -- split it, adopt the halves, search again
        have hmax : n0.elts.length = maxKeys t := by simpa [isMaximal] using hmx
        obtain ⟨had, hk2, hfl2, _, _, hsearch⟩ := adopt_after_split (by omega) w hmax
        obtain ⟨H2, m, r, l, pr, es', cs', s1, s2, s3, u3⟩ :=
          split_adopt_own (t := t) (by omega) o1 hi hkid (kidAt_at hcl) ok hmax (by rw [hsearch])
        rw [s2] at had hk2 hfl2
        simp only [s1, s2, if_true]
        rw [had] at s3 ⊢
        cases s3
        obtain ⟨H', n', r', a1, a2, u⟩ := ih _ _ _ (o1.upd u3) hk2 (hfl2 ▸ hso)
        exact ⟨H', n', r', a1, a2, u1.trans (u3.trans u)⟩
      | false =>
        -- insert into the owned child, then optimise
        obtain ⟨H2, c', old, r1, r2, u2⟩ := hrec H1 k1 e n0 ok hn0.1 hsc
        have u := u1.trans (upd_kid o1 hi (hkid ▸ u2))
        simp only [r1, r2, Bool.false_eq_true, if_false]
        cases io with
        | false => exact .intro u
        | true =>
          have hspec := insertNonfull_refines ht true e h n0 hn0.1 hsc
          rw [r2] at hspec
          have hdesc := Refines.descend hspec hk hcl hn0.2.1 (by
            have : n0.elts.length ≠ maxKeys t := by simpa [isMaximal] using hmx
            have := hn0.2.2; omega)
          rw [setAt_at hcl] at u ⊢
          exact .intro (u.trans (optimize_sim el.length (o.upd u) (shape_node_iff.mp hdesc.shape) (by simp; omega)))
    · -- found in this node: replace
      simp only [hres, if_true]
      exact .intro (upd_elts_node o (by simp [setAt_at]))

theorem insertNonfull_sim {c t : Nat} (ht : 2 ≤ t) (io : Bool) : ∀ h, InsSim c t io h := by
  intro h
  induction h with
  | zero =>
    intro H a e n o hsh _
    obtain ⟨es, rfl⟩ := shape_zero hsh
    unfold hInsertNonfull insertNonfull
    rw [if_pos o.ht.2]
    simp only [o.elts, Node.elts]
    split <;> exact .intro (upd_elts_leaf o _)
  | succ h ih =>
    intro H a e n o hsh hso
    obtain ⟨es, cs, rfl, hlen, hkids⟩ := shape_succ hsh
    unfold hInsertNonfull insertNonfull
    rw [if_neg (by rw [o.ht.2.1]; exact Bool.false_ne_true)]
    exact insLoop_sim ht e ih 2 H es cs o ⟨hlen, hkids⟩ hso

/-! ## `insert_element` -/

theorem insertRoot_sim {c t : Nat} (ht : 2 ≤ t) (io : Bool) (e : Elt) {H : Heap} {h root : Nat}
    (hht : HT H h root) (nd : (reach H h root).Nodup) (hw : Wf t (absN H h root)) :
    ∃ H' r old n' h', hInsertRoot t io H c root e = (H', r, old) ∧ insertRoot t io (absN H h root) e = (n', old) ∧
      RUpd c H H' h root h' r n' := by
  have hsh := shape_of_wf hw hht
  obtain ⟨H1, r1, e1, u1, o1⟩ := cow_root_own (c := c) hht nd
  obtain ⟨hg, _, hfl⟩ := growRoot_spec ht hsh hw.top
  unfold hInsertRoot insertRoot
  simp only [e1]
  rw [show isMaximalC t (rd H1 r1) = isMaximal t (absN H h root) by simp [isMaximalC, isMaximal, o1.elts]]
  -- after the optional root growth the heap represents `growRoot`
  obtain ⟨H2, r2, h', e2, hh', u2, o2⟩ : ∃ H2 r2 h',
      (if isMaximal t (absN H h root) = true then hGrow t H1 c r1 else (H1, r1)) = (H2, r2) ∧
      h' = (if isMaximal t (absN H h root) then h + 1 else h) ∧
      RUpd c H H2 h root h' r2 (growRoot t (absN H h root)) ∧ Own c H2 h' r2 (growRoot t (absN H h root)) := by
    rw [growRoot_eq]
    cases hmx : isMaximal t (absN H h root) with
    | true =>
      obtain ⟨H3, nr, eg, ug, hown⟩ := grow_own (t := t) (by omega) o1 (by simpa [isMaximal] using hmx)
      exact ⟨H3, nr, _, eg, rfl, u1.trans ug, Own.of_rupd ug hown⟩
    | false => exact ⟨H1, r1, _, rfl, rfl, u1, o1⟩
  rw [← hh'] at hg
  rw [e2, heightOf_of_HT o2.ht o2.nodup, height_of_shape hg]
  obtain ⟨H3, n', old, e3, e4, u3⟩ := insertNonfull_sim (c := c) ht io h' H2 r2 e _ o2 hg (hfl ▸ hw.sorted)
  rw [e3, e4]
  exact ⟨H3, r2, old, n', h', rfl, rfl, u2.trans u3.toRUpd⟩

end Model.BTreeCow
