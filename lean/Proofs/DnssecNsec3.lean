import Model.Dnssec
import Proofs.NameText
import Proofs.DnssecBasic
/-! C15: the loop of `nsec3_hash` is RFC 5155's iterated hash and its output alphabet base32hex; argument
normalisation (salt and algorithm spellings, textual domain); the NSEC3 owner name built from the hash. -/
namespace Model
namespace Dnssec

/-- RFC 5155 §5: `IH(salt, x, 0) = H(x || salt)`, `IH(salt, x, k) = H(IH(salt, x, k-1) || salt)` -/
def IH (H : Bytes → Bytes) (salt x : Bytes) : Nat → Bytes
  | 0 => H (x ++ salt)
  | k + 1 => H (IH H salt x k ++ salt)

theorem nsec3Iter_IH (H : Bytes → Bytes) (salt x : Bytes) (k j : Nat) :
    nsec3Iter H salt k (IH H salt x j) = IH H salt x (j + k) := by
  induction k generalizing j with
  | zero => simp [nsec3Iter]
  | succ k ih =>
    simp only [nsec3Iter]
    have : H (IH H salt x j ++ salt) = IH H salt x (j + 1) := rfl
    rw [this, ih (j + 1)]
    congr 1; omega

theorem b32Translate_std (x : Nat) : b32Translate (b32Std (x % 32)) = b32Hex (x % 32) := by
  have hx : x % 32 < 32 := Nat.mod_lt _ (by decide)
  unfold b32Translate b32Std
  -- `A`–`Z` stand for the values 0–25, `2`–`7` for 26–31
  split
  · rw [if_pos (by omega), Nat.add_sub_cancel_left]
  · rw [if_neg (by omega), if_pos (by omega), Nat.add_sub_cancel_left]

theorem b32Group_translate (a b c d e : Nat) :
    (b32Group b32Std a b c d e).map b32Translate = b32Group b32Hex a b c d e := by
  simp [b32Group, b32Translate_std]

theorem b32encode_translate (bs : Bytes) :
    (b32encode b32Std bs).map b32Translate = b32encode b32Hex bs := by
  -- a truncated group followed by `=` padding, which the translation leaves alone
  have pad : ∀ (a b c d e k : Nat) (p : List Nat), p.map b32Translate = p →
      ((b32Group b32Std a b c d e).take k ++ p).map b32Translate = (b32Group b32Hex a b c d e).take k ++ p := by
    intro a b c d e k p hp
    rw [List.map_append, List.map_take, b32Group_translate, hp]
  induction bs using b32encode.induct with
  | case1 a b c d e rest ih => simp only [b32encode, List.map_append, b32Group_translate, ih]
  | case2 a b c d => exact pad _ _ _ _ _ _ _ rfl
  | case3 a b c => exact pad _ _ _ _ _ _ _ rfl
  | case4 a b => exact pad _ _ _ _ _ _ _ rfl
  | case5 a => exact pad _ _ _ _ _ _ _ rfl
  | case6 => rfl


def hexDigitN (upper : Bool) (n : Nat) : Nat := if n < 10 then 48 + n else (if upper then 55 else 87) + n

/-- the hexadecimal spelling of an octet string (`bytes.hex()`, lower or upper case) -/
def hexText (upper : Bool) (b : Bytes) : List Nat := b.flatMap fun x => [hexDigitN upper (x / 16), hexDigitN upper (x % 16)]

theorem hexDigitN_reads (upper : Bool) (n : Nat) (h : n < 16) :
    hexWs (hexDigitN upper n) = false ∧ hexValN (hexDigitN upper n) = some n := by
  have : ∀ u : Bool, ∀ n, n < 16 → hexWs (hexDigitN u n) = false ∧ hexValN (hexDigitN u n) = some n := by decide
  exact this upper n h

theorem hexText_cons (upper : Bool) (x : Nat) (xs : Bytes) :
    hexText upper (x :: xs) = hexDigitN upper (x / 16) :: hexDigitN upper (x % 16) :: hexText upper xs := rfl

theorem pyFromHex_hexText (upper : Bool) (b : Bytes) (hb : ∀ x ∈ b, x < 256) :
    pyFromHex (hexText upper b) = some b := by
  induction b with
  | nil => rfl
  | cons x xs ih =>
    have hx : x < 256 := hb x (by simp)
    have h1 : x / 16 < 16 := by omega
    have h2 : x % 16 < 16 := by omega
    rw [hexText_cons, pyFromHex]
    simp only [hexDigitN_reads upper _ h1, (hexDigitN_reads upper _ h2).2,
      ih (fun y hy => hb y (by simp [hy])), Bool.false_eq_true, if_false]
    congr 2
    omega

theorem hexText_length (upper : Bool) (b : Bytes) : (hexText upper b).length = 2 * b.length := by
  induction b with
  | nil => rfl
  | cons x xs ih => rw [hexText_cons]; simp only [List.length_cons, ih]; omega

theorem ftRun_plain (t : List Nat) (h : ∀ c ∈ t, c ≠ 46 ∧ c ≠ 92) (L : List Label) (lab : Label) :
    ftRun ⟨L, lab, none⟩ t = .ok ⟨L, lab ++ t, none⟩ := by
  induction t generalizing lab with
  | nil => simp [ftRun]
  | cons c cs ih =>
    rw [ftRun_char (h c (by simp)).1 (h c (by simp)).2, ih (fun x hx => h x (by simp [hx])), List.append_assoc]
    rfl

/-- a text without dots and backslashes is one label -/
theorem fromText_plain (t : List Nat) (o : Name) (h : ∀ c ∈ t, c ≠ 46 ∧ c ≠ 92) (hne : t ≠ []) (h64 : t ≠ [64]) :
    fromText t (some o) = validate (t :: o) := by
  rw [fromText_of_run hne h64 (fun e => (h 46 (by simp [e])).1 rfl) (ftRun_plain t h [] []) (some o)]
  simp [hne]

theorem b32Hex_ok (x : Nat) : b32Hex (x % 32) ≠ 46 ∧ b32Hex (x % 32) ≠ 92 := by
  have hx : x % 32 < 32 := Nat.mod_lt _ (by decide)
  unfold b32Hex
  split <;> omega

theorem b32Group_ok (a b c d e : Nat) : ∀ ch ∈ b32Group b32Hex a b c d e, ch ≠ 46 ∧ ch ≠ 92 := by
  intro ch hch
  simp only [b32Group, List.mem_cons, List.mem_nil_iff, or_false] at hch
  rcases hch with rfl | rfl | rfl | rfl | rfl | rfl | rfl | rfl <;> exact b32Hex_ok _

theorem b32encode_ok (bs : Bytes) : ∀ ch ∈ b32encode b32Hex bs, ch ≠ 46 ∧ ch ≠ 92 := by
  -- a truncated group followed by `=` padding
  have pad : ∀ (a b c d e k : Nat) (p : List Nat), (∀ ch ∈ p, ch = 61) →
      ∀ ch ∈ (b32Group b32Hex a b c d e).take k ++ p, ch ≠ 46 ∧ ch ≠ 92 := by
    intro a b c d e k p hp ch hch
    rcases List.mem_append.mp hch with h | h
    · exact b32Group_ok _ _ _ _ _ ch (List.mem_of_mem_take h)
    · rw [hp ch h]; decide
  induction bs using b32encode.induct with
  | case1 a b c d e rest ih =>
    intro ch hch
    rcases List.mem_append.mp hch with h | h
    · exact b32Group_ok _ _ _ _ _ ch h
    · exact ih ch h
  | case2 a b c d => exact pad _ _ _ _ _ _ _ (by simp)
  | case3 a b c => exact pad _ _ _ _ _ _ _ (by simp)
  | case4 a b => exact pad _ _ _ _ _ _ _ (by simp)
  | case5 a => exact pad _ _ _ _ _ _ _ (by simp)
  | case6 => intro ch hch; cases hch

theorem b32encode_length_ge (bs : Bytes) (h : bs ≠ []) : 2 ≤ (b32encode b32Hex bs).length := by
  induction bs using b32encode.induct with
  | case6 => exact absurd rfl h
  | _ => simp [b32encode, b32Group]

end Dnssec
end Model
