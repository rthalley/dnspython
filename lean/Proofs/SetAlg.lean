import Model.SetAlg
/-!
C07: `dns.set.Set` refines finite sets.
Each loop of the code (a fold of `add` / `erase`) is shown equal to the obvious `filter`/append
expression on duplicate-free lists; every operation but `add` and the union loop returns a sublist of `self`.
The membership laws, preservation of `Nodup`, first-insertion order and the `self is other` branches are read off
these in `Props/C07.lean`.
-/
namespace Model
namespace SetAlg

variable {α : Type} [DecidableEq α]

theorem mem_add (s : List α) (x y : α) : y ∈ add s x ↔ y ∈ s ∨ y = x := by
  by_cases h : x ∈ s
  · simpa [add, h] using fun e : y = x => e ▸ h
  · simp [add, h]

theorem nodup_add (s : List α) (x : α) (h : s.Nodup) : (add s x).Nodup := by
  by_cases hx : x ∈ s
  · simpa [add, hx] using h
  · simpa [add, hx, h, List.nodup_append] using fun a (ha : a ∈ s) (e : a = x) => hx (e ▸ ha)

theorem unionUpdate_eq (s o : List α) (ho : o.Nodup) :
    unionUpdate s o = s ++ o.filter (fun x => decide (x ∉ s)) := by
  unfold unionUpdate
  induction o generalizing s with
  | nil => simp
  | cons x xs ih =>
    rw [List.nodup_cons] at ho
    rw [List.foldl_cons, ih _ ho.2, List.filter_cons]
    by_cases hx : x ∈ s
    · simp [add, hx]
    · -- `x` is appended to `s`; it does not occur in `xs`, so filtering `xs` against `s ++ [x]` or
      -- against `s` is the same
      simp only [add, hx, if_false, not_false_eq_true, decide_true, if_true, List.append_assoc,
        List.singleton_append, List.append_cancel_left_eq, List.cons.injEq, true_and]
      exact List.filter_congr fun y hy => by
        have : y ≠ x := fun e => ho.1 (e ▸ hy)
        simp [this]

theorem update_eq_unionUpdate (s xs : List α) : update s xs = unionUpdate s xs := rfl

theorem mem_unionUpdate (s o : List α) (x : α) : x ∈ unionUpdate s o ↔ x ∈ s ∨ x ∈ o := by
  unfold unionUpdate
  induction o generalizing s with
  | nil => simp
  | cons y ys ih => simp [ih, mem_add, or_assoc]

theorem nodup_unionUpdate (s o : List α) (h : s.Nodup) : (unionUpdate s o).Nodup := by
  unfold unionUpdate
  induction o generalizing s with
  | nil => exact h
  | cons y ys ih => exact ih _ (nodup_add s y h)

theorem foldl_erase_unless (p : α → Prop) [DecidablePred p] (l acc : List α) (h : acc.Nodup) :
    l.foldl (fun a x => if p x then a else a.erase x) acc =
      acc.filter (fun y => decide (p y ∨ y ∉ l)) := by
  induction l generalizing acc with
  | nil => simpa using (List.filter_eq_self.2 fun _ _ => rfl).symm
  | cons x xs ih =>
    rw [List.foldl_cons]
    split
    · rw [ih _ h]
      exact List.filter_congr fun y _ => by by_cases e : y = x <;> simp [*]
    · rw [ih _ (h.erase x), h.erase_eq_filter, List.filter_filter]
      exact List.filter_congr fun y _ => by by_cases e : y = x <;> simp [*]

theorem foldl_erase_eq (o acc : List α) (h : acc.Nodup) :
    o.foldl (fun a x => a.erase x) acc = acc.filter (fun y => decide (y ∉ o)) := by
  simpa using foldl_erase_unless (fun _ => False) o acc h

theorem diffUpdate_eq (s o : List α) (h : s.Nodup) :
    diffUpdate s o = s.filter (fun y => decide (y ∉ o)) :=
  foldl_erase_eq o s h

theorem interUpdate_eq (s o : List α) (h : s.Nodup) :
    interUpdate s o = s.filter (fun y => decide (y ∈ o)) := by
  unfold interUpdate
  rw [foldl_erase_unless (· ∈ o) s s h]
  exact List.filter_congr fun y hy => by simp [hy]

/-- the symmetric-difference sequence (intersection of a clone, union, difference) in closed form -/
theorem symDiffUpdate_eq (s o : List α) (hs : s.Nodup) (ho : o.Nodup) :
    symDiffUpdate s o = s.filter (fun y => decide (y ∉ o)) ++ o.filter (fun y => decide (y ∉ s)) := by
  unfold symDiffUpdate clone
  simp only
  rw [diffUpdate_eq _ _ (nodup_unionUpdate s o hs), unionUpdate_eq s o ho, interUpdate_eq s o hs,
    List.filter_append, List.filter_filter]
  congr 1
  · exact List.filter_congr fun y hy => by simp [hy]
  · exact List.filter_congr fun y _ => by by_cases e : y ∈ s <;> simp [e]

/-! ## every operation but `add` and the union loop returns a sublist of `self`

so duplicate-freeness (`List.Nodup.sublist`) and every property of all items survive it -/

theorem interUpdate_sublist (s o : List α) (h : s.Nodup) : (interUpdate s o).Sublist s := by
  rw [interUpdate_eq s o h]; exact List.filter_sublist

theorem diffUpdate_sublist (s o : List α) (h : s.Nodup) : (diffUpdate s o).Sublist s := by
  rw [diffUpdate_eq s o h]; exact List.filter_sublist

theorem discard_sublist (s : List α) (x : α) : (discard s x).Sublist s := List.erase_sublist

theorem remove_sublist {s r : List α} {x : α} (hr : remove s x = some r) : r.Sublist s := by
  unfold remove at hr
  split at hr
  · cases hr; exact List.erase_sublist
  · cases hr

theorem delItem_sublist {s r : List α} {i : Nat} (hr : delItem s i = some r) : r.Sublist s := by
  unfold delItem at hr
  split at hr
  · cases hr; exact List.erase_sublist
  · cases hr

theorem delSlice_sublist (s : List α) (a : Nat) (b : Option Nat) (st : Nat) (h : s.Nodup) :
    (delSlice s a b st).Sublist s := by
  unfold delSlice
  rw [foldl_erase_eq _ s h]
  exact List.filter_sublist

omit [DecidableEq α] in
theorem pop_spec (s r : List α) (x : α) (hr : pop s = some (x, r)) : s = r ++ [x] := by
  unfold pop at hr
  split at hr
  · rename_i y hy
    cases hr
    obtain ⟨ys, rfl⟩ := List.getLast?_eq_some_iff.1 hy
    simp
  · cases hr

omit [DecidableEq α] in
theorem pop_sublist {s r : List α} {x : α} (hr : pop s = some (x, r)) : r.Sublist s :=
  pop_spec s r x hr ▸ List.sublist_append_left r [x]

end SetAlg
end Model
