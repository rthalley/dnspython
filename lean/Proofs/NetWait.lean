import Model.Net
/-! The two ways of waiting in `Model.Net`: `_wait_for` against an absolute deadline (`dns.query`) and a backend
call spending a per-call budget (`dns.asyncquery`); a budget of `_timeout(expiration)` is the same wait. -/
namespace Model.Net

theorem waitFor_eq (exp : Option Nat) (now dt : Nat) :
    waitFor exp now dt =
      if ∀ e, exp = some e → now + dt < e then .ok (now + dt) else .error .timeout := by
  cases exp with
  | none => simp [waitFor]
  | some e =>
    simp only [waitFor, Option.some.injEq, forall_eq']
    by_cases h1 : e ≤ now
    · rw [if_pos h1, if_neg (by omega)]
    · rw [if_neg h1]
      by_cases h2 : dt < e - now
      · rw [if_pos h2, if_pos (by omega)]
      · rw [if_neg h2, if_neg (by omega)]

/-- a wait that is the first of waits which together end before the deadline succeeds, and the rest are still in time -/
theorem waitFor_onTime {exp : Option Nat} {now dt rest : Nat} (h : ∀ e, exp = some e → now + (dt + rest) < e) :
    waitFor exp now dt = .ok (now + dt) ∧ ∀ e, exp = some e → now + dt + rest < e :=
  ⟨by rw [waitFor_eq, if_pos fun e he => by have := h e he; omega], fun e he => by have := h e he; omega⟩

theorem waitFor_timeout (d now dt : Nat) (h : d ≤ now + dt) : waitFor (some d) now dt = .error .timeout := by
  rw [waitFor_eq, if_neg fun h' => Nat.lt_irrefl _ (Nat.lt_of_lt_of_le (h' d rfl) h)]

theorem waitFor_ok_ge (exp : Option Nat) (now dt now' : Nat) (h : waitFor exp now dt = .ok now') : now' = now + dt := by
  rw [waitFor_eq] at h
  split at h <;> cases h
  rfl

theorem waitFor_error' (exp : Option Nat) (now dt : Nat) (e : Err) (h : waitFor exp now dt = .error e) : e = .timeout := by
  rw [waitFor_eq] at h
  split at h <;> cases h
  rfl

theorem waitB_error (budget : Option Nat) (now dt : Nat) (e : Err) (h : waitB budget now dt = .error e) : e = .timeout := by
  cases budget with
  | none => cases h
  | some b =>
    simp only [waitB] at h
    split at h <;> cases h
    rfl

theorem waitB_timeoutOf (exp : Option Nat) (now dt : Nat) :
    waitB (timeoutOf exp now) now dt =
      match waitFor exp now dt with
      | .ok n => .ok (timeoutOf exp n, n)
      | .error e => .error e := by
  rw [waitFor_eq]
  cases exp with
  | none => simp [waitB, timeoutOf]
  | some e =>
    simp only [waitB, timeoutOf, Option.map_some, Option.some.injEq, forall_eq']
    by_cases h : now + dt < e
    · rw [if_pos h, if_neg (by omega)]
      exact congrArg (fun b => Except.ok (some b, now + dt)) (Nat.sub_add_eq e now dt).symm
    · rw [if_neg h, if_pos (by omega)]

theorem giveUp_timeoutOf (exp : Option Nat) (now : Nat) :
    giveUpB (timeoutOf exp now) now = giveUpClock exp now := by
  cases exp with
  | none => rfl
  | some e =>
    show now + (e - now) = if e ≤ now then now else e
    split <;> omega

theorem starvedB_timeoutOf (exp : Option Nat) (now : Nat) : starvedB (timeoutOf exp now) = starved exp := by
  cases exp <;> rfl

end Model.Net
