import Model.Dnssec
import Proofs.NameOps
import Proofs.DnssecBasic
/-! C15: the canonical form of an rdata whose names are absolute is a flat octet string (`canonFlat`); what is written
for an embedded name is always the wire form of a legal absolute name (`nameWireFile_ok`), and that is read back by a
decoder that rejects every compression pointer (`decodeNoPtr`). -/
namespace Model
namespace Dnssec

/-- RFC 4034 §6.2 as a function of the field list: opaque octets verbatim, each embedded name fully expanded
(no compression), lower-cased iff `lower k` for the `k`-th name -/
def canonFlat (lower : Nat → Bool) : Rdata → Nat → Bytes
  | [], _ => []
  | .raw b :: rest, k => b ++ canonFlat lower rest k
  | .name n :: rest, k => toWire (if lower k then lowerName n else n) ++ canonFlat lower rest (k + 1)

def allAbs (rd : Rdata) : Prop := ∀ n, Field.name n ∈ rd → isAbs n = true

theorem fieldsWire_abs (lower : Nat → Bool) (origin : Option Name) (rd : Rdata) (k : Nat) (h : allAbs rd) :
    fieldsWire lower origin rd k = .ok (canonFlat lower rd k) := by
  induction rd generalizing k with
  | nil => rfl
  | cons f rest ih =>
    have hrest : allAbs rest := fun n hn => h n (by simp [hn])
    cases f with
    | raw b => simp [fieldsWire, canonFlat, ih k hrest]
    | name n =>
      have hn : isAbs n = true := h n (by simp)
      simp [fieldsWire, canonFlat, nameWireFile_abs n origin (lower k) hn, ih (k + 1) hrest]

/-- What `Name.to_wire(file, None, origin, canonicalize)` returns, if anything: the label sequence of a legal absolute
name — the name itself, or the name completed by the origin and validated — lower-cased iff `canon`. -/
theorem nameWireFile_ok {n : Name} {origin : Option Name} {canon : Bool} {w : Bytes} (hn : WfName n)
    (h : nameWireFile n origin canon = .ok w) :
    ∃ m, WfName m ∧ isAbs m = true ∧ w = toWire (if canon then lowerName m else m) := by
  simp only [nameWireFile] at h
  by_cases ha : isAbs n = true
  · rw [if_pos ha] at h
    exact ⟨n, hn, ha, (Except.ok.inj h).symm⟩
  · rw [if_neg ha] at h
    cases origin with
    | none => cases h
    | some o =>
      by_cases hoa : isAbs o = true
      · simp only [hoa, if_true] at h
        cases hv : validate (n ++ o) with
        | error e => rw [hv] at h; cases h
        | ok m =>
          rw [hv] at h
          obtain ⟨rfl, hwf⟩ := wf_of_validate (n ++ o) m hv
          exact ⟨n ++ o, hwf, (NameOrder.isAbs_append n o (NameOrder.ne_nil_of_isAbs hoa)).trans hoa,
            (Except.ok.inj h).symm⟩
      · simp only [hoa] at h
        cases h

/-- A decoder for *uncompressed* names only: every length octet must be `< 64`, so a compression pointer
(`0xC0..`) or a reserved label type is rejected.  Returns the name and the unread rest. -/
def decodeNoPtr : Nat → Bytes → Option (Name × Bytes)
  | 0, _ => none
  | _ + 1, [] => none
  | f + 1, n :: rest =>
    if n = 0 then some ([[]], rest)
    else if n < 64 ∧ n ≤ rest.length then
      match decodeNoPtr f (rest.drop n) with
      | some (m, r) => some (rest.take n :: m, r)
      | none => none
    else none

theorem decodeNoPtr_toWire (n : Name) (hl : ∀ l ∈ n, l.length ≤ 63) (hne : ∀ l ∈ n.dropLast, l ≠ [])
    (ha : isAbs n = true) (rest : Bytes) :
    decodeNoPtr n.length (toWire n ++ rest) = some (n, rest) := by
  -- an absolute name is its non-root labels followed by the root label
  have key : ∀ d : List Label, (∀ l ∈ d, l ≠ [] ∧ l.length ≤ 63) →
      decodeNoPtr (d ++ [[]]).length (toWire (d ++ [[]]) ++ rest) = some (d ++ [[]], rest) := by
    intro d
    induction d with
    | nil => intro _; rfl
    | cons l d ih =>
      intro hd
      obtain ⟨h0, h63⟩ := hd l (by simp)
      have hpos : l.length ≠ 0 := fun h => h0 (List.length_eq_zero_iff.mp h)
      have hw : toWire (l :: d ++ [[]]) ++ rest = l.length :: (l ++ (toWire (d ++ [[]]) ++ rest)) := by
        simp [toWire]
      have hc : l.length < 64 ∧ l.length ≤ (l ++ (toWire (d ++ [[]]) ++ rest)).length :=
        ⟨by omega, by simp⟩
      rw [hw, List.cons_append, List.length_cons, decodeNoPtr]
      simp only [hpos, if_false, hc, and_self, if_true, List.drop_left, List.take_left,
        ih (fun x hx => hd x (by simp [hx]))]
  have := key n.dropLast (fun l h => ⟨hne l h, hl l (List.dropLast_subset n h)⟩)
  rwa [dropLast_append_root ha] at this

end Dnssec
end Model
