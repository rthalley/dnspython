import Model.ZoneFile
import Proofs.TokenizerLayout
import Proofs.NameOps
/-!
The TTL / class / type header of a record line: every accepted spelling (TTL then class, class then TTL, class
omitted, TTL omitted, both omitted) parses to the same values and leaves the reader at the same place.  `rrHeader` is
restated as what it is — an optional TTL, an optional class, the TTL again if it was not there, the type, each optional
field being "read an identifier, keep it if it reads as the field, else put it back" (`optIdent`, `rrHeader_eq`).  The
five successful paths are given through what `_get_identifier` returns token by token (`rrHeaderA_*`), so that they
apply whatever lies between the tokens, and both after an explicit owner (first token still unread) and after an
inherited owner (first token ungotten); with `getIdent_word` the tokens are words between separators of any layout
(`rrHeader_class_only`).  Then the four outcomes of the owner field (`rrOwner_*`).
-/
namespace Model

def identToken (w : List Nat) : Token := { ttype := .identifier, value := w, hasEscape := hasEsc w }

theorem getIdent_word (sp : List SepItem) (w T : List Nat) (d d1 : Nat) (pq : Bool)
    (hsp : sepDepth d sp = some d1) (hw : identOK w = true) (hne : w ≠ []) (hT : startsDelim T) :
    getIdent (after d pq (renderSep sp ++ (w ++ T))) = .ok (identToken w, after d1 false T) := by
  have := get_word sp (.ident w) T d d1 pq hsp (by simp [Word.ok, hw, hne]) hT
  simp only [Word.text, Word.token, Word.isQuoted] at this
  simp [getIdent, liftT, this, bind, Except.bind, Token.isIdentifier, identToken, pure, Except.pure]

theorem unget_after (d : Nat) (pq : Bool) (T : List Nat) (t : Token) :
    (after d pq T).unget t = .ok { after d pq T with ungotten := some t } := by
  simp [TState.unget, after]

theorem get_ungotten_none (s s' : TState) (t : Token) (a b : Bool) (h : s.get a b = .ok (t, s')) :
    s'.ungotten = none := by
  unfold TState.get at h
  simp only at h
  split at h
  · simp only [Except.ok.injEq, Prod.mk.injEq] at h; rw [← h.2]
  · split at h
    · simp only [Except.ok.injEq, Prod.mk.injEq] at h; rw [← h.2]
    · split at h
      · cases h
      · simp only [Except.ok.injEq, Prod.mk.injEq] at h; rw [← h.2]

theorem unget_ok (s : TState) (t : Token) (h : s.ungotten = none) : s.unget t = .ok { s with ungotten := some t } := by
  simp [TState.unget, h]

theorem getIdent_ungot (s : TState) (w : List Nat) (h : s.ungotten = none) :
    getIdent { s with ungotten := some (identToken w) } = .ok (identToken w, s) := by
  cases s
  simp only at h
  subst h
  simp [getIdent, liftT, TState.get, identToken, bind, Except.bind, Token.isIdentifier, pure, Except.pure]

theorem getIdent_state (s s' : TState) (t : Token) (h : getIdent s = .ok (t, s')) : s'.ungotten = none := by
  unfold getIdent at h
  simp only [bind, Except.bind, liftT] at h
  cases hg : s.get with
  | error e => simp [hg] at h
  | ok v =>
    simp only [hg] at h
    split at h
    · cases h
    · simp only [pure, Except.pure, Except.ok.injEq, Prod.mk.injEq] at h
      rw [← h.2]; exact get_ungotten_none s v.2 v.1 false false (by rw [hg])

/-- the TTL an omitted TTL field stands for (`none`: only an SOA's minimum can still supply it) -/
def PState.inheritedTTL (r : PState) : Option Nat :=
  if r.defaultTTLKnown then some r.defaultTTL else if r.lastTTLKnown then some r.lastTTL else none

theorem inheritedTTL_default (r : PState) (h : r.defaultTTLKnown = true) : r.inheritedTTL = some r.defaultTTL := by
  simp [PState.inheritedTTL, h]

theorem inheritedTTL_last (r : PState) (h : r.defaultTTLKnown = false) (hl : r.lastTTLKnown = true) :
    r.inheritedTTL = some r.lastTTL := by
  simp [PState.inheritedTTL, h, hl]

/-- an optional field of the header: `_get_identifier`, kept when `f` reads its text, put back otherwise -/
def optIdent {α : Type} (f : List Nat → Option α) (s : TState) : RM (Option α × TState) := do
  let (t, s') ← getIdent s
  match f t.value with
  | some v => pure (some v, s')
  | none => do
    let u ← liftT (s'.unget t)
    pure (none, u)

theorem optIdent_bind {α β : Type} (f : List Nat → Option α) (s : TState) (k : Option α × TState → RM β) :
    optIdent f s >>= k = getIdent s >>= fun x =>
      match f x.1.value with
      | some v => k (some v, x.2)
      | none => liftT (x.2.unget x.1) >>= fun u => k (none, u) := by
  unfold optIdent
  rw [bind_assoc]
  congr 1
  funext x
  obtain ⟨t, s'⟩ := x
  dsimp only
  cases f t.value <;> simp only [pure_bind, bind_assoc]

/-- `_rr_line` from the TTL field to the type: `ttl? class? ttl? type`, the second TTL only when the first was absent -/
theorem rrHeader_eq (r : PState) : rrHeader r = (do
    let (ttl1, s) ← optIdent ttlOf r.tok
    let (cls, s) ← optIdent classFromText s
    if cls.getD 1 ≠ 1 then .error .syntaxError
    else
      let (ttl2, s) ← (match ttl1 with
        | some v => pure (some v, s)
        | none => optIdent ttlOf s)
      let (t, s) ← getIdent s
      match typeFromText t.value with
      | none => .error .syntaxError
      | some ty =>
        pure ((ttl2 <|> r.inheritedTTL, ty),
          match ttl2 with
          | some v => { r with tok := s, lastTTL := v, lastTTLKnown := true }
          | none => { r with tok := s }) : RM ((Option Nat × Nat) × PState)) := by
  unfold rrHeader
  simp only [optIdent_bind, pure_bind]
  congr 1; funext x
  cases ttlOf x.1.value with
  | some v =>
    dsimp only
    congr 1; funext y
    cases classFromText y.1.value <;> rfl
  | none =>
    dsimp only
    congr 1; funext u; congr 1; funext y
    cases classFromText y.1.value with
    | some c =>
      dsimp only [Option.getD_some]
      split
      · rfl
      · congr 1; funext z
        cases ttlOf z.1.value <;> rfl
    | none =>
      dsimp only [Option.getD_none]
      congr 1; funext u2
      simp only [ne_eq, not_true_eq_false, if_false]
      congr 1; funext z
      cases ttlOf z.1.value <;> rfl

/-- an identifier that is put back is read again -/
theorem getIdent_unget {s s' : TState} {w : List Nat} (h : getIdent s = .ok (identToken w, s')) :
    getIdent { s' with ungotten := some (identToken w) } = .ok (identToken w, s') :=
  getIdent_ungot s' w (getIdent_state s s' _ h)

theorem optIdent_some {α : Type} {f : List Nat → Option α} {s s' : TState} {t : Token} {v : α}
    (h : getIdent s = .ok (t, s')) (hv : f t.value = some v) : optIdent f s = .ok (some v, s') := by
  simp only [optIdent, h, bind, Except.bind, hv, pure, Except.pure]

theorem optIdent_none {α : Type} {f : List Nat → Option α} {s s' : TState} {t : Token}
    (h : getIdent s = .ok (t, s')) (hv : f t.value = none) :
    optIdent f s = .ok (none, { s' with ungotten := some t }) := by
  simp only [optIdent, h, bind, Except.bind, hv, liftT, unget_ok s' t (getIdent_state s s' t h), pure, Except.pure]

/-- `rrHeader` from the outcome of each field -/
theorem rrHeader_of_fields (r : PState) {ttl1 cls ttl2 : Option Nat} {s1 s2 s3 s4 : TState} {t : Token} {ty : Nat}
    (h1 : optIdent ttlOf r.tok = .ok (ttl1, s1)) (h2 : optIdent classFromText s1 = .ok (cls, s2)) (hc : cls.getD 1 = 1)
    (h3 : (match ttl1 with | some v => (.ok (some v, s2) : RM (Option Nat × TState)) | none => optIdent ttlOf s2) =
      .ok (ttl2, s3))
    (h4 : getIdent s3 = .ok (t, s4)) (hty : typeFromText t.value = some ty) :
    rrHeader r = .ok ((ttl2 <|> r.inheritedTTL, ty),
      match (generalizing := false) ttl2 with
      | some v => { r with tok := s4, lastTTL := v, lastTTLKnown := true }
      | none => { r with tok := s4 }) := by
  rw [rrHeader_eq]
  cases ttl1 with
  | some v =>
    cases h3
    simp only [bind, Except.bind, h1, h2, hc, ne_eq, not_true_eq_false, if_false, pure, Except.pure, h4, hty]
  | none =>
    replace h3 : optIdent ttlOf s2 = .ok (ttl2, s3) := h3
    simp only [bind, Except.bind, h1, h2, hc, ne_eq, not_true_eq_false, if_false, pure, Except.pure, h3, h4, hty]

theorem rrHeaderA_ttl_class (r : PState) (ttlT clsT tyT : List Nat) (s1 s2 s3 : TState) (v ty : Nat)
    (h1 : getIdent r.tok = .ok (identToken ttlT, s1)) (h2 : getIdent s1 = .ok (identToken clsT, s2))
    (h3 : getIdent s2 = .ok (identToken tyT, s3))
    (hv : ttlOf ttlT = some v) (hc : classFromText clsT = some 1) (hty : typeFromText tyT = some ty) :
    rrHeader r = .ok ((some v, ty), { r with tok := s3, lastTTL := v, lastTTLKnown := true }) :=
  rrHeader_of_fields r (optIdent_some h1 hv) (optIdent_some h2 hc) rfl rfl h3 hty

theorem rrHeaderA_ttl_only (r : PState) (ttlT tyT : List Nat) (s1 s2 : TState) (v ty : Nat)
    (h1 : getIdent r.tok = .ok (identToken ttlT, s1)) (h2 : getIdent s1 = .ok (identToken tyT, s2))
    (hv : ttlOf ttlT = some v) (hnc : classFromText tyT = none) (hty : typeFromText tyT = some ty) :
    rrHeader r = .ok ((some v, ty), { r with tok := s2, lastTTL := v, lastTTLKnown := true }) :=
  rrHeader_of_fields r (optIdent_some h1 hv) (optIdent_none h2 hnc) rfl rfl (getIdent_unget h2) hty

theorem rrHeaderA_class_only (r : PState) (clsT tyT : List Nat) (s1 s2 : TState) (ty : Nat)
    (h1 : getIdent r.tok = .ok (identToken clsT, s1)) (h2 : getIdent s1 = .ok (identToken tyT, s2))
    (hc : classFromText clsT = some 1) (hcv : ttlOf clsT = none)
    (hnv : ttlOf tyT = none) (hty : typeFromText tyT = some ty) :
    rrHeader r = .ok ((r.inheritedTTL, ty), { r with tok := s2 }) :=
  rrHeader_of_fields r (optIdent_none h1 hcv) (optIdent_some (getIdent_unget h1) hc) rfl (optIdent_none h2 hnv)
    (getIdent_unget h2) hty

theorem rrHeaderA_type_only (r : PState) (tyT : List Nat) (s1 : TState) (ty : Nat)
    (h1 : getIdent r.tok = .ok (identToken tyT, s1))
    (hnv : ttlOf tyT = none) (hnc : classFromText tyT = none) (hty : typeFromText tyT = some ty) :
    rrHeader r = .ok ((r.inheritedTTL, ty), { r with tok := s1 }) :=
  rrHeader_of_fields r (optIdent_none h1 hnv) (optIdent_none (getIdent_unget h1) hnc) rfl
    (optIdent_none (getIdent_unget h1) hnv) (getIdent_unget h1) hty

theorem rrHeaderA_class_ttl (r : PState) (clsT ttlT tyT : List Nat) (s1 s2 s3 : TState) (v ty : Nat)
    (h1 : getIdent r.tok = .ok (identToken clsT, s1)) (h2 : getIdent s1 = .ok (identToken ttlT, s2))
    (h3 : getIdent s2 = .ok (identToken tyT, s3))
    (hc : classFromText clsT = some 1) (hcv : ttlOf clsT = none) (hv : ttlOf ttlT = some v)
    (hty : typeFromText tyT = some ty) :
    rrHeader r = .ok ((some v, ty), { r with tok := s3, lastTTL := v, lastTTLKnown := true }) :=
  rrHeader_of_fields r (optIdent_none h1 hcv) (optIdent_some (getIdent_unget h1) hc) rfl (optIdent_some h2 hv) h3 hty

theorem rrHeader_class_only (r : PState) (s2 : List SepItem) (clsT tyT T : List Nat)
    (d1 d2 : Nat) (ty : Nat)
    (hfirst : getIdent r.tok = .ok (identToken clsT, after d1 false (renderSep s2 ++ (tyT ++ T))))
    (h2 : sepDepth d1 s2 = some d2) (hT : startsDelim T)
    (ok3 : identOK tyT = true) (ne3 : tyT ≠ [])
    (hc : classFromText clsT = some 1) (hcv : ttlOf clsT = none)
    (hnv : ttlOf tyT = none) (hty : typeFromText tyT = some ty) :
    rrHeader r = .ok ((r.inheritedTTL, ty), { r with tok := after d2 false T }) :=
  rrHeaderA_class_only r clsT tyT _ _ ty hfirst (getIdent_word s2 tyT _ d1 d2 false h2 ok3 ne3 hT) hc hcv hnv hty

/-- a name text resolves the same way through `dns.name.from_text(text, origin)` (`_generate_line`, `$INCLUDE`) and through
`tok.as_name(token, origin)` (`_rr_line`, `$ORIGIN`) when the result is absolute -/
theorem asName_of_fromText (w : List Nat) (co : Option Name) (n : Name) (h : fromText w co = .ok n) (habs : isAbs n = true) :
    (identToken w).asName co false none = .ok n := by
  unfold Token.asName
  simp only [identToken, Token.isIdentifier, beq_self_eq_true, Bool.not_true, Bool.false_eq_true, if_false, h]
  unfold chooseRelativity
  cases co with
  | none => rfl
  | some zo =>
    by_cases hz : zo = []
    · simp [hz]
    · simp [hz, derelativize_of_abs habs zo]

theorem rrOwner_out_of_zone (r : PState) (t : Token) (s : TState) (co zo n : Name)
    (hco : r.currentOrigin = some co) (hzo : r.zoneOrigin = some zo)
    (hget : r.tok.get (wantLeading := true) = .ok (t, s)) (hty : t.ttype ≠ .whitespace)
    (hn : t.asName (some co) false none = .ok n) (hout : isSubdomain n zo = false) :
    rrOwner r = (eatLine (s.input.length + 2) s).map fun s' => (none, { r with tok := s', lastName := some n }) := by
  unfold rrOwner
  simp only [hco, bind, Except.bind, liftT, hget, hty, ne_eq, not_false_eq_true, if_true, hn, pure, Except.pure, hzo,
    hout, Bool.not_false]
  cases eatLine (s.input.length + 2) s <;> rfl

/-- owner name as stored in the zone -/
def ownerInZone (rel : Bool) (n zo : Name) : RM Name :=
  if rel then (match relativize n zo with | .ok m => .ok m | .error e => .error (.ofName e)) else .ok n

theorem rrOwner_explicit (r : PState) (t : Token) (s : TState) (co zo n : Name)
    (hco : r.currentOrigin = some co) (hzo : r.zoneOrigin = some zo)
    (hget : r.tok.get (wantLeading := true) = .ok (t, s)) (hty : t.ttype ≠ .whitespace)
    (hn : t.asName (some co) false none = .ok n) (hin : isSubdomain n zo = true) :
    rrOwner r = (ownerInZone r.relativize n zo).map fun m => (some m, { r with tok := s, lastName := some n }) := by
  unfold rrOwner ownerInZone
  simp only [hco, bind, Except.bind, liftT, hget, hty, ne_eq, not_false_eq_true, if_true, hn, pure, Except.pure, hzo,
    hin, Bool.not_true, Bool.false_eq_true, if_false]
  cases r.relativize
  · simp [Except.map]
  · simp only [if_true]
    cases relativize n zo <;> simp [Except.map]

theorem rrOwner_inherited (r : PState) (t t2 : Token) (s s2 : TState) (co zo n : Name)
    (hco : r.currentOrigin = some co) (hzo : r.zoneOrigin = some zo) (hln : r.lastName = some n)
    (hget : r.tok.get (wantLeading := true) = .ok (t, s)) (hty : t.ttype = .whitespace)
    (hget2 : s.get = .ok (t2, s2)) (hne : t2.isEolOrEof = false) (hin : isSubdomain n zo = true) :
    rrOwner r = (ownerInZone r.relativize n zo).map fun m => (some m, { r with tok := { s2 with ungotten := some t2 } }) := by
  have hu : s2.ungotten = none := get_ungotten_none s s2 t2 false false hget2
  unfold rrOwner ownerInZone
  simp only [hco, bind, Except.bind, liftT, hget, hty, ne_eq, not_true_eq_false, if_false, hget2, hne, Bool.false_eq_true,
    TState.unget, hu, Option.isSome_none, pure, Except.pure, hln, hzo, hin, Bool.not_true]
  cases r.relativize
  · simp [Except.map]
  · simp only [if_true]
    cases relativize n zo <;> simp [Except.map]

theorem rrOwner_blank (r : PState) (t t2 : Token) (s s2 : TState) (co : Name)
    (hco : r.currentOrigin = some co)
    (hget : r.tok.get (wantLeading := true) = .ok (t, s)) (hty : t.ttype = .whitespace)
    (hget2 : s.get = .ok (t2, s2)) (he : t2.isEolOrEof = true) :
    rrOwner r = .ok (none, { r with tok := s2 }) := by
  unfold rrOwner
  simp [hco, bind, Except.bind, liftT, hget, hty, hget2, he, pure, Except.pure]

end Model
