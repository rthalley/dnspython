import Model.ZoneFile
import Proofs.ExceptEq
import Proofs.ZoneFileLine
import Proofs.ZoneFileLossless
/-!
For a concrete line everything the reader asks of it, apart from the RDATA codec (`RdataReads` speaks of every
continuation of the file), is decidable.  The side conditions of `GLine.Good` — and, through `canonLine`, of
`RecLine.Good` — are the decidable proposition `GLine.Fields`; those of `RecOK` are the conjunction `RecOK.of_checks` takes;
`Lossless` of a concrete style is decidable; so a test vector is checked by evaluation and only its codec instances are cited.
-/
namespace Model

instance (w : List Nat) : Decidable (TokOK w) :=
  decidable_of_iff (identOK w = true ∧ w ≠ []) ⟨fun h => ⟨h.1, h.2⟩, fun h => ⟨h.ok, h.ne⟩⟩

instance (b : List Nat) : Decidable (SepOK b) :=
  decidable_of_iff ((∀ c ∈ b, c = 32) ∧ b ≠ []) ⟨fun h => ⟨h.1, h.2⟩, fun h => ⟨h.blank, h.ne⟩⟩

instance (h : Hdr) (ttl ty : Nat) : Decidable (h.OK ttl ty) := by
  cases h <;> unfold Hdr.OK <;> infer_instance

instance (st : Style) : Decidable (Lossless st) :=
  decidable_of_iff (st.omitTTL = false ∧ st.firstNameIsDuplicate = false ∧ st.nameJust ≤ 0 ∧
      ∀ v ∈ st.defaultTTL, v ≤ Consts.maxTTL)
    ⟨fun h => ⟨h.1, h.2.1, h.2.2.1, fun v hv => h.2.2.2 v hv⟩, fun h => ⟨h.omitTTL, h.fnd, h.nameJust, fun v hv => h.dttl v hv⟩⟩

/-- what `GLine.Good` asks of a line apart from its RDATA codec -/
def GLine.Fields (l : GLine) (co zo : Name) (rel : Bool) : Prop :=
  SepOK l.b0 ∧
  (∀ ow ∈ l.owner, identOK ow = true ∧ ow ≠ [] ∧ ow.head? ≠ some 36 ∧
    (identToken ow).asName (some co) false none = .ok l.n) ∧
  isSubdomain l.n zo = true ∧ ownerInZone rel l.n zo = .ok l.m ∧ l.hdr.OK l.ttl l.ty

instance (l : GLine) (co zo : Name) (rel : Bool) : Decidable (l.Fields co zo rel) := by
  unfold GLine.Fields; infer_instance

theorem GLine.Fields.good {l : GLine} {co zo : Name} {rel gfix : Bool} (h : l.Fields co zo rel)
    (hrd : RdataReads l.ty l.rdText l.rd l.comment (some co) rel (some zo) gfix) : l.Good co zo rel gfix :=
  ⟨h.1, h.2.1, h.2.2.1, h.2.2.2.1, h.2.2.2.2, hrd⟩

/-- lines that all write their owner: the decidable part in one piece, the codecs line by line -/
theorem linesOK_of_fields {co zo : Name} {rel gfix : Bool} (ln : Option Name) (d : Option Nat) (ls : List GLine)
    (hf : ∀ l ∈ ls, l.Fields co zo rel ∧ l.owner ≠ none ∧ (l.hdr.hasTTL = false → d = some l.ttl))
    (hrd : ∀ l ∈ ls, RdataReads l.ty l.rdText l.rd l.comment (some co) rel (some zo) gfix) :
    LinesOK co zo rel gfix ln d ls :=
  linesOK_of_owners ln d ls fun l hl => ⟨(hf l hl).1.good (hrd l hl), (hf l hl).2⟩

/-- the canonical line of the plain writer -/
theorem RecLine.good_of_fields {l : RecLine} {zo : Name} {rel gfix : Bool} (h : l.toG.Fields zo zo rel)
    (hrd : RdataReads l.ty l.rdText l.rd l.comment (some zo) rel (some zo) gfix) : l.Good zo rel gfix := by
  obtain ⟨_, ho, hz, hm, kt, _, kc, _, ky, v1, v2, v3⟩ := h
  obtain ⟨o1, o2, o3, o4⟩ := ho l.ow rfl
  exact ⟨⟨o1, o2, o3, o4, hz, kt.ok, kt.ne, v1, kc.ok, kc.ne, v2, ky.ok, ky.ne, v3⟩, hm, hrd⟩

/-- a record under a lossless style -/
theorem RecOK.of_checks {st : Style} {zo : Name} {rel gfix : Bool} {ow : List Nat} {n m : Name} {ttl ty : Nat} {rr : RR}
    {rtext : List Nat}
    (h : identOK ow = true ∧ ow ≠ [] ∧ ow.head? ≠ some 36 ∧ (identToken ow).asName (some zo) false none = .ok n ∧
      isSubdomain n zo = true ∧ ownerInZone rel n zo = .ok m ∧ ttl ≤ Consts.maxTTL ∧ TokOK (typeTok st ty) ∧
      typeFromText (typeTok st ty) = some ty ∧ ttlOf (typeTok st ty) = none ∧ classFromText (typeTok st ty) = none)
    (hrd : RdataReads ty (padR (typeTok st ty) st.typeJust ++ (32 :: (rtext ++ (extraOf st rr ++ [10])))) rr.rd
      (keptComment st rr) (some zo) rel (some zo) gfix) : RecOK st zo rel gfix ow n m ttl ty rr rtext :=
  let ⟨a1, a2, a3, a4, a5, a6, a7, k, v1, v2, v3⟩ := h
  ⟨a1, a2, a3, a4, a5, a6, a7, ⟨k, v1, v2, v3⟩, hrd⟩

/-- a codec instance is stated for the text in its own spelling; the text at hand is compared with it by evaluation -/
theorem RdataReads.of_text {ty : Nat} {t t' : List Nat} {rd : Rdata} {c : Option (List Nat)} {co : Option Name} {rel : Bool}
    {zo : Option Name} {gfix : Bool} (h : RdataReads ty t rd c co rel zo gfix) (e : t' = t) :
    RdataReads ty t' rd c co rel zo gfix := e ▸ h

end Model
