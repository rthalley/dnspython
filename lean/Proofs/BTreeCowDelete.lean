import Proofs.BTreeCowSteal
import Proofs.BTreeDelete
/-!
Mechanism level: deletion.  `minimum`, `_get_node` + element assignment, the step of `delete` before the recursion
(`maybe_cow_child`, `balance` if minimal, search again), `delete(key, exact)` itself and `_delete` with the root collapse
simulate `Model.BTree`, for every `exact` and whatever is returned, and write only owned cells.  Order enters in one place:
the child found by searching again after `balance` was never copied, and is owned because of where it stands
(`Model.BTree.delete_descent`).
-/
namespace Model.BTreeCow
open Model.BTree

theorem hMinimum_sim {H : Heap} : ∀ {h a : Nat}, HT H h a → hMinimum H h a = minimum h (absN H h a) := by
  intro h
  induction h with
  | zero =>
    intro a ht
    unfold hMinimum
    simp [ht.2, absN, minimum]
  | succ h ih =>
    intro a ht
    obtain ⟨k, ks, hk, htk⟩ := HT_first_kid ht
    unfold hMinimum
    simp [ht.2.1, absN_succ, minimum, hk, kidA, ih htk]

/-- `hReplaceAt` unfolded once, by evaluation (unfolding a function whose recursion on the fuel sits below its tests
by its equation lemma is slow; likewise `hDelete` below) -/
theorem hReplaceAt_eq (fuel : Nat) (H : Heap) (self key : Nat) (s : Elt) :
    hReplaceAt fuel H self key s =
      (let c := rd H self
       let (i, eq) := searchInNode c.elts key
       if eq then (wr H self { c with elts := setAt c.elts i s }, some (eltAt c.elts i))
       else if c.leaf then (H, none)
       else match fuel with
         | 0 => (H, none)
         | f + 1 =>
           let (H1, child) := cowChild H self i
           hReplaceAt f H1 child key s) := by
  cases fuel <;> rfl

/-- the heap `_get_node` + assignment at height `h` simulates `replaceAt`, on any owned subtree -/
theorem hReplaceAt_sim {c : Nat} (key : Nat) (s : Elt) : ∀ (h : Nat) (H : Heap) (a : Nat) (n : Node), Own c H h a n →
    Sim c H h a (hReplaceAt h H a key s) (replaceAt h n key s) := by
  intro h
  induction h with
  | zero =>
    intro H a n o
    obtain ⟨es, rfl⟩ : ∃ es, n = .leaf es := ⟨_, o.abs.symm⟩
    rw [hReplaceAt_eq, replaceAt_leaf]
    simp only [o.elts, Node.elts]
    by_cases heq : (searchInNode es key).2 = true
    · simp only [heq, if_true]
      exact .intro (upd_elts_leaf o _)
    · simp only [heq, Bool.false_eq_true, if_false]
      rw [if_pos o.ht.2]
      exact .intro o.refl
  | succ h ih =>
    intro H a n o
    obtain ⟨es, cs, rfl⟩ : ∃ es cs, n = .node es cs := ⟨_, _, o.abs.symm⟩
    rw [hReplaceAt_eq, replaceAt_node]
    simp only [o.elts, Node.elts]
    have hle := searchInNode_le es key
    by_cases heq : (searchInNode es key).2 = true
    · simp only [heq, if_true]
      exact .intro (upd_elts_node o (by have := hle.2 heq; simp [setAt]; omega))
    · simp only [heq, Bool.false_eq_true, if_false]
      rw [if_neg (by rw [o.ht.2.1]; exact Bool.false_ne_true)]
      have hi : (searchInNode es key).1 < cs.length := by have := o.len; omega
      obtain ⟨H1, k1, e1, u1, hkid, ok, _⟩ := cowChild_own o hi
      obtain ⟨H2, n', r, e2, e3, u2⟩ := ih H1 k1 _ ok
      rw [e1, e2, e3]
      exact .intro (u1.trans (upd_kid (o.upd u1) hi (hkid ▸ u2)))

/-- the heap step before the recursion of `delete` (`maybe_cow_child`, `balance` if minimal, search again) for the child
at index `i`, where `delPrep` succeeds: the heap follows it.  The child it continues in was not copied by this step: it
is owned because it stands at the same index as the copied child, or, after a merge into the copied left sibling, at the
index before it. -/
theorem delPrep_own {c t : Nat} {H : Heap} {h p i i1 key : Nat} {es es1 : List Elt} {cs cs1 : List Node}
    (o : Own c H (h + 1) p (.node es cs)) (hi : i < cs.length) (hocc : ∀ n ∈ cs, minKeys t ≤ n.elts.length)
    (hp : delPrep t es cs i key = some (es1, cs1, i1)) (hi1 : i1 = if es1.length = es.length then i else i - 1) :
    ∃ H2, hDelPrep t H p i key = (H2, some (kidA (rd H2 p).kids i1)) ∧ Upd c H H2 (h + 1) p (.node es1 cs1) ∧
      (rd H2 (kidA (rd H2 p).kids i1)).creator = c := by
  obtain ⟨H1, k1, e1, u1, hkid, ok, _⟩ := cowChild_own o hi
  have o1 := o.upd u1
  unfold hDelPrep
  unfold delPrep at hp
  simp only [e1]
  rw [show isMinimalC t (rd H1 k1) = isMinimal t (kidAt cs i) by simp [isMinimalC, isMinimal, ok.elts]]
  cases hmn : isMinimal t (kidAt cs i) with
  | false =>
    simp only [hmn, Bool.false_eq_true, if_false, Option.some.injEq, Prod.mk.injEq] at hp
    simp only [Bool.false_eq_true, if_false]
    obtain ⟨rfl, rfl, rfl⟩ := hp
    exact ⟨H1, by rw [hkid], u1, by rw [hkid]; exact ok.own⟩
  | true =>
    simp only [hmn, if_true] at hp ⊢
    cases hb : balance t es cs i with
    | none => rw [hb] at hp; cases hp
    | some r =>
      obtain ⟨H2, e, u, hown⟩ := balance_own (t := t) o1 hi (by rw [hkid]; exact ok.own) hocc r hb
      rw [hkid] at e
      rw [hb] at hp
      simp only [Option.some.injEq, Prod.mk.injEq] at hp
      obtain ⟨rfl, rfl, rfl⟩ := hp
      simp only [e, (o1.upd u).elts, Node.elts]
      exact ⟨H2, rfl, u1.trans u, by rw [hi1]; exact hown⟩

theorem hDelete_eq (t fuel : Nat) (H : Heap) (self key : Nat) (exact : Option Elt) :
    hDelete t fuel H self key exact =
      (let s := rd H self
       let (i, eq) := searchInNode s.elts key
       if eq ∧ exact.isSome ∧ exact ≠ some (eltAt s.elts i) then (H, .valueError)
       else if s.leaf then
         if eq then (wr H self { s with elts := popAt s.elts i }, .ok (some (eltAt s.elts i)))
         else if exact.isSome then (H, .valueError)
         else (H, .ok none)
       else match fuel with
         | 0 => (H, .ok none)
         | f + 1 =>
           let key' := if eq then (hMinimum H f (kidA s.kids (i + 1))).1 else key
           match hDelPrep t H self (if eq then i + 1 else i) key' with
           | (H1, none) => (H1, .indexError)
           | (H1, some child) =>
             let (H2, r) := hDelete t f H1 child key' (if eq then none else exact)
             match r with
             | .valueError => (H2, .valueError)
             | .indexError => (H2, .indexError)
             | .ok elt =>
               if eq then
                 match elt with
                 | some su =>
                   let (H3, old) := hReplaceAt (f + 1) H2 self key su
                   (H3, .ok old)
                 | none => (H2, .ok none)
               else (H2, .ok elt)) := by
  cases fuel <;> rfl

/-- the heap `delete` simulates the persistent one for every `exact`, whatever it returns: the test of `exact` is the
same expression at both levels, and the descent is `delete_descent` -/
theorem hDelete_sim {c t : Nat} (ht : 2 ≤ t) : ∀ (h : Nat) (H : Heap) (a key : Nat) (exact : Option Elt) (n : Node),
    Own c H h a n → Shape t h n → Sorted (flat n) → RootOk n →
    Sim c H h a (hDelete t h H a key exact) (delete t h n key exact) := by
  intro h
  induction h with
  | zero =>
    intro H a key exact n o hsh _ _
    obtain ⟨es, rfl⟩ := shape_zero hsh
    rw [hDelete_eq, delete_leaf]
    simp only [o.elts, Node.elts]
    split
    · exact .intro o.refl
    · rw [if_pos o.ht.2]
      split
      · exact .intro (upd_elts_leaf o _)
      · split <;> exact .intro o.refl
  | succ h ih =>
    intro H p key exact n o hsh hso hok
    obtain ⟨es, cs, rfl, hk⟩ := shape_succ hsh
    obtain ⟨i0, eq, i', key', es1, cs1, i1, hsearch, hi0, hi', hkey', hprep, hi1, hi1lt, hsh1, hso1, hnm1⟩ :=
      delete_descent ht key hk hso (hok.resolve_left (by simp [Node.isLeaf]))
    obtain ⟨H1, b1, u1, hown⟩ := delPrep_own o hi' (fun n hn => (hk.2 n hn).2.1) hprep hi1
    have o1 := o.upd u1
    obtain ⟨H2, c', r, r1, r2, u2⟩ :=
      ih H1 _ key' (if eq then none else exact) _ (o1.kid_own hi1lt rfl hown) hsh1 hso1 (Or.inr (by omega))
    have u := u1.trans (upd_kid o1 hi1lt u2)
    rw [hDelete_eq, delete_node]
    simp only [o.elts, Node.elts, hsearch, o.ht.2.1, Bool.false_eq_true, if_false]
    split
    · exact .intro o.refl
    · cases eq with
      | false =>
        simp only [Bool.false_eq_true, if_false] at hi0 hkey' r1 r2 ⊢
        subst hi0 hkey'
        simp only [b1, hprep, r1, r2, delFinish_false]
        cases r <;> exact .intro u
      | true =>
        simp only [if_true] at hi0 hkey' r1 r2 ⊢
        subst hi0
        -- the new target key is computed in the same way
        have hmin : (hMinimum H h (kidA (rd H p).kids (i0 + 1))).1 = key' := by
          obtain ⟨_, _, _, _, _, rfl, habs⟩ := o.kid hi'
          rw [hkey', hMinimum_sim (o.kid_ht hi'), habs]
        simp only [hmin, ← hkey', b1, hprep, r1, r2]
        cases r with
        | valueError | indexError => exact .intro u
        | ok elt =>
          cases elt with
          | none => exact .intro u
          | some su =>
            obtain ⟨H3, n3, old, q1, q2, u3⟩ := hReplaceAt_sim key su (h + 1) H2 p _ (o.upd u)
            simp only [delFinish, if_true, q1, q2]
            exact .intro (u.trans u3)

/-! ## `_delete` on the root -/

/-- the root collapse on the heap: the pointer `_delete` installs in place of an internal root without elements (its only
child) represents `collapseRoot` of what the root represents -/
theorem RUpd.collapse {c : Nat} {H H2 : Heap} {h root h1 r1 : Nat} {n : Node} (u : RUpd c H H2 h root h1 r1 n) :
    ∃ h', RUpd c H H2 h root h'
      (if ((rd H2 r1).elts.isEmpty && !(rd H2 r1).leaf && !(rd H2 r1).kids.isEmpty) = true then kidA (rd H2 r1).kids 0
       else r1) (collapseRoot n) := by
  cases h1 with
  | zero =>
    have hl : (rd H2 r1).leaf = true := u.ht.2
    have : collapseRoot n = n := by rw [← u.abs]; simp [absN, collapseRoot]
    simp only [hl, Bool.not_true, Bool.and_false, Bool.false_and, Bool.false_eq_true, if_false, this]
    exact ⟨0, u⟩
  | succ h1 =>
    have hl : (rd H2 r1).leaf = false := u.ht.2.1
    obtain ⟨k0, ks, hk, htk0⟩ := HT_first_kid u.ht
    rw [hk]
    cases he : (rd H2 r1).elts with
    | cons e es =>
      have : collapseRoot n = n := by rw [← u.abs]; simp [absN_succ, collapseRoot, he]
      simp only [List.isEmpty_cons, Bool.false_and, Bool.false_eq_true, if_false, this]
      exact ⟨h1 + 1, u⟩
    | nil =>
      have hcr : collapseRoot n = absN H2 h1 k0 := by rw [← u.abs]; simp [absN_succ, collapseRoot, he, hk]
      simp only [hl, List.isEmpty_nil, Bool.not_false, List.isEmpty_cons, Bool.and_self, if_true, kidA,
        List.getD_cons_zero, hcr]
      exact ⟨h1, u.size, u.same, u.creator, u.fresh, htk0, nodup_kid (kl := []) u.nodup (by simpa using hk),
        fun x hx => u.sub x (reach_kid_sub (by rw [hk]; simp) x hx), rfl⟩

theorem deleteRoot_sim {c t : Nat} (ht : 2 ≤ t) (always : Bool) (key : Nat) (exact : Option Elt) {H : Heap}
    {h root : Nat} (hht : HT H h root) (nd : (reach H h root).Nodup) (hw : Wf t (absN H h root))
    (hok : RootOk (absN H h root)) :
    ∃ H' r res n' h', hDeleteRoot always t H c root key exact = (H', r, res) ∧
      deleteRoot always t (absN H h root) key exact = (n', res) ∧ RUpd c H H' h root h' r n' := by
  have hsh := shape_of_wf hw hht
  obtain ⟨H1, r1, e1, u1, o1⟩ := cow_root_own (c := c) hht nd
  obtain ⟨H2, n2, res, e2, e3, s1⟩ := hDelete_sim (c := c) ht h H1 r1 key exact _ o1 hsh hw.sorted hok
  have u2 : RUpd c H H2 h root h r1 n2 := u1.trans s1.toRUpd
  unfold hDeleteRoot deleteRoot
  simp only [e1, heightOf_of_HT o1.ht o1.nodup, height_of_shape hsh, e2, e3]
  cases res with
  | valueError | indexError => exact ⟨_, _, _, _, h, rfl, rfl, u2⟩
  | ok old =>
    obtain ⟨h', uc⟩ := u2.collapse
    by_cases hcol : (always || old.isSome) = true
    · simp only [hcol, Bool.true_and, if_true]
      exact ⟨_, _, _, _, h', rfl, rfl, uc⟩
    · simp only [Bool.not_eq_true] at hcol
      simp only [hcol, Bool.false_and, Bool.false_eq_true, if_false]
      exact ⟨_, _, _, _, h, rfl, rfl, u2⟩

end Model.BTreeCow
