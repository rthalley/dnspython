import Model.ZoneFile
import Proofs.ZoneFileCodecs
/-!
RDATA that is a run of words up to the end of the line: the RFC 3597 generic form (`\# n hex…` under any chunking) and
TXT, whose quoted `<character-string>`s, escaped by `dns.rdata._escapify`, go through the tokenizer's quoting mode and
`unescape_to_bytes` back to the same octets.
-/
namespace Model

def itemsText : List (List Nat × Word) → List Nat → List Nat
  | [], tail => tail
  | (b, w) :: rest, tail => b ++ (w.text ++ itemsText rest tail)

def ItemsOK (items : List (List Nat × Word)) : Prop := ∀ p ∈ items, SepOK p.1 ∧ p.2.ok = true

/-- words joined by a separator are a run of items: the first word behind whatever `b0` stands in front, every other
behind the separator -/
theorem joinWith_items (sep b0 : List Nat) (w : Word) (ws : List Word) (X : List Nat) :
    b0 ++ (joinWith sep ((w :: ws).map Word.text) ++ X) = itemsText ((b0, w) :: ws.map fun x => (sep, x)) X := by
  induction ws generalizing b0 w with
  | nil => simp [joinWith, itemsText]
  | cons v r ih =>
    have := ih sep v
    simp only [List.map_cons, joinWith, itemsText, List.append_assoc] at this ⊢
    rw [this]

theorem itemsText_startsDelim (items : List (List Nat × Word)) (hok : ItemsOK items) (bE : List Nat) (hb : Blank bE)
    (kc : Option (List Nat)) (rest : List Nat) :
    startsDelim (itemsText items (bE ++ (lineEnd kc ++ rest))) := by
  cases items with
  | nil =>
    simp only [itemsText]
    cases bE with
    | nil => exact lineEnd_startsDelim kc rest
    | cons c r => exact blank_startsDelim _ _ hb (by simp)
  | cons p r =>
    obtain ⟨b, w⟩ := p
    have := (hok (b, w) (by simp)).1
    exact blank_startsDelim _ _ this.blank this.ne

/-- `get_remaining()` over a run of words -/
theorem getRemaining_items (items : List (List Nat × Word)) (hok : ItemsOK items) (bE : List Nat) (hb : Blank bE)
    (kc : Option (List Nat)) (hc : ∀ t ∈ kc, 10 ∉ t) (rest : List Nat) (pq : Bool) (fuel : Nat) (hf : items.length < fuel)
    (acc : List Token) :
    getRemainingAux fuel (after 0 pq (itemsText items (bE ++ (lineEnd kc ++ rest)))) acc =
      .ok (acc ++ items.map (fun p => p.2.token), { after 0 false rest with ungotten := some (eolToken kc) }) := by
  induction items generalizing pq fuel acc with
  | nil =>
    cases fuel with
    | zero => simp at hf
    | succ f =>
      simp only [itemsText, getRemainingAux, bind, Except.bind, get_blank_lineEnd bE hb kc hc pq rest]
      simp [eolToken, Token.isEolOrEof, unget_after, pure, Except.pure]
  | cons p r ih =>
    obtain ⟨b, w⟩ := p
    cases fuel with
    | zero => simp at hf
    | succ f =>
      obtain ⟨h1, h2⟩ := hok (b, w) (by simp)
      have hok' : ItemsOK r := fun q hq => hok q (by simp [hq])
      simp only [itemsText, getRemainingAux, bind, Except.bind,
        get_blank_word b w _ pq h1.blank h2 (itemsText_startsDelim r hok' bE hb kc rest), Word.token_not_eol,
        Bool.false_eq_true, if_false]
      rw [ih hok' w.isQuoted f (by simpa using hf)]
      simp

/-- identifier words without escapes -/
def PlainIdents (items : List (List Nat × Word)) : Prop :=
  ∀ p ∈ items, ∃ w, p.2 = .ident w ∧ hasEsc w = false

def wordValue : Word → List Nat
  | .ident w => w
  | .quoted b => b

/-- `concatenate_remaining_identifiers(allow_empty=True)` over a run of identifiers -/
theorem concatRemaining_items (items : List (List Nat × Word)) (hok : ItemsOK items) (hpl : PlainIdents items)
    (bE : List Nat) (hb : Blank bE) (kc : Option (List Nat)) (hc : ∀ t ∈ kc, 10 ∉ t) (rest : List Nat) (fuel : Nat)
    (hf : items.length < fuel) (acc : List Nat) :
    concatRemainingAux true fuel (after 0 false (itemsText items (bE ++ (lineEnd kc ++ rest)))) acc =
      .ok (acc ++ items.flatMap (fun p => wordValue p.2), { after 0 false rest with ungotten := some (eolToken kc) }) := by
  induction items generalizing fuel acc with
  | nil =>
    cases fuel with
    | zero => simp at hf
    | succ f =>
      simp only [itemsText, concatRemainingAux, bind, Except.bind, get_blank_lineEnd bE hb kc hc false rest]
      simp [eolToken, Token.unescape, Token.isEolOrEof, unget_after, pure, Except.pure]
  | cons p r ih =>
    obtain ⟨b, w⟩ := p
    cases fuel with
    | zero => simp at hf
    | succ f =>
      obtain ⟨h1, h2⟩ := hok (b, w) (by simp)
      obtain ⟨v, hv, he⟩ := hpl (b, w) (by simp)
      simp only at hv
      subst hv
      have hok' : ItemsOK r := fun q hq => hok q (by simp [hq])
      have hpl' : PlainIdents r := fun q hq => hpl q (by simp [hq])
      have hg := get_blank_word b (.ident v) _ false h1.blank h2 (itemsText_startsDelim r hok' bE hb kc rest)
      simp only [Word.token, Word.isQuoted] at hg
      have hun : ({ ttype := .identifier, value := v, hasEscape := hasEsc v } : Token).unescape =
          .ok { ttype := .identifier, value := v, hasEscape := hasEsc v } := by
        simp [Token.unescape, he]
      simp only [itemsText, concatRemainingAux, bind, Except.bind, hg, hun]
      simp only [Token.isEolOrEof, Token.isIdentifier]
      simp only [Bool.false_eq_true, if_false, beq_self_eq_true, Bool.not_true]
      rw [ih hok' hpl' f (by simpa using hf)]
      simp [wordValue, List.append_assoc]

theorem itemsText_length (items : List (List Nat × Word)) (hok : ItemsOK items) (tail : List Nat) :
    items.length ≤ (itemsText items tail).length := by
  induction items with
  | nil => simp
  | cons p r ih =>
    obtain ⟨b, w⟩ := p
    have hb := (hok (b, w) (by simp)).1.ne
    have : b.length ≥ 1 := by
      cases b with
      | nil => exact absurd rfl hb
      | cons _ _ => simp
    have := ih (fun q hq => hok q (by simp [hq]))
    simp only [itemsText, List.length_append, List.length_cons]
    omega

def isHexChar (c : Nat) : Bool := decide ((48 ≤ c ∧ c ≤ 57) ∨ (97 ≤ c ∧ c ≤ 102))

/-- the sixteen hex digits: a table, checked entry by entry -/
theorem hexDigitN_hex (n : Nat) (h : n < 16) : isHexChar (hexDigitN n) = true ∧ hexVal? (hexDigitN n) = some n := by
  revert n
  decide

theorem hexlify_hex (d : Bytes) : ∀ c ∈ hexlify d, isHexChar c = true := by
  intro c hc
  simp only [hexlify, List.mem_flatMap, List.mem_cons, List.mem_nil_iff, or_false] at hc
  obtain ⟨x, _, h | h⟩ := hc
  · rw [h]; exact (hexDigitN_hex _ (Nat.mod_lt _ (by decide))).1
  · rw [h]; exact (hexDigitN_hex _ (Nat.mod_lt _ (by decide))).1

theorem unhexlify_hexlify (d : Bytes) (hd : ∀ x ∈ d, x < 256) : unhexlify (hexlify d) = some d := by
  induction d with
  | nil => rfl
  | cons x r ih =>
    have hx : x < 256 := hd x (by simp)
    have h1 := (hexDigitN_hex (x / 16 % 16) (Nat.mod_lt _ (by decide))).2
    have h2 := (hexDigitN_hex (x % 16) (Nat.mod_lt _ (by decide))).2
    have ih' := ih (fun y hy => hd y (by simp [hy]))
    simp only [hexlify, List.flatMap_cons, List.cons_append, List.nil_append] at ih' ⊢
    simp only [unhexlify, h1, h2, ih']
    congr 2
    omega

theorem hexWord_ok (w : List Nat) (h : ∀ c ∈ w, isHexChar c = true) : identOK w = true ∧ hasEsc w = false := by
  refine plainWord_ok w fun c hc => ?_
  have := h c hc
  simp only [isHexChar, decide_eq_true_eq] at this
  exact ⟨by omega, by simp [isDelim, delimiters]; omega⟩

theorem chunks_flatten (k : Nat) (hk : k > 0) (f : Nat) (l : List Nat) (hf : l.length ≤ f) :
    (chunks k f l).flatten = l := by
  induction f generalizing l with
  | zero =>
    have : l = [] := List.eq_nil_of_length_eq_zero (by omega)
    subst this; simp [chunks]
  | succ f ih =>
    cases l with
    | nil => simp [chunks]
    | cons a r =>
      simp only [chunks, List.flatten_cons]
      rw [ih ((a :: r).drop k) (by simp only [List.length_drop, List.length_cons] at hf ⊢; omega)]
      exact List.take_append_drop k (a :: r)

theorem chunks_props (k : Nat) (hk : k > 0) (f : Nat) (l : List Nat) :
    ∀ c ∈ chunks k f l, c ≠ [] ∧ ∀ x ∈ c, x ∈ l := by
  induction f generalizing l with
  | zero => simp [chunks]
  | succ f ih =>
    cases l with
    | nil => simp [chunks]
    | cons a r =>
      intro c hc
      simp only [chunks, List.mem_cons] at hc
      rcases hc with rfl | hc
      · constructor
        · cases k with
          | zero => omega
          | succ k' => simp
        · intro x hx; exact List.mem_of_mem_take hx
      · obtain ⟨h1, h2⟩ := ih _ c hc
        exact ⟨h1, fun x hx => List.mem_of_mem_drop (h2 x hx)⟩

/-- the hex words `_wordbreak` produces -/
def hexWords (data : List Nat) (chunk : Nat) : List (List Nat) :=
  if chunk = 0 then (if data = [] then [] else [data]) else chunks chunk data.length data

theorem wordbreak_words (data : List Nat) (chunk : Nat) (sep : List Nat) :
    wordbreak data chunk sep = joinWith sep (hexWords data chunk) := by
  unfold wordbreak hexWords
  by_cases h : chunk = 0
  · by_cases hd : data = [] <;> simp [h, hd, joinWith]
  · simp [h]

theorem hexWords_props (data : List Nat) (chunk : Nat) :
    (hexWords data chunk).flatten = data ∧ ∀ c ∈ hexWords data chunk, c ≠ [] ∧ ∀ x ∈ c, x ∈ data := by
  unfold hexWords
  by_cases h : chunk = 0
  · by_cases hd : data = []
    · simp [h, hd]
    · simp [h, hd]
  · simp only [h, if_false]
    exact ⟨chunks_flatten chunk (by omega) _ _ (Nat.le_refl _), chunks_props chunk (by omega) _ _⟩

/-- the words after the length field: the first follows one blank, the others the chunk separator -/
def hexItems (sep : List Nat) : List (List Nat) → List (List Nat × Word)
  | [] => []
  | c :: r => ([32], .ident c) :: r.map fun x => (sep, Word.ident x)

theorem hexItems_text (sep : List Nat) (cs : List (List Nat)) (X : List Nat) :
    32 :: (joinWith sep cs ++ X) = itemsText (hexItems sep cs) ((if cs = [] then [32] else []) ++ X) := by
  cases cs with
  | nil => simp [joinWith, hexItems, itemsText]
  | cons c r =>
    have := joinWith_items sep [32] (.ident c) (r.map Word.ident) X
    simpa [hexItems, Word.text, List.map_map, Function.comp_def] using this

def genericMarker : List Nat := [92, 35]

theorem marker_token : (identToken genericMarker).isIdentifier = true ∧ (identToken genericMarker).value = [92, 35] :=
  ⟨rfl, rfl⟩

/-- the text after the `\#` marker: length, then the hex words under the style's chunking -/
def genericTail (d : Bytes) (chunk : Nat) (sep : List Nat) (X : List Nat) : List Nat :=
  32 :: (natToDec d.length ++ (32 :: (wordbreak (hexlify d) chunk sep ++ X)))

theorem hexItems_ok (sep : List Nat) (hsep : SepOK sep) (cs : List (List Nat))
    (h : ∀ c ∈ cs, c ≠ [] ∧ ∀ x ∈ c, isHexChar x = true) :
    ItemsOK (hexItems sep cs) ∧ PlainIdents (hexItems sep cs) ∧
      (hexItems sep cs).flatMap (fun p => wordValue p.2) = cs.flatten := by
  have hword : ∀ b, SepOK b → ∀ c ∈ cs, (SepOK b ∧ (Word.ident c).ok = true) ∧ ∃ w, Word.ident c = .ident w ∧ hasEsc w = false :=
    fun b hb c hc => ⟨⟨hb, by simp [Word.ok, (hexWord_ok c (h c hc).2).1, (h c hc).1]⟩, c, rfl, (hexWord_ok c (h c hc).2).2⟩
  cases cs with
  | nil => simp [hexItems, ItemsOK, PlainIdents]
  | cons c r =>
    have hall : ∀ p ∈ hexItems sep (c :: r), (SepOK p.1 ∧ p.2.ok = true) ∧ ∃ w, p.2 = .ident w ∧ hasEsc w = false := by
      intro p hp
      simp only [hexItems, List.mem_cons, List.mem_map] at hp
      rcases hp with rfl | ⟨x, hx, rfl⟩
      · exact hword _ ⟨sp_blank, by simp⟩ c (by simp)
      · exact hword _ hsep x (by simp [hx])
    refine ⟨fun p hp => (hall p hp).1, fun p hp => (hall p hp).2, ?_⟩
    simp only [hexItems, List.flatMap_cons, List.flatten_cons, List.flatMap_map, wordValue, List.flatMap_id']

/-- the blank `bE` in front of the line end is the one `to_text` leaves when there is no data at all -/
theorem genericTail_items (d : Bytes) (chunk : Nat) (sep : List Nat) (hsep : SepOK sep) (X : List Nat) :
    ∃ items bE, ItemsOK items ∧ PlainIdents items ∧ items.flatMap (fun p => wordValue p.2) = hexlify d ∧ Blank bE ∧
      genericTail d chunk sep X = 32 :: (natToDec d.length ++ itemsText items (bE ++ X)) := by
  obtain ⟨hflat, hprops⟩ := hexWords_props (hexlify d) chunk
  obtain ⟨iok, ipl, ival⟩ := hexItems_ok sep hsep (hexWords (hexlify d) chunk)
    fun c hc => ⟨(hprops c hc).1, fun x hx => hexlify_hex d x ((hprops c hc).2 x hx)⟩
  refine ⟨_, if hexWords (hexlify d) chunk = [] then [32] else [], iok, ipl, ival.trans hflat, ?_, ?_⟩
  · split
    · exact sp_blank
    · exact blank_nil
  · unfold genericTail
    rw [wordbreak_words, hexItems_text]

theorem concatRemaining_text (items : List (List Nat × Word)) (hok : ItemsOK items) (hpl : PlainIdents items)
    (bE : List Nat) (hb : Blank bE) (kc : Option (List Nat)) (hc : ∀ t ∈ kc, 10 ∉ t) (rest : List Nat) :
    (after 0 false (itemsText items (bE ++ (lineEnd kc ++ rest)))).concatRemaining true =
      .ok (items.flatMap (fun p => wordValue p.2), { after 0 false rest with ungotten := some (eolToken kc) }) := by
  have := concatRemaining_items items hok hpl bE hb kc hc rest ((itemsText items (bE ++ (lineEnd kc ++ rest))).length + 2)
    (by have := itemsText_length items hok (bE ++ (lineEnd kc ++ rest)); omega) []
  simpa [TState.concatRemaining, after] using this

/-- `GenericRdata.from_text` once the marker has been read -/
theorem genericFromText_ok (s : TState) (d : Bytes) (hd : ∀ x ∈ d, x < 256) (chunk : Nat) (sep : List Nat)
    (hsep : SepOK sep) (kc : Option (List Nat)) (hc : ∀ t ∈ kc, 10 ∉ t) (rest : List Nat)
    (hget : s.get = .ok (identToken genericMarker, after 0 false (genericTail d chunk sep (lineEnd kc ++ rest)))) :
    genericFromText s = .ok (d, { after 0 false rest with ungotten := some (eolToken kc) }) := by
  obtain ⟨items, bE, iok, ipl, ival, hbE, htail⟩ := genericTail_items d chunk sep hsep (lineEnd kc ++ rest)
  obtain ⟨t1, t2⟩ := natToDec_token d.length
  have hg2 := get_sp _ _ t1 t2 (itemsText_startsDelim items iok bE hbE kc rest)
  rw [← htail] at hg2
  unfold genericFromText
  simp only [bind, Except.bind, liftT, hget, marker_token, and_self,
    getInt_of_get _ _ _ hg2, concatRemaining_text items iok ipl bE hbE kc hc rest, ival, unhexlify_hexlify d hd]
  simp [pure, Except.pure]

theorem getEol_ungot_eol (rest : List Nat) (kc : Option (List Nat)) :
    ({ after 0 false rest with ungotten := some (eolToken kc) } : TState).getEol = .ok (eolToken kc, after 0 false rest) := by
  simp [TState.getEol, bind, Except.bind, TState.get, eolToken, Token.isEolOrEof, after, pure, Except.pure]

theorem generic_first (b : List Nat) (d : Bytes) (chunk : Nat) (sep : List Nat) (kc : Option (List Nat)) (rest : List Nat)
    (hb : Blank b) :
    (after 0 false ((b ++ (genericMarker ++ genericTail d chunk sep (lineEnd kc))) ++ rest)).get =
      .ok (identToken genericMarker, after 0 false (genericTail d chunk sep (lineEnd kc ++ rest))) := by
  have e : (b ++ (genericMarker ++ genericTail d chunk sep (lineEnd kc))) ++ rest =
      b ++ (genericMarker ++ genericTail d chunk sep (lineEnd kc ++ rest)) := by
    simp [genericTail, List.append_assoc]
  rw [e]
  exact get_blank_ident b genericMarker _ hb (by decide) (by decide) (sp_startsDelim _)

/-- what the round trip needs from `dns.rdata._escaped` (checked on the generated constant) -/
def RdEscOK (esc : List Nat) : Prop := 34 ∈ esc ∧ 92 ∈ esc ∧ ∀ d ∈ esc, d < 128 ∧ isDecimal d = false

instance (esc : List Nat) : Decidable (RdEscOK esc) := by unfold RdEscOK; exact inferInstance

theorem rdEscOK_generated : RdEscOK ConstsC09.rdataEscaped := by decide

theorem utf8_ascii (c : Nat) (h : c < 128) : utf8 c = [c] := by simp [utf8, h]

theorem unescapeWith_plain (enc : Nat → List Nat) (c : Nat) (rest r : List Nat) (h : c ≠ 92)
    (hr : unescapeWith enc rest = .ok r) : unescapeWith enc (c :: rest) = .ok (enc c ++ r) := by
  rw [unescapeWith.eq_def]
  simp only [h, if_false, hr]

theorem unescapeWith_esc (enc : Nat → List Nat) (c : Nat) (rest r : List Nat) (h : isDecimal c = false)
    (hr : unescapeWith enc rest = .ok r) : unescapeWith enc (92 :: c :: rest) = .ok (enc c ++ r) := by
  rw [unescapeWith.eq_def]
  simp only [if_true, h, Bool.false_eq_true, if_false, hr]

theorem unescapeWith_ddd (enc : Nat → List Nat) (a b c : Nat) (rest r : List Nat) (ha : a < 10) (hb : b < 10) (hc : c < 10)
    (h : a * 100 + b * 10 + c ≤ 255) (hr : unescapeWith enc rest = .ok r) :
    unescapeWith enc (92 :: (48 + a) :: (48 + b) :: (48 + c) :: rest) = .ok ((a * 100 + b * 10 + c) :: r) := by
  have d : ∀ x, x < 10 → isDecimal (48 + x) = true := fun x hx => by simp [isDecimal]; omega
  rw [unescapeWith, if_pos rfl]
  simp only [d a ha, d b hb, d c hc, if_true, Bool.and_self, Bool.not_true, Bool.false_eq_true, if_false,
    Nat.add_sub_cancel_left, Nat.not_lt.mpr h, hr]

/-- the three spellings of an octet: `\c` for the characters of `dns.rdata._escaped` (none of them a digit), the
character itself when printable, else `\DDD` -/
theorem rdEscOctet_cases (c : Nat) :
    (rdEscOctet c = [92, c] ∧ c < 128 ∧ isDecimal c = false) ∨
    (rdEscOctet c = [c] ∧ c ≠ 92 ∧ c ≠ 34 ∧ 32 ≤ c ∧ c < 127) ∨
    rdEscOctet c = [92, 48 + c / 100, 48 + c / 10 % 10, 48 + c % 10] := by
  obtain ⟨h34, h92, hall⟩ := rdEscOK_generated
  unfold rdEscOctet
  split
  · rename_i hm
    exact Or.inl ⟨rfl, hall c (by simpa using hm)⟩
  · rename_i hm
    have hm' : c ∉ ConstsC09.rdataEscaped := by simpa using hm
    split
    · rename_i hp
      exact Or.inr (Or.inl ⟨rfl, fun e => hm' (e ▸ h92), fun e => hm' (e ▸ h34), hp.1, hp.2⟩)
    · exact Or.inr (Or.inr rfl)

theorem unescape_rdEscOctet (c : Nat) (hc : c < 256) (rest r : List Nat)
    (hr : unescapeWith utf8 rest = .ok r) : unescapeWith utf8 (rdEscOctet c ++ rest) = .ok (c :: r) := by
  rcases rdEscOctet_cases c with ⟨e, h1, h2⟩ | ⟨e, h1, _, _, h4⟩ | e <;> rw [e]
  · exact (unescapeWith_esc utf8 c rest r h2 hr).trans (by rw [utf8_ascii c h1]; rfl)
  · exact (unescapeWith_plain utf8 c rest r h1 hr).trans (by rw [utf8_ascii c (by omega)]; rfl)
  · have := unescapeWith_ddd utf8 (c / 100) (c / 10 % 10) (c % 10) rest r (by omega) (by omega) (by omega) (by omega) hr
    rwa [show c / 100 * 100 + c / 10 % 10 * 10 + c % 10 = c by omega] at this

theorem unescape_rdEscapify (s : Bytes) (hs : ∀ c ∈ s, c < 256) : unescapeWith utf8 (rdEscapify s) = .ok s := by
  induction s with
  | nil => rfl
  | cons c r ih =>
    have : rdEscapify (c :: r) = rdEscOctet c ++ rdEscapify r := by simp [rdEscapify]
    rw [this]
    exact unescape_rdEscOctet c (hs c (by simp)) _ _ (ih (fun x hx => hs x (by simp [hx])))

theorem quotedOK_rdEscOctet (c : Nat) (rest : List Nat) :
    quotedOK (rdEscOctet c ++ rest) = quotedOK rest := by
  rcases rdEscOctet_cases c with ⟨e, _⟩ | ⟨e, h1, h2, h3, _⟩ | e <;> rw [e]
  · exact quotedOK_esc c rest
  · have h10 : c ≠ 10 := by omega
    simp [quotedOK_plain c _ h1, h2, h10]
  · -- `\D`, then two digits, which are ordinary characters
    have d : ∀ x, x < 10 → (48 + x ≠ 34 ∧ 48 + x ≠ 10) := fun x _ => by omega
    simp only [List.cons_append, List.nil_append, quotedOK_esc]
    rw [quotedOK_plain _ _ (by omega), quotedOK_plain _ _ (by omega)]
    simp [d (c / 10 % 10) (by omega), d (c % 10) (by omega)]

theorem quotedOK_rdEscapify (s : Bytes) : quotedOK (rdEscapify s) = true := by
  induction s with
  | nil => rfl
  | cons c r ih =>
    have : rdEscapify (c :: r) = rdEscOctet c ++ rdEscapify r := by simp [rdEscapify]
    rw [this, quotedOK_rdEscOctet c, ih]

/-- the quoted word of one string -/
def txtWord (s : Bytes) : Word := .quoted (rdEscapify s)

theorem txtString_word (s : Bytes) (hs : ∀ c ∈ s, c < 256) (hl : s.length ≤ 255) :
    txtString (txtWord s).token = .ok s := by
  have hl' : ¬ s.length > 255 := by omega
  simp [txtString, txtWord, Word.token, Token.unescapeToBytes, unescape_rdEscapify s hs, liftT, bind, Except.bind, hl',
    pure, Except.pure]

theorem mapM_txt (ss : List Bytes) (hs : ∀ s ∈ ss, (∀ c ∈ s, c < 256) ∧ s.length ≤ 255) :
    (ss.map fun s => (txtWord s).token).mapM txtString = .ok ss := by
  induction ss with
  | nil => rfl
  | cons s r ih =>
    obtain ⟨h1, h2⟩ := hs s (by simp)
    simp only [List.map_cons, List.mapM_cons, bind, Except.bind, txtString_word s h1 h2,
      ih (fun x hx => hs x (by simp [hx])), pure, Except.pure]

def txtQuote (s : Bytes) : List Nat := [34] ++ rdEscapify s ++ [34]

theorem txtWord_text (s : Bytes) : (txtWord s).text = txtQuote s := by
  simp [txtWord, Word.text, txtQuote]

def txtMore (more : List Bytes) : List (List Nat × Word) := more.map fun s => ([32], txtWord s)

theorem txtMore_text (s1 : Bytes) (more : List Bytes) (X : List Nat) :
    joinWith [32] ((s1 :: more).map txtQuote) ++ X = txtQuote s1 ++ itemsText (txtMore more) X := by
  have := joinWith_items [32] [] (txtWord s1) (more.map txtWord) X
  simpa [itemsText, txtMore, txtWord_text, List.map_map, Function.comp_def] using this

theorem txtMore_ok (more : List Bytes) : ItemsOK (txtMore more) := by
  intro p hp
  simp only [txtMore, List.mem_map] at hp
  obtain ⟨s, _, rfl⟩ := hp
  exact ⟨⟨sp_blank, by simp⟩, by simp [txtWord, Word.ok, quotedOK_rdEscapify s]⟩

/-- `get_remaining()` on the strings of a TXT record, the first one put back by the peek of `from_text` -/
theorem getRemaining_txt (s1 : Bytes) (more : List Bytes) (kc : Option (List Nat)) (hc : ∀ t ∈ kc, 10 ∉ t)
    (rest : List Nat) :
    ({ after 0 true (itemsText (txtMore more) (lineEnd kc ++ rest)) with
        ungotten := some (txtWord s1).token } : TState).getRemaining =
      .ok ((s1 :: more).map (fun s => (txtWord s).token), { after 0 false rest with ungotten := some (eolToken kc) }) := by
  have hok := txtMore_ok more
  have hlen := itemsText_length (txtMore more) hok (lineEnd kc ++ rest)
  have hgu := get_ungot (after 0 true (itemsText (txtMore more) (lineEnd kc ++ rest))) (txtWord s1).token rfl
    (by simp [txtWord, Word.token]) (by simp [txtWord, Word.token])
  unfold TState.getRemaining
  -- one unit of fuel for the string put back; what is left covers the others
  rw [show ({ after 0 true (itemsText (txtMore more) (lineEnd kc ++ rest)) with
        ungotten := some (txtWord s1).token } : TState).input.length + 2 =
      ((itemsText (txtMore more) (lineEnd kc ++ rest)).length + 2) + 1 by simp [after]]
  generalize hF : (itemsText (txtMore more) (lineEnd kc ++ rest)).length + 2 = F
  simp only [getRemainingAux, bind, Except.bind, hgu, Word.token_not_eol, Bool.false_eq_true, if_false]
  have h := getRemaining_items (txtMore more) hok [] blank_nil kc hc rest true F (by omega)
  rw [List.nil_append] at h
  rw [h]
  simp [txtMore, List.map_map, Function.comp_def]

end Model
