import Model.ZoneFile
import Proofs.TokenizerTTL
/-!
The text functions of `$GENERATE`: `_format_index` (zero fill to a width; decimal, negative indices, and what the digits of
the bases `o`, `x`, `X` denote), `_parse_modify` on the two usual shapes of a side (`…$…` and `…${offset,width,base}…`),
`str.replace`, and the range `start-stop[/step]` of `dns.grange.from_text`.
-/
namespace Model

/-! ## `_format_index`

`format(index, base)` writes the digits of `|index|` in radix 10 / 8 / 16 (`toBaseAux`); `zfill` puts zeros in front of
an unsigned text.  What is said of one radix is said of all. -/

theorem digitChar_not_sign (u : Bool) (d : Nat) : digitChar u d ≠ 45 ∧ digitChar u d ≠ 43 := by
  unfold digitChar
  cases u <;> by_cases h10 : d < 10 <;> simp [h10] <;> omega

theorem toBaseAux_head (b : Nat) (hb : 2 ≤ b) (u : Bool) (f n : Nat) (acc : List Nat) (hf : n < f)
    (hacc : acc.head? ≠ some 45 ∧ acc.head? ≠ some 43) :
    (toBaseAux b u f n acc).head? ≠ some 45 ∧ (toBaseAux b u f n acc).head? ≠ some 43 ∧ toBaseAux b u f n acc ≠ [] := by
  induction f generalizing n acc with
  | zero => omega
  | succ f ih =>
    unfold toBaseAux
    by_cases h : n < b
    · have := digitChar_not_sign u n
      simp [h, this.1, this.2]
    · simp only [h, if_false]
      have hn : n / b < f := by
        have : n / b < n := Nat.div_lt_self (by omega) (by omega)
        omega
      have := digitChar_not_sign u (n % b)
      exact ih (n / b) _ hn (by simp [this.1, this.2])

/-- `str.zfill` on an unsigned string -/
theorem zfill_unsigned (s : List Nat) (w : Nat) (h1 : s.head? ≠ some 45) (h2 : s.head? ≠ some 43) :
    zfill s w = List.replicate (w - s.length) 48 ++ s := by
  unfold zfill
  by_cases hl : s.length ≥ w
  · have : w - s.length = 0 := by omega
    simp [hl, this]
  · simp only [hl, if_false]
    split
    · rename_i r; simp at h1
    · rename_i r; simp at h2
    · rfl

/-- the radix of a positional base letter: `d` ↦ 10, `o` ↦ 8, `x` / `X` ↦ 16 -/
def baseRadix (base : Nat) : Nat := if base = 100 then 10 else if base = 111 then 8 else 16

theorem baseRadix_bounds (base : Nat) : 2 ≤ baseRadix base ∧ baseRadix base ≤ 16 := by
  unfold baseRadix; repeat' split
  all_goals decide

theorem formatInt_nat (base n : Nat) :
    formatInt (n : Int) base = toBaseAux (baseRadix base) (base = 88) (n + 1) n [] := by
  have := (baseRadix_bounds base).1
  unfold baseRadix at this
  simp [formatInt, baseRadix, Nat.not_lt.mpr this]

/-- a non-negative index in a positional base: its digits, zero-filled on the left up to the width -/
theorem formatIndex_nat (base n w : Nat) (hb : [100, 111, 120, 88].contains base = true) :
    formatIndex (n : Int) base w =
      List.replicate (w - (formatInt (n : Int) base).length) 48 ++ formatInt (n : Int) base := by
  obtain ⟨h1, h2, _⟩ := toBaseAux_head (baseRadix base) (baseRadix_bounds base).1 (base = 88) (n + 1) n [] (by omega) (by simp)
  unfold formatIndex
  rw [if_pos hb, formatInt_nat]
  exact zfill_unsigned _ _ h1 h2

/-! ### decimal: radix 10 is `str(n)` -/

theorem toBaseAux_dec (f n : Nat) (acc : List Nat) : toBaseAux 10 false f n acc = decAux f n acc := by
  induction f generalizing n acc with
  | zero => rfl
  | succ f ih =>
    unfold toBaseAux decAux
    by_cases h : n < 10
    · simp [h, digitChar]
    · have h2 : n % 10 < 10 := Nat.mod_lt _ (by decide)
      simp [h, digitChar, h2, ih]

/-- `format(n, "d")` for a non-negative index is its decimal text -/
theorem formatInt_dec (n : Nat) : formatInt (n : Int) 100 = natToDec n := by
  rw [formatInt_nat, natToDec, ← toBaseAux_dec]; rfl

theorem formatInt_dec_neg (n : Nat) : formatInt (-((n : Int) + 1)) 100 = 45 :: natToDec (n + 1) := by
  unfold formatInt natToDec
  have ha : (-((n : Int) + 1)).natAbs = n + 1 := by omega
  simp [ha, toBaseAux_dec]

theorem natToDec_head (n : Nat) : (natToDec n).head? ≠ some 45 ∧ (natToDec n).head? ≠ some 43 := by
  have := toBaseAux_head 10 (by decide) false (n + 1) n [] (by omega) (by simp)
  rw [toBaseAux_dec] at this
  exact ⟨this.1, this.2.1⟩

theorem formatIndex_dec (n w : Nat) :
    formatIndex (n : Int) 100 w = List.replicate (w - (natToDec n).length) 48 ++ natToDec n := by
  rw [formatIndex_nat 100 n w rfl, formatInt_dec]

theorem digitsVal_zeros (k : Nat) (ds : List Nat) :
    digitsVal (List.replicate k 48 ++ ds) 0 = digitsVal ds 0 := by
  induction k with
  | zero => rfl
  | succ k ih => simpa [List.replicate_succ, digitsVal] using ih

theorem formatIndex_dec_value (n w : Nat) :
    digitsVal (formatIndex (n : Int) 100 w) 0 = n ∧ w ≤ (formatIndex (n : Int) 100 w).length ∧
    (formatIndex (n : Int) 100 w).all isDecimal = true := by
  rw [formatIndex_dec]
  refine ⟨by rw [digitsVal_zeros, digitsVal_natToDec], by simp; omega, ?_⟩
  simp only [List.all_append, natToDec_all, Bool.and_true, List.all_replicate]
  simp [isDecimal]

/-! ### what the digits of radix 8 / 16 denote -/

/-- the value of a digit character `0-9a-fA-F` -/
def charDigit (c : Nat) : Nat :=
  if 48 ≤ c ∧ c ≤ 57 then c - 48 else if 97 ≤ c ∧ c ≤ 102 then c - 87 else if 65 ≤ c ∧ c ≤ 70 then c - 55 else 0

/-- the number a digit string denotes in radix `b` (`int(s, b)`) -/
def radixVal (b : Nat) : List Nat → Nat → Nat
  | [], acc => acc
  | c :: cs, acc => radixVal b cs (acc * b + charDigit c)

/-- the sixteen digits in either case: a table, checked entry by entry -/
theorem charDigit_digitChar (u : Bool) (d : Nat) (h : d < 16) : charDigit (digitChar u d) = d := by
  revert u d
  decide

theorem radixVal_toBaseAux (b : Nat) (hb : 2 ≤ b) (hb16 : b ≤ 16) (u : Bool) (f n : Nat) (acc : List Nat) (hf : n < f) :
    radixVal b (toBaseAux b u f n acc) 0 = radixVal b acc n := by
  induction f generalizing n acc with
  | zero => omega
  | succ f ih =>
    unfold toBaseAux
    by_cases h : n < b
    · simp only [h, if_true, radixVal, Nat.zero_mul, Nat.zero_add]
      rw [charDigit_digitChar u n (by omega)]
    · simp only [h, if_false]
      have hdiv : n / b < f := by
        have : n / b < n := Nat.div_lt_self (by omega) (by omega)
        omega
      rw [ih (n / b) _ hdiv]
      simp only [radixVal]
      rw [charDigit_digitChar u (n % b) (by have := Nat.mod_lt n (show b > 0 by omega); omega)]
      rw [Nat.div_add_mod' n b]

theorem radixVal_zeros (b k : Nat) (ds : List Nat) : radixVal b (List.replicate k 48 ++ ds) 0 = radixVal b ds 0 := by
  induction k with
  | zero => rfl
  | succ k ih => simpa [List.replicate_succ, radixVal, charDigit] using ih

/-- the radix of a modifier base letter: `o` ↦ 8, `x`/`X` ↦ 16 -/
def radixOf (base : Nat) : Nat := if base = 111 then 8 else 16

/-! ## `str.replace` with a single occurrence -/

theorem take_ne_of_head (old : List Nat) (c : Nat) (cs : List Nat) (h : c ≠ 36) :
    ¬ ((36 :: old) ≠ [] ∧ (c :: cs).take (36 :: old).length = 36 :: old) := by
  intro ⟨_, h2⟩
  simp only [List.length_cons, List.take_succ_cons, List.cons.injEq] at h2
  exact h h2.1

theorem replaceAll_none (old new : List Nat) (fuel : Nat) (l : List Nat) (h : 36 ∉ l) :
    replaceAll (36 :: old) new fuel l = l := by
  induction fuel generalizing l with
  | zero => rfl
  | succ f ih =>
    cases l with
    | nil => rfl
    | cons c cs =>
      have hc : c ≠ 36 := fun e => h (by simp [e])
      have hcs : 36 ∉ cs := fun e => h (by simp [e])
      simp only [replaceAll, take_ne_of_head old c cs hc, if_false, ih cs hcs]

theorem replaceAll_one (old new pre post : List Nat) (fuel : Nat) (hpre : 36 ∉ pre) (hpost : 36 ∉ post)
    (hf : pre.length < fuel) :
    replaceAll (36 :: old) new fuel (pre ++ ((36 :: old) ++ post)) = pre ++ (new ++ post) := by
  induction pre generalizing fuel with
  | nil =>
    cases fuel with
    | zero => simp at hf
    | succ f =>
      have ht : ((36 :: old) ++ post).take (36 :: old).length = 36 :: old := by simp
      have hd : ((36 :: old) ++ post).drop (36 :: old).length = post := by simp
      simp only [List.nil_append, List.cons_append] at ht hd ⊢
      simp only [replaceAll, ne_eq, reduceCtorEq, not_false_eq_true, ht, and_self, if_true, hd,
        replaceAll_none old new f post hpost]
  | cons c r ih =>
    cases fuel with
    | zero => simp at hf
    | succ f =>
      have hc : c ≠ 36 := fun e => hpre (by simp [e])
      have hr : 36 ∉ r := fun e => hpre (by simp [e])
      simp only [List.cons_append, replaceAll, take_ne_of_head old c _ hc, if_false]
      have := ih f hr (by simpa using hf)
      simp only [List.cons_append] at this
      rw [this]

/-- a side with one `$`, followed by the text of the modifier group (empty when there is none): the `$` and the group
become the formatted index -/
theorem substIndex_one (pre post : List Nat) (m : Modify) (i : Nat) (hpre : 36 ∉ pre) (hpost : 36 ∉ post) :
    substIndex (pre ++ 36 :: (m.mod ++ post)) m i =
      pre ++ (formatIndex (if m.sign = 45 then (i : Int) - m.offset else (i : Int) + m.offset) m.base m.width ++ post) := by
  have := replaceAll_one m.mod (formatIndex (if m.sign = 45 then (i : Int) - m.offset else (i : Int) + m.offset) m.base m.width)
    pre post ((pre ++ 36 :: (m.mod ++ post)).length + 1) hpre hpost (by simp; omega)
  simpa [substIndex, List.append_assoc] using this

/-! ## `_parse_modify` -/

theorem lastMod_none (shape : Nat) (l : List Nat) (h : 36 ∉ l) : lastMod shape l = none := by
  induction l with
  | nil => rfl
  | cons c cs ih =>
    have hc : c ≠ 36 := fun e => h (by simp [e])
    simp [lastMod, ih (fun e => h (by simp [e])), hc]

/-- with a single `$` in the side, the regular expression can only match right after it -/
theorem lastMod_single (shape : Nat) (pre tail : List Nat) (hpre : 36 ∉ pre) (htail : 36 ∉ tail) :
    lastMod shape (pre ++ 36 :: tail) = modAt shape tail := by
  induction pre with
  | nil => simp [lastMod, lastMod_none shape tail htail]
  | cons c r ih =>
    have hc : c ≠ 36 := fun e => hpre (by simp [e])
    simp only [List.cons_append, lastMod, ih (fun e => hpre (by simp [e]))]
    cases modAt shape tail <;> simp [hc]

theorem modAt_no_brace (shape : Nat) (l : List Nat) (h : l.head? ≠ some 123) : modAt shape l = none := by
  unfold modAt modHead
  cases l with
  | nil => rfl
  | cons c cs =>
    have : c ≠ 123 := by simpa using h
    split
    · rename_i heq
      split at heq
      · rename_i h2; simp at h2; exact absurd h2.1 this
      · rfl
    · rename_i heq
      split at heq
      · rename_i h2; simp at h2; exact absurd h2.1 this
      · cases heq

def signText (neg : Bool) : List Nat := if neg then [45] else []

/-- text of the group after the `$` -/
def modText (neg : Bool) (o w b : Nat) : List Nat :=
  123 :: (signText neg ++ (natToDec o ++ (44 :: (natToDec w ++ [44, b, 125]))))

theorem span_loop_decimal (ds : List Nat) (c : Nat) (X acc : List Nat) (hds : ds.all isDecimal = true)
    (hc : isDecimal c = false) :
    List.span.loop isDecimal (ds ++ c :: X) acc = (acc.reverse ++ ds, c :: X) := by
  induction ds generalizing acc with
  | nil => simp [List.span.loop, hc]
  | cons d r ih =>
    simp only [List.all_cons, Bool.and_eq_true] at hds
    simp only [List.cons_append, List.span.loop, hds.1, ih (d :: acc) hds.2]
    simp

theorem span_decimal (ds : List Nat) (c : Nat) (X : List Nat) (hds : ds.all isDecimal = true) (hc : isDecimal c = false) :
    (ds ++ c :: X).span isDecimal = (ds, c :: X) := by
  unfold List.span
  rw [span_loop_decimal ds c X [] hds hc]
  simp

theorem modHead_text (neg : Bool) (o : Nat) (c : Nat) (X : List Nat) (hc : isDecimal c = false) :
    modHead (123 :: (signText neg ++ (natToDec o ++ c :: X))) = some (signText neg, natToDec o, c :: X) := by
  have hsp := span_decimal (natToDec o) c X (natToDec_all o) hc
  cases neg with
  | true => simp [modHead, signText, spanDigits, hsp, natToDec_ne_nil]
  | false =>
    have hne := natToDec_ne_nil o
    have hh := natToDec_head o
    cases hd : natToDec o with
    | nil => exact absurd hd hne
    | cons d r =>
      rw [hd] at hsp hh
      have h43 : d ≠ 43 := by simpa using hh.2
      have h45 : d ≠ 45 := by simpa using hh.1
      simp only [signText, Bool.false_eq_true, if_false, List.nil_append, List.cons_append, modHead]
      split
      · rename_i heq; simp at heq; exact absurd heq.1 h43
      · rename_i heq; simp at heq; exact absurd heq.1 h45
      · have hsp' : List.span isDecimal (d :: (r ++ c :: X)) = (d :: r, c :: X) := by simpa using hsp
        simp [spanDigits, hsp']

theorem modAt_full (neg : Bool) (o w b : Nat) (post : List Nat) (hb : b ≠ 10) :
    modAt 1 (modText neg o w b ++ post) =
      some { mod := modText neg o w b, sign := if neg then 45 else 43, offset := o, width := w, base := b } := by
  have h44 : isDecimal 44 = false := by decide
  have e : modText neg o w b ++ post = 123 :: (signText neg ++ (natToDec o ++ 44 :: (natToDec w ++ 44 :: b :: 125 :: post))) := by
    simp [modText, List.append_assoc]
  rw [e]
  unfold modAt
  rw [modHead_text neg o 44 _ h44]
  have hsp := span_decimal (natToDec w) 44 (b :: 125 :: post) (natToDec_all w) h44
  simp only [spanDigits, hsp, natToDec_ne_nil, if_false, hb, digitsVal_natToDec]
  cases neg <;> simp [signText, modText, List.append_assoc]

theorem modText_no_dollar (neg : Bool) (o w b : Nat) (hb : b ≠ 36) : 36 ∉ modText neg o w b := by
  intro h
  simp only [modText, signText, List.mem_cons, List.mem_append] at h
  have hd : ∀ n, 36 ∉ natToDec n := fun n hm => by have := natToDec_digit hm; omega
  rcases h with h | h | h | h | h | h
  · omega
  · cases neg <;> simp at h
  · exact hd o h
  · omega
  · exact hd w h
  · simp at h; omega

/-! ## `dns.grange.from_text` on `start-stop[/step]` -/

theorem grangeLoop_digits (ds rest : List Nat) (start stop : Option Nat) (cur : List Nat) (st : Nat)
    (h : ds.all isDecimal = true) :
    grangeLoop (ds ++ rest) start stop cur st = grangeLoop rest start stop (cur ++ ds) st := by
  induction ds generalizing cur with
  | nil => simp
  | cons d r ih =>
    simp only [List.all_cons, Bool.and_eq_true] at h
    have hd : 48 ≤ d ∧ d ≤ 57 := by simpa [isDecimal] using h.1
    have h45 : d ≠ 45 := by omega
    have h47 : d ≠ 47 := by omega
    simp only [List.cons_append, grangeLoop, h45, false_and, if_false, h47, h.1, if_true]
    rw [ih _ h.2]
    simp

theorem intOfDigits_natToDec (n : Nat) : intOfDigits (natToDec n) = .ok n := by
  simp [intOfDigits, natToDec_ne_nil, digitsVal_natToDec]

/-- the range token `start-stop` or `start-stop/step` -/
theorem grange_range (a b : Nat) (s? : Option Nat) (h : a ≤ b) (hs : ∀ s ∈ s?, 1 ≤ s) :
    grangeFromText (natToDec a ++ 45 :: (natToDec b ++ (match s? with | some s => 47 :: natToDec s | none => []))) =
      .ok (a, b, s?.getD 1) := by
  have hh := natToDec_head a
  -- the loop reads `start` up to the `-` and then the digits of `stop`
  have pre : ∀ X, grangeLoop (natToDec a ++ 45 :: (natToDec b ++ X)) none none [] 0 =
      grangeLoop X (some a) none (natToDec b) 1 := by
    intro X
    rw [grangeLoop_digits _ _ _ _ _ _ (natToDec_all a)]
    simp only [List.nil_append, grangeLoop, true_and, if_true, intOfDigits_natToDec]
    rw [grangeLoop_digits _ _ _ _ _ _ (natToDec_all b)]
    rfl
  unfold grangeFromText
  cases hd : natToDec a with
  | nil => exact absurd hd (natToDec_ne_nil a)
  | cons d r =>
    rw [hd] at hh pre
    have h45 : d ≠ 45 := by simpa using hh.1
    simp only [List.cons_append] at pre ⊢
    split
    · rename_i heq; simp at heq; exact absurd heq.1 h45
    · have h1 : ¬ a > b := by omega
      cases s? with
      | none =>
        dsimp only
        rw [pre []]
        simp [grangeLoop, intOfDigits_natToDec, h1]
      | some s =>
        have h2 : ¬ s < 1 := by have := hs s rfl; omega
        have := grangeLoop_digits (natToDec s) [] (some a) (some b) [] 2 (natToDec_all s)
        simp only [List.append_nil, List.nil_append] at this
        dsimp only
        rw [pre (47 :: natToDec s)]
        simp [grangeLoop, intOfDigits_natToDec, h1, h2, this]

end Model
