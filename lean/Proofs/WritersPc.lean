import Model.Writers
/-! Program-point classes and measures (`lockFuel`, `stageFuel`, `readerFuel`) of the writer-admission model with their
evaluation lemmas, and the control-flow graph of a thread (`succPc`).
  A statement about all program points is checked on the list `Pc.all` (`Pc.forall`). -/
namespace Model.Writers

/-- every program point: a statement about all of them is checked on this list (`Pc.forall`) -/
def Pc.all : List Pc :=
  [.idle, .wInit, .wAcq, .wTest, .wMkTxn, .wClrEv, .wRelA, .wNewEv, .wAppend, .wRelB, .wWait, .wSetupId, .wSetupCopy, .wReturn,
   .wBody, .cAcq, .cAppend, .cPrune, .cNodes, .cUndo, .rAcq, .eTxnNone, .eTestW, .ePop, .eSet, .eRel, .rdAcq, .rdPick, .rdAdd,
   .rdRel, .rdRet, .rdBody, .xAcq, .xRemove, .xPrune, .xRel, .rdFail, .done]

theorem Pc.forall {P : Pc → Prop} [DecidablePred P] (h : Pc.all.all (fun p => decide (P p)) = true) (p : Pc) : P p :=
  of_decide_eq_true (List.all_eq_true.mp h p (by cases p <;> decide))

/-- program points at which the thread holds `_version_lock` -/
def holdsLock : Pc → Bool
  | .wTest | .wMkTxn | .wClrEv | .wRelA | .wNewEv | .wAppend | .wRelB | .cAppend | .cPrune | .cNodes | .cUndo | .eTxnNone | .eTestW | .ePop | .eSet | .eRel | .rdPick | .rdAdd | .rdRel | .rdFail | .xRemove | .xPrune | .xRel => true
  | _ => false

@[simp, grind =] theorem holdsLock_idle : holdsLock .idle = false := rfl
@[simp, grind =] theorem holdsLock_wInit : holdsLock .wInit = false := rfl
@[simp, grind =] theorem holdsLock_wAcq : holdsLock .wAcq = false := rfl
@[simp, grind =] theorem holdsLock_wTest : holdsLock .wTest = true := rfl
@[simp, grind =] theorem holdsLock_wMkTxn : holdsLock .wMkTxn = true := rfl
@[simp, grind =] theorem holdsLock_wClrEv : holdsLock .wClrEv = true := rfl
@[simp, grind =] theorem holdsLock_wRelA : holdsLock .wRelA = true := rfl
@[simp, grind =] theorem holdsLock_wNewEv : holdsLock .wNewEv = true := rfl
@[simp, grind =] theorem holdsLock_wAppend : holdsLock .wAppend = true := rfl
@[simp, grind =] theorem holdsLock_wRelB : holdsLock .wRelB = true := rfl
@[simp, grind =] theorem holdsLock_wWait : holdsLock .wWait = false := rfl
@[simp, grind =] theorem holdsLock_wSetupId : holdsLock .wSetupId = false := rfl
@[simp, grind =] theorem holdsLock_wSetupCopy : holdsLock .wSetupCopy = false := rfl
@[simp, grind =] theorem holdsLock_wReturn : holdsLock .wReturn = false := rfl
@[simp, grind =] theorem holdsLock_wBody : holdsLock .wBody = false := rfl
@[simp, grind =] theorem holdsLock_cAcq : holdsLock .cAcq = false := rfl
@[simp, grind =] theorem holdsLock_cAppend : holdsLock .cAppend = true := rfl
@[simp, grind =] theorem holdsLock_cPrune : holdsLock .cPrune = true := rfl
@[simp, grind =] theorem holdsLock_cNodes : holdsLock .cNodes = true := rfl
@[simp, grind =] theorem holdsLock_cUndo : holdsLock .cUndo = true := rfl
@[simp, grind =] theorem holdsLock_rAcq : holdsLock .rAcq = false := rfl
@[simp, grind =] theorem holdsLock_eTxnNone : holdsLock .eTxnNone = true := rfl
@[simp, grind =] theorem holdsLock_eTestW : holdsLock .eTestW = true := rfl
@[simp, grind =] theorem holdsLock_ePop : holdsLock .ePop = true := rfl
@[simp, grind =] theorem holdsLock_eSet : holdsLock .eSet = true := rfl
@[simp, grind =] theorem holdsLock_eRel : holdsLock .eRel = true := rfl
@[simp, grind =] theorem holdsLock_rdAcq : holdsLock .rdAcq = false := rfl
@[simp, grind =] theorem holdsLock_rdPick : holdsLock .rdPick = true := rfl
@[simp, grind =] theorem holdsLock_rdAdd : holdsLock .rdAdd = true := rfl
@[simp, grind =] theorem holdsLock_rdRel : holdsLock .rdRel = true := rfl
@[simp, grind =] theorem holdsLock_rdFail : holdsLock .rdFail = true := rfl
@[simp, grind =] theorem holdsLock_rdRet : holdsLock .rdRet = false := rfl
@[simp, grind =] theorem holdsLock_rdBody : holdsLock .rdBody = false := rfl
@[simp, grind =] theorem holdsLock_xAcq : holdsLock .xAcq = false := rfl
@[simp, grind =] theorem holdsLock_xRemove : holdsLock .xRemove = true := rfl
@[simp, grind =] theorem holdsLock_xPrune : holdsLock .xPrune = true := rfl
@[simp, grind =] theorem holdsLock_xRel : holdsLock .xRel = true := rfl
@[simp, grind =] theorem holdsLock_done : holdsLock .done = false := rfl

/-- program points at which the thread owns the open write transaction (`_write_txn`) -/
def isOwner : Pc → Bool
  | .wClrEv | .wRelA | .wSetupId | .wSetupCopy | .wReturn | .wBody | .cAcq | .cAppend | .cPrune | .cNodes | .cUndo | .rAcq | .eTxnNone => true
  | _ => false

@[simp, grind =] theorem isOwner_idle : isOwner .idle = false := rfl
@[simp, grind =] theorem isOwner_wInit : isOwner .wInit = false := rfl
@[simp, grind =] theorem isOwner_wAcq : isOwner .wAcq = false := rfl
@[simp, grind =] theorem isOwner_wTest : isOwner .wTest = false := rfl
@[simp, grind =] theorem isOwner_wMkTxn : isOwner .wMkTxn = false := rfl
@[simp, grind =] theorem isOwner_wClrEv : isOwner .wClrEv = true := rfl
@[simp, grind =] theorem isOwner_wRelA : isOwner .wRelA = true := rfl
@[simp, grind =] theorem isOwner_wNewEv : isOwner .wNewEv = false := rfl
@[simp, grind =] theorem isOwner_wAppend : isOwner .wAppend = false := rfl
@[simp, grind =] theorem isOwner_wRelB : isOwner .wRelB = false := rfl
@[simp, grind =] theorem isOwner_wWait : isOwner .wWait = false := rfl
@[simp, grind =] theorem isOwner_wSetupId : isOwner .wSetupId = true := rfl
@[simp, grind =] theorem isOwner_wSetupCopy : isOwner .wSetupCopy = true := rfl
@[simp, grind =] theorem isOwner_wReturn : isOwner .wReturn = true := rfl
@[simp, grind =] theorem isOwner_wBody : isOwner .wBody = true := rfl
@[simp, grind =] theorem isOwner_cAcq : isOwner .cAcq = true := rfl
@[simp, grind =] theorem isOwner_cAppend : isOwner .cAppend = true := rfl
@[simp, grind =] theorem isOwner_cPrune : isOwner .cPrune = true := rfl
@[simp, grind =] theorem isOwner_cNodes : isOwner .cNodes = true := rfl
@[simp, grind =] theorem isOwner_cUndo : isOwner .cUndo = true := rfl
@[simp, grind =] theorem isOwner_rAcq : isOwner .rAcq = true := rfl
@[simp, grind =] theorem isOwner_eTxnNone : isOwner .eTxnNone = true := rfl
@[simp, grind =] theorem isOwner_eTestW : isOwner .eTestW = false := rfl
@[simp, grind =] theorem isOwner_ePop : isOwner .ePop = false := rfl
@[simp, grind =] theorem isOwner_eSet : isOwner .eSet = false := rfl
@[simp, grind =] theorem isOwner_eRel : isOwner .eRel = false := rfl
@[simp, grind =] theorem isOwner_rdAcq : isOwner .rdAcq = false := rfl
@[simp, grind =] theorem isOwner_rdPick : isOwner .rdPick = false := rfl
@[simp, grind =] theorem isOwner_rdAdd : isOwner .rdAdd = false := rfl
@[simp, grind =] theorem isOwner_rdRel : isOwner .rdRel = false := rfl
@[simp, grind =] theorem isOwner_rdFail : isOwner .rdFail = false := rfl
@[simp, grind =] theorem isOwner_rdRet : isOwner .rdRet = false := rfl
@[simp, grind =] theorem isOwner_rdBody : isOwner .rdBody = false := rfl
@[simp, grind =] theorem isOwner_xAcq : isOwner .xAcq = false := rfl
@[simp, grind =] theorem isOwner_xRemove : isOwner .xRemove = false := rfl
@[simp, grind =] theorem isOwner_xPrune : isOwner .xPrune = false := rfl
@[simp, grind =] theorem isOwner_xRel : isOwner .xRel = false := rfl
@[simp, grind =] theorem isOwner_done : isOwner .done = false := rfl

/-- program points of a writer whose event is in the waiter queue -/
def queuedPc : Pc → Bool
  | .wRelB | .wWait => true
  | _ => false

@[simp, grind =] theorem queuedPc_idle : queuedPc .idle = false := rfl
@[simp, grind =] theorem queuedPc_wInit : queuedPc .wInit = false := rfl
@[simp, grind =] theorem queuedPc_wAcq : queuedPc .wAcq = false := rfl
@[simp, grind =] theorem queuedPc_wTest : queuedPc .wTest = false := rfl
@[simp, grind =] theorem queuedPc_wMkTxn : queuedPc .wMkTxn = false := rfl
@[simp, grind =] theorem queuedPc_wClrEv : queuedPc .wClrEv = false := rfl
@[simp, grind =] theorem queuedPc_wRelA : queuedPc .wRelA = false := rfl
@[simp, grind =] theorem queuedPc_wNewEv : queuedPc .wNewEv = false := rfl
@[simp, grind =] theorem queuedPc_wAppend : queuedPc .wAppend = false := rfl
@[simp, grind =] theorem queuedPc_wRelB : queuedPc .wRelB = true := rfl
@[simp, grind =] theorem queuedPc_wWait : queuedPc .wWait = true := rfl
@[simp, grind =] theorem queuedPc_wSetupId : queuedPc .wSetupId = false := rfl
@[simp, grind =] theorem queuedPc_wSetupCopy : queuedPc .wSetupCopy = false := rfl
@[simp, grind =] theorem queuedPc_wReturn : queuedPc .wReturn = false := rfl
@[simp, grind =] theorem queuedPc_wBody : queuedPc .wBody = false := rfl
@[simp, grind =] theorem queuedPc_cAcq : queuedPc .cAcq = false := rfl
@[simp, grind =] theorem queuedPc_cAppend : queuedPc .cAppend = false := rfl
@[simp, grind =] theorem queuedPc_cPrune : queuedPc .cPrune = false := rfl
@[simp, grind =] theorem queuedPc_cNodes : queuedPc .cNodes = false := rfl
@[simp, grind =] theorem queuedPc_cUndo : queuedPc .cUndo = false := rfl
@[simp, grind =] theorem queuedPc_rAcq : queuedPc .rAcq = false := rfl
@[simp, grind =] theorem queuedPc_eTxnNone : queuedPc .eTxnNone = false := rfl
@[simp, grind =] theorem queuedPc_eTestW : queuedPc .eTestW = false := rfl
@[simp, grind =] theorem queuedPc_ePop : queuedPc .ePop = false := rfl
@[simp, grind =] theorem queuedPc_eSet : queuedPc .eSet = false := rfl
@[simp, grind =] theorem queuedPc_eRel : queuedPc .eRel = false := rfl
@[simp, grind =] theorem queuedPc_rdAcq : queuedPc .rdAcq = false := rfl
@[simp, grind =] theorem queuedPc_rdPick : queuedPc .rdPick = false := rfl
@[simp, grind =] theorem queuedPc_rdAdd : queuedPc .rdAdd = false := rfl
@[simp, grind =] theorem queuedPc_rdRel : queuedPc .rdRel = false := rfl
@[simp, grind =] theorem queuedPc_rdFail : queuedPc .rdFail = false := rfl
@[simp, grind =] theorem queuedPc_rdRet : queuedPc .rdRet = false := rfl
@[simp, grind =] theorem queuedPc_rdBody : queuedPc .rdBody = false := rfl
@[simp, grind =] theorem queuedPc_xAcq : queuedPc .xAcq = false := rfl
@[simp, grind =] theorem queuedPc_xRemove : queuedPc .xRemove = false := rfl
@[simp, grind =] theorem queuedPc_xPrune : queuedPc .xPrune = false := rfl
@[simp, grind =] theorem queuedPc_xRel : queuedPc .xRel = false := rfl
@[simp, grind =] theorem queuedPc_done : queuedPc .done = false := rfl

/-- program points of the writer whose event is `_write_event` (the exclusive right to proceed) -/
def tokenPc : Pc → Bool
  | .wWait | .wAcq | .wTest | .wMkTxn | .wClrEv => true
  | _ => false

@[simp, grind =] theorem tokenPc_idle : tokenPc .idle = false := rfl
@[simp, grind =] theorem tokenPc_wInit : tokenPc .wInit = false := rfl
@[simp, grind =] theorem tokenPc_wAcq : tokenPc .wAcq = true := rfl
@[simp, grind =] theorem tokenPc_wTest : tokenPc .wTest = true := rfl
@[simp, grind =] theorem tokenPc_wMkTxn : tokenPc .wMkTxn = true := rfl
@[simp, grind =] theorem tokenPc_wClrEv : tokenPc .wClrEv = true := rfl
@[simp, grind =] theorem tokenPc_wRelA : tokenPc .wRelA = false := rfl
@[simp, grind =] theorem tokenPc_wNewEv : tokenPc .wNewEv = false := rfl
@[simp, grind =] theorem tokenPc_wAppend : tokenPc .wAppend = false := rfl
@[simp, grind =] theorem tokenPc_wRelB : tokenPc .wRelB = false := rfl
@[simp, grind =] theorem tokenPc_wWait : tokenPc .wWait = true := rfl
@[simp, grind =] theorem tokenPc_wSetupId : tokenPc .wSetupId = false := rfl
@[simp, grind =] theorem tokenPc_wSetupCopy : tokenPc .wSetupCopy = false := rfl
@[simp, grind =] theorem tokenPc_wReturn : tokenPc .wReturn = false := rfl
@[simp, grind =] theorem tokenPc_wBody : tokenPc .wBody = false := rfl
@[simp, grind =] theorem tokenPc_cAcq : tokenPc .cAcq = false := rfl
@[simp, grind =] theorem tokenPc_cAppend : tokenPc .cAppend = false := rfl
@[simp, grind =] theorem tokenPc_cPrune : tokenPc .cPrune = false := rfl
@[simp, grind =] theorem tokenPc_cNodes : tokenPc .cNodes = false := rfl
@[simp, grind =] theorem tokenPc_cUndo : tokenPc .cUndo = false := rfl
@[simp, grind =] theorem tokenPc_rAcq : tokenPc .rAcq = false := rfl
@[simp, grind =] theorem tokenPc_eTxnNone : tokenPc .eTxnNone = false := rfl
@[simp, grind =] theorem tokenPc_eTestW : tokenPc .eTestW = false := rfl
@[simp, grind =] theorem tokenPc_ePop : tokenPc .ePop = false := rfl
@[simp, grind =] theorem tokenPc_eSet : tokenPc .eSet = false := rfl
@[simp, grind =] theorem tokenPc_eRel : tokenPc .eRel = false := rfl
@[simp, grind =] theorem tokenPc_rdAcq : tokenPc .rdAcq = false := rfl
@[simp, grind =] theorem tokenPc_rdPick : tokenPc .rdPick = false := rfl
@[simp, grind =] theorem tokenPc_rdAdd : tokenPc .rdAdd = false := rfl
@[simp, grind =] theorem tokenPc_rdRel : tokenPc .rdRel = false := rfl
@[simp, grind =] theorem tokenPc_rdFail : tokenPc .rdFail = false := rfl
@[simp, grind =] theorem tokenPc_rdRet : tokenPc .rdRet = false := rfl
@[simp, grind =] theorem tokenPc_rdBody : tokenPc .rdBody = false := rfl
@[simp, grind =] theorem tokenPc_xAcq : tokenPc .xAcq = false := rfl
@[simp, grind =] theorem tokenPc_xRemove : tokenPc .xRemove = false := rfl
@[simp, grind =] theorem tokenPc_xPrune : tokenPc .xPrune = false := rfl
@[simp, grind =] theorem tokenPc_xRel : tokenPc .xRel = false := rfl
@[simp, grind =] theorem tokenPc_done : tokenPc .done = false := rfl

/-- the private copy has been taken and the body has not run yet -/
def snapAPc : Pc → Bool
  | .wReturn | .wBody => true
  | _ => false

@[simp, grind =] theorem snapAPc_idle : snapAPc .idle = false := rfl
@[simp, grind =] theorem snapAPc_wInit : snapAPc .wInit = false := rfl
@[simp, grind =] theorem snapAPc_wAcq : snapAPc .wAcq = false := rfl
@[simp, grind =] theorem snapAPc_wTest : snapAPc .wTest = false := rfl
@[simp, grind =] theorem snapAPc_wMkTxn : snapAPc .wMkTxn = false := rfl
@[simp, grind =] theorem snapAPc_wClrEv : snapAPc .wClrEv = false := rfl
@[simp, grind =] theorem snapAPc_wRelA : snapAPc .wRelA = false := rfl
@[simp, grind =] theorem snapAPc_wNewEv : snapAPc .wNewEv = false := rfl
@[simp, grind =] theorem snapAPc_wAppend : snapAPc .wAppend = false := rfl
@[simp, grind =] theorem snapAPc_wRelB : snapAPc .wRelB = false := rfl
@[simp, grind =] theorem snapAPc_wWait : snapAPc .wWait = false := rfl
@[simp, grind =] theorem snapAPc_wSetupId : snapAPc .wSetupId = false := rfl
@[simp, grind =] theorem snapAPc_wSetupCopy : snapAPc .wSetupCopy = false := rfl
@[simp, grind =] theorem snapAPc_wReturn : snapAPc .wReturn = true := rfl
@[simp, grind =] theorem snapAPc_wBody : snapAPc .wBody = true := rfl
@[simp, grind =] theorem snapAPc_cAcq : snapAPc .cAcq = false := rfl
@[simp, grind =] theorem snapAPc_cAppend : snapAPc .cAppend = false := rfl
@[simp, grind =] theorem snapAPc_cPrune : snapAPc .cPrune = false := rfl
@[simp, grind =] theorem snapAPc_cNodes : snapAPc .cNodes = false := rfl
@[simp, grind =] theorem snapAPc_cUndo : snapAPc .cUndo = false := rfl
@[simp, grind =] theorem snapAPc_rAcq : snapAPc .rAcq = false := rfl
@[simp, grind =] theorem snapAPc_eTxnNone : snapAPc .eTxnNone = false := rfl
@[simp, grind =] theorem snapAPc_eTestW : snapAPc .eTestW = false := rfl
@[simp, grind =] theorem snapAPc_ePop : snapAPc .ePop = false := rfl
@[simp, grind =] theorem snapAPc_eSet : snapAPc .eSet = false := rfl
@[simp, grind =] theorem snapAPc_eRel : snapAPc .eRel = false := rfl
@[simp, grind =] theorem snapAPc_rdAcq : snapAPc .rdAcq = false := rfl
@[simp, grind =] theorem snapAPc_rdPick : snapAPc .rdPick = false := rfl
@[simp, grind =] theorem snapAPc_rdAdd : snapAPc .rdAdd = false := rfl
@[simp, grind =] theorem snapAPc_rdRel : snapAPc .rdRel = false := rfl
@[simp, grind =] theorem snapAPc_rdFail : snapAPc .rdFail = false := rfl
@[simp, grind =] theorem snapAPc_rdRet : snapAPc .rdRet = false := rfl
@[simp, grind =] theorem snapAPc_rdBody : snapAPc .rdBody = false := rfl
@[simp, grind =] theorem snapAPc_xAcq : snapAPc .xAcq = false := rfl
@[simp, grind =] theorem snapAPc_xRemove : snapAPc .xRemove = false := rfl
@[simp, grind =] theorem snapAPc_xPrune : snapAPc .xPrune = false := rfl
@[simp, grind =] theorem snapAPc_xRel : snapAPc .xRel = false := rfl
@[simp, grind =] theorem snapAPc_done : snapAPc .done = false := rfl

/-- the body has run and the thread is committing (before `self.nodes = version.nodes` has been executed) -/
def commitPc : Pc → Bool
  | .cAcq | .cAppend | .cPrune | .cNodes | .cUndo => true
  | _ => false

@[simp, grind =] theorem commitPc_idle : commitPc .idle = false := rfl
@[simp, grind =] theorem commitPc_wInit : commitPc .wInit = false := rfl
@[simp, grind =] theorem commitPc_wAcq : commitPc .wAcq = false := rfl
@[simp, grind =] theorem commitPc_wTest : commitPc .wTest = false := rfl
@[simp, grind =] theorem commitPc_wMkTxn : commitPc .wMkTxn = false := rfl
@[simp, grind =] theorem commitPc_wClrEv : commitPc .wClrEv = false := rfl
@[simp, grind =] theorem commitPc_wRelA : commitPc .wRelA = false := rfl
@[simp, grind =] theorem commitPc_wNewEv : commitPc .wNewEv = false := rfl
@[simp, grind =] theorem commitPc_wAppend : commitPc .wAppend = false := rfl
@[simp, grind =] theorem commitPc_wRelB : commitPc .wRelB = false := rfl
@[simp, grind =] theorem commitPc_wWait : commitPc .wWait = false := rfl
@[simp, grind =] theorem commitPc_wSetupId : commitPc .wSetupId = false := rfl
@[simp, grind =] theorem commitPc_wSetupCopy : commitPc .wSetupCopy = false := rfl
@[simp, grind =] theorem commitPc_wReturn : commitPc .wReturn = false := rfl
@[simp, grind =] theorem commitPc_wBody : commitPc .wBody = false := rfl
@[simp, grind =] theorem commitPc_cAcq : commitPc .cAcq = true := rfl
@[simp, grind =] theorem commitPc_cAppend : commitPc .cAppend = true := rfl
@[simp, grind =] theorem commitPc_cPrune : commitPc .cPrune = true := rfl
@[simp, grind =] theorem commitPc_cNodes : commitPc .cNodes = true := rfl
@[simp, grind =] theorem commitPc_cUndo : commitPc .cUndo = true := rfl
@[simp, grind =] theorem commitPc_rAcq : commitPc .rAcq = false := rfl
@[simp, grind =] theorem commitPc_eTxnNone : commitPc .eTxnNone = false := rfl
@[simp, grind =] theorem commitPc_eTestW : commitPc .eTestW = false := rfl
@[simp, grind =] theorem commitPc_ePop : commitPc .ePop = false := rfl
@[simp, grind =] theorem commitPc_eSet : commitPc .eSet = false := rfl
@[simp, grind =] theorem commitPc_eRel : commitPc .eRel = false := rfl
@[simp, grind =] theorem commitPc_rdAcq : commitPc .rdAcq = false := rfl
@[simp, grind =] theorem commitPc_rdPick : commitPc .rdPick = false := rfl
@[simp, grind =] theorem commitPc_rdAdd : commitPc .rdAdd = false := rfl
@[simp, grind =] theorem commitPc_rdRel : commitPc .rdRel = false := rfl
@[simp, grind =] theorem commitPc_rdFail : commitPc .rdFail = false := rfl
@[simp, grind =] theorem commitPc_rdRet : commitPc .rdRet = false := rfl
@[simp, grind =] theorem commitPc_rdBody : commitPc .rdBody = false := rfl
@[simp, grind =] theorem commitPc_xAcq : commitPc .xAcq = false := rfl
@[simp, grind =] theorem commitPc_xRemove : commitPc .xRemove = false := rfl
@[simp, grind =] theorem commitPc_xPrune : commitPc .xPrune = false := rfl
@[simp, grind =] theorem commitPc_xRel : commitPc .xRel = false := rfl
@[simp, grind =] theorem commitPc_done : commitPc .done = false := rfl

/-- the version id has been taken and the version has not been appended yet -/
def vidPc : Pc → Bool
  | .wSetupCopy | .wReturn | .wBody | .cAcq | .cAppend => true
  | _ => false

@[simp, grind =] theorem vidPc_idle : vidPc .idle = false := rfl
@[simp, grind =] theorem vidPc_wInit : vidPc .wInit = false := rfl
@[simp, grind =] theorem vidPc_wAcq : vidPc .wAcq = false := rfl
@[simp, grind =] theorem vidPc_wTest : vidPc .wTest = false := rfl
@[simp, grind =] theorem vidPc_wMkTxn : vidPc .wMkTxn = false := rfl
@[simp, grind =] theorem vidPc_wClrEv : vidPc .wClrEv = false := rfl
@[simp, grind =] theorem vidPc_wRelA : vidPc .wRelA = false := rfl
@[simp, grind =] theorem vidPc_wNewEv : vidPc .wNewEv = false := rfl
@[simp, grind =] theorem vidPc_wAppend : vidPc .wAppend = false := rfl
@[simp, grind =] theorem vidPc_wRelB : vidPc .wRelB = false := rfl
@[simp, grind =] theorem vidPc_wWait : vidPc .wWait = false := rfl
@[simp, grind =] theorem vidPc_wSetupId : vidPc .wSetupId = false := rfl
@[simp, grind =] theorem vidPc_wSetupCopy : vidPc .wSetupCopy = true := rfl
@[simp, grind =] theorem vidPc_wReturn : vidPc .wReturn = true := rfl
@[simp, grind =] theorem vidPc_wBody : vidPc .wBody = true := rfl
@[simp, grind =] theorem vidPc_cAcq : vidPc .cAcq = true := rfl
@[simp, grind =] theorem vidPc_cAppend : vidPc .cAppend = true := rfl
@[simp, grind =] theorem vidPc_cPrune : vidPc .cPrune = false := rfl
@[simp, grind =] theorem vidPc_cNodes : vidPc .cNodes = false := rfl
@[simp, grind =] theorem vidPc_cUndo : vidPc .cUndo = false := rfl
@[simp, grind =] theorem vidPc_rAcq : vidPc .rAcq = false := rfl
@[simp, grind =] theorem vidPc_eTxnNone : vidPc .eTxnNone = false := rfl
@[simp, grind =] theorem vidPc_eTestW : vidPc .eTestW = false := rfl
@[simp, grind =] theorem vidPc_ePop : vidPc .ePop = false := rfl
@[simp, grind =] theorem vidPc_eSet : vidPc .eSet = false := rfl
@[simp, grind =] theorem vidPc_eRel : vidPc .eRel = false := rfl
@[simp, grind =] theorem vidPc_rdAcq : vidPc .rdAcq = false := rfl
@[simp, grind =] theorem vidPc_rdPick : vidPc .rdPick = false := rfl
@[simp, grind =] theorem vidPc_rdAdd : vidPc .rdAdd = false := rfl
@[simp, grind =] theorem vidPc_rdRel : vidPc .rdRel = false := rfl
@[simp, grind =] theorem vidPc_rdFail : vidPc .rdFail = false := rfl
@[simp, grind =] theorem vidPc_rdRet : vidPc .rdRet = false := rfl
@[simp, grind =] theorem vidPc_rdBody : vidPc .rdBody = false := rfl
@[simp, grind =] theorem vidPc_xAcq : vidPc .xAcq = false := rfl
@[simp, grind =] theorem vidPc_xRemove : vidPc .xRemove = false := rfl
@[simp, grind =] theorem vidPc_xPrune : vidPc .xPrune = false := rfl
@[simp, grind =] theorem vidPc_xRel : vidPc .xRel = false := rfl
@[simp, grind =] theorem vidPc_done : vidPc .done = false := rfl

/-- owner of the write transaction that has not yet published its nodes -/
def preCommitPc : Pc → Bool
  | .wClrEv | .wRelA | .wSetupId | .wSetupCopy | .wReturn | .wBody | .cAcq | .cAppend | .cPrune | .cNodes | .cUndo => true
  | _ => false

@[simp, grind =] theorem preCommitPc_idle : preCommitPc .idle = false := rfl
@[simp, grind =] theorem preCommitPc_wInit : preCommitPc .wInit = false := rfl
@[simp, grind =] theorem preCommitPc_wAcq : preCommitPc .wAcq = false := rfl
@[simp, grind =] theorem preCommitPc_wTest : preCommitPc .wTest = false := rfl
@[simp, grind =] theorem preCommitPc_wMkTxn : preCommitPc .wMkTxn = false := rfl
@[simp, grind =] theorem preCommitPc_wClrEv : preCommitPc .wClrEv = true := rfl
@[simp, grind =] theorem preCommitPc_wRelA : preCommitPc .wRelA = true := rfl
@[simp, grind =] theorem preCommitPc_wNewEv : preCommitPc .wNewEv = false := rfl
@[simp, grind =] theorem preCommitPc_wAppend : preCommitPc .wAppend = false := rfl
@[simp, grind =] theorem preCommitPc_wRelB : preCommitPc .wRelB = false := rfl
@[simp, grind =] theorem preCommitPc_wWait : preCommitPc .wWait = false := rfl
@[simp, grind =] theorem preCommitPc_wSetupId : preCommitPc .wSetupId = true := rfl
@[simp, grind =] theorem preCommitPc_wSetupCopy : preCommitPc .wSetupCopy = true := rfl
@[simp, grind =] theorem preCommitPc_wReturn : preCommitPc .wReturn = true := rfl
@[simp, grind =] theorem preCommitPc_wBody : preCommitPc .wBody = true := rfl
@[simp, grind =] theorem preCommitPc_cAcq : preCommitPc .cAcq = true := rfl
@[simp, grind =] theorem preCommitPc_cAppend : preCommitPc .cAppend = true := rfl
@[simp, grind =] theorem preCommitPc_cPrune : preCommitPc .cPrune = true := rfl
@[simp, grind =] theorem preCommitPc_cNodes : preCommitPc .cNodes = true := rfl
@[simp, grind =] theorem preCommitPc_cUndo : preCommitPc .cUndo = true := rfl
@[simp, grind =] theorem preCommitPc_rAcq : preCommitPc .rAcq = false := rfl
@[simp, grind =] theorem preCommitPc_eTxnNone : preCommitPc .eTxnNone = false := rfl
@[simp, grind =] theorem preCommitPc_eTestW : preCommitPc .eTestW = false := rfl
@[simp, grind =] theorem preCommitPc_ePop : preCommitPc .ePop = false := rfl
@[simp, grind =] theorem preCommitPc_eSet : preCommitPc .eSet = false := rfl
@[simp, grind =] theorem preCommitPc_eRel : preCommitPc .eRel = false := rfl
@[simp, grind =] theorem preCommitPc_rdAcq : preCommitPc .rdAcq = false := rfl
@[simp, grind =] theorem preCommitPc_rdPick : preCommitPc .rdPick = false := rfl
@[simp, grind =] theorem preCommitPc_rdAdd : preCommitPc .rdAdd = false := rfl
@[simp, grind =] theorem preCommitPc_rdRel : preCommitPc .rdRel = false := rfl
@[simp, grind =] theorem preCommitPc_rdFail : preCommitPc .rdFail = false := rfl
@[simp, grind =] theorem preCommitPc_rdRet : preCommitPc .rdRet = false := rfl
@[simp, grind =] theorem preCommitPc_rdBody : preCommitPc .rdBody = false := rfl
@[simp, grind =] theorem preCommitPc_xAcq : preCommitPc .xAcq = false := rfl
@[simp, grind =] theorem preCommitPc_xRemove : preCommitPc .xRemove = false := rfl
@[simp, grind =] theorem preCommitPc_xPrune : preCommitPc .xPrune = false := rfl
@[simp, grind =] theorem preCommitPc_xRel : preCommitPc .xRel = false := rfl
@[simp, grind =] theorem preCommitPc_done : preCommitPc .done = false := rfl

/-- the new version is in `_versions` but `zone.nodes` is still the old one -/
def appendedPc : Pc → Bool
  | .cPrune | .cNodes | .cUndo => true
  | _ => false

@[simp, grind =] theorem appendedPc_idle : appendedPc .idle = false := rfl
@[simp, grind =] theorem appendedPc_wInit : appendedPc .wInit = false := rfl
@[simp, grind =] theorem appendedPc_wAcq : appendedPc .wAcq = false := rfl
@[simp, grind =] theorem appendedPc_wTest : appendedPc .wTest = false := rfl
@[simp, grind =] theorem appendedPc_wMkTxn : appendedPc .wMkTxn = false := rfl
@[simp, grind =] theorem appendedPc_wClrEv : appendedPc .wClrEv = false := rfl
@[simp, grind =] theorem appendedPc_wRelA : appendedPc .wRelA = false := rfl
@[simp, grind =] theorem appendedPc_wNewEv : appendedPc .wNewEv = false := rfl
@[simp, grind =] theorem appendedPc_wAppend : appendedPc .wAppend = false := rfl
@[simp, grind =] theorem appendedPc_wRelB : appendedPc .wRelB = false := rfl
@[simp, grind =] theorem appendedPc_wWait : appendedPc .wWait = false := rfl
@[simp, grind =] theorem appendedPc_wSetupId : appendedPc .wSetupId = false := rfl
@[simp, grind =] theorem appendedPc_wSetupCopy : appendedPc .wSetupCopy = false := rfl
@[simp, grind =] theorem appendedPc_wReturn : appendedPc .wReturn = false := rfl
@[simp, grind =] theorem appendedPc_wBody : appendedPc .wBody = false := rfl
@[simp, grind =] theorem appendedPc_cAcq : appendedPc .cAcq = false := rfl
@[simp, grind =] theorem appendedPc_cAppend : appendedPc .cAppend = false := rfl
@[simp, grind =] theorem appendedPc_cPrune : appendedPc .cPrune = true := rfl
@[simp, grind =] theorem appendedPc_cNodes : appendedPc .cNodes = true := rfl
@[simp, grind =] theorem appendedPc_cUndo : appendedPc .cUndo = true := rfl
@[simp, grind =] theorem appendedPc_rAcq : appendedPc .rAcq = false := rfl
@[simp, grind =] theorem appendedPc_eTxnNone : appendedPc .eTxnNone = false := rfl
@[simp, grind =] theorem appendedPc_eTestW : appendedPc .eTestW = false := rfl
@[simp, grind =] theorem appendedPc_ePop : appendedPc .ePop = false := rfl
@[simp, grind =] theorem appendedPc_eSet : appendedPc .eSet = false := rfl
@[simp, grind =] theorem appendedPc_eRel : appendedPc .eRel = false := rfl
@[simp, grind =] theorem appendedPc_rdAcq : appendedPc .rdAcq = false := rfl
@[simp, grind =] theorem appendedPc_rdPick : appendedPc .rdPick = false := rfl
@[simp, grind =] theorem appendedPc_rdAdd : appendedPc .rdAdd = false := rfl
@[simp, grind =] theorem appendedPc_rdRel : appendedPc .rdRel = false := rfl
@[simp, grind =] theorem appendedPc_rdFail : appendedPc .rdFail = false := rfl
@[simp, grind =] theorem appendedPc_rdRet : appendedPc .rdRet = false := rfl
@[simp, grind =] theorem appendedPc_rdBody : appendedPc .rdBody = false := rfl
@[simp, grind =] theorem appendedPc_xAcq : appendedPc .xAcq = false := rfl
@[simp, grind =] theorem appendedPc_xRemove : appendedPc .xRemove = false := rfl
@[simp, grind =] theorem appendedPc_xPrune : appendedPc .xPrune = false := rfl
@[simp, grind =] theorem appendedPc_xRel : appendedPc .xRel = false := rfl
@[simp, grind =] theorem appendedPc_done : appendedPc .done = false := rfl

/-- a reader that has been given its version -/
def readerHasPc : Pc → Bool
  | .rdAdd | .rdRel | .rdRet | .rdBody | .xAcq | .xRemove | .xPrune | .xRel => true
  | _ => false

@[simp, grind =] theorem readerHasPc_idle : readerHasPc .idle = false := rfl
@[simp, grind =] theorem readerHasPc_wInit : readerHasPc .wInit = false := rfl
@[simp, grind =] theorem readerHasPc_wAcq : readerHasPc .wAcq = false := rfl
@[simp, grind =] theorem readerHasPc_wTest : readerHasPc .wTest = false := rfl
@[simp, grind =] theorem readerHasPc_wMkTxn : readerHasPc .wMkTxn = false := rfl
@[simp, grind =] theorem readerHasPc_wClrEv : readerHasPc .wClrEv = false := rfl
@[simp, grind =] theorem readerHasPc_wRelA : readerHasPc .wRelA = false := rfl
@[simp, grind =] theorem readerHasPc_wNewEv : readerHasPc .wNewEv = false := rfl
@[simp, grind =] theorem readerHasPc_wAppend : readerHasPc .wAppend = false := rfl
@[simp, grind =] theorem readerHasPc_wRelB : readerHasPc .wRelB = false := rfl
@[simp, grind =] theorem readerHasPc_wWait : readerHasPc .wWait = false := rfl
@[simp, grind =] theorem readerHasPc_wSetupId : readerHasPc .wSetupId = false := rfl
@[simp, grind =] theorem readerHasPc_wSetupCopy : readerHasPc .wSetupCopy = false := rfl
@[simp, grind =] theorem readerHasPc_wReturn : readerHasPc .wReturn = false := rfl
@[simp, grind =] theorem readerHasPc_wBody : readerHasPc .wBody = false := rfl
@[simp, grind =] theorem readerHasPc_cAcq : readerHasPc .cAcq = false := rfl
@[simp, grind =] theorem readerHasPc_cAppend : readerHasPc .cAppend = false := rfl
@[simp, grind =] theorem readerHasPc_cPrune : readerHasPc .cPrune = false := rfl
@[simp, grind =] theorem readerHasPc_cNodes : readerHasPc .cNodes = false := rfl
@[simp, grind =] theorem readerHasPc_cUndo : readerHasPc .cUndo = false := rfl
@[simp, grind =] theorem readerHasPc_rAcq : readerHasPc .rAcq = false := rfl
@[simp, grind =] theorem readerHasPc_eTxnNone : readerHasPc .eTxnNone = false := rfl
@[simp, grind =] theorem readerHasPc_eTestW : readerHasPc .eTestW = false := rfl
@[simp, grind =] theorem readerHasPc_ePop : readerHasPc .ePop = false := rfl
@[simp, grind =] theorem readerHasPc_eSet : readerHasPc .eSet = false := rfl
@[simp, grind =] theorem readerHasPc_eRel : readerHasPc .eRel = false := rfl
@[simp, grind =] theorem readerHasPc_rdAcq : readerHasPc .rdAcq = false := rfl
@[simp, grind =] theorem readerHasPc_rdPick : readerHasPc .rdPick = false := rfl
@[simp, grind =] theorem readerHasPc_rdAdd : readerHasPc .rdAdd = true := rfl
@[simp, grind =] theorem readerHasPc_rdRel : readerHasPc .rdRel = true := rfl
@[simp, grind =] theorem readerHasPc_rdFail : readerHasPc .rdFail = false := rfl
@[simp, grind =] theorem readerHasPc_rdRet : readerHasPc .rdRet = true := rfl
@[simp, grind =] theorem readerHasPc_rdBody : readerHasPc .rdBody = true := rfl
@[simp, grind =] theorem readerHasPc_xAcq : readerHasPc .xAcq = true := rfl
@[simp, grind =] theorem readerHasPc_xRemove : readerHasPc .xRemove = true := rfl
@[simp, grind =] theorem readerHasPc_xPrune : readerHasPc .xPrune = true := rfl
@[simp, grind =] theorem readerHasPc_xRel : readerHasPc .xRel = true := rfl
@[simp, grind =] theorem readerHasPc_done : readerHasPc .done = false := rfl

/-- program points a reader thread can be at -/
def readerPc : Pc → Bool
  | .idle | .rdAcq | .rdPick | .rdAdd | .rdRel | .rdFail | .rdRet | .rdBody | .xAcq | .xRemove | .xPrune | .xRel | .done => true
  | _ => false

@[simp, grind =] theorem readerPc_idle : readerPc .idle = true := rfl
@[simp, grind =] theorem readerPc_wInit : readerPc .wInit = false := rfl
@[simp, grind =] theorem readerPc_wAcq : readerPc .wAcq = false := rfl
@[simp, grind =] theorem readerPc_wTest : readerPc .wTest = false := rfl
@[simp, grind =] theorem readerPc_wMkTxn : readerPc .wMkTxn = false := rfl
@[simp, grind =] theorem readerPc_wClrEv : readerPc .wClrEv = false := rfl
@[simp, grind =] theorem readerPc_wRelA : readerPc .wRelA = false := rfl
@[simp, grind =] theorem readerPc_wNewEv : readerPc .wNewEv = false := rfl
@[simp, grind =] theorem readerPc_wAppend : readerPc .wAppend = false := rfl
@[simp, grind =] theorem readerPc_wRelB : readerPc .wRelB = false := rfl
@[simp, grind =] theorem readerPc_wWait : readerPc .wWait = false := rfl
@[simp, grind =] theorem readerPc_wSetupId : readerPc .wSetupId = false := rfl
@[simp, grind =] theorem readerPc_wSetupCopy : readerPc .wSetupCopy = false := rfl
@[simp, grind =] theorem readerPc_wReturn : readerPc .wReturn = false := rfl
@[simp, grind =] theorem readerPc_wBody : readerPc .wBody = false := rfl
@[simp, grind =] theorem readerPc_cAcq : readerPc .cAcq = false := rfl
@[simp, grind =] theorem readerPc_cAppend : readerPc .cAppend = false := rfl
@[simp, grind =] theorem readerPc_cPrune : readerPc .cPrune = false := rfl
@[simp, grind =] theorem readerPc_cNodes : readerPc .cNodes = false := rfl
@[simp, grind =] theorem readerPc_cUndo : readerPc .cUndo = false := rfl
@[simp, grind =] theorem readerPc_rAcq : readerPc .rAcq = false := rfl
@[simp, grind =] theorem readerPc_eTxnNone : readerPc .eTxnNone = false := rfl
@[simp, grind =] theorem readerPc_eTestW : readerPc .eTestW = false := rfl
@[simp, grind =] theorem readerPc_ePop : readerPc .ePop = false := rfl
@[simp, grind =] theorem readerPc_eSet : readerPc .eSet = false := rfl
@[simp, grind =] theorem readerPc_eRel : readerPc .eRel = false := rfl
@[simp, grind =] theorem readerPc_rdAcq : readerPc .rdAcq = true := rfl
@[simp, grind =] theorem readerPc_rdPick : readerPc .rdPick = true := rfl
@[simp, grind =] theorem readerPc_rdAdd : readerPc .rdAdd = true := rfl
@[simp, grind =] theorem readerPc_rdRel : readerPc .rdRel = true := rfl
@[simp, grind =] theorem readerPc_rdFail : readerPc .rdFail = true := rfl
@[simp, grind =] theorem readerPc_rdRet : readerPc .rdRet = true := rfl
@[simp, grind =] theorem readerPc_rdBody : readerPc .rdBody = true := rfl
@[simp, grind =] theorem readerPc_xAcq : readerPc .xAcq = true := rfl
@[simp, grind =] theorem readerPc_xRemove : readerPc .xRemove = true := rfl
@[simp, grind =] theorem readerPc_xPrune : readerPc .xPrune = true := rfl
@[simp, grind =] theorem readerPc_xRel : readerPc .xRel = true := rfl
@[simp, grind =] theorem readerPc_done : readerPc .done = true := rfl

/-- number of steps of the lock holder until it releases `_version_lock` (longest path) -/
def lockFuel : Pc → Nat
  | .wTest => 4
  | .wMkTxn => 3
  | .wClrEv => 2
  | .wRelA => 1
  | .wNewEv => 3
  | .wAppend => 2
  | .wRelB => 1
  | .cAppend => 8
  | .cPrune => 7
  | .cNodes => 6
  | .cUndo => 6
  | .eTxnNone => 5
  | .eTestW => 4
  | .ePop => 3
  | .eSet => 2
  | .eRel => 1
  | .rdPick => 3
  | .rdAdd => 2
  | .rdRel => 1
  | .rdFail => 1
  | .xRemove => 3
  | .xPrune => 2
  | .xRel => 1
  | _ => 0

@[simp, grind =] theorem lockFuel_idle : lockFuel .idle = 0 := rfl
@[simp, grind =] theorem lockFuel_wInit : lockFuel .wInit = 0 := rfl
@[simp, grind =] theorem lockFuel_wAcq : lockFuel .wAcq = 0 := rfl
@[simp, grind =] theorem lockFuel_wTest : lockFuel .wTest = 4 := rfl
@[simp, grind =] theorem lockFuel_wMkTxn : lockFuel .wMkTxn = 3 := rfl
@[simp, grind =] theorem lockFuel_wClrEv : lockFuel .wClrEv = 2 := rfl
@[simp, grind =] theorem lockFuel_wRelA : lockFuel .wRelA = 1 := rfl
@[simp, grind =] theorem lockFuel_wNewEv : lockFuel .wNewEv = 3 := rfl
@[simp, grind =] theorem lockFuel_wAppend : lockFuel .wAppend = 2 := rfl
@[simp, grind =] theorem lockFuel_wRelB : lockFuel .wRelB = 1 := rfl
@[simp, grind =] theorem lockFuel_wWait : lockFuel .wWait = 0 := rfl
@[simp, grind =] theorem lockFuel_wSetupId : lockFuel .wSetupId = 0 := rfl
@[simp, grind =] theorem lockFuel_wSetupCopy : lockFuel .wSetupCopy = 0 := rfl
@[simp, grind =] theorem lockFuel_wReturn : lockFuel .wReturn = 0 := rfl
@[simp, grind =] theorem lockFuel_wBody : lockFuel .wBody = 0 := rfl
@[simp, grind =] theorem lockFuel_cAcq : lockFuel .cAcq = 0 := rfl
@[simp, grind =] theorem lockFuel_cAppend : lockFuel .cAppend = 8 := rfl
@[simp, grind =] theorem lockFuel_cPrune : lockFuel .cPrune = 7 := rfl
@[simp, grind =] theorem lockFuel_cNodes : lockFuel .cNodes = 6 := rfl
@[simp, grind =] theorem lockFuel_cUndo : lockFuel .cUndo = 6 := rfl
@[simp, grind =] theorem lockFuel_rAcq : lockFuel .rAcq = 0 := rfl
@[simp, grind =] theorem lockFuel_eTxnNone : lockFuel .eTxnNone = 5 := rfl
@[simp, grind =] theorem lockFuel_eTestW : lockFuel .eTestW = 4 := rfl
@[simp, grind =] theorem lockFuel_ePop : lockFuel .ePop = 3 := rfl
@[simp, grind =] theorem lockFuel_eSet : lockFuel .eSet = 2 := rfl
@[simp, grind =] theorem lockFuel_eRel : lockFuel .eRel = 1 := rfl
@[simp, grind =] theorem lockFuel_rdAcq : lockFuel .rdAcq = 0 := rfl
@[simp, grind =] theorem lockFuel_rdPick : lockFuel .rdPick = 3 := rfl
@[simp, grind =] theorem lockFuel_rdAdd : lockFuel .rdAdd = 2 := rfl
@[simp, grind =] theorem lockFuel_rdRel : lockFuel .rdRel = 1 := rfl
@[simp, grind =] theorem lockFuel_rdFail : lockFuel .rdFail = 1 := rfl
@[simp, grind =] theorem lockFuel_rdRet : lockFuel .rdRet = 0 := rfl
@[simp, grind =] theorem lockFuel_rdBody : lockFuel .rdBody = 0 := rfl
@[simp, grind =] theorem lockFuel_xAcq : lockFuel .xAcq = 0 := rfl
@[simp, grind =] theorem lockFuel_xRemove : lockFuel .xRemove = 3 := rfl
@[simp, grind =] theorem lockFuel_xPrune : lockFuel .xPrune = 2 := rfl
@[simp, grind =] theorem lockFuel_xRel : lockFuel .xRel = 1 := rfl
@[simp, grind =] theorem lockFuel_done : lockFuel .done = 0 := rfl

/-- the longest critical section is the commit; `rank` (WritersFair) gives the `lockFuel` digit the radix 9 -/
theorem lockFuel_le : ∀ p, lockFuel p ≤ 8 := Pc.forall (by decide)
theorem lockFuel_pos_iff : ∀ p, 0 < lockFuel p ↔ holdsLock p = true := Pc.forall (by decide)

/-- how far the thread the next admission is waiting for (owner of the open transaction, then the same thread waking the
head of the queue, then the token holder) is from that admission: a measure, not a count of steps.  Every own step but the
admission decreases it (`stageFuel_succ`), and `eSet` lies above `wWait`, where the woken token holder takes over; the
gaps between the three stretches have no meaning -/
def stageFuel : Pc → Nat
  | .wClrEv => 32
  | .wRelA => 31
  | .wSetupId => 30
  | .wSetupCopy => 29
  | .wReturn => 28
  | .wBody => 27
  | .cAcq => 26
  | .rAcq => 26
  | .cAppend => 25
  | .cPrune => 24
  | .cNodes => 23
  | .cUndo => 23
  | .eTxnNone => 22
  | .eTestW => 14
  | .ePop => 13
  | .eSet => 12
  | .wWait => 4
  | .wAcq => 3
  | .wTest => 2
  | .wMkTxn => 1
  | _ => 0

@[simp, grind =] theorem stageFuel_idle : stageFuel .idle = 0 := rfl
@[simp, grind =] theorem stageFuel_wInit : stageFuel .wInit = 0 := rfl
@[simp, grind =] theorem stageFuel_wAcq : stageFuel .wAcq = 3 := rfl
@[simp, grind =] theorem stageFuel_wTest : stageFuel .wTest = 2 := rfl
@[simp, grind =] theorem stageFuel_wMkTxn : stageFuel .wMkTxn = 1 := rfl
@[simp, grind =] theorem stageFuel_wClrEv : stageFuel .wClrEv = 32 := rfl
@[simp, grind =] theorem stageFuel_wRelA : stageFuel .wRelA = 31 := rfl
@[simp, grind =] theorem stageFuel_wNewEv : stageFuel .wNewEv = 0 := rfl
@[simp, grind =] theorem stageFuel_wAppend : stageFuel .wAppend = 0 := rfl
@[simp, grind =] theorem stageFuel_wRelB : stageFuel .wRelB = 0 := rfl
@[simp, grind =] theorem stageFuel_wWait : stageFuel .wWait = 4 := rfl
@[simp, grind =] theorem stageFuel_wSetupId : stageFuel .wSetupId = 30 := rfl
@[simp, grind =] theorem stageFuel_wSetupCopy : stageFuel .wSetupCopy = 29 := rfl
@[simp, grind =] theorem stageFuel_wReturn : stageFuel .wReturn = 28 := rfl
@[simp, grind =] theorem stageFuel_wBody : stageFuel .wBody = 27 := rfl
@[simp, grind =] theorem stageFuel_cAcq : stageFuel .cAcq = 26 := rfl
@[simp, grind =] theorem stageFuel_cAppend : stageFuel .cAppend = 25 := rfl
@[simp, grind =] theorem stageFuel_cPrune : stageFuel .cPrune = 24 := rfl
@[simp, grind =] theorem stageFuel_cNodes : stageFuel .cNodes = 23 := rfl
@[simp, grind =] theorem stageFuel_cUndo : stageFuel .cUndo = 23 := rfl
@[simp, grind =] theorem stageFuel_rAcq : stageFuel .rAcq = 26 := rfl
@[simp, grind =] theorem stageFuel_eTxnNone : stageFuel .eTxnNone = 22 := rfl
@[simp, grind =] theorem stageFuel_eTestW : stageFuel .eTestW = 14 := rfl
@[simp, grind =] theorem stageFuel_ePop : stageFuel .ePop = 13 := rfl
@[simp, grind =] theorem stageFuel_eSet : stageFuel .eSet = 12 := rfl
@[simp, grind =] theorem stageFuel_eRel : stageFuel .eRel = 0 := rfl
@[simp, grind =] theorem stageFuel_rdAcq : stageFuel .rdAcq = 0 := rfl
@[simp, grind =] theorem stageFuel_rdPick : stageFuel .rdPick = 0 := rfl
@[simp, grind =] theorem stageFuel_rdAdd : stageFuel .rdAdd = 0 := rfl
@[simp, grind =] theorem stageFuel_rdRel : stageFuel .rdRel = 0 := rfl
@[simp, grind =] theorem stageFuel_rdFail : stageFuel .rdFail = 0 := rfl
@[simp, grind =] theorem stageFuel_rdRet : stageFuel .rdRet = 0 := rfl
@[simp, grind =] theorem stageFuel_rdBody : stageFuel .rdBody = 0 := rfl
@[simp, grind =] theorem stageFuel_xAcq : stageFuel .xAcq = 0 := rfl
@[simp, grind =] theorem stageFuel_xRemove : stageFuel .xRemove = 0 := rfl
@[simp, grind =] theorem stageFuel_xPrune : stageFuel .xPrune = 0 := rfl
@[simp, grind =] theorem stageFuel_xRel : stageFuel .xRel = 0 := rfl
@[simp, grind =] theorem stageFuel_done : stageFuel .done = 0 := rfl

/-- 40 is the radix in which `stageM` (WritersLive) writes the pair (admissions needed, `stageFuel`) -/
theorem stageFuel_lt : ∀ p, stageFuel p < 40 := Pc.forall (by decide)

/-- own steps a reader has left until it is finished (`reader()` returns at 6, `_end_read` at 0) -/
def readerFuel : Pc → Nat
  | .idle => 11
  | .rdAcq => 10
  | .rdPick => 9
  | .rdAdd => 8
  | .rdRel => 7
  | .rdFail => 1
  | .rdRet => 6
  | .rdBody => 5
  | .xAcq => 4
  | .xRemove => 3
  | .xPrune => 2
  | .xRel => 1
  | _ => 0

@[simp, grind =] theorem readerFuel_idle : readerFuel .idle = 11 := rfl
@[simp, grind =] theorem readerFuel_wInit : readerFuel .wInit = 0 := rfl
@[simp, grind =] theorem readerFuel_wAcq : readerFuel .wAcq = 0 := rfl
@[simp, grind =] theorem readerFuel_wTest : readerFuel .wTest = 0 := rfl
@[simp, grind =] theorem readerFuel_wMkTxn : readerFuel .wMkTxn = 0 := rfl
@[simp, grind =] theorem readerFuel_wClrEv : readerFuel .wClrEv = 0 := rfl
@[simp, grind =] theorem readerFuel_wRelA : readerFuel .wRelA = 0 := rfl
@[simp, grind =] theorem readerFuel_wNewEv : readerFuel .wNewEv = 0 := rfl
@[simp, grind =] theorem readerFuel_wAppend : readerFuel .wAppend = 0 := rfl
@[simp, grind =] theorem readerFuel_wRelB : readerFuel .wRelB = 0 := rfl
@[simp, grind =] theorem readerFuel_wWait : readerFuel .wWait = 0 := rfl
@[simp, grind =] theorem readerFuel_wSetupId : readerFuel .wSetupId = 0 := rfl
@[simp, grind =] theorem readerFuel_wSetupCopy : readerFuel .wSetupCopy = 0 := rfl
@[simp, grind =] theorem readerFuel_wReturn : readerFuel .wReturn = 0 := rfl
@[simp, grind =] theorem readerFuel_wBody : readerFuel .wBody = 0 := rfl
@[simp, grind =] theorem readerFuel_cAcq : readerFuel .cAcq = 0 := rfl
@[simp, grind =] theorem readerFuel_cAppend : readerFuel .cAppend = 0 := rfl
@[simp, grind =] theorem readerFuel_cPrune : readerFuel .cPrune = 0 := rfl
@[simp, grind =] theorem readerFuel_cNodes : readerFuel .cNodes = 0 := rfl
@[simp, grind =] theorem readerFuel_cUndo : readerFuel .cUndo = 0 := rfl
@[simp, grind =] theorem readerFuel_rAcq : readerFuel .rAcq = 0 := rfl
@[simp, grind =] theorem readerFuel_eTxnNone : readerFuel .eTxnNone = 0 := rfl
@[simp, grind =] theorem readerFuel_eTestW : readerFuel .eTestW = 0 := rfl
@[simp, grind =] theorem readerFuel_ePop : readerFuel .ePop = 0 := rfl
@[simp, grind =] theorem readerFuel_eSet : readerFuel .eSet = 0 := rfl
@[simp, grind =] theorem readerFuel_eRel : readerFuel .eRel = 0 := rfl
@[simp, grind =] theorem readerFuel_rdAcq : readerFuel .rdAcq = 10 := rfl
@[simp, grind =] theorem readerFuel_rdPick : readerFuel .rdPick = 9 := rfl
@[simp, grind =] theorem readerFuel_rdAdd : readerFuel .rdAdd = 8 := rfl
@[simp, grind =] theorem readerFuel_rdRel : readerFuel .rdRel = 7 := rfl
@[simp, grind =] theorem readerFuel_rdFail : readerFuel .rdFail = 1 := rfl
@[simp, grind =] theorem readerFuel_rdRet : readerFuel .rdRet = 6 := rfl
@[simp, grind =] theorem readerFuel_rdBody : readerFuel .rdBody = 5 := rfl
@[simp, grind =] theorem readerFuel_xAcq : readerFuel .xAcq = 4 := rfl
@[simp, grind =] theorem readerFuel_xRemove : readerFuel .xRemove = 3 := rfl
@[simp, grind =] theorem readerFuel_xPrune : readerFuel .xPrune = 2 := rfl
@[simp, grind =] theorem readerFuel_xRel : readerFuel .xRel = 1 := rfl
@[simp, grind =] theorem readerFuel_done : readerFuel .done = 0 := rfl

theorem readerFuel_le (p : Pc) : readerFuel p ≤ 11 := by revert p; exact Pc.forall (by decide)
theorem readerFuel_pos : ∀ p, readerPc p = true → p ≠ .done → 0 < readerFuel p := Pc.forall (by decide)
/-- a reader that has called `reader()` has at most 10 own steps left -/
theorem readerFuel_started : ∀ p, p ≠ .idle → readerFuel p ≤ 10 := Pc.forall (by decide)

/-- the thread has ended its write transaction and is about to wake the head of the queue -/
def endPc : Pc → Bool
  | .eTestW | .ePop | .eSet => true
  | _ => false

@[simp, grind =] theorem endPc_idle : endPc .idle = false := rfl
@[simp, grind =] theorem endPc_wInit : endPc .wInit = false := rfl
@[simp, grind =] theorem endPc_wAcq : endPc .wAcq = false := rfl
@[simp, grind =] theorem endPc_wTest : endPc .wTest = false := rfl
@[simp, grind =] theorem endPc_wMkTxn : endPc .wMkTxn = false := rfl
@[simp, grind =] theorem endPc_wClrEv : endPc .wClrEv = false := rfl
@[simp, grind =] theorem endPc_wRelA : endPc .wRelA = false := rfl
@[simp, grind =] theorem endPc_wNewEv : endPc .wNewEv = false := rfl
@[simp, grind =] theorem endPc_wAppend : endPc .wAppend = false := rfl
@[simp, grind =] theorem endPc_wRelB : endPc .wRelB = false := rfl
@[simp, grind =] theorem endPc_wWait : endPc .wWait = false := rfl
@[simp, grind =] theorem endPc_wSetupId : endPc .wSetupId = false := rfl
@[simp, grind =] theorem endPc_wSetupCopy : endPc .wSetupCopy = false := rfl
@[simp, grind =] theorem endPc_wReturn : endPc .wReturn = false := rfl
@[simp, grind =] theorem endPc_wBody : endPc .wBody = false := rfl
@[simp, grind =] theorem endPc_cAcq : endPc .cAcq = false := rfl
@[simp, grind =] theorem endPc_cAppend : endPc .cAppend = false := rfl
@[simp, grind =] theorem endPc_cPrune : endPc .cPrune = false := rfl
@[simp, grind =] theorem endPc_cNodes : endPc .cNodes = false := rfl
@[simp, grind =] theorem endPc_cUndo : endPc .cUndo = false := rfl
@[simp, grind =] theorem endPc_rAcq : endPc .rAcq = false := rfl
@[simp, grind =] theorem endPc_eTxnNone : endPc .eTxnNone = false := rfl
@[simp, grind =] theorem endPc_eTestW : endPc .eTestW = true := rfl
@[simp, grind =] theorem endPc_ePop : endPc .ePop = true := rfl
@[simp, grind =] theorem endPc_eSet : endPc .eSet = true := rfl
@[simp, grind =] theorem endPc_eRel : endPc .eRel = false := rfl
@[simp, grind =] theorem endPc_rdAcq : endPc .rdAcq = false := rfl
@[simp, grind =] theorem endPc_rdPick : endPc .rdPick = false := rfl
@[simp, grind =] theorem endPc_rdAdd : endPc .rdAdd = false := rfl
@[simp, grind =] theorem endPc_rdRel : endPc .rdRel = false := rfl
@[simp, grind =] theorem endPc_rdFail : endPc .rdFail = false := rfl
@[simp, grind =] theorem endPc_rdRet : endPc .rdRet = false := rfl
@[simp, grind =] theorem endPc_rdBody : endPc .rdBody = false := rfl
@[simp, grind =] theorem endPc_xAcq : endPc .xAcq = false := rfl
@[simp, grind =] theorem endPc_xRemove : endPc .xRemove = false := rfl
@[simp, grind =] theorem endPc_xPrune : endPc .xPrune = false := rfl
@[simp, grind =] theorem endPc_xRel : endPc .xRel = false := rfl
@[simp, grind =] theorem endPc_done : endPc .done = false := rfl

/-- program points that acquire `_version_lock` -/
def acqPc : Pc → Bool
  | .wAcq | .cAcq | .rAcq | .rdAcq | .xAcq => true
  | _ => false

@[simp, grind =] theorem acqPc_idle : acqPc .idle = false := rfl
@[simp, grind =] theorem acqPc_wInit : acqPc .wInit = false := rfl
@[simp, grind =] theorem acqPc_wAcq : acqPc .wAcq = true := rfl
@[simp, grind =] theorem acqPc_wTest : acqPc .wTest = false := rfl
@[simp, grind =] theorem acqPc_wMkTxn : acqPc .wMkTxn = false := rfl
@[simp, grind =] theorem acqPc_wClrEv : acqPc .wClrEv = false := rfl
@[simp, grind =] theorem acqPc_wRelA : acqPc .wRelA = false := rfl
@[simp, grind =] theorem acqPc_wNewEv : acqPc .wNewEv = false := rfl
@[simp, grind =] theorem acqPc_wAppend : acqPc .wAppend = false := rfl
@[simp, grind =] theorem acqPc_wRelB : acqPc .wRelB = false := rfl
@[simp, grind =] theorem acqPc_wWait : acqPc .wWait = false := rfl
@[simp, grind =] theorem acqPc_wSetupId : acqPc .wSetupId = false := rfl
@[simp, grind =] theorem acqPc_wSetupCopy : acqPc .wSetupCopy = false := rfl
@[simp, grind =] theorem acqPc_wReturn : acqPc .wReturn = false := rfl
@[simp, grind =] theorem acqPc_wBody : acqPc .wBody = false := rfl
@[simp, grind =] theorem acqPc_cAcq : acqPc .cAcq = true := rfl
@[simp, grind =] theorem acqPc_cAppend : acqPc .cAppend = false := rfl
@[simp, grind =] theorem acqPc_cPrune : acqPc .cPrune = false := rfl
@[simp, grind =] theorem acqPc_cNodes : acqPc .cNodes = false := rfl
@[simp, grind =] theorem acqPc_cUndo : acqPc .cUndo = false := rfl
@[simp, grind =] theorem acqPc_rAcq : acqPc .rAcq = true := rfl
@[simp, grind =] theorem acqPc_eTxnNone : acqPc .eTxnNone = false := rfl
@[simp, grind =] theorem acqPc_eTestW : acqPc .eTestW = false := rfl
@[simp, grind =] theorem acqPc_ePop : acqPc .ePop = false := rfl
@[simp, grind =] theorem acqPc_eSet : acqPc .eSet = false := rfl
@[simp, grind =] theorem acqPc_eRel : acqPc .eRel = false := rfl
@[simp, grind =] theorem acqPc_rdAcq : acqPc .rdAcq = true := rfl
@[simp, grind =] theorem acqPc_rdPick : acqPc .rdPick = false := rfl
@[simp, grind =] theorem acqPc_rdAdd : acqPc .rdAdd = false := rfl
@[simp, grind =] theorem acqPc_rdRel : acqPc .rdRel = false := rfl
@[simp, grind =] theorem acqPc_rdFail : acqPc .rdFail = false := rfl
@[simp, grind =] theorem acqPc_rdRet : acqPc .rdRet = false := rfl
@[simp, grind =] theorem acqPc_rdBody : acqPc .rdBody = false := rfl
@[simp, grind =] theorem acqPc_xAcq : acqPc .xAcq = true := rfl
@[simp, grind =] theorem acqPc_xRemove : acqPc .xRemove = false := rfl
@[simp, grind =] theorem acqPc_xPrune : acqPc .xPrune = false := rfl
@[simp, grind =] theorem acqPc_xRel : acqPc .xRel = false := rfl
@[simp, grind =] theorem acqPc_done : acqPc .done = false := rfl


/-- writer program points after the first acquisition of `_version_lock` in `writer()` (the re-acquire `wAcq` apart) -/
def arrivedPc : Pc → Bool
  | .wTest | .wMkTxn | .wClrEv | .wRelA | .wNewEv | .wAppend | .wRelB | .wWait | .wSetupId | .wSetupCopy | .wReturn | .wBody | .cAcq | .cAppend | .cPrune | .cNodes | .cUndo | .rAcq | .eTxnNone | .eTestW | .ePop | .eSet | .eRel => true
  | _ => false

@[simp] theorem arrivedPc_idle : arrivedPc .idle = false := rfl
@[simp] theorem arrivedPc_wInit : arrivedPc .wInit = false := rfl
@[simp] theorem arrivedPc_wAcq : arrivedPc .wAcq = false := rfl
@[simp] theorem arrivedPc_wTest : arrivedPc .wTest = true := rfl
@[simp] theorem arrivedPc_wMkTxn : arrivedPc .wMkTxn = true := rfl
@[simp] theorem arrivedPc_wClrEv : arrivedPc .wClrEv = true := rfl
@[simp] theorem arrivedPc_wRelA : arrivedPc .wRelA = true := rfl
@[simp] theorem arrivedPc_wNewEv : arrivedPc .wNewEv = true := rfl
@[simp] theorem arrivedPc_wAppend : arrivedPc .wAppend = true := rfl
@[simp] theorem arrivedPc_wRelB : arrivedPc .wRelB = true := rfl
@[simp] theorem arrivedPc_wWait : arrivedPc .wWait = true := rfl
@[simp] theorem arrivedPc_wSetupId : arrivedPc .wSetupId = true := rfl
@[simp] theorem arrivedPc_wSetupCopy : arrivedPc .wSetupCopy = true := rfl
@[simp] theorem arrivedPc_wReturn : arrivedPc .wReturn = true := rfl
@[simp] theorem arrivedPc_wBody : arrivedPc .wBody = true := rfl
@[simp] theorem arrivedPc_cAcq : arrivedPc .cAcq = true := rfl
@[simp] theorem arrivedPc_cAppend : arrivedPc .cAppend = true := rfl
@[simp] theorem arrivedPc_cPrune : arrivedPc .cPrune = true := rfl
@[simp] theorem arrivedPc_cNodes : arrivedPc .cNodes = true := rfl
@[simp] theorem arrivedPc_cUndo : arrivedPc .cUndo = true := rfl
@[simp] theorem arrivedPc_rAcq : arrivedPc .rAcq = true := rfl
@[simp] theorem arrivedPc_eTxnNone : arrivedPc .eTxnNone = true := rfl
@[simp] theorem arrivedPc_eTestW : arrivedPc .eTestW = true := rfl
@[simp] theorem arrivedPc_ePop : arrivedPc .ePop = true := rfl
@[simp] theorem arrivedPc_eSet : arrivedPc .eSet = true := rfl
@[simp] theorem arrivedPc_eRel : arrivedPc .eRel = true := rfl
@[simp] theorem arrivedPc_rdAcq : arrivedPc .rdAcq = false := rfl
@[simp] theorem arrivedPc_rdPick : arrivedPc .rdPick = false := rfl
@[simp] theorem arrivedPc_rdFail : arrivedPc .rdFail = false := rfl
@[simp] theorem arrivedPc_rdAdd : arrivedPc .rdAdd = false := rfl
@[simp] theorem arrivedPc_rdRel : arrivedPc .rdRel = false := rfl
@[simp] theorem arrivedPc_rdRet : arrivedPc .rdRet = false := rfl
@[simp] theorem arrivedPc_rdBody : arrivedPc .rdBody = false := rfl
@[simp] theorem arrivedPc_xAcq : arrivedPc .xAcq = false := rfl
@[simp] theorem arrivedPc_xRemove : arrivedPc .xRemove = false := rfl
@[simp] theorem arrivedPc_xPrune : arrivedPc .xPrune = false := rfl
@[simp] theorem arrivedPc_xRel : arrivedPc .xRel = false := rfl
@[simp] theorem arrivedPc_done : arrivedPc .done = false := rfl

theorem pc_ne_of {f : Pc → Bool} {p q : Pc} (hp : f p = true) (hq : f q = false) : p ≠ q := by
  rintro rfl; rw [hp] at hq; cases hq

theorem snapAPc_owner : ∀ p, snapAPc p = true → isOwner p = true := Pc.forall (by decide)
theorem commitPc_owner : ∀ p, commitPc p = true → isOwner p = true := Pc.forall (by decide)
theorem vidPc_owner : ∀ p, vidPc p = true → isOwner p = true := Pc.forall (by decide)
theorem preCommitPc_owner (p : Pc) : preCommitPc p = true → isOwner p = true := by revert p; exact Pc.forall (by decide)
theorem appendedPc_owner : ∀ p, appendedPc p = true → isOwner p = true := Pc.forall (by decide)
theorem appendedPc_not_reader : ∀ p, appendedPc p = true → readerPc p = true → False := Pc.forall (by decide)
theorem snapAPc_vidPc : ∀ p, snapAPc p = true → vidPc p = true := Pc.forall (by decide)
theorem queuedPc_iff : ∀ p, queuedPc p = true ↔ p = .wRelB ∨ p = .wWait := Pc.forall (by decide)
theorem endPc_iff : ∀ p, endPc p = true ↔ p = .eTestW ∨ p = .ePop ∨ p = .eSet := Pc.forall (by decide)
theorem tokenPc_iff (p : Pc) : tokenPc p = true ↔ p = .wWait ∨ p = .wAcq ∨ p = .wTest ∨ p = .wMkTxn ∨ p = .wClrEv := by
  revert p; exact Pc.forall (by decide)


theorem endPc_holdsLock : ∀ p, endPc p = true → holdsLock p = true := Pc.forall (by decide)
theorem appendedPc_holdsLock : ∀ p, appendedPc p = true → holdsLock p = true := Pc.forall (by decide)
theorem isOwner_stageFuel : ∀ p, isOwner p = true → 0 < stageFuel p := Pc.forall (by decide)
theorem endPc_stageFuel : ∀ p, endPc p = true → 0 < stageFuel p := Pc.forall (by decide)
theorem tokenPc_stageFuel : ∀ p, tokenPc p = true → 0 < stageFuel p := Pc.forall (by decide)
theorem stageFuel_not_idle : ∀ p, 0 < stageFuel p → p ≠ .idle ∧ p ≠ .done := Pc.forall (by decide)

/-- the control-flow graph of a thread: where one step can take the program counter (`Trans.pc_mem`), so that what
own steps do to a class or a measure of program points is checked on this table and not on the transition relation -/
def succPc : Pc → List Pc
  | .idle => [.wInit, .rdAcq]
  | .wInit => [.wAcq]
  | .wAcq => [.wTest]
  | .wTest => [.wMkTxn, .wNewEv]
  | .wMkTxn => [.wClrEv]
  | .wClrEv => [.wRelA]
  | .wRelA => [.wSetupId]
  | .wNewEv => [.wAppend]
  | .wAppend => [.wRelB]
  | .wRelB => [.wWait]
  | .wWait => [.wAcq]
  | .wSetupId => [.wSetupCopy]
  | .wSetupCopy => [.wReturn]
  | .wReturn => [.wBody]
  | .wBody => [.cAcq, .rAcq]
  | .cAcq => [.cAppend]
  | .cAppend => [.cPrune]
  | .cPrune => [.cNodes, .cUndo]
  | .cUndo => [.eTxnNone]
  | .cNodes => [.eTxnNone]
  | .rAcq => [.eTxnNone]
  | .eTxnNone => [.eTestW]
  | .eTestW => [.ePop, .eRel]
  | .ePop => [.eSet]
  | .eSet => [.eRel]
  | .eRel => [.done]
  | .rdAcq => [.rdPick]
  | .rdPick => [.rdAdd, .rdFail]
  | .rdFail => [.done]
  | .rdAdd => [.rdRel]
  | .rdRel => [.rdRet]
  | .rdRet => [.rdBody]
  | .rdBody => [.xAcq]
  | .xAcq => [.xRemove]
  | .xRemove => [.xPrune]
  | .xPrune => [.xRel]
  | .xRel => [.done]
  | .done => []

theorem succPc_ne_idle : ∀ p, ∀ q ∈ succPc p, q ≠ .idle := Pc.forall (by decide)

theorem endPc_succ : ∀ p, p ≠ .eTxnNone → endPc p = false → ∀ q ∈ succPc p, endPc q = false := Pc.forall (by decide)

theorem holdsLock_succ : ∀ p, 1 < lockFuel p → ∀ q ∈ succPc p, holdsLock q = true := Pc.forall (by decide)

/-- the writer program points after the first acquisition are reached from each other and from `wAcq` only -/
theorem arrivedPc_pred : ∀ p, ∀ q ∈ succPc p, arrivedPc q = true → arrivedPc p = true ∨ p = .wAcq := Pc.forall (by decide)

theorem mem_succPc_wAcq : ∀ p, .wAcq ∈ succPc p → p = .wInit ∨ p = .wWait := Pc.forall (by decide)

/-- the reader program points are closed under the control flow, except that a thread may start as a writer -/
theorem readerPc_succ : ∀ p, readerPc p = true → p ≠ .idle → ∀ q ∈ succPc p, readerPc q = true := Pc.forall (by decide)

theorem lockFuel_succ : ∀ p, holdsLock p = true → ∀ q ∈ succPc p, lockFuel q < lockFuel p := Pc.forall (by decide)

/-- a queued writer stays parked until it is woken -/
theorem queuedPc_succ : ∀ p, queuedPc p = true → p ≠ .wWait → ∀ q ∈ succPc p, queuedPc q = true := Pc.forall (by decide)

theorem stageFuel_succ : ∀ p, p ≠ .wMkTxn → 0 < stageFuel p → ∀ q ∈ succPc p, stageFuel q < stageFuel p :=
  Pc.forall (by decide)

theorem readerFuel_succ : ∀ p, readerPc p = true → ∀ q ∈ succPc p, readerFuel q + 1 ≤ readerFuel p := Pc.forall (by decide)

end Model.Writers
