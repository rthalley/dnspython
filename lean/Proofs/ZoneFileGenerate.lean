import Model.ZoneFile
import Proofs.ZoneFileHeader
import Proofs.ZoneFileRebuild
/-!
`$GENERATE` versus its expansion: one index of the `for` loop of `_generate_line` hands `txn.add` the same record
as the explicit line `owner SP ttl SP class SP type SP rdata NL` built from the substituted owner and RDATA text; the
loop as a whole puts the records of its indices into the parser's trace (`genTrace_records`), as the file of those lines does.
-/
namespace Model

/-- One index of the `for` loop as a function of what it reads — the two origins, the two flags of the reader, the
header's TTL and type, the substituted texts: the record handed to `txn.add` (`none`: the owner is outside the zone) and
the owner, which becomes `last_name`.  The owner is computed as `_rr_line` computes it (`ownerInZone`). -/
def genEntry (co zo : Name) (rel gfix : Bool) (ttl ty : Nat) (item : List Nat × List Nat) : RM (Option Entry × Name) :=
  match fromText item.1 (some co) with
  | .error e => .error (.ofName e)
  | .ok ln =>
    if !isSubdomain ln zo then .ok (none, ln)
    else (ownerInZone rel ln zo).bind fun name =>
      (rdataFromText ty (TState.init item.2) (some co) rel (some zo) gfix).map fun x =>
        (some ⟨name, ttl, ty, ⟨x.1, x.2.1⟩⟩, ln)

theorem genItem_eq (r : PState) (co zo : Name) (ttl ty : Nat) (item : List Nat × List Nat)
    (hco : r.currentOrigin = some co) (hzo : r.zoneOrigin = some zo) :
    genItem ttl ty item r =
      (genEntry co zo r.relativize r.gfix ttl ty item).map fun x => (x.1, { r with lastName := some x.2 }) := by
  unfold genItem genEntry ownerInZone
  simp only [hco, hzo]
  cases fromText item.1 (some co) with
  | error e => rfl
  | ok ln =>
    dsimp only
    cases isSubdomain ln zo with
    | false => rfl
    | true =>
      cases r.relativize with
      | false => cases rdataFromText ty (TState.init item.2) (some co) false (some zo) r.gfix <;> rfl
      | true =>
        simp only [Bool.not_true, Bool.false_eq_true, if_false, if_true]
        cases relativize ln zo with
        | error e => rfl
        | ok n => cases rdataFromText ty (TState.init item.2) (some co) true (some zo) r.gfix <;> rfl

theorem genItem_record (r : PState) (nameT rdT : List Nat) (co zo n m : Name) (ttl ty : Nat) (rd : Rdata)
    (comment : Option (List Nat)) (s' : TState)
    (hco : r.currentOrigin = some co) (hzo : r.zoneOrigin = some zo)
    (hname : fromText nameT (some co) = .ok n) (hin : isSubdomain n zo = true)
    (hm : ownerInZone r.relativize n zo = .ok m)
    (hfresh : rdataFromText ty (TState.init rdT) (some co) r.relativize (some zo) r.gfix = .ok (rd, comment, s')) :
    genItem ttl ty (nameT, rdT) r = .ok (some ⟨m, ttl, ty, ⟨rd, comment⟩⟩, { r with lastName := some n }) := by
  rw [genItem_eq r co zo ttl ty _ hco hzo]
  simp only [genEntry, hname, hin, hm, hfresh, Bool.not_true, Bool.false_eq_true, if_false, Except.bind, Except.map]

/-- so the per-index hypothesis of the loop theorems is a closed statement about `genEntry`, settled by evaluation for
concrete items -/
theorem genItems_of_entries (r : PState) (co zo : Name) (ttl ty : Nat) (items : List (List Nat × List Nat))
    (e : List Nat × List Nat → Option Entry) (nOf : List Nat × List Nat → Name)
    (hco : r.currentOrigin = some co) (hzo : r.zoneOrigin = some zo)
    (h : ∀ item ∈ items, genEntry co zo r.relativize r.gfix ttl ty item = .ok (e item, nOf item)) :
    ∀ item ∈ items, ∀ ln,
      genItem ttl ty item { r with lastName := ln } = .ok (e item, { r with lastName := some (nOf item) }) :=
  fun item hi ln => by rw [genItem_eq { r with lastName := ln } co zo ttl ty item hco hzo, h item hi]; rfl

/-- the event of a record -/
def evEntry : LineEv → Option Entry
  | .entry e => some e
  | _ => none

/-- `last_name` after the loop -/
def lastNameAfter (nOf : List Nat × List Nat → Name) : Option Name → List (List Nat × List Nat) → Option Name
  | ln, [] => ln
  | _, item :: rest => lastNameAfter nOf (some (nOf item)) rest

/-- the loop in the parser's trace: the records of the indices that yield one, in index order, all under the effective
origin of `r`; then what follows the loop, with the last generated owner as `last_name` -/
theorem genTrace_records (ttl ty : Nat) (items : List (List Nat × List Nat)) (r : PState)
    (e : List Nat × List Nat → Option Entry) (nOf : List Nat × List Nat → Name) (k : PState → Trace)
    (h : ∀ item ∈ items, ∀ ln, genItem ttl ty item { r with lastName := ln } =
      .ok (e item, { r with lastName := some (nOf item) })) :
    genTrace ttl ty items r k =
      (items.filterMap e).foldr (Trace.entry r.effOrigin) (k { r with lastName := lastNameAfter nOf r.lastName items }) := by
  induction items generalizing r with
  | nil => rfl
  | cons item rest ih =>
    have h0 : genItem ttl ty item r = .ok (e item, { r with lastName := some (nOf item) }) := h item (by simp) r.lastName
    have ih' := ih { r with lastName := some (nOf item) } fun it hit ln => h it (by simp [hit]) ln
    rw [genTrace, h0]
    cases he : e item with
    | none => rw [List.filterMap_cons, he]; exact ih'
    | some en => rw [List.filterMap_cons, he, List.foldr_cons]; exact congrArg _ ih'

end Model
