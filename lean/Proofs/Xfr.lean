import Model.Xfr
/-!
# Basic facts about the `Inbound` model: what every function of the machine preserves (`Later`), atomicity,
that a non-incremental transfer never reads the serial, and the two variants of the D11 decision point
(`run_variants`; `run_repaired`: the code as it is in terms of the loop without the look-ahead).
-/
namespace Model.Xfr

/-- `s'` is a later state of the transfer that is in state `s`: what identifies the transfer stays, the first SOA once
taken stays; and unless the transfer is done in `s'` it was not done in `s`, nothing has been committed since, and a
transaction that was open is open.  Every function of the machine leaves such a state (the `_post` lemmas). -/
structure Later (s s' : Inbound) : Prop where
  origin : s'.origin = s.origin
  rdtype : s'.rdtype = s.rdtype
  udp : s'.isUdp = s.isUdp
  soa : ∀ f, s.soa = some f → s'.soa = some f
  open_ : s'.done = false → s.done = false ∧ s'.zone = s.zone ∧ (s.txn.isSome = true → s'.txn.isSome = true)

theorem Later.refl (s : Inbound) : Later s s := ⟨rfl, rfl, rfl, fun _ h => h, fun h => ⟨h, rfl, id⟩⟩

theorem Later.trans {a b c : Inbound} (h1 : Later a b) (h2 : Later b c) : Later a c :=
  ⟨h2.origin.trans h1.origin, h2.rdtype.trans h1.rdtype, h2.udp.trans h1.udp, fun f h => h2.soa f (h1.soa f h),
    fun hn =>
      have ⟨hb, hz, ht⟩ := h2.open_ hn
      have ⟨ha, hz', ht'⟩ := h1.open_ hb
      ⟨ha, hz.trans hz', fun h => ht (ht' h)⟩⟩

/-- `r` returns a state satisfying `P`, or raises with a zone satisfying `Q`.  Facts about the machine's
functions are stated in this form: they are proved by following the branches of the definition, and used
by instantiating the result. -/
def Post (P : Inbound → Prop) (Q : Zone → Prop) : R → Prop
  | .ok s => P s
  | .error (_, z) => Q z

theorem Post.ok {P Q} {r : R} {s : Inbound} (h : Post P Q r) (e : r = .ok s) : P s := by subst e; exact h

theorem Post.err {P Q} {r : R} {e : XErr} {z : Zone} (h : Post P Q r) (he : r = .error (e, z)) : Q z := by
  subst he; exact h

theorem Post.imp {P P' Q Q'} {r : R} (h : Post P Q r) (hp : ∀ s, P s → P' s) (hq : ∀ z, Q z → Q' z) :
    Post P' Q' r := by
  cases r with
  | ok s => exact hp s h
  | error e => exact hq e.2 h

/-- along an `if` (`split` is far dearer on these goals) -/
theorem Post.ite {P Q} {c : Prop} [Decidable c] {a b : R} (ha : c → Post P Q a) (hb : ¬ c → Post P Q b) :
    Post P Q (if c then a else b) := by
  by_cases h : c
  · rw [if_pos h]; exact ha h
  · rw [if_neg h]; exact hb h

/-- along the `match r with | .error e => .error e | .ok s => g s` by which the machine's functions are chained -/
theorem Post.bind {P Q P' Q'} {r : R} {g : Inbound → R} (h : Post P Q r) (hg : ∀ s, P s → Post P' Q' (g s))
    (hq : ∀ z, Q z → Q' z) :
    Post P' Q' (match (generalizing := false) r with | .error e => .error e | .ok s => g s) := by
  cases r with
  | ok s => exact hg s h
  | error e => exact hq e.2 h

/-- what a step from `s` leaves: a later state, and in the repaired variant a step that ends the transfer is the last of
its message -/
def StepPost (fix more : Bool) (s s' : Inbound) : Prop :=
  Later s s' ∧ (fix = true → s'.done = true → more = false)

/-- a step that leaves the transfer open with the zone it had -/
theorem StepPost.open_ {fix more : Bool} {s s' : Inbound} (hd : s.done = false) (h : Later s s')
    (hd' : s'.done = s.done) : StepPost fix more s s' :=
  ⟨h, fun _ hx => by rw [hd', hd] at hx; cases hx⟩

theorem procFinalSoa_post {fix s txn rr more} :
    Post (StepPost fix more s) (· = s.zone) (procFinalSoa fix s txn rr more) := by
  unfold procFinalSoa
  refine Post.ite (fun _ => rfl) fun _ => Post.ite (fun _ => rfl) fun _ => Post.ite (fun _ => rfl) fun hfm => ?_
  cases txnReplace s.origin txn rr with
  | error e => rfl
  | ok t =>
    exact ⟨⟨rfl, rfl, rfl, fun _ h => h, fun hn => nomatch hn⟩, fun hf _ => by subst hf; simpa using hfm⟩

theorem procOtherSoa_post {fix more s txn rr} (hd : s.done = false) :
    Post (StepPost fix more s) (· = s.zone) (procOtherSoa s txn rr) := by
  unfold procOtherSoa
  refine Post.ite (fun _ => Post.ite (fun _ => Post.ite (fun _ => rfl) fun _ => ?_) fun _ => ?_) fun _ => rfl
  · exact .open_ hd ⟨rfl, rfl, rfl, fun _ h => h, fun h => ⟨h, rfl, id⟩⟩ rfl
  · cases txnReplace s.origin txn rr with
    | error e => rfl
    | ok t => exact .open_ hd ⟨rfl, rfl, rfl, fun _ h => h, fun h => ⟨h, rfl, fun _ => rfl⟩⟩ rfl

theorem fallbackState_later (s : Inbound) : Later s (fallbackState s) ∧ (fallbackState s).done = s.done := by
  unfold fallbackState
  split
  · exact ⟨⟨rfl, rfl, rfl, fun _ h => h, fun h => ⟨h, rfl, fun _ => rfl⟩⟩, rfl⟩
  · exact ⟨Later.refl s, rfl⟩

/-- the data branch, after the fallback decision -/
theorem procData_post {fix more s txn rr} (hd : s.done = false) :
    Post (StepPost fix more s) (· = s.zone) (procData (fallbackState s) (fallbackTxn s txn) rr) := by
  obtain ⟨hl, hd'⟩ := fallbackState_later s
  have hz : (fallbackState s).zone = s.zone := (hl.open_ (hd'.trans hd)).2.1
  have open_ : ∀ t, StepPost fix more s { fallbackState s with txn := some t } := fun t =>
    .open_ hd (hl.trans ⟨rfl, rfl, rfl, fun _ h => h, fun h => ⟨h, rfl, fun _ => rfl⟩⟩) hd'
  unfold procData
  refine Post.ite (fun _ => .open_ hd hl hd') fun _ => Post.ite (fun _ => ?_) fun _ => ?_
  · cases txnDeleteExact (fallbackTxn s txn) rr with
    | error e => exact hz
    | ok t => exact open_ t
  · cases txnAdd (fallbackState s).origin (fallbackTxn s txn) rr with
    | error e => exact hz
    | ok t => exact open_ t

theorem procRRset_post {fix s rr more} :
    Post (StepPost fix more s) (· = s.zone) (procRRset fix s rr more) := by
  unfold procRRset
  refine Post.ite (fun _ => rfl) fun hd => ?_
  have hd : s.done = false := by simpa using hd
  cases htx : s.txn with
  | none => rfl
  | some txn =>
    exact Post.ite (fun _ => Post.ite (fun _ => procFinalSoa_post) fun _ => procOtherSoa_post hd) fun _ =>
      procData_post hd

/-- The repaired variant raises only with the zone it started from because a step that commits is the last of its
message (`procRRset_post`). -/
theorem procAnswers_post {fix : Bool} : ∀ {l : List RRset} {s : Inbound},
    Post (Later s) (fun z => fix = true → z = s.zone) (procAnswers fix s l)
  | [], s => Later.refl s
  | rr :: rest, s => by
    unfold procAnswers
    refine (procRRset_post (more := !rest.isEmpty)).bind (g := (procAnswers fix · rest)) (fun s1 ⟨st, hlast⟩ => ?_)
      fun _ hz _ => hz
    cases rest with
    | nil => exact st
    | cons r2 rs =>
      refine (procAnswers_post (s := s1)).imp (fun s' => st.trans) fun z hz hf => ?_
      -- more rrsets follow, so the step to `s1` did not commit
      have hd1 : s1.done = false := by
        cases hx : s1.done with
        | false => rfl
        | true => exact absurd (hlast hf hx) (by simp)
      rw [hz hf]; exact (st.open_ hd1).2.1

/-- `openTxn` touches the transaction only, and leaves one open -/
structure Opened (s s' : Inbound) : Prop extends Later s s' where
  zone : s'.zone = s.zone
  done : s'.done = s.done
  txn : s'.txn.isSome = true
  soa_eq : s'.soa = s.soa
  same : s.txn.isSome = true → s' = s

theorem openTxn_props (s : Inbound) : Opened s (openTxn s) := by
  unfold openTxn
  cases hs : s.txn with
  | none =>
    exact ⟨⟨rfl, rfl, rfl, fun _ h => h, fun h => ⟨h, rfl, fun _ => rfl⟩⟩, rfl, rfl, rfl, rfl,
      fun h => by rw [hs] at h; cases h⟩
  | some x => exact ⟨Later.refl s, rfl, rfl, (congrArg Option.isSome hs :), rfl, fun _ => rfl⟩

theorem firstSoa_post {s rr b} (hs : s.soa = none) :
    Post (fun s1 => Later s s1 ∧ s1.zone = s.zone ∧ s1.soa = some rr) (· = s.zone) (firstSoa s rr b) := by
  have no : ∀ (x : Option RRset) f, s.soa = some f → x = some f := fun _ f h => by rw [hs] at h; cases h
  unfold firstSoa
  refine Post.ite (fun _ => rfl) fun _ => Post.ite (fun _ => rfl) fun _ => Post.ite (fun _ => ?_) fun _ => ?_
  · cases firstSerial rr with
    | none => rfl
    | some ser =>
      exact Post.ite (fun _ => ⟨⟨rfl, rfl, rfl, no _, fun h => nomatch h⟩, rfl, rfl⟩) fun _ =>
        Post.ite (fun _ => rfl) fun _ => Post.ite (fun _ => rfl) fun _ =>
          ⟨⟨rfl, rfl, rfl, no _, fun h => ⟨h, rfl, id⟩⟩, rfl, rfl⟩
  · exact ⟨⟨rfl, rfl, rfl, no _, fun h => ⟨h, rfl, id⟩⟩, rfl, rfl⟩

/-- `procBody` leaves a later state in which the first SOA has been taken -/
theorem procBody_post {fix s m} :
    Post (fun s2 => Later s s2 ∧ s2.soa.isSome = true) (fun z => fix = true → z = s.zone) (procBody fix s m) := by
  unfold procBody
  cases hs : s.soa with
  | some f => exact procAnswers_post.imp (fun s2 h => ⟨h, by rw [h.soa f hs]; rfl⟩) fun _ => id
  | none =>
    cases m.answer with
    | nil => exact fun _ => rfl
    | cons rr rest =>
      exact (firstSoa_post hs).bind (fun s1 ⟨h1, hz, e1⟩ => procAnswers_post.imp
        (fun s2 h => ⟨h1.trans h, by rw [h.soa rr e1]; rfl⟩) fun z h hf => (h hf).trans hz) fun _ hz _ => hz

theorem procMessage_post {fix s m} :
    Post (Later s) (fun z => fix = true → z = s.zone) (procMessage fix s m) := by
  have o := openTxn_props s
  unfold procMessage
  cases headerErr (openTxn s) m with
  | some e => exact fun _ => rfl
  | none =>
    refine procBody_post.bind (g := udpCheck) (fun s2 b => ?_) fun z h hf => (h hf).trans o.zone
    refine Post.ite (fun hc => ?_) fun _ => o.toLater.trans b.1
    simp only [Bool.and_eq_true, Bool.not_eq_true'] at hc
    exact fun _ => (b.1.open_ hc.2).2.1.trans o.zone

theorem feedLoop_post : ∀ {msgs : List Msg} {s : Inbound},
    Post (Later s) (· = s.zone) (feedLoop true s msgs)
  | [], s => Later.refl s
  | m :: ms, s => by
    unfold feedLoop
    refine procMessage_post.bind (g := fun s' => if s'.done then .ok s' else feedLoop true s' ms) (fun s1 p => ?_)
      fun _ hz => hz rfl
    refine Post.ite (fun _ => p) fun hd => ?_
    exact (feedLoop_post (s := s1)).imp (fun s' => p.trans) fun z h => h.trans (p.open_ (by simpa using hd)).2.1

/-- the stream ends: `EOFError` unless the transfer is done -/
def closeStream : R → R
  | .error e => .error e
  | .ok s => if s.done then .ok s else .error (.EOF, s.zone)

/-- the loop of `_inbound_xfr` is the loop of a caller who feeds until done, closed by the end of the stream -/
theorem runLoop_eq_feedLoop (fix : Bool) : ∀ (msgs : List Msg) (s : Inbound), s.done = false →
    runLoop fix s msgs = closeStream (feedLoop fix s msgs) := by
  intro msgs
  induction msgs with
  | nil => intro s hd; simp [runLoop, feedLoop, closeStream, hd]
  | cons m ms ih =>
    intro s _
    unfold runLoop feedLoop
    cases procMessage fix s m with
    | error e => rfl
    | ok s' =>
      dsimp only
      cases hd : s'.done with
      | true => simp [closeStream, hd]
      | false => exact ih s' hd

/-- a state of the transfer `c` of the zone `z0` in which nothing has been committed -/
structure Pending (c : Config) (z0 : Zone) (s : Inbound) : Prop where
  origin : c.origin = some s.origin
  rdtype : s.rdtype = c.rdtype
  udp : s.isUdp = c.isUdp
  zone : s.zone = z0
  done : s.done = false

theorem Pending.of_init {c : Config} {z0 : Zone} {s : Inbound}
    (h : Inbound.init c.origin z0 c.rdtype c.serial c.isUdp = .ok s) : Pending c z0 s ∧ s.soa = none := by
  unfold Inbound.init at h
  by_cases h1 : c.rdtype = ixfrType
  · rw [if_pos h1] at h
    by_cases h2 : c.serial.isNone = true
    · rw [if_pos h2] at h; cases h
    rw [if_neg h2] at h
    cases ho : c.origin with
    | none => rw [ho] at h; cases h
    | some o' => rw [ho] at h; cases h; exact ⟨⟨ho, rfl, rfl, rfl, rfl⟩, rfl⟩
  rw [if_neg h1] at h
  by_cases h2 : c.rdtype = axfrType
  · rw [if_pos h2] at h
    by_cases h3 : c.isUdp = true
    · rw [if_pos h3] at h; cases h
    rw [if_neg h3] at h
    cases ho : c.origin with
    | none => rw [ho] at h; cases h
    | some o' => rw [ho] at h; cases h; exact ⟨⟨ho, rfl, rfl, rfl, rfl⟩, rfl⟩
  · rw [if_neg h2] at h; cases h

theorem exit_zone (s : Inbound) (b : Bool) : s.exit b = s.zone := by
  unfold Inbound.exit; split <;> rfl

def eraseSerial (s : Inbound) : Inbound := { s with serial := none }

def mapR (f : Inbound → Inbound) : R → R
  | .error e => .error e
  | .ok s => .ok (f s)

/-- `a` is `b` run from the state with the serial erased: the same result up to the serial, and still not
incremental -/
abbrev NonIncr (a b : R) : Prop := a = mapR eraseSerial b ∧ ∀ s', b = .ok s' → s'.incremental = false

theorem NonIncr.err (e : XErr × Zone) : NonIncr (.error e) (.error e) := ⟨rfl, fun _ h => by cases h⟩

theorem NonIncr.ok {y x : Inbound} (hy : y = eraseSerial x) (h : x.incremental = false) : NonIncr (.ok y) (.ok x) :=
  ⟨by rw [hy]; rfl, fun _ e => by cases e; exact h⟩

theorem NonIncr.ite {c : Prop} [Decidable c] {a a' b b' : R} (ha : c → NonIncr a a') (hb : ¬ c → NonIncr b b') :
    NonIncr (if c then a else b) (if c then a' else b') := by
  by_cases h : c
  · rw [if_pos h, if_pos h]; exact ha h
  · rw [if_neg h, if_neg h]; exact hb h

theorem NonIncr.bind {a b : R} {g : Inbound → R} (h : NonIncr a b)
    (hg : ∀ s, s.incremental = false → NonIncr (g (eraseSerial s)) (g s)) :
    NonIncr (match (generalizing := false) a with | .error e => .error e | .ok s => g s)
      (match (generalizing := false) b with | .error e => .error e | .ok s => g s) := by
  obtain ⟨rfl, hi⟩ := h
  cases b with
  | error e => exact NonIncr.err e
  | ok s => exact hg s (hi s rfl)

theorem procRRset_nonincr (fix : Bool) (s : Inbound) (rr : RRset) (more : Bool) (hi : s.incremental = false) :
    NonIncr (procRRset fix (eraseSerial s) rr more) (procRRset fix s rr more) := by
  obtain ⟨o, t, inc, ser, udp, soa, done, exp, dm, txn, z⟩ := s
  dsimp only at hi
  subst hi
  unfold procRRset
  dsimp only [eraseSerial]
  refine NonIncr.ite (fun _ => NonIncr.err _) fun _ => ?_
  cases txn with
  | none => exact NonIncr.err _
  | some x =>
    refine NonIncr.ite (fun _ => NonIncr.ite (fun _ => ?_) fun _ => NonIncr.err _) fun _ => ?_
    · unfold procFinalSoa
      dsimp only
      refine NonIncr.ite (fun _ => NonIncr.err _) fun _ => NonIncr.ite (fun _ => NonIncr.err _) fun _ =>
        NonIncr.ite (fun _ => NonIncr.err _) fun _ => ?_
      cases txnReplace o x rr with
      | error e => exact NonIncr.err _
      | ok t' => exact NonIncr.ok rfl rfl
    · cases exp with
      | false =>
        unfold procData
        simp only [fallbackState, fallbackTxn, Bool.false_eq_true, if_false]
        refine NonIncr.ite (fun _ => NonIncr.ok rfl rfl) fun _ => NonIncr.ite (fun _ => ?_) fun _ => ?_
        · cases txnDeleteExact x rr with
          | error e => exact NonIncr.err _
          | ok t' => exact NonIncr.ok rfl rfl
        · cases txnAdd o x rr with
          | error e => exact NonIncr.err _
          | ok t' => exact NonIncr.ok rfl rfl
      | true =>
        -- the AXFR-style fallback: a replacement transaction, add mode
        unfold procData
        simp only [fallbackState, fallbackTxn, if_true, Bool.false_eq_true, if_false]
        refine NonIncr.ite (fun _ => NonIncr.ok rfl rfl) fun _ => ?_
        cases txnAdd o (writer z true) rr with
        | error e => exact NonIncr.err _
        | ok t' => exact NonIncr.ok rfl rfl

theorem mapR_ok {f : Inbound → Inbound} {r : R} {s' : Inbound} (h : mapR f r = .ok s') : ∃ s, r = .ok s ∧ s' = f s := by
  cases r with
  | error e => cases h
  | ok s => cases h; exact ⟨s, rfl, rfl⟩

theorem procAnswers_nonincr (fix : Bool) : ∀ (l : List RRset) (s : Inbound), s.incremental = false →
    NonIncr (procAnswers fix (eraseSerial s) l) (procAnswers fix s l) := by
  intro l
  induction l with
  | nil => intro s hi; exact NonIncr.ok rfl hi
  | cons rr rest ih =>
    intro s hi
    unfold procAnswers
    exact (procRRset_nonincr fix s rr (!rest.isEmpty) hi).bind (g := (procAnswers fix · rest)) ih

theorem firstSoa_nonincr (s : Inbound) (rr : RRset) (b : Bool) (hi : s.incremental = false) :
    NonIncr (firstSoa (eraseSerial s) rr b) (firstSoa s rr b) := by
  obtain ⟨o, t, inc, ser, udp, soa, done, exp, dm, txn, z⟩ := s
  dsimp only at hi
  subst hi
  unfold firstSoa
  dsimp only [eraseSerial]
  exact NonIncr.ite (fun _ => NonIncr.err _) fun _ => NonIncr.ite (fun _ => NonIncr.err _) fun _ =>
    NonIncr.ite (fun h => by cases h) fun _ => NonIncr.ok rfl rfl

theorem openTxn_eraseSerial (s : Inbound) : openTxn (eraseSerial s) = eraseSerial (openTxn s) := by
  unfold openTxn eraseSerial
  cases h : s.txn <;> simp [h]

theorem procMessage_nonincr (fix : Bool) (s : Inbound) (m : Msg) (hi : s.incremental = false) :
    NonIncr (procMessage fix (eraseSerial s) m) (procMessage fix s m) := by
  have hio : (openTxn s).incremental = false := by unfold openTxn; split <;> simp [hi]
  have hbody : NonIncr (procBody fix (eraseSerial (openTxn s)) m) (procBody fix (openTxn s) m) := by
    unfold procBody
    show NonIncr (match (openTxn s).soa with | none => _ | some _ => _) _
    cases (openTxn s).soa with
    | some f => exact procAnswers_nonincr fix m.answer (openTxn s) hio
    | none =>
      cases m.answer with
      | nil => exact NonIncr.err _
      | cons rr rest =>
        exact (firstSoa_nonincr (openTxn s) rr rest.isEmpty hio).bind (g := (procAnswers fix · rest))
          (procAnswers_nonincr fix rest)
  unfold procMessage
  rw [openTxn_eraseSerial]
  show NonIncr (match headerErr (openTxn s) m with | some e => .error (e, s.zone) | none => _) _
  cases headerErr (openTxn s) m with
  | some e => exact NonIncr.err _
  | none =>
    refine hbody.bind (g := udpCheck) fun s2 hi2 => ?_
    unfold udpCheck
    exact NonIncr.ite (fun _ => NonIncr.err _) fun _ => NonIncr.ok rfl hi2

theorem runLoop_nonincr (fix : Bool) : ∀ (msgs : List Msg) (s : Inbound), s.incremental = false →
    NonIncr (runLoop fix (eraseSerial s) msgs) (runLoop fix s msgs) := by
  intro msgs
  induction msgs with
  | nil => intro s _; exact NonIncr.err _
  | cons m ms ih =>
    intro s hi
    unfold runLoop
    exact (procMessage_nonincr fix s m hi).bind (g := fun s' => if s'.done then .ok s' else runLoop fix s' ms)
      fun s1 h1 => NonIncr.ite (fun _ => NonIncr.ok rfl h1) fun _ => ih s1 h1

/-- Whatever serial the caller passes (0 as `dns.query.xfr` does), the outcome of an AXFR is that of `serial=None`. -/
theorem run_axfr_serial (fix : Bool) (origin : Option Name) (ser : Option Nat) (udp : Bool) (z0 : Zone) (msgs : List Msg) :
    run fix ⟨origin, axfrType, ser, udp⟩ z0 msgs = run fix ⟨origin, axfrType, none, udp⟩ z0 msgs := by
  unfold run
  cases udp with
  | true => simp [Inbound.init, axfrType, ixfrType]
  | false =>
    cases origin with
    | none => simp [Inbound.init, axfrType, ixfrType]
    | some o =>
      have h1 : Inbound.init (some o) z0 axfrType ser false =
          .ok ⟨o, axfrType, false, ser, false, none, false, false, false, none, z0⟩ := by
        simp [Inbound.init, axfrType, ixfrType]
      have h2 : Inbound.init (some o) z0 axfrType none false =
          .ok (eraseSerial ⟨o, axfrType, false, ser, false, none, false, false, false, none, z0⟩) := by
        simp [Inbound.init, axfrType, ixfrType, eraseSerial]
      simp only [h1, h2]
      rw [(runLoop_nonincr fix msgs _ rfl).1]
      cases runLoop fix ⟨o, axfrType, false, ser, false, none, false, false, false, none, z0⟩ msgs with
      | error e => rfl
      | ok s' => rfl


/-- `a` (as shipped) and `b` (repaired) are the same result, or both raise `FormError` (and may differ
in the zone they leave) -/
def RelR (a b : R) : Prop := a = b ∨ ∃ z z', a = .error (.FormError, z) ∧ b = .error (.FormError, z')

theorem procFinalSoa_variants (s : Inbound) (txn : Txn) (rr : RRset) (more : Bool) (ho : rr.owner = s.origin) :
    procFinalSoa false s txn rr more = procFinalSoa true s txn rr more ∨
      (more = true ∧ procFinalSoa true s txn rr more = .error (.FormError, s.zone) ∧
        ∃ s1, procFinalSoa false s txn rr more = .ok s1 ∧ s1.done = true) := by
  unfold procFinalSoa
  by_cases h1 : s.expectingSOA = true
  · left; simp only [if_pos h1]
  by_cases h2 : (s.incremental && decide (s.serial ≠ firstSerial rr)) = true
  · left; simp only [if_neg h1, if_pos h2]
  simp only [if_neg h1, if_neg h2]
  cases more with
  | false => left; rfl
  | true =>
    right
    refine ⟨rfl, rfl, ?_⟩
    simp only [Bool.false_and, Bool.false_eq_true, if_false]
    simp only [txnReplace, ho, ne_eq, not_true_eq_false, and_false, if_false]
    exact ⟨_, rfl, rfl⟩

theorem procRRset_variants (s : Inbound) (rr : RRset) (more : Bool) :
    procRRset false s rr more = procRRset true s rr more ∨
      (more = true ∧ procRRset true s rr more = .error (.FormError, s.zone) ∧
        ∃ s1, procRRset false s rr more = .ok s1 ∧ s1.done = true) := by
  unfold procRRset
  by_cases hd : s.done = true
  · left; simp only [if_pos hd]
  simp only [if_neg hd]
  cases s.txn with
  | none => left; rfl
  | some txn =>
    dsimp only
    by_cases hk : rr.rdtype = soaType ∧ rr.owner = s.origin
    · simp only [if_pos hk]
      by_cases hf : isFinalSoa s rr = true
      · simp only [if_pos hf]; exact procFinalSoa_variants _ _ _ _ hk.2
      · left; simp only [if_neg hf]
    · left; simp only [if_neg hk]

theorem RelR.refl (a : R) : RelR a a := Or.inl rfl

theorem RelR.bind {a b : R} {g g' : Inbound → R} (h : RelR a b) (hg : ∀ s, RelR (g s) (g' s)) :
    RelR (match (generalizing := false) a with | .error e => .error e | .ok s => g s)
      (match (generalizing := false) b with | .error e => .error e | .ok s => g' s) := by
  rcases h with rfl | ⟨z, z', rfl, rfl⟩
  · cases a with
    | error e => exact RelR.refl _
    | ok s => exact hg s
  · exact Or.inr ⟨z, z', rfl, rfl⟩

theorem procAnswers_variants : ∀ (l : List RRset) (s : Inbound),
    RelR (procAnswers false s l) (procAnswers true s l) := by
  intro l
  induction l with
  | nil => intro s; exact RelR.refl _
  | cons rr rest ih =>
    intro s
    rcases procRRset_variants s rr (!rest.isEmpty) with h | ⟨hm, ht, s1, hf, hd⟩
    · unfold procAnswers
      rw [← h]
      exact (RelR.refl _).bind ih
    · -- as shipped commits, then raises at the next rrset; the repaired variant raises before committing
      cases rest with
      | nil => simp at hm
      | cons r2 rs =>
        refine Or.inr ⟨s1.zone, s.zone, ?_, by rw [procAnswers, ht]⟩
        rw [procAnswers, hf]
        simp [procAnswers, procRRset, hd]

theorem procBody_variants (s : Inbound) (m : Msg) : RelR (procBody false s m) (procBody true s m) := by
  unfold procBody
  cases s.soa with
  | some _ => exact procAnswers_variants _ _
  | none =>
    cases m.answer with
    | nil => exact RelR.refl _
    | cons rr rest => exact (RelR.refl _).bind (procAnswers_variants rest)

theorem procMessage_variants (s : Inbound) (m : Msg) : RelR (procMessage false s m) (procMessage true s m) := by
  unfold procMessage
  cases headerErr (openTxn s) m with
  | some e => exact RelR.refl _
  | none => exact (procBody_variants _ m).bind fun _ => RelR.refl _

theorem runLoop_variants : ∀ (msgs : List Msg) (s : Inbound), RelR (runLoop false s msgs) (runLoop true s msgs) := by
  intro msgs
  induction msgs with
  | nil => intro s; exact RelR.refl _
  | cons m ms ih =>
    intro s
    unfold runLoop
    refine (procMessage_variants s m).bind fun s' => ?_
    split
    · exact RelR.refl _
    · exact ih s'

/-- Where they differ, the shipped code raises the same `FormError` as the repaired code, but after having committed. -/
theorem run_variants (c : Config) (z0 : Zone) (msgs : List Msg) :
    run false c z0 msgs = run true c z0 msgs ∨
      ((run false c z0 msgs).err = some .FormError ∧ (run true c z0 msgs).err = some .FormError) := by
  unfold run
  cases Inbound.init c.origin z0 c.rdtype c.serial c.isUdp with
  | error e => left; rfl
  | ok s =>
    simp only []
    rcases runLoop_variants msgs s with h | ⟨z, z', ha, hb⟩
    · left; rw [h]
    · right; rw [ha, hb]; exact ⟨rfl, rfl⟩

/-- The repaired code raises only with the zone it started from. -/
theorem run_fix_atomic {c : Config} {z0 : Zone} {msgs : List Msg} {e : XErr} (h : (run true c z0 msgs).err = some e) :
    run true c z0 msgs = ⟨some e, z0⟩ := by
  unfold run at h ⊢
  cases hs : Inbound.init c.origin z0 c.rdtype c.serial c.isUdp with
  | error e' => rw [hs] at h; cases h; rfl
  | ok s =>
    have ip := (Pending.of_init hs).1
    have p := feedLoop_post (msgs := msgs) (s := s)
    rw [hs] at h
    dsimp only at h ⊢
    rw [runLoop_eq_feedLoop true msgs s ip.done] at h ⊢
    cases h1 : feedLoop true s msgs with
    | error ez => rw [h1] at p h; cases h; exact congrArg _ (p.trans ip.zone)
    | ok s' =>
      rw [h1] at p h
      cases hd : s'.done with
      | true => simp [closeStream, hd] at h
      | false => simp only [closeStream, hd] at h ⊢; cases h; exact congrArg _ ((Later.open_ p hd).2.1.trans ip.zone)

/-- what the caller of the code as it is observes where the loop without the look-ahead gives `out`: the same
exception with the zone it started from, or the same zone -/
def repaired (z0 : Zone) : Outcome → Outcome
  | ⟨some e, _⟩ => ⟨some e, z0⟩
  | out => out

/-- So whatever is proved of the loop without the look-ahead, which distributes over append, is carried to the code as it is. -/
theorem run_repaired (c : Config) (z0 : Zone) (msgs : List Msg) :
    run true c z0 msgs = repaired z0 (run false c z0 msgs) := by
  rcases run_variants c z0 msgs with eq | ⟨hf, ht⟩
  · rw [eq]
    cases h : (run true c z0 msgs).err with
    | none => cases hr : run true c z0 msgs with | mk err zone => rw [hr] at h; cases h; rfl
    | some e => rw [run_fix_atomic h]; rfl
  · rw [run_fix_atomic ht]
    cases hr : run false c z0 msgs with | mk err zone => rw [hr] at hf; cases hf; rfl

end Model.Xfr
