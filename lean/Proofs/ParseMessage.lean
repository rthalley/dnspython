import Proofs.ParseTrailer
import Proofs.RenderPad
/-! Render-then-parse of a whole message with absolute names: the parser returns the message again, up to the ASCII case
of names that were compressed against differently-cased earlier occurrences.  `parse_of_shape` reads back anything of the
shape `to_wire` produces — header, sections, OPT record, TSIG record — given that the sections read back (`BodyParses`);
`parse_toWire_of_body` joins it to the renderer.  Ordinary messages and dynamic updates differ only in how they supply
`BodyParses`; the theorems per kind of message (`MsgOk` … `MsgOkP`) are its instances. -/
namespace Model

variable {Rs : RelSpec}

/-- the twelve header octets as `_WireReader.read` decodes them -/
theorem hdr_read {id flags : Nat} {c : Counts} {rest W : Bytes} (hW : W = hdrOf id flags c ++ rest) (hid : id < 65536)
    (hfl : flags < 65536) (h0 : c.c0 < 65536) (h1 : c.c1 < 65536) (h2 : c.c2 < 65536) (h3 : c.c3 < 65536) :
    ¬ W.length < 12 ∧ beVal (slice W 0 2) = id ∧ beVal (slice W 2 2) = flags ∧ beVal (slice W 4 2) = c.c0 ∧
      beVal (slice W 6 2) = c.c1 ∧ beVal (slice W 8 2) = c.c2 ∧ beVal (slice W 10 2) = c.c3 := by
  have h : At W 0 (u16 id ++ u16 flags ++ u16 c.c0 ++ u16 c.c1 ++ u16 c.c2 ++ u16 c.c3) := ⟨[], rest, hW, rfl⟩
  have hl : 0 + 12 ≤ W.length := h.end_le
  exact ⟨by omega, h.fst.fst.fst.fst.fst.val16 hid, (h.fst.fst.fst.fst.snd 2).val16 hfl, (h.fst.fst.fst.snd 4).val16 h0,
    (h.fst.fst.snd 6).val16 h1, (h.fst.snd 8).val16 h2, (h.snd 10).val16 h3⟩

structure QOk (Rs : RelSpec) (r : RRset) : Prop where
  name : NameOk Rs none r.name
  rdtype : r.rdtype < 65536
  rdclass : r.rdclass < 65536
  covers : r.covers = 0
  deleting : r.deleting = none
  ttl : r.ttl = 0
  rdatas : r.rdatas = []

/-- `rc` is what `_parse_rr_header` makes of the class -/
theorem reads_question {cfg : PCfg} (horg : cfg.origin = none) {upd : Bool} {t : CTable} {r : RRset} (hr : QOk Rs r)
    {q1 : Bytes × CTable} {st : PState} (h1 : nameExt st.cur t r.name none = some q1) {rc : Nat} {d : Option Nat} {e : Bool}
    (hhdr : parseRRHeader upd st.q 0 r.rdclass r.rdtype = .ok (rc, d, e)) :
    Reads Rs t st.cur (q1.1 ++ u16 r.rdtype ++ u16 r.rdclass) q1.2 (fun W => parseQuestion cfg upd W st) fun st' =>
      ∃ n', Rs.R n' r.name ∧
        st' = { st with cur := st.cur + (q1.1 ++ u16 r.rdtype ++ u16 r.rdclass).length,
                        q := st.q ++ [{ name := n', rdclass := rc, rdtype := r.rdtype }] } := by
  intro W hW hs
  have hW' : At W st.cur (q1.1 ++ (u16 r.rdtype ++ u16 r.rdclass)) := by simpa only [List.append_assoc] using hW
  have hf := hW'.snd _ rfl
  have h4 : st.cur + q1.1.length + 4 ≤ W.length := hf.end_le
  obtain ⟨s1, n', hg, hn'⟩ := hW'.fst.name hs hr.name h1 (by omega) (Nat.le_refl _)
  have hlen : st.cur + (q1.1 ++ u16 r.rdtype ++ u16 r.rdclass).length = st.cur + q1.1.length + 4 := by
    simp only [List.length_append, u16_length]; omega
  refine ⟨hlen ▸ s1.take hf, _, ?_, rfl, n', hn', rfl⟩
  have c4 : ¬ W.length - (st.cur + q1.1.length) < 4 := by omega
  dsimp only
  unfold parseQuestion
  rw [hg]
  simp only [horg, relTo, c4, if_false, hf.fst.val16 hr.rdtype, (hf.snd 2).val16 hr.rdclass, hhdr, sectionAdd, if_true, id,
    hlen]

theorem reads_questions {cfg : PCfg} (horg : cfg.origin = none) (qs : List RRset) :
    ∀ {t : CTable} {q : Bytes × CTable} {st : PState}, (∀ r ∈ qs, QOk Rs r) →
      itemsExt none st.cur t (qs.map fun r => Item.q r.name r.rdtype r.rdclass) = .ok q →
      Reads Rs t st.cur q.1 q.2 (fun W => parseQuestions cfg false W qs.length st) fun st' =>
        ∃ qs', SimList (RRset.sim Rs) qs' qs ∧ st' = { st with cur := st.cur + q.1.length, q := st.q ++ qs' } := by
  induction qs with
  | nil =>
    intro t q st _ h
    cases h
    exact Reads.nil ⟨[], SimList.nil, by simp⟩
  | cons r rest ih =>
    intro t q st hok h
    obtain ⟨p, q2, hp, h2, rfl⟩ := itemsExt_cons_ok h
    obtain ⟨q1, h1, rfl⟩ := itemExt_q_ok hp
    have hr := hok r (by simp)
    refine (reads_question horg hr h1 (upd := false) rfl).seq (g := fun W s => parseQuestions cfg false W rest.length s)
      ?_ _ (fun _ => rfl)
    rintro s hcs ⟨n', hn', rfl⟩
    refine (ih (fun x hx => hok x (by simp [hx])) h2).mono ?_
    rintro s' - ⟨qs', hsims, rfl⟩
    exact ⟨{ name := n', rdclass := r.rdclass, rdtype := r.rdtype } :: qs',
      SimList.cons ⟨hn', rfl, rfl, hr.covers.symm, hr.deleting.symm, hr.ttl.symm, by rw [hr.rdatas]; exact SimList.nil⟩ hsims,
      by simp [Nat.add_assoc]⟩

/-- the record sets `rs` of section `sec`, rendered where the reader stands, read back — provided the question section
already read satisfies `Q` -/
def SectionParses (Rs : RelSpec) (cfg : PCfg) (upd : Bool) (Q : List RRset → Prop) (sec : Nat) (rs : List RRset) : Prop :=
  ∀ (t : CTable) (q : Bytes × CTable) (count : Nat) (st : PState), Q st.q → st.section sec = [] →
    itemsExt none st.cur t (rs.map (Item.rr sec)) = .ok q →
    Reads Rs t st.cur q.1 q.2 (fun W => parseSection cfg upd W sec count (rrCount rs) 0 st) fun st' =>
      ∃ rs', SimList (RRset.sim Rs) rs' rs ∧ st' = ({ st with cur := st.cur + q.1.length } : PState).setSection sec rs'

/-- questions and the record sets of the three sections of `m`, rendered after twelve header octets, read back whatever
count `c₃` the special-record check is given -/
def BodyParses (Rs : RelSpec) (cfg : PCfg) (upd : Bool) (m : Message) : Prop :=
  ∀ q, itemsExt none 12 [] m.items = .ok q → ∀ c₃ : Nat,
    Reads Rs [] 12 q.1 q.2 (fun W => readSections cfg upd W m.q.length (rrCount m.an) (rrCount m.au) c₃ (rrCount m.ad) { cur := 12 })
      fun st' => SimList (RRset.sim Rs) st'.q m.q ∧ SimList (RRset.sim Rs) st'.an m.an ∧
        SimList (RRset.sim Rs) st'.au m.au ∧ SimList (RRset.sim Rs) st'.ad m.ad ∧ st'.opt = none ∧ st'.tsig = none

theorem bodyParses_of {cfg : PCfg} {upd : Bool} {m : Message} (Q : List RRset → Prop)
    (hqs : ∀ q, itemsExt none 12 [] (m.q.map fun r => Item.q r.name r.rdtype r.rdclass) = .ok q →
      Reads Rs [] 12 q.1 q.2 (fun W => parseQuestions cfg upd W m.q.length { cur := 12 }) fun st' =>
        ∃ qs', SimList (RRset.sim Rs) qs' m.q ∧ Q qs' ∧ st' = { cur := 12 + q.1.length, q := qs' })
    (han : SectionParses Rs cfg upd Q 1 m.an) (hau : SectionParses Rs cfg upd Q 2 m.au)
    (had : SectionParses Rs cfg upd Q 3 m.ad) : BodyParses Rs cfg upd m := by
  intro q hq c₃
  simp only [Message.items] at hq
  obtain ⟨q3, qd, h3, hqd, rfl⟩ := itemsExt_append_ok hq
  obtain ⟨q2, qu, h2, hqu, rfl⟩ := itemsExt_append_ok h3
  obtain ⟨qq, qa, hqq, hqa, rfl⟩ := itemsExt_append_ok h2
  refine Reads.seq (Q₁ := fun s => ∃ qs' an' au', SimList (RRset.sim Rs) qs' m.q ∧ SimList (RRset.sim Rs) an' m.an ∧
      SimList (RRset.sim Rs) au' m.au ∧ Q qs' ∧ s = { cur := s.cur, q := qs', an := an', au := au' })
    (Reads.seq (Q₁ := fun s => ∃ qs' an', SimList (RRset.sim Rs) qs' m.q ∧ SimList (RRset.sim Rs) an' m.an ∧ Q qs' ∧
        s = { cur := s.cur, q := qs', an := an' })
      (Reads.seq (hqs qq hqq) ?_ _ (fun _ => rfl)) ?_ _ (fun _ => rfl)) ?_ _ (fun _ => rfl)
  · rintro s - ⟨qs', hsq, hQ, rfl⟩
    exact (han _ qa _ _ hQ rfl hqa).mono fun s' _ ⟨an', hsa, hs'⟩ => ⟨qs', an', hsq, hsa, hQ, hs' ▸ rfl⟩
  · rintro s hc ⟨qs', an', hsq, hsa, hQ, hs⟩
    rw [← hc] at hqu
    rw [hs] at hqu ⊢
    exact (hau _ qu _ _ hQ rfl hqu).mono fun s' _ ⟨au', hsu, hs'⟩ => ⟨qs', an', au', hsq, hsa, hsu, hQ, hs' ▸ rfl⟩
  · rintro s hc ⟨qs', an', au', hsq, hsa, hsu, hQ, hs⟩
    rw [← hc] at hqd
    rw [hs] at hqd ⊢
    exact (had _ qd _ _ hQ rfl hqd).mono fun s' _ ⟨ad', hsd, hs'⟩ => hs' ▸ ⟨hsq, hsa, hsu, hsd, rfl, rfl⟩

/-- what the library's constructors guarantee of the four sections of a message that is not an update -/
structure SectionsOk (Rs : RelSpec) (m : Message) : Prop where
  q : ∀ r ∈ m.q, QOk Rs r
  an : ∀ r ∈ m.an, RRsetOk Rs r
  au : ∀ r ∈ m.au, RRsetOk Rs r
  ad : ∀ r ∈ m.ad, RRsetOk Rs r
  keysAn : m.an.Pairwise (fun a b => keyMatch b.name b.rdclass b.rdtype b.covers none a = false)
  keysAu : m.au.Pairwise (fun a b => keyMatch b.name b.rdclass b.rdtype b.covers none a = false)
  keysAd : m.ad.Pairwise (fun a b => keyMatch b.name b.rdclass b.rdtype b.covers none a = false)

theorem sectionParses_rrsets {cfg : PCfg} (horg : cfg.origin = none) (hnorr : cfg.oneRRPerRRset = false) (sec : Nat)
    {rs : List RRset} (hok : ∀ r ∈ rs, RRsetOk Rs r)
    (hkeys : rs.Pairwise (fun a b => keyMatch b.name b.rdclass b.rdtype b.covers none a = false)) :
    SectionParses Rs cfg false (fun _ => True) sec rs := by
  intro t q count st _ hsec hq
  have := reads_rrsets count (reads_rrset_fresh horg hnorr (sec := sec) count) rs t q 0 st
    ⟨hok, fun _ _ x hx => (by rw [hsec] at hx; cases hx), hkeys⟩ hq
  rwa [hsec] at this

theorem parse_body {cfg : PCfg} (horg : cfg.origin = none) (hnorr : cfg.oneRRPerRRset = false) {m : Message}
    (hok : SectionsOk Rs m) : BodyParses Rs cfg false m := by
  refine bodyParses_of (fun _ => True) ?_ (sectionParses_rrsets horg hnorr 1 hok.an hok.keysAn)
    (sectionParses_rrsets horg hnorr 2 hok.au hok.keysAu) (sectionParses_rrsets horg hnorr 3 hok.ad hok.keysAd)
  intro q hq
  exact (reads_questions horg m.q (st := { cur := 12 }) hok.q hq).mono fun s _ ⟨qs', hsim, hs⟩ =>
    ⟨qs', hsim, trivial, by simpa using hs⟩

/-- equal up to the ASCII case of names (owner of the TSIG record included) -/
def Message.simT (Rs : RelSpec) (a b : Message) : Prop :=
  a.id = b.id ∧ a.flags = b.flags ∧ SimList (RRset.sim Rs) a.q b.q ∧ SimList (RRset.sim Rs) a.an b.an ∧
    SimList (RRset.sim Rs) a.au b.au ∧ SimList (RRset.sim Rs) a.ad b.ad ∧ a.opt = b.opt ∧ optSim Rs a.tsig b.tsig

theorem parse_of_shape (cfg : PCfg) (horg : cfg.origin = none) (m : Message)
    (hbody : BodyParses Rs cfg (isUpdate m.flags) m) (hid : m.id < 65536) (hfl : m.flags < 65536)
    (hcq : m.q.length < 65536) (hca : rrCount m.an < 65536) (hcu : rrCount m.au < 65536)
    (opt' : Option EOpt) (hoo : ∀ o, opt' = some o → OptOk o)
    (hto : ∀ ts, m.tsig = some ts → TsigOk Rs ts ∧ cfg.hasKey = true)
    (q qo qt : Bytes × CTable) (hq : itemsExt none 12 [] m.items = .ok q)
    (hop : itemsExt none (12 + q.1.length) q.2 (optItems opt') = .ok qo)
    (htp : itemsExt none (12 + q.1.length + qo.1.length) [] (tsigItems m.tsig) = .ok qt)
    (hcd : rrCount m.ad + (optItems opt').length + (tsigItems m.tsig).length < 65536) (w : Bytes)
    (hw : w = hdrOf m.id m.flags
      { c0 := m.q.length, c1 := rrCount m.an, c2 := rrCount m.au,
        c3 := rrCount m.ad + (optItems opt').length + (tsigItems m.tsig).length } ++ q.1 ++ qo.1 ++ qt.1) :
    ∃ m', parseMessage cfg w = .ok m' ∧ m'.simT Rs { m with opt := opt' } := by
  have hW : At w 12 (q.1 ++ (qo.1 ++ qt.1)) :=
    ⟨_, [], by rw [hw, List.append_nil, List.append_assoc, List.append_assoc], hdrOf_length ..⟩
  obtain ⟨hs₁, s₁, hf₁, hc₁, hsq, hsa, hsu, hsd, hso, hst⟩ :=
    hbody q hq (rrCount m.ad + (optItems opt').length + (tsigItems m.tsig).length) w hW.fst (fun _ hp => nomatch hp)
  rw [← hc₁] at hop htp hs₁
  obtain ⟨-, s₂, hf₂, hc₂, ts', hts, rfl⟩ := reads_tail horg (isUpdate m.flags) (rrCount m.ad) hso hst hoo hto hop htp w
    (hc₁ ▸ hW.snd _ rfl) hs₁
  obtain ⟨hwl, s0, s2, s4, s6, s8, s10⟩ := hdr_read (W := w) (rest := q.1 ++ (qo.1 ++ qt.1)) (by rw [hw, List.append_assoc, List.append_assoc])
    hid hfl hcq hca hcu hcd
  refine ⟨{ id := m.id, flags := m.flags, origin := cfg.origin, q := s₁.q, an := s₁.an, au := s₁.au, ad := s₁.ad,
            opt := opt', tsig := ts' }, ?_, rfl, rfl, hsq, hsa, hsu, hsd, rfl, hts⟩
  have hend : w.length - (s₁.cur + qo.1.length + qt.1.length) = 0 := by
    rw [hc₁, hw]; simp only [List.length_append, hdrOf_length]; omega
  dsimp only at hf₁ hf₂
  rw [secADD] at hf₂
  -- ADDITIONAL is read in two runs: the message's own records (`hf₁`), then the OPT and TSIG records (`hf₂`)
  rw [parseMessage_eq, parseSections, s0, s2, s4, s6, s8, s10, Nat.add_assoc (rrCount m.ad), readSections_add,
    ← Nat.add_assoc, hf₁]
  simp only [hwl, if_false, hf₂, hend]
  simp

/-- well-formed message for the first render-then-parse theorem -/
structure MsgOk (Rs : RelSpec) (m : Message) : Prop where
  origin : m.origin = none
  id : m.id < 65536
  flags : m.flags < 65536
  notUpdate : isUpdate m.flags = false
  noOpt : m.opt = none
  noTsig : m.tsig = none
  q : ∀ r ∈ m.q, QOk Rs r
  an : ∀ r ∈ m.an, RRsetOk Rs r
  au : ∀ r ∈ m.au, RRsetOk Rs r
  ad : ∀ r ∈ m.ad, RRsetOk Rs r
  keysAn : m.an.Pairwise (fun a b => keyMatch b.name b.rdclass b.rdtype b.covers none a = false)
  keysAu : m.au.Pairwise (fun a b => keyMatch b.name b.rdclass b.rdtype b.covers none a = false)
  keysAd : m.ad.Pairwise (fun a b => keyMatch b.name b.rdclass b.rdtype b.covers none a = false)
  counts : m.q.length < 65536 ∧ rrCount m.an < 65536 ∧ rrCount m.au < 65536 ∧ rrCount m.ad < 65536

/-- equal up to the ASCII case of names -/
def Message.sim (Rs : RelSpec) (a b : Message) : Prop :=
  a.id = b.id ∧ a.flags = b.flags ∧ SimList (RRset.sim Rs) a.q b.q ∧ SimList (RRset.sim Rs) a.an b.an ∧
    SimList (RRset.sim Rs) a.au b.au ∧ SimList (RRset.sim Rs) a.ad b.ad ∧ a.opt = b.opt ∧ a.tsig = b.tsig

structure MsgOkE (Rs : RelSpec) (m : Message) : Prop where
  origin : m.origin = none
  id : m.id < 65536
  flags : m.flags < 65536
  notUpdate : isUpdate m.flags = false
  opt : ∀ o, m.opt = some o → OptOk o
  pad : m.pad = 0
  noTsig : m.tsig = none
  q : ∀ r ∈ m.q, QOk Rs r
  an : ∀ r ∈ m.an, RRsetOk Rs r
  au : ∀ r ∈ m.au, RRsetOk Rs r
  ad : ∀ r ∈ m.ad, RRsetOk Rs r
  keysAn : m.an.Pairwise (fun a b => keyMatch b.name b.rdclass b.rdtype b.covers none a = false)
  keysAu : m.au.Pairwise (fun a b => keyMatch b.name b.rdclass b.rdtype b.covers none a = false)
  keysAd : m.ad.Pairwise (fun a b => keyMatch b.name b.rdclass b.rdtype b.covers none a = false)
  counts : m.q.length < 65536 ∧ rrCount m.an < 65536 ∧ rrCount m.au < 65536 ∧ rrCount m.ad + 1 < 65536

structure MsgOkT (Rs : RelSpec) (m : Message) : Prop where
  origin : m.origin = none
  id : m.id < 65536
  flags : m.flags < 65536
  notUpdate : isUpdate m.flags = false
  opt : ∀ o, m.opt = some o → OptOk o
  pad : m.pad = 0
  tsig : ∀ t, m.tsig = some t → TsigOk Rs t
  q : ∀ r ∈ m.q, QOk Rs r
  an : ∀ r ∈ m.an, RRsetOk Rs r
  au : ∀ r ∈ m.au, RRsetOk Rs r
  ad : ∀ r ∈ m.ad, RRsetOk Rs r
  keysAn : m.an.Pairwise (fun a b => keyMatch b.name b.rdclass b.rdtype b.covers none a = false)
  keysAu : m.au.Pairwise (fun a b => keyMatch b.name b.rdclass b.rdtype b.covers none a = false)
  keysAd : m.ad.Pairwise (fun a b => keyMatch b.name b.rdclass b.rdtype b.covers none a = false)
  counts : m.q.length < 65536 ∧ rrCount m.an < 65536 ∧ rrCount m.au < 65536 ∧ rrCount m.ad + 2 < 65536

theorem MsgOk.sections {m : Message} (h : MsgOk Rs m) : SectionsOk Rs m :=
  ⟨h.q, h.an, h.au, h.ad, h.keysAn, h.keysAu, h.keysAd⟩

theorem MsgOkE.sections {m : Message} (h : MsgOkE Rs m) : SectionsOk Rs m :=
  ⟨h.q, h.an, h.au, h.ad, h.keysAn, h.keysAu, h.keysAd⟩

theorem MsgOkT.sections {m : Message} (h : MsgOkT Rs m) : SectionsOk Rs m :=
  ⟨h.q, h.an, h.au, h.ad, h.keysAn, h.keysAu, h.keysAd⟩

theorem Message.sim_of_simT {a b : Message} (h : a.simT Rs b) (hb : b.tsig = none) : a.sim Rs b := by
  obtain ⟨h1, h2, h3, h4, h5, h6, h7, h8⟩ := h
  refine ⟨h1, h2, h3, h4, h5, h6, h7, ?_⟩
  rw [hb] at h8 ⊢
  cases hat : a.tsig with
  | none => rfl
  | some t => rw [hat] at h8; exact h8.elim

/-- well-formed message as `MsgOkT`, but a padding request is allowed (the padded OPT must still fit its RDLENGTH) -/
structure MsgOkP (Rs : RelSpec) (m : Message) : Prop where
  base : MsgOkT Rs { m with pad := 0 }
  padOk : ∀ o, m.opt = some o → (optionsWire o.options).length + 4 + m.pad < 65536

theorem optOk_of_rel (pad : Nat) (o o' : EOpt) (ho : OptOk o)
    (hfit : pad ≠ 0 → (optionsWire o.options).length + 4 + pad < 65536) (h : OptPadRel pad (some o) (some o')) : OptOk o' := by
  rcases h with ⟨_, rfl⟩ | ⟨hne, k, hk, rfl⟩
  · exact ho
  · have hp16 : ConstsC03.optPADDING < 65536 := by decide
    have := hfit hne
    refine ⟨ho.ttl, ho.payload, ?_, ?_, trivial⟩
    · intro p hp
      simp only [List.mem_append, List.mem_singleton] at hp
      rcases hp with hp | rfl
      · exact ho.options p hp
      · exact ⟨hp16, by simp; omega⟩
    · simp only [optionsWire_append, List.length_append]
      simp [optionsWire, u16]
      omega

/-- The header must be able to count the records actually written, a padded OPT must fit its RDLENGTH, and a key is
needed only if there is a TSIG.  With padding the parsed OPT carries the original options followed by one PADDING option
of fewer than `pad` zero octets (`OptPadRel`). -/
theorem parse_toWire_of_body (m : Message) (lim : Nat) (w : Bytes) (h : m.toWire lim false = .ok w) (cfg : PCfg)
    (horg : cfg.origin = none) (hmo : m.origin = none) (hbody : BodyParses Rs cfg (isUpdate m.flags) m)
    (hid : m.id < 65536) (hfl : m.flags < 65536) (hcq : m.q.length < 65536) (hca : rrCount m.an < 65536)
    (hcu : rrCount m.au < 65536)
    (hcd : rrCount m.ad + (if m.opt.isSome then 1 else 0) + (if m.tsig.isSome then 1 else 0) < 65536)
    (hoo : ∀ o, m.opt = some o → OptOk o ∧ (m.pad ≠ 0 → (optionsWire o.options).length + 4 + m.pad < 65536))
    (hto : ∀ ts, m.tsig = some ts → TsigOk Rs ts ∧ cfg.hasKey = true) :
    ∃ m' opt', parseMessage cfg w = .ok m' ∧ m'.simT Rs { m with opt := opt' } ∧ OptPadRel m.pad m.opt opt' := by
  obtain ⟨q, opt', qo, qt, hq, hrel, hop, htp, hw⟩ := toWire_items m lim w h
  rw [hmo] at hq hop htp
  have hoo' : ∀ o', opt' = some o' → OptOk o' := by
    intro o' ho'
    subst ho'
    cases hopt : m.opt with
    | none => rw [hopt] at hrel; exact hrel.elim
    | some o =>
      rw [hopt] at hrel
      exact optOk_of_rel m.pad o o' (hoo o hopt).1 (hoo o hopt).2 hrel
  rw [← hrel.isSome, ← optItems_length, ← tsigItems_length] at hcd
  obtain ⟨m', hp, hs⟩ := parse_of_shape cfg horg m hbody hid hfl hcq hca hcu opt' hoo' hto q qo qt hq hop htp hcd w hw
  exact ⟨m', opt', hp, hs, hrel⟩

theorem parse_toWire_pad (m : Message) (lim : Nat) (w : Bytes) (hok : MsgOkP Rs m) (h : m.toWire lim false = .ok w)
    (cfg : PCfg) (horg : cfg.origin = none) (hnorr : cfg.oneRRPerRRset = false) (hkey : cfg.hasKey = true) :
    ∃ m' opt', parseMessage cfg w = .ok m' ∧ m'.simT Rs { m with opt := opt' } ∧ OptPadRel m.pad m.opt opt' := by
  have hb := hok.base
  obtain ⟨cq, can, cau, cad⟩ := hb.counts
  exact parse_toWire_of_body m lim w h cfg horg hb.origin
    (hb.notUpdate ▸ parse_body horg hnorr ⟨hb.q, hb.an, hb.au, hb.ad, hb.keysAn, hb.keysAu, hb.keysAd⟩) hb.id hb.flags
    cq can cau (by simp only at cad; split <;> split <;> omega) (fun o ho => ⟨hb.opt o ho, fun _ => hok.padOk o ho⟩)
    (fun ts hts => ⟨hb.tsig ts hts, hkey⟩)

theorem parse_toWire_full (m : Message) (lim : Nat) (w : Bytes) (hok : MsgOkT Rs m) (h : m.toWire lim false = .ok w)
    (cfg : PCfg) (horg : cfg.origin = none) (hnorr : cfg.oneRRPerRRset = false) (hkey : cfg.hasKey = true) :
    ∃ m', parseMessage cfg w = .ok m' ∧ m'.simT Rs m := by
  obtain ⟨cq, can, cau, cad⟩ := hok.counts
  obtain ⟨m', opt', hp, hs, hrel⟩ := parse_toWire_of_body m lim w h cfg horg hok.origin
    (hok.notUpdate ▸ parse_body horg hnorr hok.sections) hok.id hok.flags cq can cau (by split <;> split <;> omega)
    (fun o ho => ⟨hok.opt o ho, fun hp => absurd hok.pad hp⟩) (fun ts hts => ⟨hok.tsig ts hts, hkey⟩)
  rw [hrel.eq_of_unpadded (Or.inr hok.pad)] at hs
  exact ⟨m', hp, hs⟩

theorem parse_toWire_opt (m : Message) (lim : Nat) (w : Bytes) (hok : MsgOkE Rs m) (h : m.toWire lim false = .ok w)
    (cfg : PCfg) (horg : cfg.origin = none) (hnorr : cfg.oneRRPerRRset = false) :
    ∃ m', parseMessage cfg w = .ok m' ∧ m'.sim Rs m := by
  obtain ⟨cq, can, cau, cad⟩ := hok.counts
  obtain ⟨m', opt', hp, hs, hrel⟩ := parse_toWire_of_body m lim w h cfg horg hok.origin
    (hok.notUpdate ▸ parse_body horg hnorr hok.sections) hok.id hok.flags cq can cau
    (by rw [hok.noTsig]; split <;> simp <;> omega) (fun o ho => ⟨hok.opt o ho, fun hp => absurd hok.pad hp⟩)
    (fun ts hts => by rw [hok.noTsig] at hts; cases hts)
  rw [hrel.eq_of_unpadded (Or.inr hok.pad)] at hs
  exact ⟨m', hp, Message.sim_of_simT hs hok.noTsig⟩

theorem parse_toWire (m : Message) (lim : Nat) (w : Bytes) (hok : MsgOk Rs m) (h : m.toWire lim false = .ok w)
    (cfg : PCfg) (horg : cfg.origin = none) (hnorr : cfg.oneRRPerRRset = false) :
    ∃ m', parseMessage cfg w = .ok m' ∧ m'.sim Rs m := by
  obtain ⟨cq, can, cau, cad⟩ := hok.counts
  obtain ⟨m', opt', hp, hs, hrel⟩ := parse_toWire_of_body m lim w h cfg horg hok.origin
    (hok.notUpdate ▸ parse_body horg hnorr hok.sections) hok.id hok.flags cq can cau
    (by rw [hok.noOpt, hok.noTsig]; exact cad) (fun o ho => by rw [hok.noOpt] at ho; cases ho)
    (fun ts hts => by rw [hok.noTsig] at hts; cases hts)
  rw [hrel.eq_of_unpadded (Or.inl hok.noOpt)] at hs
  exact ⟨m', hp, Message.sim_of_simT hs hok.noTsig⟩

/-! Well-formedness of a concrete message is decidable: every predicate above is a finite conjunction of bounds, list
quantifiers and name checks (`nameOk_none_iff`). -/
section Decide

variable [DecidablePred Rs.Good]

instance (n : Name) : Decidable (NameOk Rs none n) := decidable_of_iff _ nameOk_none_iff.symm

instance : (rd : RData) → Decidable (rd.valid Rs)
  | .raw _ => isTrue trivial
  | .name1 _ => inferInstanceAs (Decidable (NameOk ..))
  | .mx .. => inferInstanceAs (Decidable (_ ∧ _))
  | .soa .. => inferInstanceAs (Decidable (_ ∧ _))

instance (r : RRset) : Decidable (QOk Rs r) :=
  decidable_of_iff (_ ∧ _ ∧ _ ∧ _ ∧ _ ∧ _ ∧ _)
    ⟨fun ⟨a, b, c, d, e, f, g⟩ => ⟨a, b, c, d, e, f, g⟩, fun ⟨a, b, c, d, e, f, g⟩ => ⟨a, b, c, d, e, f, g⟩⟩

instance (r : RRset) : Decidable (RRsetOk Rs r) :=
  decidable_of_iff (_ ∧ _ ∧ _ ∧ _ ∧ _ ∧ _ ∧ _ ∧ _ ∧ _ ∧ _)
    ⟨fun ⟨a, b, c, d, e, f, g, h, i, j⟩ => ⟨a, b, c, d, e, f, g, h, i, j⟩,
     fun ⟨a, b, c, d, e, f, g, h, i, j⟩ => ⟨a, b, c, d, e, f, g, h, i, j⟩⟩

instance (o : EOpt) : Decidable (OptOk o) :=
  decidable_of_iff (_ ∧ _ ∧ _ ∧ _) ⟨fun ⟨a, b, c, d⟩ => ⟨a, b, c, d, trivial⟩, fun ⟨a, b, c, d, _⟩ => ⟨a, b, c, d⟩⟩

instance (t : Tsig) : Decidable (TsigOk Rs t) :=
  decidable_of_iff (_ ∧ _ ∧ _ ∧ _ ∧ _ ∧ _ ∧ _ ∧ _ ∧ _ ∧ _)
    ⟨fun ⟨a, b, c, d, e, f, g, h, i, j⟩ => ⟨a, b, c, d, e, f, g, h, i, j⟩,
     fun ⟨a, b, c, d, e, f, g, h, i, j⟩ => ⟨a, b, c, d, e, f, g, h, i, j⟩⟩

instance (m : Message) : Decidable (MsgOkT Rs m) :=
  decidable_of_iff (_ ∧ _ ∧ _ ∧ _ ∧ (∀ o ∈ m.opt, OptOk o) ∧ _ ∧ (∀ t ∈ m.tsig, TsigOk Rs t) ∧ _ ∧ _ ∧ _ ∧ _ ∧ _ ∧ _ ∧ _ ∧ _)
    ⟨fun ⟨a, b, c, d, e, f, g, h, i, j, k, l, m, n, o⟩ => ⟨a, b, c, d, e, f, g, h, i, j, k, l, m, n, o⟩,
     fun ⟨a, b, c, d, e, f, g, h, i, j, k, l, m, n, o⟩ => ⟨a, b, c, d, e, f, g, h, i, j, k, l, m, n, o⟩⟩

instance (m : Message) : Decidable (MsgOkP Rs m) :=
  decidable_of_iff (_ ∧ ∀ o ∈ m.opt, (optionsWire o.options).length + 4 + m.pad < 65536)
    ⟨fun ⟨a, b⟩ => ⟨a, b⟩, fun ⟨a, b⟩ => ⟨a, b⟩⟩

end Decide

instance : DecidablePred eqvSpec.Good := fun _ => isTrue trivial

instance {S : Name → Prop} {hS : CaseClosed S} [DecidablePred S] : DecidablePred (exactSpec S hS).Good := ‹_›

end Model
