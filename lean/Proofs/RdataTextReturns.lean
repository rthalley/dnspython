import Model.RdataText
/-! What an `Option`-valued reader of the text layer guarantees about the value it returns (C05).  `Returns P o` is proved by
following the reader's own text: one rule per shape of step (`if … then none else …`, `match … with | some x => … | none =>
none`, `Option.map`, `Option.bind`, `List.mapM`), so that a proof names the guards that matter and never a failing branch. -/
namespace Model

/-- `o`, where it succeeds, returns a value for which `P` holds -/
def Returns {α : Type} (P : α → Prop) (o : Option α) : Prop := ∀ r, o = some r → P r

namespace Returns
variable {α β : Type} {P : α → Prop}

theorem none : Returns P none := nofun

theorem some {r : α} (h : P r) : Returns P (some r) := fun _ e => Option.some.inj e ▸ h

theorem ite_none {c : Prop} [Decidable c] {x : Option α} (h : ¬ c → Returns P x) : Returns P (if c then .none else x) := by
  split
  · exact none
  · exact h ‹_›

theorem ite_some {c : Prop} [Decidable c] {x : Option α} (h : c → Returns P x) : Returns P (if c then x else .none) := by
  split
  · exact h ‹_›
  · exact none

theorem ite {c : Prop} [Decidable c] {x y : Option α} (hx : c → Returns P x) (hy : ¬ c → Returns P y) :
    Returns P (if c then x else y) := by
  split
  · exact hx ‹_›
  · exact hy ‹_›

theorem map {g : β → α} {o : Option β} (h : Returns (fun b => P (g b)) o) : Returns P (o.map g) := by
  cases o with
  | none => exact none
  | some b => exact some (h b rfl)

theorem bind {f : β → Option α} {o : Option β} (h : ∀ b, o = .some b → Returns P (f b)) : Returns P (o.bind f) := by
  cases o with
  | none => exact none
  | some b => exact h b rfl

theorem mono {Q : α → Prop} {o : Option α} (h : Returns Q o) (hq : ∀ r, Q r → P r) : Returns P o := fun r e => hq r (h r e)

/-- the step of which the model's readers are chained, on a string or octets value.  (The statement is tied to this
discriminant type and order of alternatives because Lean shares a `match` between declarations only then; the rule then
applies to the model's text as it stands.  For the same reason no hypothesis may mention `o`: Lean would make the `match`
abstract over it.) -/
theorem match_some {o : Option (List Nat)} {f : List Nat → Option α} (h : ∀ x, Returns P (f x)) :
    Returns P (match o with | .some x => f x | .none => .none) := by
  cases o with
  | none => exact none
  | some x => exact h x

/-- the same step when what follows needs a fact `Q` about the value handed on (`generalizing := false` keeps `ho` out of the
`match`) -/
theorem match_some_of {Q : List Nat → Prop} {o : Option (List Nat)} {f : List Nat → Option α} (ho : Returns Q o)
    (h : ∀ x, Q x → Returns P (f x)) :
    Returns P (match (generalizing := false) o with | .some x => f x | .none => .none) := by
  cases o with
  | none => exact none
  | some x => exact h x (ho x rfl)

/-- the same step on a number -/
theorem match_nat {o : Option Nat} {f : Nat → Option α} (h : ∀ n, Returns P (f n)) :
    Returns P (match o with | .some n => f n | .none => .none) := by
  cases o with
  | none => exact none
  | some n => exact h n

/-- the same step on what `int()` returns -/
theorem match_int {o : Option (Bool × Nat)} {f : Bool → Nat → Option α} (h : ∀ neg n, Returns P (f neg n)) :
    Returns P (match o with | .some (neg, n) => f neg n | .none => .none) := by
  cases o with
  | none => exact none
  | some p => exact h p.1 p.2

end Returns

/-! The model's loops over items are `List.mapM` in `Option` written out by recursion (each is characterised so where it is
used); what is proved about such a loop is one of these list lemmas applied to its step function. -/

/-- the loop succeeds with `r` exactly when every step succeeds with the corresponding item of `r` -/
theorem mapM_eq_some_iff {α β : Type} {f : α → Option β} {l : List α} {r : List β} :
    l.mapM f = some r ↔ l.map f = r.map some := by
  induction l generalizing r with
  | nil => cases r <;> simp
  | cons a l ih =>
    rw [List.mapM_cons, List.map_cons]
    cases f a <;> cases hl : l.mapM f <;> cases r <;> simp [← ih, hl]

/-- the parser's half when all items sit in one piece of text: the tokens `g x` of the items are read back one by one -/
theorem mapM_map_eq_some {α β : Type} (f : β → Option α) (g : α → β) (xs : List α) (h : ∀ x ∈ xs, f (g x) = some x) :
    (xs.map g).mapM f = some xs :=
  mapM_eq_some_iff.mpr (by rw [List.map_map]; exact List.map_congr_left h)

theorem Returns.mapM {α β : Type} {P : β → Prop} {f : α → Option β} {l : List α} (h : ∀ x ∈ l, Returns P (f x)) :
    Returns (fun r => ∀ y ∈ r, P y) (l.mapM f) := fun r hr y hy => by
  obtain ⟨x, hx, e⟩ := List.mem_map.mp (mapM_eq_some_iff.mp hr ▸ List.mem_map_of_mem (f := Option.some) hy)
  exact h x hx y e

theorem mapM_isSome {α β : Type} {f : α → Option β} {l : List α} (h : ∀ x ∈ l, (f x).isSome = true) :
    (l.mapM f).isSome = true := by
  induction l with
  | nil => rfl
  | cons a l ih =>
    obtain ⟨b, hb⟩ := Option.isSome_iff_exists.mp (h a (by simp))
    obtain ⟨r, hr⟩ := Option.isSome_iff_exists.mp (ih fun x hx => h x (by simp [hx]))
    rw [List.mapM_cons, hb, hr]; rfl

end Model
