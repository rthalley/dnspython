import Model.ZoneBTree
import Proofs.ZoneTxnSim
/-! The content of a B-tree version (`bContent`: flags, delegation index and `changed` forgotten) under the pieces
its operations are made of — `bSet`, `bErase`, the glue re-flagging, `_maybe_cow_with_name` — is that of the plain node
map under `nodesSet` / `nodesErase` (C10, "identically for … B-tree zones": `C10.btree_content_same`). -/
namespace Model.ZT
open Model

theorem bGet_lookup : IsLookup bGet := ⟨fun _ => rfl, fun _ _ _ _ => rfl⟩

theorem content_bGet (v : List (Name × BNode)) (k : Name) :
    nodesGet (bContent v) k = (bGet v k).map (·.rds) :=
  bGet_lookup.map nodesGet_lookup (·.rds) v k

theorem content_bErase (v : List (Name × BNode)) (k : Name) :
    bContent (bErase v k) = nodesErase (bContent v) k := by
  unfold bErase nodesErase bContent
  rw [List.filter_map]
  rfl

theorem content_bSet (v : List (Name × BNode)) (k : Name) (b : BNode) :
    bContent (bSet v k b) = nodesSet (bContent v) k b.rds := by
  unfold bSet nodesSet
  simp only [bContent, List.map_cons]
  have := content_bErase v k
  unfold bContent at this
  rw [this]

theorem nodesErase_set (v : Nodes) (k : Name) (x : Node) : nodesErase (nodesSet v k x) k = nodesErase v k := by
  unfold nodesSet nodesErase
  rw [List.filter_cons_of_neg (by simp), List.filter_filter]
  simp only [Bool.and_self]

theorem nodesSet_set (v : Nodes) (k : Name) (x y : Node) : nodesSet (nodesSet v k x) k y = nodesSet v k y := by
  show (k, y) :: nodesErase (nodesSet v k x) k = (k, y) :: nodesErase v k
  rw [nodesErase_set]

theorem content_updateGlue (P : BParams) (v : BVer) (name : Name) (flag : Bool) :
    bContent (bUpdateGlue P v name flag).nodes = bContent v.nodes := by
  unfold bUpdateGlue bContent
  simp only [List.map_map]
  apply List.map_congr_left
  intro e _
  simp only [Function.comp]
  by_cases hb : P.below e.1 name = true
  · by_cases hc : e.1 ∈ v.changed <;> simp [hb, hc, bFresh]
  · simp [hb]

theorem bFresh_rds (old : Option BNode) : (bFresh old).rds = (old.map (·.rds)).getD [] := rfl

theorem bFlag_rds (P : BParams) (d : List Name) (key : Name) (node : BNode) : (bFlag P d key node).rds = node.rds := by
  unfold bFlag
  split
  · rfl
  · split <;> rfl

/-- `_maybe_cow_with_name`: the node in hand holds what the map held at `key` (nothing if absent), the map holds that
node at `key`, and `key` is in `changed` -/
theorem content_bCow (P : BParams) (v : BVer) (key : Name) :
    (bCow P v key).2.rds = (nodesGet (bContent v.nodes) key).getD [] ∧
      bContent (bCow P v key).1.nodes = nodesSet (bContent v.nodes) key ((nodesGet (bContent v.nodes) key).getD []) ∧
      (bCow P v key).1.changed ≠ [] := by
  rw [content_bGet]
  unfold bCow
  cases hq : bGet v.nodes key with
  | none =>
    simp only [content_bSet, bFlag_rds]
    exact ⟨rfl, rfl, List.cons_ne_nil _ _⟩
  | some nd =>
    by_cases hc : key ∈ v.changed
    · simp only [hc, if_true, content_bSet, bFlag_rds]
      exact ⟨rfl, rfl, List.ne_nil_of_mem hc⟩
    · simp only [hc, if_false, content_bSet, bFlag_rds]
      exact ⟨rfl, rfl, List.cons_ne_nil _ _⟩

theorem bUpdateGlue_changed (P : BParams) (v : BVer) (n : Name) (f : Bool) (h : v.changed ≠ []) :
    (bUpdateGlue P v n f).changed ≠ [] := by
  unfold bUpdateGlue; simp [h]

end Model.ZT
