import Proofs.TsigReader
import Proofs.TsigCodec
/-! The MAC input determines the authenticated content.  What `_digest` is fed is a common prefix, the stripped message
behind the original ID, and the TSIG variables (or timers); the message is self-delimiting (its own counts walk it to its
end, `message_prefix_free`) and the variables are an injective encoding (`variables_inj`), so two accepted messages with
the same input have the same content (`same_input_same_content`). -/
namespace Model.Tsig
open Model Rfc8945

theorem message_getElem (oid : Nat) (m rest : Bytes) (i : Nat) (h2 : 2 ≤ i) (hi : i < m.length) :
    (message oid m ++ rest)[i]? = m[i]? := by
  unfold message
  rw [List.getElem?_append_left (by simp [be_length]; omega), List.getElem?_append_right (by simp [be_length]; omega)]
  simp only [be_length, List.getElem?_drop]
  congr 1; omega

/-- the stripped message is walked to its end by its own counts -/
theorem walk_newWire (w : Bytes) (s : Nat) (ho : OctetsOk w) (h : walkTo w = some s) (hs : s ≤ w.length) :
    walkWith skipRR (newWire w s) (rd16 (newWire w s) 10) = some s := by
  rw [walkTo_eq] at h
  have h12 := (walkWith_bounds skipRR_local h).1
  rw [newWire_rd16_10 w s h12 hs (by have := rd16_lt w ho 10; omega)]
  exact walkWith_transfer skipRR_local h
    (fun i _ b => newWire_getElem w s i h12 hs (by omega) (by omega))
    (fun i a b => newWire_getElem w s i h12 hs (by omega) b)

/-- so is what `_digest` feeds for it, whatever ID stands in front and whatever follows -/
theorem walk_message (oid : Nat) (m rest : Bytes) (s : Nat) (h12 : 12 ≤ m.length)
    (h : walkWith skipRR m (rd16 m 10) = some s) (hs : s ≤ m.length) :
    walkWith skipRR (message oid m ++ rest) (rd16 (message oid m ++ rest) 10) = some s := by
  have e : ∀ i, 2 ≤ i → i < m.length → (message oid m ++ rest)[i]? = m[i]? := message_getElem oid m rest
  rw [rd16_congr _ m 10 (e 10 (by omega) (by omega)) (e 11 (by omega) (by omega))]
  exact walkWith_transfer skipRR_local h
    (fun i a b => e i (by omega) (by omega)) (fun i a b => e i (by omega) (by omega))

/-- a message that its own counts walk to its end is self-delimiting: behind another ID and in front of other octets it
still ends where it ends -/
theorem message_prefix_free (o1 o2 : Nat) (m1 m2 r1 r2 : Bytes) (l1 : 12 ≤ m1.length) (l2 : 12 ≤ m2.length)
    (h1 : walkWith skipRR m1 (rd16 m1 10) = some m1.length) (h2 : walkWith skipRR m2 (rd16 m2 10) = some m2.length)
    (h : message o1 m1 ++ r1 = message o2 m2 ++ r2) : m1.length = m2.length := by
  have a := walk_message o1 m1 r1 _ l1 h1 (Nat.le_refl _)
  rw [h, walk_message o2 m2 r2 _ l2 h2 (Nat.le_refl _)] at a
  exact (Option.some.inj a).symm

/-- TSIG variables whose two names are digested as the wire forms of absolute names, and whose fixed-width fields are
in range -/
structure VarsOk (v : Vars) : Prop where
  name : ∃ n, AbsLabels n ∧ canon v.name = toWire n
  alg : ∃ n, AbsLabels n ∧ canon v.alg = toWire n
  time : v.time < 281474976710656
  fudge : v.fudge < 65536
  error : v.error < 65536

/-- the two names split off as prefix-free codes, what stands between and behind them has fixed widths, and the other
data come last -/
theorem variables_inj {v1 v2 : Vars} (h1 : VarsOk v1) (h2 : VarsOk v2) (h : variables v1 = variables v2) :
    canon v1.name = canon v2.name ∧ canon v1.alg = canon v2.alg ∧ v1.time = v2.time ∧ v1.fudge = v2.fudge
      ∧ v1.error = v2.error ∧ v1.other = v2.other := by
  obtain ⟨n1, an1, en1⟩ := h1.name
  obtain ⟨n2, an2, en2⟩ := h2.name
  obtain ⟨g1, ag1, eg1⟩ := h1.alg
  obtain ⟨g2, ag2, eg2⟩ := h2.alg
  simp only [variables, List.append_assoc] at h
  rw [en1, en2] at h
  obtain ⟨en, h⟩ := toWire_prefix_free _ _ an1 an2 _ _ h
  have h := List.append_cancel_left (List.append_cancel_left h)
  rw [eg1, eg2] at h
  obtain ⟨ea, h⟩ := toWire_prefix_free _ _ ag1 ag2 _ _ h
  obtain ⟨e1, h⟩ := List.append_inj h (by rw [be_length, be_length])
  obtain ⟨e2, h⟩ := List.append_inj h (by rw [be_length, be_length])
  obtain ⟨e3, h⟩ := List.append_inj h (by rw [be_length, be_length])
  obtain ⟨_, e4⟩ := List.append_inj h (by rw [be_length, be_length])
  exact ⟨by rw [en1, en2, en], by rw [eg1, eg2, ea], be_inj 6 _ _ h1.time h2.time e1, be_inj 2 _ _ h1.fudge h2.fudge e2,
    be_inj 2 _ _ h1.error h2.error e3, e4⟩

theorem timers_inj {v1 v2 : Vars} (h1 : VarsOk v1) (h2 : VarsOk v2) (h : timers v1 = timers v2) :
    v1.time = v2.time ∧ v1.fudge = v2.fudge := by
  obtain ⟨e1, e2⟩ := List.append_inj h (by rw [be_length, be_length])
  exact ⟨be_inj 6 _ _ h1.time h2.time e1, be_inj 2 _ _ h1.fudge h2.fudge e2⟩

/-- the key's names are digested as the canonical forms of the names decoded from the message (which are absolute), the
numbers were read from 2- and 6-octet fields -/
theorem Accepted.varsOk {V : Verifier} {tbl : List AlgEntry} {w : Bytes} {k : Key} {now : Nat} {rm : Bytes}
    {ctx : Option Ctx} {multi : Bool} {s p : Nat} {o : Name} {rd : Rdata} {c : Ctx} {c' : Option Ctx}
    (a : Accepted V tbl w k now rm ctx multi s p o rd c c') (ho : OctetsOk w) :
    VarsOk (varsOf k rd none) ∧ canon k.name = canon o ∧ canon k.algorithm = canon rd.algorithm := by
  obtain ⟨_, _, _, hn, hg, _⟩ := validateV_ok a.valid
  obtain ⟨hok, _⟩ := rdataParse_ok ho a.parse
  have cn := canon_eq_of_nameEq _ _ hn
  have ca := canon_eq_of_nameEq _ _ hg
  exact ⟨⟨⟨_, absLabels_lower _ (absLabels_of_decode w s o a.own), cn.trans (digestable_eq_canon o).symm⟩,
    ⟨_, absLabels_lower _ (abs_split _ hok.algWf hok.algAbs), ca.trans (digestable_eq_canon _).symm⟩, hok.time, hok.fudge,
    Nat.lt_of_le_of_lt hok.err (by decide)⟩, cn, ca⟩

/-- ARCOUNT is one more than the count the stripped message carries (never 0 in a message that holds a TSIG RR),
everything else stands in it as it was -/
theorem newWire_drop_inj (w1 w2 : Bytes) (s : Nat) (h12 : 12 ≤ s) (l1 : s ≤ w1.length) (l2 : s ≤ w2.length)
    (ho1 : OctetsOk w1) (ho2 : OctetsOk w2) (h1 : rd16 w1 10 ≠ 0) (h2 : rd16 w2 10 ≠ 0)
    (h : (newWire w1 s).drop 2 = (newWire w2 s).drop 2) : ∀ i, 2 ≤ i → i < s → w1[i]? = w2[i]? := by
  have hW : ∀ i, 2 ≤ i → (newWire w1 s)[i]? = (newWire w2 s)[i]? := by
    intro i hi
    have := congrArg (fun l => l[i - 2]?) h
    simp only [List.getElem?_drop] at this
    rwa [show 2 + (i - 2) = i by omega] at this
  intro i h2 hi
  by_cases hout : i < 10 ∨ 12 ≤ i
  · rw [← newWire_getElem w1 s i h12 l1 hout hi, ← newWire_getElem w2 s i h12 l2 hout hi]
    exact hW i h2
  have hr16 : rd16 (newWire w1 s) 10 = rd16 (newWire w2 s) 10 :=
    rd16_congr _ _ 10 (hW 10 (by omega)) (hW 11 (by omega))
  rw [newWire_rd16_10 w1 s h12 l1 (by have := rd16_lt w1 ho1 10; omega),
    newWire_rd16_10 w2 s h12 l2 (by have := rd16_lt w2 ho2 10; omega)] at hr16
  exact rd16_inj w2 w1 ho2 ho1 10 ⟨by omega, by omega⟩ (by omega) i (by omega) (by omega)

theorem same_input_same_content {V1 V2 : Verifier} {tbl : List AlgEntry} {w1 w2 : Bytes} {k1 k2 : Key} {now1 now2 : Nat}
    {rm : Bytes} {ctx : Option Ctx} {multi : Bool} {s1 s2 p1 p2 : Nat} {o1 o2 : Name} {rd1 rd2 : Rdata} {c1 c2 : Ctx}
    {c1' c2' : Option Ctx} (ho1 : OctetsOk w1) (ho2 : OctetsOk w2)
    (a1 : Accepted V1 tbl w1 k1 now1 rm ctx multi s1 p1 o1 rd1 c1 c1')
    (a2 : Accepted V2 tbl w2 k2 now2 rm ctx multi s2 p2 o2 rd2 c2 c2')
    (hd : c1.data = c2.data) :
    s1 = s2 ∧ (∀ i, 2 ≤ i → i < s1 → w1[i]? = w2[i]?)
      ∧ (newWire w1 s1).drop 2 = (newWire w2 s2).drop 2
      ∧ rd1.originalId = rd2.originalId ∧ rd1.timeSigned = rd2.timeSigned ∧ rd1.fudge = rd2.fudge
      ∧ ((multi = false ∨ ctx = none) → rd1.error = rd2.error ∧ rd1.other = rd2.other
          ∧ canon o1 = canon o2 ∧ canon rd1.algorithm = canon rd2.algorithm) := by
  obtain ⟨h01, _, _, _, _, hd1, _, _⟩ := validateV_ok a1.valid
  obtain ⟨h02, _, _, _, _, hd2, _, _⟩ := validateV_ok a2.valid
  obtain ⟨vo1, cn1, ca1⟩ := a1.varsOk ho1
  obtain ⟨vo2, cn2, ca2⟩ := a2.varsOk ho2
  obtain ⟨hb1, _, _⟩ := a1.bounds
  obtain ⟨hb2, _, _⟩ := a2.bounds
  have hs1 : s1 ≤ w1.length := by omega
  have hs2 : s2 ≤ w2.length := by omega
  have bo1 := (rdataParse_ok ho1 a1.parse).1.oid
  have bo2 := (rdataParse_ok ho2 a2.parse).1.oid
  -- both inputs are a common prefix followed by the fed message and a rest that determines the variables
  have key : ∃ (P r1 r2 : Bytes), c1.data = P ++ (message rd1.originalId (newWire w1 s1) ++ r1)
      ∧ c2.data = P ++ (message rd2.originalId (newWire w2 s2) ++ r2)
      ∧ (r1 = r2 → rd1.timeSigned = rd2.timeSigned ∧ rd1.fudge = rd2.fudge
          ∧ ((multi = false ∨ ctx = none) → rd1.error = rd2.error ∧ rd1.other = rd2.other
              ∧ canon o1 = canon o2 ∧ canon rd1.algorithm = canon rd2.algorithm)) := by
    cases hm : (if multi then ctx else none) with
    | none =>
      refine ⟨(if rm = [] then [] else macField rm), _, _,
        by rw [digest_first_data tbl _ k1 rd1 none rm ctx multi c1 hm hd1, List.append_assoc],
        by rw [digest_first_data tbl _ k2 rd2 none rm ctx multi c2 hm hd2, List.append_assoc], fun hv => ?_⟩
      obtain ⟨en, ea, et, ef, ee, eo⟩ := variables_inj vo1 vo2 hv
      exact ⟨et, ef, fun _ => ⟨ee, eo, cn1.symm.trans (en.trans cn2), ca1.symm.trans (ea.trans ca2)⟩⟩
    | some c0 =>
      obtain ⟨rfl, rfl⟩ : multi = true ∧ ctx = some c0 := by
        cases multi <;> simp at hm
        exact ⟨rfl, hm⟩
      refine ⟨c0.data, _, _,
        by rw [digest_later_data tbl _ k1 rd1 none rm c0 c1 hd1, List.append_assoc],
        by rw [digest_later_data tbl _ k2 rd2 none rm c0 c2 hd2, List.append_assoc], fun hv => ?_⟩
      obtain ⟨et, ef⟩ := timers_inj vo1 vo2 hv
      exact ⟨et, ef, fun h => by rcases h with h | h <;> simp at h⟩
  obtain ⟨P, r1, r2, e1, e2, hrest⟩ := key
  rw [e1, e2] at hd
  have hfed := List.append_cancel_left hd
  -- the stripped messages are self-delimiting, so they end at the same place: where the TSIG RR started
  have hl1 := newWire_length w1 s1 hb1 hs1
  have hl2 := newWire_length w2 s2 hb2 hs2
  have hl := message_prefix_free _ _ _ _ r1 r2 (by omega) (by omega) (hl1.symm ▸ walk_newWire w1 s1 ho1 a1.walk hs1)
    (hl2.symm ▸ walk_newWire w2 s2 ho2 a2.walk hs2) hfed
  obtain rfl : s1 = s2 := by omega
  have hl : (message rd1.originalId (newWire w1 s1)).length = (message rd2.originalId (newWire w2 s1)).length := by
    simp [message, be_length, hl]
  obtain ⟨hmsg, hr⟩ := List.append_inj hfed hl
  unfold message at hmsg
  obtain ⟨hoid, hdrop⟩ := List.append_inj hmsg (by rw [be_length, be_length])
  obtain ⟨ht, hfu, hrest'⟩ := hrest hr
  exact ⟨rfl, newWire_drop_inj w1 w2 s1 hb1 hs1 hs2 ho1 ho2 h01 h02 hdrop, hdrop, be_inj 2 _ _ bo1 bo2 hoid, ht, hfu,
    hrest'⟩

end Model.Tsig
