import Model.ZoneFile
import Proofs.ZoneFileLine
import Proofs.ZoneFileLossless
/-!
Write-then-read for the plain style (one record per line, unsorted or sorted by the caller, no `$ORIGIN`/`$TTL`, no
de-duplication, no justification, no comments) is the case `plainStyleS b` of `read_write_core`: the line written for a
record is the canonical line (`recG_plain`, by computation), so the records' `RecLine.Good` is what the core asks
(`good_plain`), and the comments read back are the records' own (`withComments_self`).
-/
namespace Model

/-- the plain style: everything at its default; `sorted = false` writes the names in zone order -/
def plainStyleS (b : Bool) : Style := { sorted := b }

theorem nameToStyledText_plain (b : Bool) (name : Name) :
    nameToStyledText (plainStyleS b).toNameStyle name = .ok (toText name) := by
  simp [nameToStyledText, plainStyleS, chooseRelativity]

def mkRecLine (name n : Name) (rds : Rdataset) (rr : RR) (rtext : List Nat) : RecLine :=
  { ow := toText name, ttlT := natToDec rds.ttl, clsT := classToText 1, tyT := typeToText rds.rdtype,
    rdText := 32 :: (rtext ++ [10]), n := n, m := name, ttl := rds.ttl, ty := rds.rdtype, rd := rr.rd,
    comment := rr.comment }

/-- the record lines of a zone in writer order; `absOf` gives the absolute form of each owner name -/
def zoneRecLines (absOf : Name → Name) (rtextOf : RR → List Nat) (z : ZoneMap) : List RecLine :=
  z.flatMap fun p => p.2.flatMap fun rds => rds.rrs.map fun rr => mkRecLine p.1 (absOf p.1) rds rr (rtextOf rr)

theorem rr_eta (rr : RR) : (⟨rr.rd, rr.comment⟩ : RR) = rr := by cases rr; rfl

/-- under the plain style the line of a record is the canonical one, read back with the record's own comment -/
theorem recG_plain (b : Bool) (absOf : Name → Name) (rtextOf : RR → List Nat) (name : Name) (rds : Rdataset) (rr : RR) :
    recG (plainStyleS b) toText absOf rtextOf RR.comment ⟨name, false, rds.ttl, rds.rdtype, rr⟩ =
      (mkRecLine name (absOf name) rds rr (rtextOf rr)).toG := rfl

theorem good_plain (b : Bool) (zo : Name) (rel gfix : Bool) (absOf : Name → Name) (rtextOf : RR → List Nat) (w : ZoneMap)
    (h : ∀ l ∈ zoneRecLines absOf rtextOf w, l.Good zo rel gfix) :
    ∀ x ∈ zoneRecs (plainStyleS b) w, (recG (plainStyleS b) toText absOf rtextOf RR.comment x).Good zo zo rel gfix := by
  intro x hx
  obtain ⟨p, hp, hx⟩ := List.mem_flatMap.mp hx
  rw [nodeRecs_of_dup (plainStyleS b) _ _ nofun] at hx
  obtain ⟨rds, hr, hx⟩ := List.mem_flatMap.mp hx
  obtain ⟨rr, hrr, rfl⟩ := List.mem_map.mp hx
  exact recG_plain b absOf rtextOf p.1 rds rr ▸ (h _ (List.mem_flatMap.mpr ⟨p, hp, List.mem_flatMap.mpr ⟨rds, hr,
    List.mem_map.mpr ⟨rr, hrr, rfl⟩⟩⟩)).toG

theorem withComments_self (z : ZoneMap) : withComments RR.comment z = z := by
  simp only [withComments, rr_eta, List.map_id']

theorem insertName_perm (n : Name × Node) (l : List (Name × Node)) : (insertName n l).Perm (n :: l) := by
  induction l with
  | nil => exact List.Perm.refl _
  | cons m rest ih =>
    unfold insertName
    split
    · exact List.Perm.refl _
    · exact (List.Perm.cons m ih).trans (List.Perm.swap n m rest)

theorem sortNames_perm (z : ZoneMap) : (sortNames z).Perm z := by
  unfold sortNames
  have : ∀ (acc : ZoneMap) (l : ZoneMap), (l.foldl (fun acc n => insertName n acc) acc).Perm (l.reverse ++ acc) := by
    intro acc l
    induction l generalizing acc with
    | nil => exact List.Perm.refl _
    | cons a r ih =>
      simp only [List.foldl_cons, List.reverse_cons, List.append_assoc, List.cons_append, List.nil_append]
      exact (ih (insertName a acc)).trans (List.Perm.append_left _ (insertName_perm a acc))
  have h := this [] z
  simp only [List.append_nil] at h
  exact h.trans (List.reverse_perm z)

end Model
