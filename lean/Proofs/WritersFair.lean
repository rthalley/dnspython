import Proofs.WritersInv
/-!
Bounded fairness for executions of the writer-admission model and the generic ranking argument.

A `k`-fair scheduler never passes over a thread that has started (`pc ≠ idle`) and is enabled more than `k` times
between two of its steps (`skip` counters).  `rank` flattens the lexicographic measure
(progress measure `m` of a designated thread `σ`, fairness budget of `σ`, `lockFuel` of a lock holder other than `σ`,
fairness budget of that holder); `rank_step` shows that every fair step decreases it, provided `σ`'s own steps
decrease `m`, other steps leave `σ` alone, and `σ` can move unless somebody else holds the lock.  `FairExec.within`: a
measure that every fair step outside a goal decreases bounds the length of the fair executions that avoid the goal.
Last, `fairRun`: a decidable check that a schedule is `k`-fair (`fairExec_of_fairRun`), for the examples of Props/C12.
-/
namespace Model.Writers
variable {c : Cfg} {n k : Nat} {s s' : State} {t : Tid}

/-- skip counters after a step of `t` from `s` -/
def skipUpd (c : Cfg) (s : State) (sk : Tid → Nat) (t : Tid) : Tid → Nat := fun u =>
  if u = t then 0
  else if (step c s u).isSome && ((s.loc u).pc != Pc.idle) then sk u + 1
  else sk u

/-- one step of a `k`-fair scheduler -/
structure FStep (c : Cfg) (k : Nat) (s : State) (sk : Tid → Nat) (t : Tid) (s' : State) (sk' : Tid → Nat) : Prop where
  step : step c s t = some s'
  upd : sk' = skipUpd c s sk t
  fair : ∀ u, sk' u ≤ k

/-- `k`-fair executions of length `L` with threads `< n` -/
inductive FairExec (c : Cfg) (n k : Nat) : State → (Tid → Nat) → Nat → State → (Tid → Nat) → Prop
  | refl (s : State) (sk : Tid → Nat) : FairExec c n k s sk 0 s sk
  | step {s s1 s2 : State} {sk sk1 sk2 : Tid → Nat} {L : Nat} (t : Tid) :
      FairExec c n k s sk L s1 sk1 → t < n → FStep c k s1 sk1 t s2 sk2 → FairExec c n k s sk (L + 1) s2 sk2

theorem reachFrom_of_fairExec {sk sk' : Tid → Nat} {L : Nat} (h : FairExec c n k s sk L s' sk') : ReachFrom c n s s' := by
  induction h with
  | refl => exact .refl
  | step t _ ht hf ih => exact .step t ih ht hf.step

theorem fairExec_skips {sk sk' : Tid → Nat} {L : Nat} (h : FairExec c n k s sk L s' sk') (h0 : ∀ u, sk u ≤ k) :
    ∀ u, sk' u ≤ k := by
  cases h with
  | refl => exact h0
  | step t _ _ hf => exact hf.fair

/-- the lock holder, if it is not `σ` -/
def lockOther (s : State) (σ : Tid) : Option Tid :=
  match s.lock with
  | some v => if v = σ then none else some v
  | none => none

theorem lockOther_of_lock {σ v : Tid} (hl : s.lock = some v) (hv : v ≠ σ) : lockOther s σ = some v := by
  simp [lockOther, hl, hv]

theorem lockOther_of_none {σ : Tid} (hl : s.lock = none) : lockOther s σ = none := by
  simp [lockOther, hl]

def rank (k : Nat) (s : State) (sk : Tid → Nat) (σ : Tid) (m : Nat) : Nat :=
  ((m * (k + 1) + (k - sk σ)) * 9 + (match lockOther s σ with | some v => lockFuel (s.loc v).pc | none => 0)) * (k + 1)
    + (match lockOther s σ with | some v => k - sk v | none => 0)

theorem lex_lt {K a a' b b' : Nat} (hb : b' < K) (ha : a' < a) : a' * K + b' < a * K + b := by
  have : (a' + 1) * K ≤ a * K := Nat.mul_le_mul_right K ha
  rw [Nat.add_mul] at this
  omega

theorem rank_lt_of {k : Nat} {m m' B B' lf lf' bv bv' : Nat} (hB' : B' ≤ k) (hlf' : lf' ≤ 8) (hbv' : bv' ≤ k)
    (h : m' < m ∨ (m' = m ∧ (B' < B ∨ (B' = B ∧ (lf' < lf ∨ (lf' = lf ∧ bv' < bv)))))) :
    ((m' * (k + 1) + B') * 9 + lf') * (k + 1) + bv' < ((m * (k + 1) + B) * 9 + lf) * (k + 1) + bv := by
  rcases h with h | ⟨rfl, h⟩
  · exact lex_lt (by omega) (lex_lt (by omega) (lex_lt (by omega) h))
  · rcases h with h | ⟨rfl, h⟩
    · exact lex_lt (by omega) (lex_lt (by omega) (by omega))
    · rcases h with h | ⟨rfl, h⟩
      · exact lex_lt (by omega) (by omega)
      · omega

theorem rank_holder_le (k : Nat) (s : State) (sk : Tid → Nat) (σ : Tid) :
    (match lockOther s σ with | some v => lockFuel (s.loc v).pc | none => 0) ≤ 8 ∧
    (match lockOther s σ with | some v => k - sk v | none => 0) ≤ k := by
  cases lockOther s σ <;> simp [lockFuel_le]

/-- every digit at its largest: `m`, then radix `k + 1`, radix 9 (`lockFuel_le`), radix `k + 1` -/
theorem rank_le (k : Nat) (s : State) (sk : Tid → Nat) (σ : Tid) (m : Nat) :
    rank k s sk σ m ≤ 9 * (m + 1) * (k + 1) * (k + 1) := by
  obtain ⟨h1, h2⟩ := rank_holder_le k s sk σ
  have := lex_lt (b := 0) (Nat.lt_succ_of_le h2) (lex_lt (b := 0) (Nat.lt_succ_of_le h1)
    (lex_lt (b := 0) (Nat.lt_succ_of_le (Nat.sub_le k (sk σ))) (Nat.lt_succ_self m)))
  rw [show 9 * (m + 1) * (k + 1) * (k + 1) = (((m + 1) * (k + 1) + 0) * 9 + 0) * (k + 1) + 0 by
    simp only [Nat.add_zero]; ac_rfl]
  exact Nat.le_of_lt this

theorem rank_pos {sk : Tid → Nat} {σ : Tid} {m : Nat} (hm : 0 < m) : 0 < rank k s sk σ m := by
  unfold rank
  have h1 : 0 < m * (k + 1) := Nat.mul_pos hm (by omega)
  refine Nat.lt_of_lt_of_le (Nat.mul_pos ?_ (show 0 < k + 1 by omega)) (Nat.le_add_right _ _)
  omega

theorem budget_lt {sk sk' : Tid → Nat} {u : Tid} (hst : FStep c k s sk t s' sk') (hne : u ≠ t) (hen : enabled s u)
    (hi : (s.loc u).pc ≠ .idle) : k - sk' u < k - sk u := by
  have h1 : (step c s u).isSome = true := (enabled_iff c s u).mpr hen
  have h2 : sk' u = sk u + 1 := by rw [hst.upd]; simp [skipUpd, hne, h1, hi]
  have := hst.fair u
  omega

theorem budget_eq {sk sk' : Tid → Nat} {u : Tid} (hst : FStep c k s sk t s' sk') (hne : u ≠ t) (hen : ¬ enabled s u) :
    sk' u = sk u := by
  have h1 : (step c s u).isSome = false := Bool.eq_false_iff.mpr fun h => hen ((enabled_iff c s u).mp h)
  rw [hst.upd]; simp [skipUpd, hne, h1]

theorem rank_step {sk sk' : Tid → Nat} {σ σ' : Tid} {m m' : Nat} (hi : Inv c n s) (hst : FStep c k s sk t s' sk')
    (hA : t = σ → m' < m)
    (hB : t ≠ σ → σ' = σ ∧ m' = m)
    (hE : enabled s σ ∨ ∃ v, s.lock = some v ∧ v ≠ σ)
    (hI : (s.loc σ).pc ≠ .idle) :
    rank k s' sk' σ' m' < rank k s sk σ m := by
  have htr := step_trans hst.step
  unfold rank
  obtain ⟨hlf', hbv'⟩ := rank_holder_le k s' sk' σ'
  apply rank_lt_of (Nat.sub_le _ _) hlf' hbv'
  by_cases hts : t = σ
  · exact .inl (hA hts)
  · obtain ⟨hσ, hm⟩ := hB hts
    subst hσ hm
    refine .inr ⟨rfl, ?_⟩
    have hσt : σ' ≠ t := fun e => hts e.symm
    by_cases hen : enabled s σ'
    · exact .inl (budget_lt hst hσt hen hI)
    · -- σ is blocked by another lock holder
      rcases hE with hE | ⟨v, hl, hv⟩
      · exact absurd hE hen
      right
      refine ⟨by rw [budget_eq hst hσt hen], ?_⟩
      have hlo := lockOther_of_lock hl hv
      have hhold : holdsLock (s.loc v).pc = true := (hi.lk.lock v).mpr hl
      by_cases htv : t = v
      · -- the holder moves towards the release
        subst htv
        left
        have hp := hi.lk.holder_progress hl htr
        rw [hlo]
        rcases hp.2 with ⟨hl', _⟩ | ⟨hl', _⟩
        · rw [lockOther_of_lock hl' hv]; exact hp.1
        · rw [lockOther_of_none hl']; exact (lockFuel_pos_iff _).mpr hhold
      · -- somebody else moves: the holder is passed over
        right
        obtain ⟨hl', hloc'⟩ := hi.lk.holder_stable hl htv htr
        rw [hlo, lockOther_of_lock hl' hv]
        simp only [hloc']
        exact ⟨trivial, budget_lt hst (Ne.symm htv) (holder_enabled hi hl) (pc_ne_of hhold rfl)⟩

/-- the ranking argument along a fair execution: a goal `G` that steps keep, a side condition `J`, and a measure `ρ` that every
fair step taken under `J` outside `G` decreases: after `L` steps the goal is reached or the measure has gone down by `L` -/
theorem FairExec.descent {G J : State → Prop} {ρ : State → (Tid → Nat) → Nat} {sk sk' : Tid → Nat} {L : Nat}
    (hG : ∀ {s1 s2 t}, G s1 → Trans c s1 t s2 → G s2)
    (hstep : ∀ {s1 s2 t sk1 sk2}, t < n → J s1 → ¬ G s1 → FStep c k s1 sk1 t s2 sk2 → J s2 ∧ ρ s2 sk2 < ρ s1 sk1)
    (hJ : J s) (hx : FairExec c n k s sk L s' sk') :
    G s' ∨ (J s' ∧ L + ρ s' sk' ≤ ρ s sk) := by
  induction hx with
  | refl => exact .inr ⟨hJ, by omega⟩
  | step t hx1 ht hst ih =>
    rcases ih with ih | ⟨ihJ, ih⟩
    · exact .inl (hG ih (step_trans hst.step))
    · refine Classical.byCases (fun hg => .inl (hG hg (step_trans hst.step))) fun hg => ?_
      have ⟨h1, h2⟩ := hstep ht ihJ hg hst
      exact .inr ⟨h1, by omega⟩

/-- hence, if the measure is positive outside the goal, every fair execution at least as long as the measure of its first
state ends in the goal -/
theorem FairExec.within {G J : State → Prop} {ρ : State → (Tid → Nat) → Nat} {sk sk' : Tid → Nat} {L : Nat}
    (hG : ∀ {s1 s2 t}, G s1 → Trans c s1 t s2 → G s2)
    (hstep : ∀ {s1 s2 t sk1 sk2}, t < n → J s1 → ¬ G s1 → FStep c k s1 sk1 t s2 sk2 → J s2 ∧ ρ s2 sk2 < ρ s1 sk1)
    (hpos : ∀ {s1 sk1}, J s1 → ¬ G s1 → 0 < ρ s1 sk1)
    (hJ : J s) (hx : FairExec c n k s sk L s' sk') (hL : ρ s sk ≤ L) : G s' := by
  rcases hx.descent hG hstep hJ with h | ⟨hJ', h⟩
  · exact h
  · exact Classical.byContradiction fun hg => by have := hpos (sk1 := sk') hJ' hg; omega

/-- run a schedule with the skip counters, refusing a step of a thread outside the pool or one that is not `k`-fair -/
def fairRun (c : Cfg) (n k : Nat) : State → (Tid → Nat) → List Tid → Option (State × (Tid → Nat))
  | s, sk, [] => some (s, sk)
  | s, sk, t :: ts =>
    match step c s t with
    | some s' =>
      if t < n ∧ (List.range n).all (fun u => decide (skipUpd c s sk t u ≤ k)) then fairRun c n k s' (skipUpd c s sk t) ts
      else none
    | none => none

theorem FairExec.cons {sk sk1 sk' : Tid → Nat} {s1 : State} {L : Nat} (ht : t < n) (hst : FStep c k s sk t s1 sk1)
    (hx : FairExec c n k s1 sk1 L s' sk') : FairExec c n k s sk (L + 1) s' sk' := by
  induction hx with
  | refl => exact .step t (.refl s sk) ht hst
  | step u _ hu hsu ih => exact .step u (ih hst) hu hsu

theorem fairExec_of_fairRun : ∀ (sched : List Tid) (s : State) (sk : Tid → Nat) (s' : State) (sk' : Tid → Nat),
    (∀ u, n ≤ u → (s.loc u).pc = .idle ∧ sk u = 0) → fairRun c n k s sk sched = some (s', sk') →
    FairExec c n k s sk sched.length s' sk' ∧ ∀ u, n ≤ u → (s'.loc u).pc = .idle ∧ sk' u = 0 := by
  intro sched
  induction sched with
  | nil => intro s sk s' sk' hpool h; simp [fairRun] at h; obtain ⟨rfl, rfl⟩ := h; exact ⟨.refl s sk, hpool⟩
  | cons t ts ih =>
    intro s sk s' sk' hpool h
    simp only [fairRun] at h
    cases hs : step c s t with
    | none => rw [hs] at h; cases h
    | some s1 =>
      rw [hs] at h
      simp only at h
      split at h
      · rename_i hc
        obtain ⟨htn, hall⟩ := hc
        have hpool' : ∀ u, n ≤ u → (s1.loc u).pc = .idle ∧ skipUpd c s sk t u = 0 := by
          intro u hu
          have hne : u ≠ t := by intro e; subst e; exact absurd htn (Nat.not_lt.mpr hu)
          refine ⟨by rw [(step_trans hs).loc_ne hne]; exact (hpool u hu).1, ?_⟩
          simp [skipUpd, hne, (hpool u hu).1, (hpool u hu).2]
        have hfair : ∀ u, skipUpd c s sk t u ≤ k := by
          intro u
          rcases Nat.lt_or_ge u n with h1 | h1
          · have := List.all_eq_true.mp hall u (List.mem_range.mpr h1)
            simpa using this
          · rw [(hpool' u h1).2]; omega
        obtain ⟨hx, hp'⟩ := ih s1 _ s' sk' hpool' h
        exact ⟨FairExec.cons htn ⟨hs, rfl, hfair⟩ hx, hp'⟩
      · cases h

end Model.Writers
