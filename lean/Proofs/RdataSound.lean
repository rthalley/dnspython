import Proofs.RdataCodec
/-! decoder soundness for the RDATA schema codec (C02): `dec` consumes a prefix of its input, whatever the schema, and
for a well-formed schema over octets what it returns is `valid` -/
namespace Model

theorem nameOnly_len (o : Option Name) : ∀ s : Schema, nameOnly s = true → ∀ v, valid s o v = true →
    (enc s o v).length ≤ Consts.maxName := by
  intro s h v hv
  induction s with
  | name rel =>
    obtain ⟨n, rfl, hn⟩ := valid_name.1 hv
    simp only [enc, nameEnc, length_toWire]
    exact (nameValid_wire hn).1.2.1
  | check f s ih => simpa [enc] using ih h (valid_check.1 hv).1
  | _ => simp [nameOnly] at h

/-- what a successful `dec` guarantees: it consumed a prefix `c` of the input, whatever the schema; the re-encoding of
the value is no longer than `c` when no name is embedded; the value is valid when the schema is well formed, the input
consists of octets and decoded names are valid for this origin -/
def DecSpec (o : Option Name) (s : Schema) : Prop :=
  ∀ pfx rem v p r, dec s o pfx rem = .ok (v, p, r) →
    ∃ c, rem = c ++ r ∧ p = pfx ++ c ∧
      (growFree s = true → (enc s o v).length ≤ c.length) ∧
      (wf s = true → OctetsOkB rem → NameSound o → valid s o v = true)

theorem repLoop_spec (o : Option Name) (s : Schema) (hs : DecSpec o s) :
    ∀ fuel pfx rem vs p r, repLoop (dec s o) fuel pfx rem = .ok (vs, p, r) →
      ∃ c, rem = c ++ r ∧ p = pfx ++ c ∧
        (growFree s = true → (vs.flatMap (enc s o)).length ≤ c.length) ∧
        (wf s = true → OctetsOkB rem → NameSound o → ∀ v ∈ vs, valid s o v = true) := by
  intro fuel pfx rem vs p r h
  induction fuel generalizing pfx rem vs p r with
  | zero =>
    cases rem with
    | nil => cases h; exact ⟨[], rfl, (List.append_nil _).symm, fun _ => Nat.le_refl _, fun _ _ _ => nofun⟩
    | cons x xs => cases h
  | succ fuel ih =>
    cases rem with
    | nil => cases h; exact ⟨[], rfl, (List.append_nil _).symm, fun _ => Nat.le_refl _, fun _ _ _ => nofun⟩
    | cons x xs =>
      rw [repLoop] at h
      split at h
      · cases h
      · rename_i v p1 r1 h1
        split at h
        · cases h
        · rename_i vs' p2 r2 h2
          cases h
          obtain ⟨c1, e1, rfl, l1, v1⟩ := hs _ _ _ _ _ h1
          obtain ⟨c2, rfl, rfl, l2, v2⟩ := ih _ _ _ _ _ h2
          rw [e1]
          refine ⟨c1 ++ c2, (List.append_assoc ..).symm, List.append_assoc .., fun hg => ?_, fun hwf hoct hN => ?_⟩
          · rw [List.flatMap_cons, List.length_append, List.length_append]
            exact Nat.add_le_add (l1 hg) (l2 hg)
          · rw [← e1] at hoct
            intro w hw
            rcases List.mem_cons.1 hw with rfl | hw
            · exact v1 hwf hoct hN
            · exact v2 hwf (e1 ▸ hoct).right hN w hw

theorem dec_spec (o : Option Name) : ∀ s : Schema, DecSpec o s := by
  intro s pfx rem v p r h
  induction s generalizing pfx rem v p r with
  | unit =>
    cases h
    exact ⟨[], rfl, (List.append_nil _).symm, fun _ => by simp [enc], fun _ _ _ => valid_unit.2 rfl⟩
  | fail => cases h
  | uint k =>
    simp only [dec] at h
    split at h
    · cases h
    · rename_i b p1 r1 h1
      cases h
      obtain ⟨rfl, hb, rfl⟩ := takeN_spec h1
      exact ⟨b, rfl, rfl, fun _ => by simp [enc, natBE_length, hb],
        fun _ hoct _ => valid_uint.2 ⟨_, rfl, hb ▸ beNat_lt b hoct.left⟩⟩
  | fixed n =>
    simp only [dec] at h
    split at h
    · cases h
    · rename_i b p1 r1 h1
      cases h
      obtain ⟨rfl, hb, rfl⟩ := takeN_spec h1
      exact ⟨b, rfl, rfl, fun _ => by simp [enc], fun _ _ _ => valid_fixed.2 ⟨_, rfl, hb⟩⟩
  | counted k =>
    obtain ⟨lb, b, hk, hb, rfl, rfl, rfl⟩ := dec_counted_iff.1 h
    exact ⟨_, rfl, rfl, fun _ => by simp [enc, natBE_length, hk],
      fun _ hoct _ => valid_counted.2 ⟨_, rfl, hb ▸ hk ▸ beNat_lt lb hoct.left.left⟩⟩
  | rest =>
    cases h
    exact ⟨rem, (List.append_nil _).symm, rfl, fun _ => by simp [enc], fun _ _ _ => valid_rest.2 ⟨_, rfl⟩⟩
  | optCounted k =>
    by_cases hr : rem = []
    · subst hr
      cases h
      exact ⟨[], rfl, (List.append_nil _).symm, fun _ => by simp [enc],
        fun _ _ _ => valid_optCounted.2 ⟨_, rfl, Nat.pow_pos (by decide)⟩⟩
    · rw [dec_optCounted_ne o k pfx rem hr] at h
      obtain ⟨lb, b, hk, hb, rfl, rfl, rfl⟩ := dec_counted_iff.1 h
      refine ⟨_, rfl, rfl, fun _ => ?_,
        fun _ hoct _ => valid_optCounted.2 ⟨_, rfl, hb ▸ hk ▸ beNat_lt lb hoct.left.left⟩⟩
      simp only [enc]
      split <;> simp [natBE_length, hk]
  | name rel =>
    obtain ⟨_, _, _, _, _, _, c, e1, e2⟩ := getName_split h
    exact ⟨c, e1, e2, fun hg => by simp [growFree] at hg, fun _ _ hN =>
      let ⟨n, hn, hv, _⟩ := hN rel pfx rem v p r h
      valid_name.2 ⟨n, hn, hv⟩⟩
  | pair a b iha ihb =>
    simp only [dec] at h
    split at h
    · cases h
    · rename_i x p1 r1 h1
      split at h
      · cases h
      · rename_i y p2 r2 h2
        cases h
        obtain ⟨c1, rfl, rfl, l1, v1⟩ := iha _ _ _ _ _ h1
        obtain ⟨c2, rfl, rfl, l2, v2⟩ := ihb _ _ _ _ _ h2
        refine ⟨c1 ++ c2, (List.append_assoc ..).symm, List.append_assoc .., fun hg => ?_, fun hwf hoct hN => ?_⟩
        · simp only [growFree, Bool.and_eq_true] at hg
          simp only [enc, List.length_append]
          exact Nat.add_le_add (l1 hg.1) (l2 hg.2)
        · simp only [wf, sdwf, Bool.and_eq_true] at hwf
          exact valid_pair.2 ⟨x, y, rfl, v1 (sd_wf a hwf.1) hoct hN, v2 hwf.2 hoct.right hN⟩
  | rep s ih =>
    simp only [dec] at h
    split at h
    · cases h
    · rename_i vs p1 r1 h1
      cases h
      obtain ⟨c, e1, e2, hl, hv⟩ := repLoop_spec o s ih _ _ _ _ _ _ h1
      refine ⟨c, e1, e2, fun hg => hl hg, fun hwf hoct hN => ?_⟩
      simp only [wf, sdwf, Bool.and_eq_true] at hwf
      exact valid_rep.2 ⟨vs, rfl, hv (sd_wf s hwf.1) hoct hN⟩
  | sub k s ih =>
    simp only [dec] at h
    split at h
    · cases h
    · rename_i lb p1 r1 h1
      split at h
      · cases h
      · rename_i inner p2 r2 h2
        split at h
        · cases h
        · rename_i v' p3 left h3
          split at h
          · rename_i hl
            cases h
            subst hl
            obtain ⟨rfl, hk, rfl⟩ := takeN_spec h1
            obtain ⟨rfl, hb, rfl⟩ := takeN_spec h2
            obtain ⟨c3, e3, _, l3, v3⟩ := ih _ _ _ _ _ h3
            rw [List.append_nil] at e3
            subst e3
            refine ⟨lb ++ inner, (List.append_assoc ..).symm, List.append_assoc .., fun hg => ?_, fun hwf hoct hN => ?_⟩
            · simp only [enc, natBE_length, List.length_append, hk]
              exact Nat.add_le_add_left (l3 hg) _
            · simp only [wf, sdwf, Bool.and_eq_true, Bool.or_eq_true, decide_eq_true_eq] at hwf
              have hv := v3 hwf.1 hoct.right.left hN
              refine valid_sub.2 ⟨hv, ?_⟩
              -- the body re-encodes within the length it came in, or is a single name
              rcases hwf.2 with hg | ⟨hno, hmax⟩
              · exact Nat.lt_of_le_of_lt (l3 hg) (hb ▸ hk ▸ beNat_lt lb hoct.left)
              · exact Nat.lt_of_le_of_lt (nameOnly_len o s hno v hv) hmax
          · cases h
  | check f s ih =>
    simp only [dec] at h
    split at h
    · cases h
    · rename_i v' p1 r1 h1
      split at h
      · rename_i hf
        cases h
        obtain ⟨c, e1, e2, l1, v1⟩ := ih _ _ _ _ _ h1
        exact ⟨c, e1, e2, fun hg => l1 hg, fun hwf hoct hN => valid_check.2 ⟨v1 hwf hoct hN, hf⟩⟩
      · cases h
  | bind hdr sel n alts ihh iha =>
    simp only [dec] at h
    split at h
    · cases h
    · rename_i x p1 r1 h1
      split at h
      · rename_i hlt
        split at h
        · cases h
        · rename_i y p2 r2 h2
          cases h
          obtain ⟨c1, rfl, rfl, l1, v1⟩ := ihh _ _ _ _ _ h1
          obtain ⟨c2, rfl, rfl, l2, v2⟩ := iha (sel x) _ _ _ _ _ h2
          refine ⟨c1 ++ c2, (List.append_assoc ..).symm, List.append_assoc .., fun hg => ?_, fun hwf hoct hN => ?_⟩
          · simp only [growFree, Bool.and_eq_true] at hg
            simp only [enc, List.length_append]
            exact Nat.add_le_add (l1 hg.1) (l2 (all_range_get hg.2 _ hlt))
          · simp only [wf, sdwf, Bool.and_eq_true] at hwf
            exact valid_bind.2 ⟨x, y, rfl, v1 (sd_wf hdr hwf.1) hoct hN, hlt,
              v2 (all_range_get hwf.2 _ hlt) hoct.right hN⟩
      · cases h

theorem decodeWith_ok {s : Schema} {o : Option Name} {pfx rdata : Bytes} {v : Val} :
    decodeWith s o pfx rdata = .ok v ↔ ∃ p, dec s o pfx rdata = .ok (v, p, []) := by
  unfold decodeWith
  split
  · simp [*]
  · rename_i v' p left h
    by_cases hl : left = [] <;> simp [h, hl]

theorem decodeWith_enc {s : Schema} {o : Option Name} {v : Val} (hs : wf s = true) (hv : valid s o v = true)
    (pfx : Bytes) : decodeWith s o pfx (enc s o v) = .ok v :=
  decodeWith_ok.2 ⟨_, by simpa using rt_all o s v hv pfx [] hs (.inl rfl)⟩

theorem decodeWith_consumes {s : Schema} {o : Option Name} {pfx rdata : Bytes} {v : Val}
    (h : decodeWith s o pfx rdata = .ok v) : dec s o pfx rdata = .ok (v, pfx ++ rdata, []) := by
  obtain ⟨p, h1⟩ := decodeWith_ok.1 h
  obtain ⟨c, e1, e2, _⟩ := dec_spec o s _ _ _ _ _ h1
  rw [List.append_nil] at e1
  subst e1 e2
  exact h1

theorem decodeWith_sound {s : Schema} {o : Option Name} {pfx rdata : Bytes} {v : Val} (hs : wf s = true)
    (hoct : OctetsOkB rdata) (hN : NameSound o) (h : decodeWith s o pfx rdata = .ok v) : valid s o v = true :=
  let ⟨_, _, _, _, hv⟩ := dec_spec o s _ _ _ _ _ (decodeWith_consumes h)
  hv hs hoct hN

end Model
