import Proofs.BTreeShape
/-!
The structural steps of the B-tree (`split`, the element movements of `try_left_steal` /
`try_right_steal`, `merge`) preserve the shape invariant and the flattening of the parent; what the steals and
`merge` compute on a parent decomposed at the two children concerned.  The fifth step, a child replaced by the result
of a recursive call, is `Refines.descend`; `Refines` is the form in which insertion, replacement and deletion are stated.
-/
namespace Model.BTree

theorem split_spec {t h : Nat} {c : Node} (ht : 1 ≤ t) (hc : Shape t h c) (hmax : c.elts.length = maxKeys t) :
    Shape t h (split t c).1 ∧ Shape t h (split t c).2.2 ∧
    (split t c).1.elts.length = minKeys t ∧ (split t c).2.2.elts.length = minKeys t ∧
    flat c = flat (split t c).1 ++ (split t c).2.1 :: flat (split t c).2.2 := by
  cases h with
  | zero =>
    obtain ⟨es, rfl⟩ := shape_zero hc
    simp only [Node.elts, maxKeys] at hmax
    obtain ⟨a, m, b, rfl, ha⟩ := split_at_lt es (minKeys t) (by simp [minKeys]; omega)
    simp only [split, ← ha, List.take_left, drop_at_succ, eltAt_append_cons, Node.elts, flat_leaf, shape_zero_leaf,
      true_and]
    simp [minKeys] at ha hmax ⊢
    omega
  | succ h =>
    obtain ⟨es, cs, rfl, hlen, hkids⟩ := shape_succ hc
    simp only [Node.elts, maxKeys] at hmax
    obtain ⟨a, m, b, rfl, ha⟩ := split_at_lt es (minKeys t) (by simp [minKeys]; omega)
    obtain ⟨ca, cb, rfl, hca⟩ := split_at cs (minKeys t + 1) (by simp [minKeys] at hlen ha hmax ⊢; omega)
    have e1 : (a ++ m :: b).take (minKeys t) = a := by rw [← ha]; exact List.take_left
    have e2 : (a ++ m :: b).drop (minKeys t + 1) = b := by rw [← ha]; exact drop_at_succ _ _ _
    have e3 : eltAt (a ++ m :: b) (minKeys t) = m := by rw [← ha]; exact eltAt_append_cons _ _ _
    have e4 : (ca ++ cb).take (minKeys t + 1) = ca := by rw [← hca]; exact List.take_left
    have e5 : (ca ++ cb).drop (minKeys t + 1) = cb := by rw [← hca]; exact List.drop_left
    simp only [split, e1, e2, e3, e4, e5, Node.elts, shape_node_iff, Kids]
    simp only [List.length_append, List.length_cons, minKeys] at hlen ha hmax hca ⊢
    have hF : ca.length = a.length + 1 ∧ cb.length = b.length + 1 ∧ a.length = t - 1 ∧ b.length = t - 1 := by omega
    refine ⟨⟨hF.1, fun c hc => hkids c (List.mem_append_left _ hc)⟩,
      ⟨hF.2.1, fun c hc => hkids c (List.mem_append_right _ hc)⟩, hF.2.2.1, hF.2.2.2, ?_⟩
    simp only [flat_node, List.map_append]
    exact inter_merge _ _ _ _ _ (by simpa using hF.1)

theorem stealFromRight_spec {t h : Nat} {s r : Node} (p : Elt) (hs : Shape t h s) (hr : Shape t h r)
    (hne : 0 < r.elts.length) :
    Shape t h (stealFromRight s r p).1 ∧ Shape t h (stealFromRight s r p).2.2 ∧
    (stealFromRight s r p).1.elts.length = s.elts.length + 1 ∧
    (stealFromRight s r p).2.2.elts.length + 1 = r.elts.length ∧
    flat (stealFromRight s r p).1 ++ (stealFromRight s r p).2.1 :: flat (stealFromRight s r p).2.2
      = flat s ++ p :: flat r ∧
    p ∈ flat (stealFromRight s r p).1 := by
  cases h with
  | zero =>
    obtain ⟨se, rfl⟩ := shape_zero hs
    obtain ⟨re, rfl⟩ := shape_zero hr
    cases re with
    | nil => simp [Node.elts] at hne
    | cons r0 re => simp [stealFromRight, Node.elts]
  | succ h =>
    obtain ⟨se, sc, rfl, hslen, hsk⟩ := shape_succ hs
    obtain ⟨re, rc, rfl, hrlen, hrk⟩ := shape_succ hr
    cases re with
    | nil => simp [Node.elts] at hne
    | cons r0 re =>
      cases rc with
      | nil => simp at hrlen
      | cons c rc =>
        simp only [stealFromRight, Node.elts, shape_node_iff, Kids]
        simp only [List.length_append, List.length_cons, List.length_nil] at hrlen ⊢
        refine ⟨⟨by omega, ?_⟩, ⟨by omega, fun x hx => hrk x (by simp [hx])⟩, trivial, trivial, ?_,
          mem_flat_of_mem_elts (by simp [Node.elts])⟩
        · exact List.forall_mem_append.mpr ⟨hsk, List.forall_mem_singleton.mpr (hrk c (by simp))⟩
        · simp only [flat_node, List.map_append, List.map_cons, List.map_nil]
          rw [inter_merge _ _ _ _ _ (by simpa using hslen)]
          simp [inter]

theorem stealFromLeft_spec {t h : Nat} {l s : Node} (p : Elt) (hl : Shape t h l) (hs : Shape t h s)
    (hne : 0 < l.elts.length) :
    Shape t h (stealFromLeft l s p).1 ∧ Shape t h (stealFromLeft l s p).2.2 ∧
    (stealFromLeft l s p).1.elts.length + 1 = l.elts.length ∧
    (stealFromLeft l s p).2.2.elts.length = s.elts.length + 1 ∧
    flat (stealFromLeft l s p).1 ++ (stealFromLeft l s p).2.1 :: flat (stealFromLeft l s p).2.2
      = flat l ++ p :: flat s ∧
    p ∈ flat (stealFromLeft l s p).2.2 := by
  cases h with
  | zero =>
    obtain ⟨le, rfl⟩ := shape_zero hl
    obtain ⟨se, rfl⟩ := shape_zero hs
    simp only [Node.elts] at hne
    obtain ⟨le', x, rfl⟩ := snoc_of_pos le hne
    simp [stealFromLeft, Node.elts]
  | succ h =>
    obtain ⟨le, lc, rfl, hllen, hlk⟩ := shape_succ hl
    obtain ⟨se, sc, rfl, hslen, hsk⟩ := shape_succ hs
    simp only [Node.elts] at hne
    obtain ⟨le', x, rfl⟩ := snoc_of_pos le hne
    obtain ⟨lc', z, rfl⟩ := snoc_of_pos lc (by omega)
    have e3 : (le' ++ [x]).isEmpty = false := by simp
    have e4 : (lc' ++ [z]).isEmpty = false := by simp
    simp only [stealFromLeft, e3, e4, Bool.false_eq_true, or_self, if_false, List.dropLast_concat,
      eltAt_concat_last, kidAt_concat_last, Node.elts, shape_node_iff, Kids]
    simp only [List.length_append, List.length_cons, List.length_nil] at hllen ⊢
    refine ⟨⟨by omega, fun c hc => hlk c (by simp [hc])⟩, ⟨by omega, ?_⟩, trivial, trivial, ?_,
      mem_flat_of_mem_elts (by simp [Node.elts])⟩
    · exact List.forall_mem_cons.mpr ⟨hlk z (by simp), hsk⟩
    · simp only [flat_node, List.map_append, List.map_cons, List.map_nil]
      have : lc'.length = le'.length + 1 := by omega
      rw [inter_merge _ _ _ _ _ (by simpa using this)]
      simp [inter]

theorem mergeNodes_spec {t h : Nat} {s r : Node} (p : Elt) (hs : Shape t h s) (hr : Shape t h r) :
    Shape t h (mergeNodes s p r) ∧
    (mergeNodes s p r).elts.length = s.elts.length + 1 + r.elts.length ∧
    flat (mergeNodes s p r) = flat s ++ p :: flat r := by
  cases h with
  | zero =>
    obtain ⟨se, rfl⟩ := shape_zero hs
    obtain ⟨re, rfl⟩ := shape_zero hr
    simp [mergeNodes, Node.elts]
    omega
  | succ h =>
    obtain ⟨se, sc, rfl, hslen, hsk⟩ := shape_succ hs
    obtain ⟨re, rc, rfl, hrlen, hrk⟩ := shape_succ hr
    simp only [mergeNodes, Node.elts, Node.children, shape_node_iff, Kids, List.length_append, List.length_cons]
    refine ⟨⟨by omega, ?_⟩, by omega, ?_⟩
    · intro c hc
      rcases List.mem_append.mp hc with hc | hc
      · exact hsk c hc
      · exact hrk c hc
    · simp only [flat_node, List.map_append]
      exact inter_merge _ _ _ _ _ (by simpa using hslen)

theorem tryRightSteal_eq (t : Nat) (el er : List Elt) (p : Elt) (cl : List Node) (s r : Node) (cr : List Node)
    (h : cl.length = el.length) :
    tryRightSteal t (el ++ p :: er) (cl ++ s :: r :: cr) el.length =
      if isMinimal t r then none
      else some (el ++ (stealFromRight s r p).2.1 :: er,
                 cl ++ (stealFromRight s r p).1 :: (stealFromRight s r p).2.2 :: cr) := by
  have hlt : el.length + 1 < (cl ++ s :: r :: cr).length := by simp; omega
  simp only [tryRightSteal, hlt, if_true, kidAt_at_succ h, kidAt_at h, eltAt_at rfl, setAt_at rfl, setAt_at h]
  cases isMinimal t r
  · simp [setAt_at_succ h]
  · simp

theorem tryRightSteal_none_of_short (t : Nat) (es : List Elt) (cs : List Node) (idx : Nat)
    (h : ¬ idx + 1 < cs.length) : tryRightSteal t es cs idx = none := by
  simp [tryRightSteal, h]

theorem tryLeftSteal_zero (t : Nat) (es : List Elt) (cs : List Node) : tryLeftSteal t es cs 0 = none := by
  simp [tryLeftSteal]

theorem tryLeftSteal_eq (t : Nat) (el er : List Elt) (p : Elt) (cl : List Node) (l s : Node) (cr : List Node)
    (h : cl.length = el.length) :
    tryLeftSteal t (el ++ p :: er) (cl ++ l :: s :: cr) (el.length + 1) =
      if isMinimal t l then none
      else some (el ++ (stealFromLeft l s p).2.1 :: er,
                 cl ++ (stealFromLeft l s p).1 :: (stealFromLeft l s p).2.2 :: cr) := by
  simp only [tryLeftSteal, Nat.add_sub_cancel, kidAt_at h, kidAt_at_succ h, eltAt_at rfl, setAt_at rfl,
    setAt_at h]
  cases isMinimal t l
  · simp [setAt_at_succ h]
  · simp

theorem merge_eq (el er : List Elt) (p : Elt) (cl : List Node) (a b : Node) (cr : List Node)
    (h : cl.length = el.length) :
    merge (el ++ p :: er) (cl ++ a :: b :: cr) el.length = some (el ++ er, cl ++ mergeNodes a p b :: cr) := by
  have hlt : el.length + 1 < (cl ++ a :: b :: cr).length := by simp; omega
  simp only [merge, hlt, if_true, kidAt_at h, kidAt_at_succ h, eltAt_at rfl, popAt_at rfl, popAt_at_succ h,
    setAt_at h]

theorem flat_node_split2 (el er : List Elt) (p : Elt) (cl : List Node) (s r : Node) (cr : List Node)
    (h : cl.length = el.length) :
    flat (.node (el ++ p :: er) (cl ++ s :: r :: cr)) = LF cl el ++ (flat s ++ p :: flat r) ++ RF cr er := by
  rw [flat_node_split el (p :: er) cl s (r :: cr) h, RF_cons]
  simp

theorem kids_mem {t h : Nat} {es : List Elt} {cs : List Node} (hk : Kids t h es cs) {c : Node} (hc : c ∈ cs) :
    Shape t h c ∧ Occ t c := hk.2 c hc

theorem kids_splice {t h : Nat} {es es' : List Elt} {cl cm cm' cr : List Node}
    (hk : Kids t h es (cl ++ (cm ++ cr))) (hlen : es'.length + cm.length = es.length + cm'.length)
    (hm : ∀ c ∈ cm', Shape t h c ∧ Occ t c) : Kids t h es' (cl ++ (cm' ++ cr)) := by
  obtain ⟨h1, h2⟩ := hk
  have h3 := List.forall_mem_append.mp h2
  refine ⟨?_, List.forall_mem_append.mpr ⟨h3.1, List.forall_mem_append.mpr ⟨hm, (List.forall_mem_append.mp h3.2).2⟩⟩⟩
  simp only [List.length_append] at h1 ⊢
  omega

theorem kids_replace1 {t h : Nat} {el er : List Elt} {cl cr : List Node} {c c' : Node}
    (hk : Kids t h (el ++ er) (cl ++ c :: cr)) (hc' : Shape t h c' ∧ Occ t c') :
    Kids t h (el ++ er) (cl ++ c' :: cr) :=
  kids_splice (cm := [c]) (cm' := [c']) hk rfl (List.forall_mem_singleton.mpr hc')

/-- a steal seen from the parent: the two children and the separator between them are replaced by two well-shaped
children around a new separator, with the same flattening; the new separator then separates the new children -/
theorem steal_in_place {t h : Nat} {el er : List Elt} {p up : Elt} {cl cr : List Node} {a b a' b' : Node}
    (hk : Kids t h (el ++ p :: er) (cl ++ a :: b :: cr)) (hcl : cl.length = el.length)
    (ha' : Shape t h a' ∧ Occ t a') (hb' : Shape t h b' ∧ Occ t b')
    (hfl : flat a' ++ up :: flat b' = flat a ++ p :: flat b) :
    Kids t h (el ++ up :: er) (cl ++ a' :: b' :: cr) ∧
    flat (.node (el ++ up :: er) (cl ++ a' :: b' :: cr)) = flat (.node (el ++ p :: er) (cl ++ a :: b :: cr)) ∧
    (Sorted (flat (.node (el ++ p :: er) (cl ++ a :: b :: cr))) →
      (∀ x ∈ flat a', x.1 < up.1) ∧ (∀ x ∈ flat b', up.1 < x.1)) := by
  have hflat : flat (.node (el ++ up :: er) (cl ++ a' :: b' :: cr)) =
      flat (.node (el ++ p :: er) (cl ++ a :: b :: cr)) := by
    rw [flat_node_split2 _ _ _ _ _ _ _ hcl, flat_node_split2 _ _ _ _ _ _ _ hcl, hfl]
  refine ⟨kids_splice (cm := [a, b]) (cm' := [a', b']) hk (by simp)
    (List.forall_mem_cons.mpr ⟨ha', List.forall_mem_singleton.mpr hb'⟩), hflat, fun hs => ?_⟩
  obtain ⟨hA, hB⟩ := elt_window hcl (hflat ▸ hs)
  exact ⟨fun x hx => hA x (List.mem_append_right _ hx), fun x hx => hB x (List.mem_append_left _ hx)⟩

theorem kids_merge2 {t h : Nat} {el er : List Elt} {p : Elt} {cl cr : List Node} {s r m : Node}
    (hk : Kids t h (el ++ p :: er) (cl ++ s :: r :: cr)) (hm : Shape t h m ∧ Occ t m) :
    Kids t h (el ++ er) (cl ++ m :: cr) :=
  kids_splice (cm := [s, r]) (cm' := [m]) hk (by simp; omega) (List.forall_mem_singleton.mpr hm)

theorem kids_split2 {t h : Nat} {el er : List Elt} {m : Elt} {cl cr : List Node} {c l r : Node}
    (hk : Kids t h (el ++ er) (cl ++ c :: cr)) (hl : Shape t h l ∧ Occ t l) (hr : Shape t h r ∧ Occ t r) :
    Kids t h (el ++ m :: er) (cl ++ l :: r :: cr) :=
  kids_splice (cm := [c]) (cm' := [l, r]) hk (by simp; omega)
    (List.forall_mem_cons.mpr ⟨hl, List.forall_mem_singleton.mpr hr⟩)

/-- The result `r` of an operation on the subtree `n`: `r.1` can stand in the place of `n` (well shaped, of the same
height) and lists `l`; `r.2 = res` is what the operation returns; the top node has lost at most `lo` and gained at most
`hi` elements.  Insertion, replacement and deletion are each stated as one of these. -/
structure Refines {ρ : Type} (t h : Nat) (n : Node) (lo hi : Nat) (l : List Elt) (res : ρ) (r : Node × ρ) : Prop where
  shape : Shape t h r.1
  flat_eq : flat r.1 = l
  ret : r.2 = res
  len_lo : n.elts.length ≤ r.1.elts.length + lo
  len_hi : r.1.elts.length ≤ n.elts.length + hi

theorem Refines.mono {ρ : Type} {t h lo hi lo' hi' : Nat} {n : Node} {l : List Elt} {res : ρ} {r : Node × ρ}
    (hr : Refines t h n lo hi l res r) (h1 : lo ≤ lo') (h2 : hi ≤ hi') : Refines t h n lo' hi' l res r :=
  ⟨hr.shape, hr.flat_eq, hr.ret, Nat.le_trans hr.len_lo (Nat.add_le_add_left h1 _),
    Nat.le_trans hr.len_hi (Nat.add_le_add_left h2 _)⟩

/-- The step back up from a recursive call: the new child is put in the place of the old one, whose occupancy left room
for the drift; the parent keeps its number of elements.  Its listing changes between the same two outer parts: the
caller's window lemma (`insSorted_window`, `replKey_window`, `delSpec_window`) says that this is the operation on the
parent's listing. -/
theorem Refines.descend {ρ : Type} {t h lo hi : Nat} {el er : List Elt} {cl cr : List Node} {c c' : Node}
    {l : List Elt} {res o : ρ} (hc : Refines t h c lo hi l res (c', o)) (hk : Kids t h (el ++ er) (cl ++ c :: cr))
    (hcl : cl.length = el.length) (hlo : minKeys t + lo ≤ c.elts.length) (hhi : c.elts.length + hi ≤ maxKeys t) :
    Refines t (h + 1) (.node (el ++ er) (cl ++ c :: cr)) 0 0 (LF cl el ++ l ++ RF cr er) res
      (.node (el ++ er) (cl ++ c' :: cr), o) := by
  have h1 : c.elts.length ≤ c'.elts.length + lo := hc.len_lo
  have h2 : c'.elts.length ≤ c.elts.length + hi := hc.len_hi
  refine ⟨shape_node_iff.mpr (kids_replace1 hk ⟨hc.shape, by simp only [Occ]; omega⟩), ?_, hc.ret, Nat.le_refl _,
    Nat.le_refl _⟩
  rw [← hc.flat_eq]
  exact flat_node_split el er cl c' cr hcl

end Model.BTree
