import Proofs.WritersBase
/-!
Serial equivalence: the zone content is the fold of the committed transaction bodies in admission order.  The committed
transactions are the admitted ones that commit, but for the open one, which is a one-place buffer between the two histories
(`curCommitter_step`).  The published versions (the first `|committed| + 1` elements of `versions`; a commit in progress
appends one more, and withdraws it if the pruning policy raises) are the serial prefixes of `committed`
(`InvSer.version_eq`) and are never withdrawn (`published_mono`); readers hold published versions.
Needs the lock-holder / owner invariant `InvLock` only, not the one about events.
-/
namespace Model.Writers

/-- the thread's transaction changes the zone and its commit goes through (the pruning policy does not raise) -/
def willCommit (c : Cfg) (t : Tid) : Bool := c.role t == .writer true && !c.pruneFails t

/-- what a transaction starts from: the zone as of its admission, or nothing for `writer(replacement=True)` -/
def baseOf (c : Cfg) (t : Tid) (zone : Content) : Content := if c.repl t then [] else zone

/-- serial application of transaction bodies, starting from the empty zone (a replacement transaction discards what
was there) -/
def applyTxns (c : Cfg) (ts : List Tid) : Content := ts.foldl (fun acc t => c.body t (baseOf c t acc)) []

/-- admitted transactions that commit, in admission order -/
def admittedCommitters (c : Cfg) (s : State) : List Tid := s.admitted.filter (willCommit c)

/-- the open transaction, if it will commit and has not yet published its nodes -/
def curCommitter (c : Cfg) (s : State) : List Tid :=
  match s.writeTxn with
  | some u => if willCommit c u && preCommitPc (s.loc u).pc then [u] else []
  | none => []

/-- 1 while the new version is appended but `zone.nodes` is not yet replaced -/
def nAppended (s : State) : Nat :=
  match s.writeTxn with
  | some u => if appendedPc (s.loc u).pc then 1 else 0
  | none => 0

structure InvSer (c : Cfg) (s : State) : Prop where
  nodes : s.nodes = applyTxns c s.committed
  /-- the committed transactions are the admitted committing ones, but for the open one -/
  ac : admittedCommitters c s = s.committed ++ curCommitter c s
  /-- the private copy before (`snapA`) and after (`snapB`) the transaction body: taken from the zone as it still is,
  since nobody else can publish while the transaction is open -/
  snapA : ∀ t, snapAPc (s.loc t).pc = true → (s.loc t).snap = baseOf c t s.nodes
  snapB : ∀ t, commitPc (s.loc t).pc = true → (s.loc t).snap = c.body t (baseOf c t s.nodes)
  /-- the id taken by `_setup_version` outside the lock is still the next one when the version is appended -/
  vid : ∀ t, vidPc (s.loc t).pc = true → (s.loc t).vid = s.versions.length + 1
  role : ∀ t, commitPc (s.loc t).pc = true → c.role t = .writer true
  /-- only a commit whose pruning went through reaches `self.nodes = version.nodes` -/
  okC : ∀ t, (s.loc t).pc = .cNodes → c.pruneFails t = false
  undoF : ∀ t, (s.loc t).pc = .cUndo → c.pruneFails t = true
  /-- the published versions: the first `committed.length + 1` elements -/
  versions : ∀ i v, i ≤ s.committed.length → s.versions[i]? = some v →
    v = (i + 1, applyTxns c ((admittedCommitters c s).take i))
  /-- the element appended by a commit in progress (it is withdrawn again if the pruning policy raises) -/
  lastV : ∀ t, appendedPc (s.loc t).pc = true →
    s.versions[s.committed.length + 1]? = some (s.committed.length + 2, c.body t (baseOf c t s.nodes))
  vlen : s.versions.length = s.committed.length + 1 + nAppended s
  /-- readers hold published versions only -/
  rver : ∀ t, readerHasPc (s.loc t).pc = true → (s.loc t).rver ∈ s.versions.take (s.committed.length + 1)

theorem invSer_init (c : Cfg) : InvSer c init := by
  constructor <;> simp [init, applyTxns, admittedCommitters, curCommitter, nAppended]
  intro i v hi h
  cases i <;> simp_all

variable {c : Cfg} {s s' : State} {t u : Tid}

theorem nAppended_setLoc_ne {x : State} {t : Tid} (l : Local) (hne : x.writeTxn ≠ some t) :
    nAppended (x.setLoc t l) = nAppended x := by
  unfold nAppended
  rcases hw : x.writeTxn with _ | u
  · simp [hw]
  · have : u ≠ t := by intro e; apply hne; rw [hw, e]
    simp [hw, this]

theorem nAppended_setLoc_self {x : State} {t : Tid} (l : Local) (hw : x.writeTxn = some t) :
    nAppended (x.setLoc t l) = if appendedPc l.pc then 1 else 0 := by
  simp [nAppended, hw]

theorem nAppended_of_own {x : State} {t : Tid} (hw : x.writeTxn = some t) :
    nAppended x = if appendedPc (x.loc t).pc then 1 else 0 := by
  simp [nAppended, hw]

theorem versions_ne_nil (h : InvSer c s) : s.versions ≠ [] := by
  intro e; have hl := h.vlen; rw [e] at hl; simp at hl; omega

theorem getLastD_eq {α} (l : List α) (d : α) (hne : l ≠ []) : l.getLastD d = l.getLast hne := by
  rw [List.getLastD_eq_getLast?, List.getLast?_eq_some_getLast hne, Option.getD_some]

theorem lastVersion_mem (h : InvSer c s) : s.lastVersion ∈ s.versions := by
  unfold State.lastVersion
  rw [getLastD_eq _ _ (versions_ne_nil h)]
  exact List.getLast_mem _

theorem lastId_eq (h : InvSer c s) (h0 : nAppended s = 0) : s.lastId = s.versions.length := by
  have hne := versions_ne_nil h
  have hpos := List.length_pos_iff.mpr hne
  have hl := h.vlen
  unfold State.lastId State.lastVersion
  rw [getLastD_eq _ _ hne, List.getLast_eq_getElem]
  have hi : s.versions[s.versions.length - 1]? = some (s.versions[s.versions.length - 1]'(by omega)) := by simp
  rw [h.versions _ _ (by omega) hi]
  simp; omega

theorem vlen_of_own {p : Pc} (hL : InvLock s) (h : InvSer c s) (hpc : (s.loc t).pc = p) (ho : isOwner p = true := by rfl) :
    s.versions.length = s.committed.length + 1 + if appendedPc p then 1 else 0 :=
  hpc ▸ nAppended_of_own (hL.own_at hpc ho) ▸ h.vlen

theorem willCommit_of_cNodes (h : InvSer c s) (hpc : (s.loc t).pc = .cNodes) : willCommit c t = true := by
  simp [willCommit, h.role t (by simp [hpc]), h.okC t hpc]

theorem applyTxns_snoc (c : Cfg) (ts : List Tid) (t : Tid) :
    applyTxns c (ts ++ [t]) = c.body t (baseOf c t (applyTxns c ts)) := by
  simp [applyTxns, List.foldl_append]

theorem curCommitter_setLoc_ne {x : State} {t : Tid} (l : Local) (hne : x.writeTxn ≠ some t) :
    curCommitter c (x.setLoc t l) = curCommitter c x := by
  unfold curCommitter
  rcases hw : x.writeTxn with _ | u
  · simp [hw]
  · have : u ≠ t := by intro e; apply hne; rw [hw, e]
    simp [hw, this]

theorem curCommitter_setLoc_self {x : State} {t : Tid} (l : Local) (hw : x.writeTxn = some t) :
    curCommitter c (x.setLoc t l) = if willCommit c t && preCommitPc l.pc then [t] else [] := by
  simp [curCommitter, hw]

theorem curCommitter_of_own {x : State} {t : Tid} (hw : x.writeTxn = some t) :
    curCommitter c x = if willCommit c t && preCommitPc (x.loc t).pc then [t] else [] := by
  simp [curCommitter, hw]

theorem nAppended_zero_of_reader_lock (hL : InvLock s) {u : Tid} (hl : s.lock = some u) (hr : readerPc (s.loc u).pc = true) :
    nAppended s = 0 := by
  unfold nAppended
  split
  next v _ =>
    refine if_neg fun hv => ?_
    -- a thread that has appended its version holds the lock, so it is `u`
    cases Option.some.inj (hl.symm.trans ((hL.lock v).mp (appendedPc_holdsLock _ hv)))
    exact appendedPc_not_reader _ hv hr
  next => rfl

theorem published_of_rdPick (hL : InvLock s) (h : InvSer c s) (hpc : (s.loc u).pc = .rdPick) {v : Nat × Content}
    (hv : v ∈ s.versions) : v ∈ s.versions.take (s.committed.length + 1) := by
  have hl := h.vlen
  rw [nAppended_zero_of_reader_lock hL (hL.lock_at hpc) (by rw [hpc]; rfl)] at hl
  rwa [List.take_of_length_le (by omega)]

/-- the committed transactions are a prefix of the admitted committing ones -/
theorem take_committers (hac : admittedCommitters c s = s.committed ++ curCommitter c s) {i : Nat}
    (hi : i ≤ s.committed.length) : (admittedCommitters c s).take i = s.committed.take i := by
  rw [hac, List.take_append_of_le_length hi]

/-- `InvSer.versions` in terms of `committed`, which is what a step changes -/
theorem InvSer.version_eq (h : InvSer c s) {i : Nat} {v : Nat × Content} (hi : i ≤ s.committed.length)
    (hv : s.versions[i]? = some v) : v = (i + 1, applyTxns c (s.committed.take i)) :=
  take_committers h.ac hi ▸ h.versions i v hi hv

/-- the open transaction is a one-place buffer between admission and publication: a step puts the thread it admits into it, if
that thread will commit, and takes out the thread that publishes.  Where the owner leaves `preCommitPc` without publishing
(rollback, withdrawn commit) it was never in the buffer: `willCommit` is false -/
theorem curCommitter_step (hL : InvLock s) (h : InvSer c s) (htr : Trans c s t s') :
    curCommitter c s ++ (if (s.loc t).pc = .wMkTxn then [t] else []).filter (willCommit c) =
      (if (s.loc t).pc = .cNodes then [t] else []) ++ curCommitter c s' := by
  cases ho : isOwner (s.loc t).pc
  · -- not the owner: only admission (`wMkTxn`) matters
    have hne := hL.own_ne ho
    cases htr <;> (have hpc : (s.loc t).pc = _ := ‹_›) <;> simp [hpc] at ho
    case wMkTxn =>
      rw [curCommitter_setLoc_self _ rfl]
      simp only [curCommitter, hL.mkTxn t hpc]
      cases hc : willCommit c t <;> simp [hpc, hc]
    all_goals
      rw [curCommitter_setLoc_ne]
      -- `curCommitter` reads `_write_txn` and its owner's program point only, none of the fields these steps write
      show curCommitter c s ++ _ = _ ++ curCommitter c s
      simp [hpc]
      exact hne
  · -- the owner: it stays the current committer until it publishes (`cNodes`) or is known not to commit
    have hw := (hL.own t).mp ho
    rw [curCommitter_of_own hw]
    cases htr <;> (have hpc : (s.loc t).pc = _ := ‹_›) <;> simp [hpc] at ho
    case eTxnNone =>
      rw [curCommitter_setLoc_ne _ (by simp)]
      simp [hpc, curCommitter]
    all_goals (rw [curCommitter_setLoc_self]; rotate_left; exact hw)
    case cUndo =>
      have : willCommit c t = false := by simp [willCommit, h.undoF t hpc]
      simp [hpc, this]
    case wBodyR hr =>
      have : willCommit c t = false := by simp [willCommit]; intro h; exact absurd h hr
      simp [hpc, this]
    case cNodes =>
      have hr := willCommit_of_cNodes h hpc
      simp [hpc, hr]
    all_goals simp [hpc]

theorem ac_trans (hL : InvLock s) (h : InvSer c s) (htr : Trans c s t s') :
    admittedCommitters c s' = s'.committed ++ curCommitter c s' := by
  have h0 := h.ac
  unfold admittedCommitters at h0 ⊢
  rw [htr.admitted_eq, List.filter_append, h0, htr.publish_eq.2, List.append_assoc, curCommitter_step hL h htr,
    List.append_assoc]

/-- a commit in progress appends and withdraws behind the published versions; publishing adds the appended one -/
theorem versions_trans (hL : InvLock s) (h : InvSer c s) (htr : Trans c s t s') {i : Nat} {v : Nat × Content}
    (hi : i ≤ s'.committed.length) (hv : s'.versions[i]? = some v) : v = (i + 1, applyTxns c (s'.committed.take i)) := by
  have hlen := h.vlen
  cases htr <;> simp only [setLoc_versions, setLoc_committed] at hi hv ⊢ <;> try exact h.version_eq hi hv
  case cAppend =>
    rw [List.getElem?_append_left (by omega)] at hv
    exact h.version_eq hi hv
  case cUndo hpc =>
    have hlen := vlen_of_own hL h hpc
    rw [List.getElem?_dropLast, if_pos (by simp at hlen; omega)] at hv
    exact h.version_eq hi hv
  case cNodes hpc =>
    rw [List.length_append, List.length_singleton] at hi
    rcases Nat.lt_or_ge i (s.committed.length + 1) with h1 | h1
    · rw [List.take_append_of_le_length (by omega)]
      exact h.version_eq (by omega) hv
    · have hie : i = s.committed.length + 1 := by omega
      subst hie
      rw [h.lastV t (by simp [hpc])] at hv
      rw [← Option.some.inj hv, List.take_of_length_le (by simp), applyTxns_snoc, ← h.nodes]

/-- published versions are never withdrawn -/
theorem published_mono (hL : InvLock s) (h : InvSer c s) (htr : Trans c s t s') :
    s.versions.take (s.committed.length + 1) ⊆ s'.versions.take (s'.committed.length + 1) := by
  have hlen := h.vlen
  cases htr <;> simp only [setLoc_versions, setLoc_committed]
  case cAppend => rw [List.take_append_of_le_length (by omega)]; exact fun _ h => h
  case cUndo hpc =>
    have hlen := vlen_of_own hL h hpc
    rw [List.dropLast_eq_take, List.take_take, Nat.min_eq_left (by simp at hlen; omega)]
    exact fun _ h => h
  case cNodes => rw [List.length_append]; exact List.take_subset_take_left _ (Nat.le_succ _)
  all_goals exact fun _ h => h

theorem invSer_trans (hL : InvLock s) (h : InvSer c s) (htr : Trans c s t s') : InvSer c s' where
  nodes := by
    obtain ⟨hn, hc⟩ := htr.publish_eq
    rw [hn, hc]; split
    next hpc =>
      rw [applyTxns_snoc, ← h.nodes]
      exact h.snapB t (by rw [hpc]; rfl)
    next => exact List.append_nil _ ▸ h.nodes
  ac := ac_trans hL h htr
  snapA := by
    intro u hu
    by_cases hut : u = t
    · subst hut
      cases htr <;> simp at hu <;> rw [setLoc_loc_self]
      case wSetupCopy => rfl
      case wReturn hpc => exact h.snapA u (by rw [hpc]; rfl)
    · rw [htr.loc_ne hut] at hu ⊢
      rw [(htr.other_owner hL hut (snapAPc_owner _ hu)).1]
      exact h.snapA u hu
  snapB := by
    intro u hu
    by_cases hut : u = t
    · subst hut
      cases htr <;> simp at hu <;> rw [setLoc_loc_self]
      case wBodyC hpc _ => exact congrArg (c.body u) (h.snapA u (by rw [hpc]; rfl))
      all_goals exact h.snapB u (by rw [‹(s.loc u).pc = _›]; rfl)
    · rw [htr.loc_ne hut] at hu ⊢
      rw [(htr.other_owner hL hut (commitPc_owner _ hu)).1]
      exact h.snapB u hu
  vid := by
    intro u hu
    by_cases hut : u = t
    · subst hut
      cases htr <;> simp at hu <;> rw [setLoc_loc_self]
      case wSetupId hpc =>
        -- no commit is in progress, so the newest version is the last published one
        have hw := hL.own_at hpc
        exact congrArg (· + 1) (lastId_eq h (by rw [nAppended_of_own hw, hpc]; rfl))
      all_goals exact h.vid u (by rw [‹(s.loc u).pc = _›]; rfl)
    · rw [htr.loc_ne hut] at hu ⊢
      rw [(htr.other_owner hL hut (vidPc_owner _ hu)).2.1]
      exact h.vid u hu
  role := by
    intro u hu
    by_cases hut : u = t
    · subst hut
      cases htr <;> simp at hu
      case wBodyC hr => exact hr
      all_goals exact h.role u (by rw [‹(s.loc u).pc = _›]; rfl)
    · rw [htr.loc_ne hut] at hu
      exact h.role u hu
  okC := by
    intro u hu
    by_cases hut : u = t
    · subst hut
      cases htr <;> simp only [setLoc_loc_self, reduceCtorEq] at hu
      case cPrune hf => exact hf
    · rw [htr.loc_ne hut] at hu
      exact h.okC u hu
  undoF := by
    intro u hu
    by_cases hut : u = t
    · subst hut
      cases htr <;> simp only [setLoc_loc_self, reduceCtorEq] at hu
      case cPruneFail hf => exact hf
    · rw [htr.loc_ne hut] at hu
      exact h.undoF u hu
  versions i v hi hv := by
    rw [take_committers (ac_trans hL h htr) hi]; exact versions_trans hL h htr hi hv
  lastV := by
    intro u hu
    by_cases hut : u = t
    · subst hut
      cases htr <;> simp at hu
      case cAppend hpc =>
        have hlen : s.versions.length = s.committed.length + 1 := vlen_of_own hL h hpc
        simp only [setLoc_versions, setLoc_committed, setLoc_nodes]
        rw [List.getElem?_append_right (by omega)]
        simp [hlen, h.vid u (by simp [hpc]), h.snapB u (by simp [hpc])]
      all_goals exact h.lastV u (by rw [‹(s.loc u).pc = _›]; rfl)
    · obtain ⟨l, rfl⟩ := htr.other_locked hL hut (appendedPc_holdsLock _ hu)
      rw [setLoc_loc, if_neg hut] at hu
      exact h.lastV u hu
  vlen := by
    have h0 := h.vlen
    cases ho : isOwner (s.loc t).pc
    · have hne := hL.own_ne ho
      cases htr <;> (have hpc : (s.loc t).pc = _ := ‹_›) <;> simp [hpc] at ho <;>
        simp only [setLoc_versions, setLoc_committed]
      case wMkTxn =>
        have hw := hL.mkTxn t hpc
        rw [nAppended_setLoc_self _ rfl]
        simp only [nAppended, hw] at h0
        simpa using h0
      all_goals (rw [nAppended_setLoc_ne]; exact h0; exact hne)
    · have hw := (hL.own t).mp ho
      rw [nAppended_of_own hw] at h0
      cases htr <;> (have hpc : (s.loc t).pc = _ := ‹_›) <;> simp [hpc] at ho <;>
        simp only [setLoc_versions, setLoc_committed]
      case eTxnNone =>
        rw [nAppended_setLoc_ne _ (by simp)]
        simpa [hpc, nAppended] using h0
      all_goals
        rw [nAppended_setLoc_self]; rotate_left; exact hw
        simp [hpc] at h0 ⊢
        omega
  rver := by
    intro u hu
    by_cases hut : u = t
    · subst hut
      cases htr <;> simp at hu <;> rw [setLoc_loc_self]
      case rdPick hpc _ => exact published_of_rdPick hL h hpc (lastVersion_mem h)
      case rdPickId v hpc _ hf => exact published_of_rdPick hL h hpc (List.mem_of_find?_eq_some hf)
      all_goals exact h.rver u (by rw [‹(s.loc u).pc = _›]; rfl)
    · rw [htr.loc_ne hut] at hu ⊢
      exact published_mono hL h htr (h.rver u hu)

/-! Tactic abbreviations: `ser_facts` puts every clause of `InvSer` about one thread into the context; `pres_ser` tries, for
a clause about a thread `u` after a step of `t`, the case `u = t` by `simp`, the unchanged clause, and then
`simp_all`/`grind` on these facts. -/

macro "ser_facts " s:ident hL:ident h:ident u:term : tactic =>
  `(tactic| (have := ($hL).lock $u; have := ($hL).own $u;
             have := ($h).snapA $u; have := ($h).snapB $u; have := ($h).vid $u; have := ($h).role $u;
             have := ($h).okC $u; have := ($h).undoF $u; have := ($h).lastV $u; have := appendedPc_owner (State.loc $s $u).pc;
             have := snapAPc_owner (State.loc $s $u).pc; have := commitPc_owner (State.loc $s $u).pc;
             have := vidPc_owner (State.loc $s $u).pc))

macro "pres_ser " s:ident hL:ident h:ident t:ident u:ident old:term : tactic =>
  `(tactic| (by_cases hu : $u = $t <;>
    first
    | (subst hu; simp; done)
    | (simp only [setLoc_loc, if_neg hu, setLoc_nodes, setLoc_versions, setLoc_committed]; exact $old)
    | (ser_facts $s $hL $h $t; ser_facts $s $hL $h $u; (simp_all [willCommit, baseOf] <;> grind))))

end Model.Writers
