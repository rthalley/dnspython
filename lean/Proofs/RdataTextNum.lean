import Proofs.RdataTextReturns
/-! Decimal and octal numerals (C05): positional notation read back (`radix_spec`, of which `str` and `{:o}` are the cases
10 and 8); `natToDec n` is read back as `n` by `decVal` and by Python's `int()` and has no leading zero;
`sep.join` and `split(sep)` are inverse on parts without the separator (with a closed form of `join` that does not single out
the one-part case); the dotted quad is such a join of four numerals, which `ip4Aton` reads back. -/
namespace Model

/-- positional notation in a base `b ≤ 10`, for any printer that peels off the last digit as `str` and `{:o}` do: its digits
are digits of the base, there is at least one, and read back they give the number -/
theorem radix_spec {b : Nat} (hb : 2 ≤ b) {f : Nat → List Nat}
    (hf : ∀ n, f n = if n < b then [48 + n] else f (n / b) ++ [48 + n % b]) (n : Nat) :
    (∀ c ∈ f n, 48 ≤ c ∧ c < 48 + b) ∧ f n ≠ [] ∧ (f n).foldl (fun a d => a * b + (d - 48)) 0 = n := by
  induction n using Nat.strongRecOn with
  | _ n ih =>
    rw [hf n]
    split
    · simp; omega
    · obtain ⟨i1, -, i3⟩ := ih (n / b) (Nat.div_lt_self (by omega) (by omega))
      have hm := Nat.mod_lt n (show 0 < b by omega)
      refine ⟨fun c hc => ?_, by simp, ?_⟩
      · rcases List.mem_append.mp hc with hc | hc
        · exact i1 c hc
        · simp at hc; omega
      · rw [List.foldl_append, i3]
        simpa using Nat.div_add_mod' n b

theorem decVal_natToDec (n : Nat) : decVal (natToDec n) = n := (radix_spec (by decide) natToDec.eq_1 n).2.2

theorem natToDec_digits (n : Nat) : ∀ c ∈ natToDec n, 48 ≤ c ∧ c ≤ 57 := fun c hc => by
  have := (radix_spec (by decide) natToDec.eq_1 n).1 c hc
  omega

theorem natToDec_ne_nil (n : Nat) : natToDec n ≠ [] := (radix_spec (by decide) natToDec.eq_1 n).2.1

theorem natToDec_length_le (w n : Nat) (hw : 0 < w) (h : n < 10 ^ w) : (natToDec n).length ≤ w := by
  induction w generalizing n with
  | zero => omega
  | succ w ih =>
    rw [natToDec]
    split
    · simp
    · have hw' : 0 < w := by
        rcases Nat.eq_zero_or_pos w with rfl | h0
        · omega
        · exact h0
      have := ih (n / 10) hw' (by rw [Nat.pow_succ] at h; omega)
      simp; omega

theorem natToDec_all_isDigit (v : Nat) : (natToDec v).all isDigit = true := by
  rw [List.all_eq_true]; intro c hc
  have := natToDec_digits v c hc
  simp [isDigit]; omega

theorem natToDec_isEmpty (n : Nat) : (natToDec n).isEmpty = false := by
  cases h : natToDec n with
  | nil => exact absurd h (natToDec_ne_nil n)
  | cons _ _ => rfl

/-- `str(n)` has no leading zero -/
theorem natToDec_head48 (n : Nat) (h : (natToDec n).head? = some 48) : n = 0 := by
  fun_induction natToDec n with
  | case1 n hn => simp at h; exact h
  | case2 n hn ih =>
    obtain ⟨x, xs, e⟩ := List.exists_cons_of_ne_nil (natToDec_ne_nil (n / 10))
    rw [e] at h ih
    have := ih h
    omega

theorem splitOn_append_sep (sep : Nat) (a b : List Nat) (h : sep ∉ a) :
    splitOn sep (a ++ sep :: b) = a :: splitOn sep b := by
  induction a with
  | nil => simp [splitOn]
  | cons c a' ih =>
    have hc : c ≠ sep := fun e => h (by simp [e])
    have ha : sep ∉ a' := fun e => h (by simp [e])
    simp [splitOn, hc, ih ha]

theorem splitOn_no_sep (sep : Nat) (a : List Nat) (h : sep ∉ a) : splitOn sep a = [a] := by
  induction a with
  | nil => simp [splitOn]
  | cons c a' ih =>
    have hc : c ≠ sep := fun e => h (by simp [e])
    have ha : sep ∉ a' := fun e => h (by simp [e])
    simp [splitOn, hc, ih ha]

/-- `sep.join` without the special case for a single part -/
theorem joinWith_cons (sep : Nat) (x : List Nat) (xs : List (List Nat)) :
    joinWith sep (x :: xs) = x ++ xs.flatMap (sep :: ·) := by
  induction xs generalizing x with
  | nil => simp [joinWith]
  | cons y ys ih => rw [joinWith, ih] <;> simp

theorem mem_joinWith {sep c : Nat} {L : List (List Nat)} (h : c ∈ joinWith sep L) : c = sep ∨ ∃ x ∈ L, c ∈ x := by
  cases L with
  | nil => simp [joinWith] at h
  | cons x xs =>
    simp only [joinWith_cons, List.mem_append, List.mem_flatMap, List.mem_cons] at h ⊢
    rcases h with h | ⟨y, hy, h | h⟩
    · exact .inr ⟨x, .inl rfl, h⟩
    · exact .inl h
    · exact .inr ⟨y, .inr hy, h⟩

theorem joinWith_append (sep : Nat) (a b : List (List Nat)) (ha : a ≠ []) (hb : b ≠ []) :
    joinWith sep (a ++ b) = joinWith sep a ++ sep :: joinWith sep b := by
  obtain ⟨x, xs, rfl⟩ := List.exists_cons_of_ne_nil ha
  obtain ⟨y, ys, rfl⟩ := List.exists_cons_of_ne_nil hb
  simp [joinWith_cons]

theorem splitOn_joinWith (sep : Nat) (cs : List (List Nat)) (hne : cs ≠ []) (h : ∀ c ∈ cs, sep ∉ c) :
    splitOn sep (joinWith sep cs) = cs := by
  induction cs with
  | nil => exact absurd rfl hne
  | cons x xs ih =>
    cases xs with
    | nil => simpa [joinWith] using splitOn_no_sep sep x (h x (by simp))
    | cons y ys =>
      rw [joinWith, splitOn_append_sep sep x _ (h x (by simp)), ih (by simp) (fun c hc => h c (by simp [hc]))]
      simp

theorem natToDec_no (sep : Nat) (hs : sep < 48 ∨ 57 < sep) (n : Nat) : sep ∉ natToDec n := by
  intro hmem
  have := natToDec_digits n sep hmem
  omega

theorem ip4PartOk_natToDec (n : Nat) : ip4PartOk (natToDec n) = true := by
  unfold ip4PartOk
  have h3 : (decide ((natToDec n).length > 1) && (natToDec n).head? == some 48) = false := by
    by_cases hh : (natToDec n).head? = some 48
    · simp [natToDec_head48 n hh, natToDec]
    · simp [hh]
  simp [natToDec_ne_nil n, natToDec_all_isDigit n, h3]

/-- the dotted-quad text of four octets, `".".join` of their decimal numerals -/
def v4Text (b0 b1 b2 b3 : Nat) : List Nat :=
  natToDec b0 ++ 46 :: (natToDec b1 ++ 46 :: (natToDec b2 ++ 46 :: natToDec b3))

theorem v4Text_eq_join (a b c d : Nat) : v4Text a b c d = joinWith 46 [natToDec a, natToDec b, natToDec c, natToDec d] := rfl

theorem v4Text_chars (a b c d : Nat) : ∀ x ∈ v4Text a b c d, x = 46 ∨ (48 ≤ x ∧ x ≤ 57) := by
  intro x hx
  rw [v4Text_eq_join] at hx
  refine (mem_joinWith hx).imp_right fun ⟨p, hp, hxp⟩ => ?_
  simp only [List.mem_cons, List.mem_nil_iff, or_false] at hp
  rcases hp with rfl | rfl | rfl | rfl <;> exact natToDec_digits _ x hxp

theorem splitOn_v4Text (a b c d : Nat) :
    splitOn 46 (v4Text a b c d) = [natToDec a, natToDec b, natToDec c, natToDec d] := by
  refine splitOn_joinWith 46 [_, _, _, _] (by simp) fun p hp => ?_
  simp only [List.mem_cons, List.mem_nil_iff, or_false] at hp
  rcases hp with rfl | rfl | rfl | rfl <;> exact natToDec_no 46 (by omega) _

theorem ip4Aton_v4Text (a b c d : Nat) (ha : a < 256) (hb : b < 256) (hc : c < 256) (hd : d < 256) :
    ip4Aton (v4Text a b c d) = some [a, b, c, d] := by
  unfold ip4Aton
  simp only [splitOn_v4Text]
  simp [ip4PartOk_natToDec, decVal_natToDec]
  omega

theorem ip4_roundtrip (a b c d : Nat) (ha : a < 256) (hb : b < 256) (hc : c < 256) (hd : d < 256) :
    ∃ t, ip4Ntoa [a, b, c, d] = some t ∧ ip4Aton t = some [a, b, c, d] :=
  ⟨_, rfl, ip4Aton_v4Text a b c d ha hb hc hd⟩

theorem ip4Aton_length (t : List Nat) : Returns (·.length = 4) (ip4Aton t) := by
  unfold ip4Aton
  exact .ite_none fun h4 => .ite_none fun _ => .ite_some fun _ => .some (by simpa using h4)

theorem digitsUS_digits (base : Nat) (ds : List Nat) (hd : ∀ c ∈ ds, 48 ≤ c ∧ c < 48 + base) (acc : Nat) (nd : Bool) :
    digitsUS base ds acc nd =
      if ds = [] then (if nd then none else some acc) else some (ds.foldl (fun a d => a * base + (d - 48)) acc) := by
  induction ds generalizing acc nd with
  | nil => simp [digitsUS]
  | cons c cs ih =>
    have hc := hd c (by simp)
    simp only [digitsUS, hc.1, hc.2, and_self, if_true]
    rw [ih (fun x hx => hd x (by simp [hx]))]
    by_cases hcs : cs = []
    · subst hcs; simp
    · simp [hcs]

theorem dropWhile_head_false (p : Nat → Bool) (s : List Nat) (h : ∀ c ∈ s, p c = false) : s.dropWhile p = s := by
  cases s with
  | nil => rfl
  | cons c cs => simp [List.dropWhile, h c (by simp)]

theorem stripIntSpace_id (s : List Nat) (h : ∀ c ∈ s, isIntSpace c = false) : stripIntSpace s = s := by
  unfold stripIntSpace
  rw [dropWhile_head_false _ s h, dropWhile_head_false _ s.reverse (fun c hc => h c (by simpa using hc))]
  simp

/-- `int()` on a string that does not begin with a sign -/
theorem pySign_of_no_sign (s : List Nat) (h : ∀ c ∈ s.head?, c ≠ 45 ∧ c ≠ 43) : pySign s = (false, s) := by
  unfold pySign
  split
  · exact absurd rfl (h 45 rfl).1
  · exact absurd rfl (h 43 rfl).2
  · rfl

/-- `int(s, base)` on a non-empty string of digits below `base`: no blank to strip, no sign, no `0o` prefix -/
theorem pyInt_digits (base : Nat) (hb : base ≤ 10) (ds : List Nat) (hd : ∀ c ∈ ds, 48 ≤ c ∧ c < 48 + base) (hne : ds ≠ []) :
    pyInt base ds = some (false, ds.foldl (fun a d => a * base + (d - 48)) 0) := by
  have hns : ∀ c ∈ ds, isIntSpace c = false := by
    intro c hc; have := hd c hc; simp [isIntSpace]; omega
  unfold pyInt
  rw [stripIntSpace_id _ hns]
  cases ds with
  | nil => exact absurd rfl hne
  | cons c cs =>
    have hc := hd c (by simp)
    have hsign := pySign_of_no_sign (c :: cs) fun x hx => by cases hx; omega
    -- a digit is neither `o` nor `O`, so there is no `0o` prefix to strip
    have hbody : pyBody base (c :: cs) = digitsUS base (c :: cs) 0 true := by
      unfold pyBody
      split
      · rename_i o r heq
        simp at heq
        have ho := hd o (by rw [heq.2]; simp)
        have : ¬ (o = 111 ∨ o = 79) := by omega
        simp [this]
      · rfl
    simp [hsign, hbody, digitsUS_digits base _ hd]

theorem pyInt10_natToDec (n : Nat) : pyInt 10 (natToDec n) = some (false, n) := by
  rw [pyInt_digits 10 (by omega) _ (fun c hc => by have := natToDec_digits n c hc; omega) (natToDec_ne_nil n)]
  exact congrArg (fun v => some (false, v)) (decVal_natToDec n)

theorem natToOct_digits (n : Nat) : ∀ c ∈ natToOct n, 48 ≤ c ∧ c ≤ 55 := fun c hc => by
  have := (radix_spec (by decide) natToOct.eq_1 n).1 c hc
  omega

theorem natToOct_ne_nil (n : Nat) : natToOct n ≠ [] := (radix_spec (by decide) natToOct.eq_1 n).2.1

theorem pyInt8_natToOct (n : Nat) : pyInt 8 (natToOct n) = some (false, n) := by
  rw [pyInt_digits 8 (by omega) _ (fun c hc => by have := natToOct_digits n c hc; omega) (natToOct_ne_nil n),
    (radix_spec (by decide) natToOct.eq_1 n).2.2]

end Model
