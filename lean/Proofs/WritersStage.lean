import Proofs.WritersInv
/-!
The *stage thread*: the thread whose progress the next admission is waiting for (owner of the open write transaction,
then the same thread while it wakes the head of the queue, then the holder of the wake-up token, or the newcomer that is
being admitted directly).  `Phase` names these four situations; a step of another thread leaves the phase alone
(`stage_other`), a step of the stage thread is an admission or uses up `stageFuel` (`stage_self`), and the stage thread can
move unless somebody else holds the lock (`stage_enabled`), which is why no state is a deadlock (`deadlock_free_aux`).

Both are argued field by field: `Trans.own_cases`, `Trans.writeEvent_cases`, `Trans.lock_cases`, `Trans.admitted_eq` say
at which program points a step writes `_write_txn`, `_write_event`, the lock, the admission list, and the invariant says
why the moving thread cannot be there.  Where a step takes the program counter is read off `succPc` (`Trans.pc_mem`).
-/
namespace Model.Writers
variable {c : Cfg} {n : Nat} {s s' : State} {t u : Tid}

/-- the thread whose progress the next admission is waiting for -/
def stageThread (s : State) : Tid :=
  match s.writeTxn with
  | some u => u
  | none =>
    match s.lock with
    | some v => if endPc (s.loc v).pc then v else (match s.writeEvent with | some e => s.owner e | none => v)
    | none => match s.writeEvent with | some e => s.owner e | none => 0

theorem stageThread_of_txn (h : s.writeTxn = some u) : stageThread s = u := by
  simp only [stageThread, h]

theorem stageThread_of_lock (h : s.writeTxn = none) (hl : s.lock = some u)
    (hu : endPc (s.loc u).pc = true ∨ s.writeEvent = none) : stageThread s = u := by
  simp only [stageThread, h, hl]
  rcases hu with hu | hu
  · rw [if_pos hu]
  · simp only [hu, ite_self]

theorem stageThread_of_token {e : Ev} (h : s.writeTxn = none) (he : s.writeEvent = some e)
    (hl : ∀ v, s.lock = some v → endPc (s.loc v).pc = false) : stageThread s = s.owner e := by
  simp only [stageThread, h, he]
  rcases hl' : s.lock with _ | v
  · rfl
  · simp only [hl v hl', Bool.false_eq_true, if_false]

/-- the situations in which `u` is the thread the next admission waits for: it owns the open transaction; it has ended
its transaction and is waking the head of the queue; it is a newcomer that finds the zone free; it holds the token -/
inductive Phase (s : State) (u : Tid) : Prop
  | txn : s.writeTxn = some u → Phase s u
  | ending : s.writeTxn = none → s.lock = some u → endPc (s.loc u).pc = true → Phase s u
  | first : s.writeTxn = none → s.writeEvent = none → s.lock = some u → firstCS (s.loc u) = true → Phase s u
  | token (e : Ev) : s.writeTxn = none → s.writeEvent = some e → s.owner e = u →
      (∀ v, s.lock = some v → endPc (s.loc v).pc = false) → Phase s u

theorem Phase.stageThread_eq (h : Phase s u) : stageThread s = u := by
  cases h with
  | txn h => exact stageThread_of_txn h
  | ending h hl he => exact stageThread_of_lock h hl (.inl he)
  | first h he hl _ => exact stageThread_of_lock h hl (.inr he)
  | token e h he ho hl => rw [← ho]; exact stageThread_of_token h he hl

theorem stage_phase (hi : Inv c n s) (hp : pending s ≠ []) : Phase s (stageThread s) := by
  suffices h : ∃ u, Phase s u by
    obtain ⟨u, h⟩ := h
    rw [h.stageThread_eq]; exact h
  rcases hwt : s.writeTxn with _ | u
  · by_cases hend : ∃ v, s.lock = some v ∧ endPc (s.loc v).pc = true
    · obtain ⟨v, hl, he⟩ := hend
      exact ⟨v, .ending hwt hl he⟩
    · rcases hwe : s.writeEvent with _ | e
      · -- no transaction, no token, nobody about to pop: the queue is empty (`orphan`), so a newcomer is what is pending
        have hat : ∀ p, endPc p = true → ¬ s.lockAt p := fun p hp h => by
          rcases hl : s.lock with _ | v
          · exact h.1 hl
          · exact hend ⟨v, hl, by rw [h.2 v hl]; exact hp⟩
        have hw := hi.ev.waiters_nil hwt hwe (hat _ rfl) (hat _ rfl)
        rcases hl : s.lock with _ | v
        · exact absurd (by simp [pending, tokPart, inCS, hwe, hl, hw]) hp
        · refine ⟨v, .first hwt hwe hl (Classical.byContradiction fun hf => hp ?_)⟩
          simp [pending, tokPart, inCS, hwe, hl, hw, hf]
      · exact ⟨_, .token e hwt hwe rfl fun v hl => Bool.eq_false_iff.mpr fun h => hend ⟨v, hl, h⟩⟩
  · exact ⟨u, .txn hwt⟩

theorem first_pc (hi : Inv c n s) (hwt : s.writeTxn = none) (hwe : s.writeEvent = none) (hf : firstCS (s.loc u) = true) :
    (s.loc u).pc = .wTest ∨ (s.loc u).pc = .wMkTxn := by
  have hfl := hi.ev.failed u
  rw [hwt, hwe] at hfl
  rcases firstCS_pc hf with h | h | h
  · exact absurd (hfl (.inl h)) (by simp)
  · exact absurd (hfl (.inr h)) (by simp)
  · exact h

theorem Phase.fuel_pos (hi : Inv c n s) (h : Phase s u) : 0 < stageFuel (s.loc u).pc := by
  cases h with
  | txn h => exact isOwner_stageFuel _ ((hi.lk.own u).mpr h)
  | ending _ _ he => exact endPc_stageFuel _ he
  | first hwt hwe _ hf => rcases first_pc hi hwt hwe hf with h | h <;> rw [h] <;> decide
  | token e _ he ho _ => rw [← ho]; exact tokenPc_stageFuel _ (hi.ev.tok e he).2.2.1

theorem writeEvent_kept (hL : InvLock s) (hwt : s.writeTxn = none) (htr : Trans c s t s') (hpop : (s.loc t).pc ≠ .ePop) :
    s'.writeEvent = s.writeEvent :=
  htr.writeEvent_same (pc_ne_of (f := isOwner) rfl (hL.not_owner hwt t)).symm hpop

theorem token_kept {e : Ev} (hi : Inv c n s) (hwt : s.writeTxn = none) (hwe : s.writeEvent = some e)
    (htr : Trans c s t s') (hmk : (s.loc t).pc ≠ .wMkTxn) :
    s'.writeTxn = none ∧ s'.writeEvent = some e ∧ s'.owner e = s.owner e ∧ s'.admitted = s.admitted := by
  refine ⟨htr.writeTxn_none hwt hmk, ?_, htr.owner_eq (hi.ev.tok e hwe).1, by rw [htr.admitted_eq, if_neg hmk, List.append_nil]⟩
  -- nobody pops the queue while the token is out
  exact (writeEvent_kept hi.lk hwt htr fun h => by rw [(hi.ev.pop t h).2.2] at hwe; cases hwe).trans hwe

theorem no_ending_step (hi : Inv c n s) (hwt : s.writeTxn = none)
    (hend : ∀ v, s.lock = some v → endPc (s.loc v).pc = false) (htr : Trans c s t s') :
    ∀ v, s'.lock = some v → endPc (s'.loc v).pc = false := by
  intro v hv
  by_cases hvt : v = t
  · subst hvt
    have hown := hi.lk.not_owner hwt v
    refine endPc_succ _ (fun h => by rw [h] at hown; cases hown) (Bool.eq_false_iff.mpr fun h => ?_) _ htr.pc_mem
    rw [hend v ((hi.lk.lock v).mp (endPc_holdsLock _ h))] at h; cases h
  · rw [htr.loc_ne hvt]
    rcases htr.lock_cases with h | h | h
    · exact hend v (h.1 ▸ hv)
    · rw [h.2.1] at hv; exact absurd (Option.some.inj hv).symm hvt
    · rw [h.2.1] at hv; cases hv

theorem token_step {e : Ev} (hi : Inv c n s) (hwt : s.writeTxn = none) (hwe : s.writeEvent = some e)
    (hend : ∀ v, s.lock = some v → endPc (s.loc v).pc = false) (htr : Trans c s t s')
    (hmk : (s.loc t).pc ≠ .wMkTxn) : Phase s' (s.owner e) ∧ s'.admitted = s.admitted :=
  have ⟨h1, h2, h3, h4⟩ := token_kept hi hwt hwe htr hmk
  ⟨.token e h1 h2 h3 (no_ending_step hi hwt hend htr), h4⟩

theorem Phase.other (hi : Inv c n s) (h : Phase s u) (htr : Trans c s t s') (hne : t ≠ u) :
    Phase s' u ∧ s'.admitted = s.admitted := by
  cases h with
  | txn hwt =>
    -- nobody opens a transaction while one is open, and only its owner ends it
    have hmk : (s.loc t).pc ≠ .wMkTxn := fun h => by rw [hi.lk.mkTxn t h] at hwt; cases hwt
    refine ⟨.txn ?_, by rw [htr.admitted_eq, if_neg hmk, List.append_nil]⟩
    rcases htr.own_cases with h | h | h
    · rw [h.1, hwt]
    · exact absurd h.1 hmk
    · rw [hi.lk.own_at h.1] at hwt
      exact absurd (Option.some.inj hwt) hne
  | ending hwt hl he =>
    obtain ⟨l, rfl⟩ := htr.held hi.lk hl hne.symm
    exact ⟨.ending hwt hl (by rwa [setLoc_loc, if_neg hne.symm]), rfl⟩
  | first hwt hwe hl hf =>
    obtain ⟨l, rfl⟩ := htr.held hi.lk hl hne.symm
    exact ⟨.first hwt hwe hl (by rwa [setLoc_loc, if_neg hne.symm]), rfl⟩
  | token e hwt hwe ho hend =>
    rw [← ho]
    refine token_step hi hwt hwe hend htr fun h => hne ?_
    -- a thread about to open its transaction holds the token
    have hev := hi.ev.mkEv t h
    rw [hwe] at hev
    rw [← ho, (hi.ev.evLt t e hev.symm).2]

theorem stage_other (hi : Inv c n s) (hp : pending s ≠ []) (htr : Trans c s t s') (hne : t ≠ stageThread s) :
    stageThread s' = stageThread s ∧ s'.admitted = s.admitted :=
  have ⟨h1, h2⟩ := (stage_phase hi hp).other hi htr hne
  ⟨h1.stageThread_eq, h2⟩

/-- the owner of the popped event is parked in `wait()`, so closer to its admission than the thread that woke it was -/
theorem handover (hi : Inv c n s) (hpc : (s.loc t).pc = .eSet) (htr : Trans c s t s') :
    s'.admitted = s.admitted ∧ stageFuel (s'.loc (stageThread s')).pc < stageFuel (s.loc t).pc := by
  obtain ⟨hwt, e, hwe, hns⟩ := hi.ev.setE t hpc
  have hw : (s.loc (s.owner e)).pc = .wWait := ((hi.ev.tok_set hwe).resolve_left hns).1
  have hne : s.owner e ≠ t := fun h => by rw [h, hpc] at hw; cases hw
  obtain ⟨h1, h2, h3, h4⟩ := token_kept hi hwt hwe htr (by rw [hpc]; decide)
  have hend : ∀ v, s'.lock = some v → endPc (s'.loc v).pc = false := by
    intro v hv
    have hstep := htr.pc_mem
    rw [hpc] at hstep
    rw [htr.lock_kept (hi.lk.lock_at hpc) (by rw [hpc]; decide)] at hv
    rw [← Option.some.inj hv, List.mem_singleton.mp hstep]; rfl
  rw [stageThread_of_token h1 h2 hend, h3, htr.loc_ne hne, hw, hpc]
  exact ⟨h4, by decide⟩

theorem Phase.self (hi : Inv c n s) (h : Phase s t) (htr : Trans c s t s') (hmk : (s.loc t).pc ≠ .wMkTxn)
    (hset : (s.loc t).pc ≠ .eSet) : stageThread s' = t := by
  have hstep := htr.pc_mem
  -- inside the critical section, with no token out and none being popped, the thread stays the one the lock phase names
  have quiet : s.writeTxn = none → s.lock = some t → s.writeEvent = none → 1 < lockFuel (s.loc t).pc →
      (s.loc t).pc ≠ .ePop → stageThread s' = t := fun hwt hl hwe hf hpop =>
    stageThread_of_lock (htr.writeTxn_none hwt hmk) (htr.lock_kept hl hf)
      (.inr ((writeEvent_kept hi.lk hwt htr hpop).trans hwe))
  cases h with
  | txn hwt =>
    rcases htr.own_cases with h | h | h
    · exact stageThread_of_txn (h.1 ▸ hwt)
    · exact absurd h.1 hmk
    · -- the owner ends its transaction under the lock and goes on to wake the head of the queue
      rw [h.1] at hstep
      have hl := htr.lock_kept (hi.lk.lock_at h.1) (by rw [h.1]; decide)
      exact stageThread_of_lock h.2.1 hl (.inl (by rw [List.mem_singleton.mp hstep]; rfl))
  | ending hwt hl he =>
    rcases (endPc_iff _).mp he with h | h | h
    · exact quiet hwt hl (hi.ev.testW t h).2 (by rw [h]; decide) (by rw [h]; decide)
    · rw [h] at hstep
      exact stageThread_of_lock (htr.writeTxn_none hwt hmk) (htr.lock_kept hl (by rw [h]; decide))
        (.inl (by rw [List.mem_singleton.mp hstep]; rfl))
    · exact absurd h hset
  | first hwt hwe hl hf =>
    have hpc := (first_pc hi hwt hwe hf).resolve_right hmk
    exact quiet hwt hl hwe (by rw [hpc]; decide) (by rw [hpc]; decide)
  | token e hwt hwe ho hend =>
    rw [← ho]
    exact (token_step hi hwt hwe hend htr hmk).1.stageThread_eq

theorem stage_self (hi : Inv c n s) (hp : pending s ≠ []) (htr : Trans c s t s') (he : stageThread s = t) :
    s'.admitted = s.admitted ++ [t] ∨
    (s'.admitted = s.admitted ∧ stageFuel (s'.loc (stageThread s')).pc < stageFuel (s.loc (stageThread s)).pc) := by
  have hph := stage_phase hi hp
  rw [he] at hph ⊢
  by_cases hmk : (s.loc t).pc = .wMkTxn
  · exact .inl (by rw [htr.admitted_eq, if_pos hmk])
  · right
    by_cases hset : (s.loc t).pc = .eSet
    · exact handover hi hset htr
    · rw [hph.self hi htr hmk hset]
      exact ⟨by rw [htr.admitted_eq, if_neg hmk, List.append_nil], stageFuel_succ _ hmk (hph.fuel_pos hi) _ htr.pc_mem⟩

theorem stage_fuel_pos (hi : Inv c n s) (hp : pending s ≠ []) : 0 < stageFuel (s.loc (stageThread s)).pc :=
  (stage_phase hi hp).fuel_pos hi

theorem stage_enabled (hi : Inv c n s) (hp : pending s ≠ []) :
    enabled s (stageThread s) ∨ ∃ v, s.lock = some v ∧ v ≠ stageThread s := by
  have hph := stage_phase hi hp
  refine enabled_or_blocked hi (stageFuel_not_idle _ (hph.fuel_pos hi)).2 fun hl hw => ?_
  -- parked in `wait()` with the lock free: the stage thread holds the token, and the token is set
  cases hph with
  | txn h => have := (hi.lk.own _).mpr h; rw [hw] at this; cases this
  | ending _ h _ => rw [hl] at h; cases h
  | first _ _ h _ => rw [hl] at h; cases h
  | token e _ hwe ho _ => exact ⟨e, ho ▸ (hi.ev.tok e hwe).2.1, hi.ev.token_is_set hwe hl⟩

/-- the witness: the lock holder if there is one, else the thread itself or, if it is parked on an event that is not set,
the thread the next admission is waiting for -/
theorem deadlock_free_aux (h : Inv c n s) (ht : t < n) (hd : (s.loc t).pc ≠ .done) : ∃ u, u < n ∧ enabled s u := by
  rcases hl : s.lock with _ | v
  · by_cases hw : (s.loc t).pc = .wWait → ∃ e, (s.loc t).ev = some e ∧ e ∈ s.evSet
    · exact ⟨t, ht, free_enabled h hl hd hw⟩
    · have hpc : (s.loc t).pc = .wWait := Classical.byContradiction fun hne => hw fun h => absurd h hne
      obtain ⟨hev, hq⟩ := h.ev.wait t hpc
      rcases hev' : (s.loc t).ev with _ | e
      · exact absurd hev' hev
      -- the event is not set, hence not the token: it is queued, so an admission is pending
      have hmem : e ∈ s.waiters :=
        (hq e hev').resolve_right fun hwe => hw fun _ => ⟨e, hev', h.ev.token_is_set hwe hl⟩
      have hp : pending s ≠ [] := fun h0 => by
        simp only [pending, List.append_eq_nil_iff, List.map_eq_nil_iff] at h0
        rw [h0.1.2] at hmem; cases hmem
      rcases stage_enabled h hp with he | ⟨v, hv, _⟩
      · exact ⟨_, lt_of_not_idle h (stageFuel_not_idle _ (stage_fuel_pos h hp)).1, he⟩
      · rw [hl] at hv; cases hv
  · exact ⟨v, lt_of_not_idle h (pc_ne_of ((h.lk.lock v).mpr hl) rfl), holder_enabled h hl⟩

end Model.Writers
