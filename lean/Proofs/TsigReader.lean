import Proofs.TsigWalk
/-! The reader: which messages `_WireReader.read` accepts and what it reports on them (`readVI_ok_iff`), and what an
accepting run therefore establishes about a message reported as signed (`Accepted`). -/
namespace Model.Tsig
open Model

section
variable {V : Verifier} {tbl : List AlgEntry} {strict : Bool} {w : Bytes} {kr : Keyring} {now : Nat} {rm : Bytes} {multi : Bool}
  {sec count : Nat}

/-- a record that is not a TSIG record is skipped -/
theorem readRR_other {i : Nat} {st : RState} {p : Nat}
    (hp : skipName w w.length (w.length + 1) st.cur = some p) (ht : rd16 w p ≠ ConstsC14.typeTsig) :
    readRR V tbl strict w kr now rm multi sec count i st =
      match skipRRnt w st.cur with
      | some q => .ok { st with cur := q }
      | none => .error .formError := by
  unfold readRR skipRRnt
  rw [hp]
  dsimp only
  by_cases h1 : p + 10 > w.length
  · rw [if_pos h1, if_pos h1]
  · rw [if_neg h1, if_neg h1, if_neg ht, if_neg ht]
    by_cases h2 : p + 10 + rd16 w (p + 8) > w.length
    · rw [if_pos h2, if_pos h2]
    · rw [if_neg h2, if_neg h2]

theorem readSection_skip (m : Nat) (t : Option Found) (c : Option Ctx) :
    ∀ (n cur q : Nat), steps (skipRRnt w) n cur = some q →
      readSection V tbl strict w kr now rm multi sec count (n + m) ⟨cur, t, c⟩
        = readSection V tbl strict w kr now rm multi sec count m ⟨q, t, c⟩ := by
  intro n
  induction n with
  | zero => intro cur q h; cases h; rw [Nat.zero_add]
  | succ n ih =>
    intro cur q h
    obtain ⟨q1, h1, h2⟩ := Option.bind_eq_some_iff.mp h
    obtain ⟨p, hp, hty, _⟩ := (skipRRnt_iff w cur _).mp h1
    rw [show n + 1 + m = (n + m) + 1 by omega, readSection, readRR_other (st := ⟨cur, t, c⟩) hp hty, h1]
    exact ih q1 q h2

theorem readSection_all {n cur q : Nat} (t : Option Found) (c : Option Ctx) (h : steps (skipRRnt w) n cur = some q) :
    readSection V tbl strict w kr now rm multi sec count n ⟨cur, t, c⟩ = .ok ⟨q, t, c⟩ :=
  readSection_skip 0 t c n cur q h

theorem readRR_tsig {i : Nat} {st st' : RState} {p : Nat}
    (hp : skipName w w.length (w.length + 1) st.cur = some p) (ht : rd16 w p = ConstsC14.typeTsig)
    (h : readRR V tbl strict w kr now rm multi sec count i st = .ok st') :
    sec = 3 ∧ rd16 w (p + 2) = ConstsC14.classAny ∧ i + 1 = count ∧ (strict = true → rd32 w (p + 4) = 0)
      ∧ p + 10 + rd16 w (p + 8) ≤ w.length ∧ st'.cur = p + 10 + rd16 w (p + 8)
      ∧ ∃ owner rd, decodeName w st.cur = .ok owner
          ∧ rdataParse w (p + 10) (p + 10 + rd16 w (p + 8)) = .ok rd
          ∧ ((resolveKey kr owner rd = .ok none ∧ st'.tsig = some ⟨owner, rd, none⟩ ∧ st'.ctx = st.ctx)
            ∨ ∃ key c c', resolveKey kr owner rd = .ok (some key)
                ∧ validateV V tbl w key owner rd now rm st.cur st.ctx multi = .ok (c, c')
                ∧ st'.tsig = some ⟨owner, rd, some (c, rd.mac)⟩ ∧ st'.ctx = c') := by
  unfold readRR at h
  rw [hp] at h
  obtain ⟨_, h⟩ := of_ite_error_eq_ok h
  rw [if_pos ht] at h
  obtain ⟨hplace, h⟩ := of_ite_error_eq_ok h
  obtain ⟨hstrict, h⟩ := of_ite_error_eq_ok h
  obtain ⟨hlen, h⟩ := of_ite_error_eq_ok h
  refine ⟨by omega, by omega, by omega, fun hs => Classical.byContradiction fun hh => hstrict ⟨hs, hh⟩, by omega, ?_⟩
  cases hfw : decodeName w st.cur with
  | error _ => rw [hfw] at h; cases h
  | ok owner =>
  cases hrd : rdataParse w (p + 10) (p + 10 + rd16 w (p + 8)) with
  | error _ => rw [hfw, hrd] at h; cases h
  | ok rd =>
  rw [hfw, hrd] at h
  dsimp only at h
  cases hres : resolveKey kr owner rd with
  | error _ => rw [hres] at h; cases h
  | ok k =>
  rw [hres] at h
  cases k with
  | none =>
    cases h
    exact ⟨rfl, owner, rd, rfl, rfl, Or.inl ⟨hres, rfl, rfl⟩⟩
  | some key =>
    dsimp only at h
    cases hv : validateV V tbl w key owner rd now rm st.cur st.ctx multi with
    | error _ => rw [hv] at h; cases h
    | ok r =>
      rw [hv] at h
      cases h
      exact ⟨rfl, owner, rd, rfl, rfl, Or.inr ⟨key, r.1, r.2, hres, hv, rfl, rfl⟩⟩


theorem readRR_tsig_some {i : Nat} {st st' : RState} {p : Nat}
    (hp : skipName w w.length (w.length + 1) st.cur = some p) (ht : rd16 w p = ConstsC14.typeTsig)
    (h : readRR V tbl strict w kr now rm multi sec count i st = .ok st') : st'.tsig ≠ none := by
  obtain ⟨_, _, _, _, _, _, _, _, _, _, ⟨_, e, _⟩ | ⟨_, _, _, _, _, e, _⟩⟩ := readRR_tsig hp ht h <;> rw [e] <;> nofun

/-- a section loop that starts without a TSIG either skips `n` records none of which is a TSIG record, or skips `n - 1`
such records and reads a TSIG record as the last one -/
theorem readSection_walk : ∀ (n : Nat) (st st' : RState), n ≤ count → st.tsig = none →
    readSection V tbl strict w kr now rm multi sec count n st = .ok st' →
    (steps (skipRRnt w) n st.cur = some st'.cur ∧ st'.tsig = none ∧ st'.ctx = st.ctx)
    ∨ (1 ≤ n ∧ ∃ mid p, steps (skipRRnt w) (n - 1) st.cur = some mid
        ∧ skipName w w.length (w.length + 1) mid = some p ∧ rd16 w p = ConstsC14.typeTsig
        ∧ readRR V tbl strict w kr now rm multi sec count (count - 1) ⟨mid, none, st.ctx⟩ = .ok st') := by
  intro n
  induction n with
  | zero =>
    intro st st' _ hts h
    cases h
    exact Or.inl ⟨rfl, hts, rfl⟩
  | succ n ih =>
    intro st st' hn hts h
    obtain ⟨cur, t, cx⟩ := st
    obtain rfl : t = none := hts
    rw [readSection] at h
    split at h; · cases h
    rename_i st1 h1
    cases hp : skipName w w.length (w.length + 1) cur with
    | none => simp only [readRR, hp] at h1; cases h1
    | some p =>
      by_cases ht : rd16 w p = ConstsC14.typeTsig
      · -- a TSIG record: it must be the last one
        obtain ⟨_, _, hidx, _⟩ := readRR_tsig hp ht h1
        obtain rfl : n = 0 := by omega
        cases h
        exact Or.inr ⟨Nat.le_refl _, cur, p, rfl, hp, ht, h1⟩
      · rw [readRR_other hp ht] at h1
        split at h1
        case h_2 => cases h1
        rename_i q hq
        cases h1
        rcases ih _ st' (by omega) rfl h with ⟨a, b, c⟩ | ⟨hn1, mid, p', a, b⟩
        · exact Or.inl ⟨by rw [steps_succ, hq]; exact a, b, c⟩
        · refine Or.inr ⟨by omega, mid, p', ?_, b⟩
          rw [show n + 1 - 1 = (n - 1) + 1 by omega, steps_succ, hq]; exact a

theorem readSection_plain {st st' : RState} (hsec : sec ≠ 3) (hts : st.tsig = none)
    (h : readSection V tbl strict w kr now rm multi sec count count st = .ok st') :
    steps (skipRRnt w) count st.cur = some st'.cur ∧ st'.tsig = none ∧ st'.ctx = st.ctx := by
  rcases readSection_walk count st st' (Nat.le_refl _) hts h with hh | ⟨_, mid, p, _, hp, ht, hr⟩
  · exact hh
  · exact absurd (readRR_tsig hp ht hr).1 hsec

/-- what `_WireReader.read` does once the questions, the answer and the authority section are walked through -/
theorem readVI_of_walk (it : Bool) (ctx : Option Ctx) {p0 p1 p2 : Nat} (hl : 12 ≤ w.length)
    (h0 : steps (skipQ w) (rd16 w 4) 12 = some p0) (h1 : steps (skipRRnt w) (rd16 w 6) p0 = some p1)
    (h2 : steps (skipRRnt w) (rd16 w 8) p1 = some p2) :
    readVI it V tbl strict w kr now rm ctx multi =
      match readSection V tbl strict w kr now rm multi 3 (rd16 w 10) (rd16 w 10) ⟨p2, none, ctx⟩ with
      | .error e => .error e
      | .ok st3 =>
        if it = false ∧ st3.cur ≠ w.length then .error .trailingJunk
        else match (generalizing := false) multi, st3.ctx, st3.tsig with
          | true, some c, none => .ok { tsig := none, ctx := some (c.update (w.take st3.cur)) }
          | _, _, _ => .ok { tsig := st3.tsig, ctx := st3.ctx } := by
  unfold readVI
  rw [if_neg (by omega), skipQuestions_eq, h0]
  dsimp only
  rw [readSection_all none ctx h1]
  dsimp only
  rw [readSection_all none ctx h2]
  rfl

/-- the last step of `read`: an unsigned envelope of a multi-message exchange is digested into the running context -/
theorem readFinish_none {st : RState} (h : st.tsig = none) :
    (match (generalizing := false) multi, st.ctx, st.tsig with
      | true, some c, none => (.ok { tsig := none, ctx := some (c.update (w.take st.cur)) } : Except Err ReadOk)
      | _, _, _ => .ok { tsig := st.tsig, ctx := st.ctx })
      = .ok ⟨none, if multi then st.ctx.map (·.update (w.take st.cur)) else st.ctx⟩ := by
  obtain ⟨cur, t, c⟩ := st
  cases h
  cases multi <;> cases c <;> rfl

theorem readFinish_some {st : RState} (h : st.tsig ≠ none) :
    (match (generalizing := false) multi, st.ctx, st.tsig with
      | true, some c, none => (.ok { tsig := none, ctx := some (c.update (w.take st.cur)) } : Except Err ReadOk)
      | _, _, _ => .ok { tsig := st.tsig, ctx := st.ctx })
      = .ok ⟨st.tsig, st.ctx⟩ := by
  obtain ⟨cur, _ | f, c⟩ := st
  · exact absurd rfl h
  · cases multi <;> cases c <;> rfl

/-- **what the reader accepts**: a message that the walk gets through without meeting a TSIG record (reported as unsigned),
or one that the walk gets through up to the last record of the additional section, which is a TSIG record that `readRR`
accepts there.  Without `ignore_trailing` the message ends where the walk does. -/
theorem readVI_ok_iff (it : Bool) (ctx : Option Ctx) (r : ReadOk) :
    readVI it V tbl strict w kr now rm ctx multi = .ok r ↔ 12 ≤ w.length ∧
      ((∃ e, walkWith skipRRnt w (rd16 w 10) = some e ∧ (it = false → e = w.length)
          ∧ r = ⟨none, if multi then ctx.map (·.update (w.take e)) else ctx⟩)
      ∨ (∃ s p st, 1 ≤ rd16 w 10 ∧ walkWith skipRRnt w (rd16 w 10 - 1) = some s
          ∧ skipName w w.length (w.length + 1) s = some p ∧ rd16 w p = ConstsC14.typeTsig
          ∧ readRR V tbl strict w kr now rm multi 3 (rd16 w 10) (rd16 w 10 - 1) ⟨s, none, ctx⟩ = .ok st
          ∧ (it = false → st.cur = w.length) ∧ r = ⟨st.tsig, st.ctx⟩)) := by
  constructor
  · intro h
    unfold readVI at h
    split at h; · cases h
    rename_i hlen
    rw [skipQuestions_eq] at h
    split at h; · cases h
    rename_i p0 h0
    simp only at h
    split at h; · cases h
    rename_i st1 h1
    split at h; · cases h
    rename_i st2 h2
    split at h; · cases h
    rename_i st3 h3
    obtain ⟨hend, h⟩ := of_ite_error_eq_ok h
    have hend' : it = false → st3.cur = w.length := fun a => Classical.byContradiction fun hh => hend ⟨a, hh⟩
    obtain ⟨a1, b1, c1⟩ := readSection_plain (by decide) rfl h1
    obtain ⟨a2, b2, c2⟩ := readSection_plain (by decide) b1 h2
    refine ⟨by omega, ?_⟩
    rcases readSection_walk _ st2 st3 (Nat.le_refl _) b2 h3 with ⟨a3, b3, c3⟩ | ⟨h10, s, p, a3, hp, ht, hr⟩
    · have h := (readFinish_none b3).symm.trans h
      rw [c3, c2, c1] at h
      exact Or.inl ⟨st3.cur, (walkN_eq_some_iff ..).mpr ⟨p0, _, _, h0, a1, a2, a3⟩, hend', (Except.ok.inj h).symm⟩
    · rw [c2, c1] at hr
      have h := (readFinish_some (readRR_tsig_some hp ht hr)).symm.trans h
      exact Or.inr ⟨s, p, st3, h10, (walkN_eq_some_iff ..).mpr ⟨p0, _, _, h0, a1, a2, a3⟩, hp, ht, hr, hend',
        (Except.ok.inj h).symm⟩
  · rintro ⟨hl, ⟨e, hw, hend, rfl⟩ | ⟨s, p, st, h10, hw, hp, ht, hr, hend, rfl⟩⟩
    · obtain ⟨p0, p1, p2, h0, h1, h2, h3⟩ := (walkN_eq_some_iff ..).mp hw
      rw [readVI_of_walk it ctx hl h0 h1 h2, readSection_all none ctx h3]
      exact (if_neg fun ⟨a, b⟩ => b (hend a)).trans (readFinish_none rfl)
    · obtain ⟨p0, p1, p2, h0, h1, h2, h3⟩ := (walkN_eq_some_iff ..).mp hw
      have s3 := readSection_skip (V := V) (tbl := tbl) (strict := strict) (kr := kr) (now := now) (rm := rm) (multi := multi)
        (sec := 3) (count := rd16 w 10) 1 none ctx _ _ _ h3
      rw [Nat.sub_add_cancel h10] at s3
      rw [readVI_of_walk it ctx hl h0 h1 h2, s3]
      simp only [readSection, hr]
      exact (if_neg fun ⟨a, b⟩ => b (hend a)).trans (readFinish_some (readRR_tsig_some hp ht hr))

end

/-- the offset at which the last record of the additional section starts, by the skeleton walk -/
def walkTo (w : Bytes) : Option Nat :=
  match skipQuestions w (rd16 w 4) 12 with
  | none => none
  | some p0 =>
    match skipRRs w (rd16 w 6) p0 with
    | none => none
    | some p1 =>
      match skipRRs w (rd16 w 8) p1 with
      | none => none
      | some p2 => skipRRs w (rd16 w 10 - 1) p2

theorem walkTo_eq (w : Bytes) : walkTo w = walkWith skipRR w (rd16 w 10 - 1) := by
  unfold walkTo walkWith walkN
  rw [skipQuestions_eq, skipRRs_eq]
  cases steps (skipQ w) (rd16 w 4) 12 with
  | none => rfl
  | some p0 =>
    dsimp only [Option.bind_some]
    cases steps (skipRR w) (rd16 w 6) p0 with
    | none => rfl
    | some p1 =>
      dsimp only [Option.bind_some]
      cases steps (skipRR w) (rd16 w 8) p1 <;> rfl

/-- what an accepting run with a fixed key establishes about a message reported as signed -/
structure Accepted (V : Verifier) (tbl : List AlgEntry) (w : Bytes) (k : Key) (now : Nat) (rm : Bytes)
    (ctx : Option Ctx) (multi : Bool) (s p : Nat) (owner : Name) (rd : Rdata) (c : Ctx) (c' : Option Ctx) : Prop where
  len : 12 ≤ w.length
  walk : walkTo w = some s
  name : skipName w w.length (w.length + 1) s = some p
  hdr : p + 10 + rd16 w (p + 8) = w.length
  typ : rd16 w p = ConstsC14.typeTsig
  cls : rd16 w (p + 2) = ConstsC14.classAny
  own : decodeName w s = .ok owner
  parse : rdataParse w (p + 10) w.length = .ok rd
  valid : validateV V tbl w k owner rd now rm s ctx multi = .ok (c, c')


theorem Accepted.bounds {V : Verifier} {tbl : List AlgEntry} {w : Bytes} {k : Key} {now : Nat} {rm : Bytes}
    {ctx : Option Ctx} {multi : Bool} {s p : Nat} {o : Name} {rd : Rdata} {c : Ctx} {c' : Option Ctx}
    (a : Accepted V tbl w k now rm ctx multi s p o rd c c') : 12 ≤ s ∧ s < p ∧ p ≤ w.length :=
  ⟨(walkWith_bounds skipRR_local (walkTo_eq w ▸ a.walk)).1, skipName_bounds _ _ _ _ _ a.name⟩

/-- `resolveKey … = .ok none` is `keyring is False`: the message is not checked -/
theorem accepted_or_unchecked (V : Verifier) (tbl : List AlgEntry) (strict : Bool) (w : Bytes) (kr : Keyring) (now : Nat)
    (rm : Bytes) (ctx : Option Ctx) (multi : Bool) (r : ReadOk) (f : Found)
    (h : readV V tbl strict w kr now rm ctx multi = .ok r) (hf : r.tsig = some f) :
    ∃ s p owner rd, (resolveKey kr owner rd = .ok none ∧ f = ⟨owner, rd, none⟩)
      ∨ ∃ k c c', resolveKey kr owner rd = .ok (some k) ∧ f = ⟨owner, rd, some (c, rd.mac)⟩ ∧ r.ctx = c'
          ∧ Accepted V tbl w k now rm ctx multi s p owner rd c c' ∧ (strict = true → rd32 w (p + 4) = 0) := by
  obtain ⟨hlen, ⟨_, _, _, rfl⟩ | ⟨s, p, st, _, hw, hp, ht, hr, hend, rfl⟩⟩ := (readVI_ok_iff false ..).mp h
  · cases hf
  obtain ⟨_, hcls, _, hstrict, _, hcur, owner, rd, hfw, hrd, hcase⟩ :=
    readRR_tsig hp ht hr
  have hwl : p + 10 + rd16 w (p + 8) = w.length := by rw [← hcur, hend rfl]
  have hw' : walkTo w = some s := walkTo_eq w ▸ walkWith_mono skipRR_of_skipRRnt hw
  refine ⟨s, p, owner, rd, ?_⟩
  rcases hcase with ⟨hk, htsig, _⟩ | ⟨key, c, c', hk, hv, htsig, hc'⟩
  · exact Or.inl ⟨hk, Option.some.inj (hf ▸ htsig)⟩
  · exact Or.inr ⟨key, c, c', hk, Option.some.inj (hf ▸ htsig), hc',
      ⟨hlen, hw', hp, hwl, ht, hcls, hfw, by rw [← hwl]; exact hrd, hv⟩, hstrict⟩

/-- a run that reports a checked TSIG, in the terms of what it reports -/
theorem accepted_of_checked {V : Verifier} {tbl : List AlgEntry} {strict : Bool} {w : Bytes} {kr : Keyring} {now : Nat}
    {rm : Bytes} {ctx : Option Ctx} {multi : Bool} {r : ReadOk} {f : Found}
    (h : readV V tbl strict w kr now rm ctx multi = .ok r) (hf : r.tsig = some f) (hck : f.checked ≠ none) :
    ∃ s p k c, resolveKey kr f.owner f.rd = .ok (some k) ∧ f.checked = some (c, f.rd.mac)
      ∧ Accepted V tbl w k now rm ctx multi s p f.owner f.rd c r.ctx ∧ (strict = true → rd32 w (p + 4) = 0) := by
  obtain ⟨s, p, owner, rd, ⟨_, rfl⟩ | ⟨k, c, c', hk, rfl, rfl, hx⟩⟩ :=
    accepted_or_unchecked V tbl strict w kr now rm ctx multi r f h hf
  · exact absurd rfl hck
  · exact ⟨s, p, k, c, hk, rfl, hx⟩

theorem accepted_of_read_any (V : Verifier) (tbl : List AlgEntry) (strict : Bool) (w : Bytes) (kr : Keyring) (now : Nat)
    (rm : Bytes) (ctx : Option Ctx) (multi : Bool) (r : ReadOk) (f : Found) (c0 : Ctx) (m0 : Bytes)
    (h : readV V tbl strict w kr now rm ctx multi = .ok r) (hf : r.tsig = some f) (hchk : f.checked = some (c0, m0)) :
    ∃ s p owner rd k c c', resolveKey kr owner rd = .ok (some k) ∧ f = ⟨owner, rd, some (c, rd.mac)⟩ ∧ r.ctx = c'
      ∧ Accepted V tbl w k now rm ctx multi s p owner rd c c' ∧ (strict = true → rd32 w (p + 4) = 0) := by
  obtain ⟨s, p, owner, rd, ⟨_, rfl⟩ | ⟨k, c, c', hx⟩⟩ := accepted_or_unchecked V tbl strict w kr now rm ctx multi r f h hf
  · cases hchk
  · exact ⟨s, p, owner, rd, k, c, c', hx⟩

theorem accepted_of_read (V : Verifier) (tbl : List AlgEntry) (strict : Bool) (w : Bytes) (k : Key) (now : Nat)
    (rm : Bytes) (ctx : Option Ctx) (multi : Bool) (r : ReadOk) (f : Found)
    (h : readV V tbl strict w (.key k) now rm ctx multi = .ok r) (hf : r.tsig = some f) :
    ∃ s p owner rd c c', f = ⟨owner, rd, some (c, rd.mac)⟩ ∧ r.ctx = c'
      ∧ Accepted V tbl w k now rm ctx multi s p owner rd c c' ∧ (strict = true → rd32 w (p + 4) = 0) := by
  obtain ⟨s, p, owner, rd, ⟨hres, _⟩ | ⟨k', c, c', hres, hx⟩⟩ :=
    accepted_or_unchecked V tbl strict w (.key k) now rm ctx multi r f h hf
  · cases hres
  · cases hres
    exact ⟨s, p, owner, rd, c, c', hx⟩

end Model.Tsig
