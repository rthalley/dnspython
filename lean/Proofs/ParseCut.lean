import Proofs.ParseMessage
/-! A truncated rendering parses: the kept prefix of a well-formed message is a well-formed message. -/
namespace Model

variable {Rs : RelSpec}

theorem rrCount_take_le (l : List RRset) (k : Nat) : rrCount (l.take k) ≤ rrCount l := by
  induction l generalizing k with
  | nil => simp [rrCount]
  | cons r rest ih =>
    cases k with
    | zero => simp [rrCount]
    | succ n =>
      have := ih n
      simp only [rrCount, List.take_succ_cons, List.map_cons, List.sum_cons] at this ⊢
      omega

theorem isUpdate_or_tc (f : Nat) : isUpdate (f ||| ConstsC03.tcFlag) = isUpdate f := by
  have : ConstsC03.tcFlag = 512 := by decide
  unfold isUpdate opcodeFromFlags
  rw [this, Nat.and_or_distrib_right]
  simp

/-! Cutting touches the sections (each becomes a prefix of itself) and the flags (at most the TC bit is set); what the
well-formedness bundles say of these survives, and nothing else is touched. -/

theorem SectionsOk.cut {m : Message} (h : SectionsOk Rs m) (k : Nat) (tc : Bool) : SectionsOk Rs (m.cut k tc) :=
  ⟨fun r hr => h.q r (List.mem_of_mem_take hr), fun r hr => h.an r (List.mem_of_mem_take hr),
    fun r hr => h.au r (List.mem_of_mem_take hr), fun r hr => h.ad r (List.mem_of_mem_take hr),
    h.keysAn.sublist (List.take_sublist _ _), h.keysAu.sublist (List.take_sublist _ _),
    h.keysAd.sublist (List.take_sublist _ _)⟩

theorem cut_flags {m : Message} (k : Nat) (tc : Bool) (hf : m.flags < 65536) (hu : isUpdate m.flags = false) :
    (m.cut k tc).flags < 65536 ∧ isUpdate (m.cut k tc).flags = false := by
  simp only [Message.cut]
  split
  · exact ⟨Nat.or_lt_two_pow (n := 16) hf (by decide), by rw [isUpdate_or_tc]; exact hu⟩
  · exact ⟨hf, hu⟩

theorem cut_counts (m : Message) (k : Nat) (tc : Bool) :
    (m.cut k tc).q.length ≤ m.q.length ∧ rrCount (m.cut k tc).an ≤ rrCount m.an ∧
      rrCount (m.cut k tc).au ≤ rrCount m.au ∧ rrCount (m.cut k tc).ad ≤ rrCount m.ad :=
  ⟨List.length_take_le' k m.q, rrCount_take_le _ _, rrCount_take_le _ _, rrCount_take_le _ _⟩

theorem MsgOk.cut {m : Message} (h : MsgOk Rs m) (k : Nat) (tc : Bool) : MsgOk Rs (m.cut k tc) := by
  obtain ⟨c1, c2, c3, c4⟩ := h.counts
  obtain ⟨d1, d2, d3, d4⟩ := cut_counts m k tc
  obtain ⟨hf, hu⟩ := cut_flags k tc h.flags h.notUpdate
  have s := h.sections.cut k tc
  exact ⟨h.origin, h.id, hf, hu, h.noOpt, h.noTsig, s.q, s.an, s.au, s.ad, s.keysAn, s.keysAu, s.keysAd,
    by omega, by omega, by omega, by omega⟩

theorem MsgOkE.cut {m : Message} (h : MsgOkE Rs m) (k : Nat) (tc : Bool) : MsgOkE Rs (m.cut k tc) := by
  obtain ⟨c1, c2, c3, c4⟩ := h.counts
  obtain ⟨d1, d2, d3, d4⟩ := cut_counts m k tc
  obtain ⟨hf, hu⟩ := cut_flags k tc h.flags h.notUpdate
  have s := h.sections.cut k tc
  exact ⟨h.origin, h.id, hf, hu, h.opt, h.pad, h.noTsig, s.q, s.an, s.au, s.ad, s.keysAn, s.keysAu, s.keysAd,
    by omega, by omega, by omega, by omega⟩

theorem MsgOkT.cut {m : Message} (h : MsgOkT Rs m) (k : Nat) (tc : Bool) : MsgOkT Rs (m.cut k tc) := by
  obtain ⟨c1, c2, c3, c4⟩ := h.counts
  obtain ⟨d1, d2, d3, d4⟩ := cut_counts m k tc
  obtain ⟨hf, hu⟩ := cut_flags k tc h.flags h.notUpdate
  have s := h.sections.cut k tc
  exact ⟨h.origin, h.id, hf, hu, h.opt, h.pad, h.tsig, s.q, s.an, s.au, s.ad, s.keysAn, s.keysAu, s.keysAd,
    by omega, by omega, by omega, by omega⟩

theorem MsgOkP.cut {m : Message} (h : MsgOkP Rs m) (k : Nat) (tc : Bool) : MsgOkP Rs (m.cut k tc) :=
  ⟨h.base.cut k tc, h.padOk⟩

end Model
