import Proofs.ParseBasic
import Proofs.MessageCompress
/-! Parsing back what the (relative) renderer wrote: names, RDATA of the modelled shapes, one resource record.
Origin-free (absolute names) throughout: this is the "equal to the original whenever it uses absolute names"
half of the property.

What was written is located in the wire `W` by `At W c e`; the compression table the renderer had at `c` is sound for
`W.take c`.  From the record level on, every statement is an instance of one judgement, `Reads`. -/
namespace Model

variable {Rs : RelSpec}

theorem wireName_none {n full : Name} (h : wireName n none = some full) : full = n ∧ isAbs n = true := by
  unfold wireName at h
  split at h
  · rename_i ha; simp at h; exact ⟨h.symm, ha⟩
  · simp at h

theorem nameOk_none_iff {n : Name} : NameOk Rs none n ↔ isAbs n = true ∧ WfName n ∧ Rs.Good n :=
  ⟨fun ⟨_, hw, hwf, ha, hg⟩ => by obtain ⟨rfl, -⟩ := wireName_none hw; exact ⟨ha, hwf, hg⟩,
   fun ⟨ha, hwf, hg⟩ => ⟨n, wireName_abs ha none, hwf, ha, hg⟩⟩

theorem TableSound.take {W Y : Bytes} {c : Nat} {t : CTable} (hs : TableSound Rs.R (W.take c) t) (h : At W c Y) :
    TableSound Rs.R (W.take (c + Y.length)) t :=
  h.take_eq ▸ hs.mono Y

/-- a name the renderer wrote at `c`, compressed against a sound table, is what `get_name` reads there, up to `Rs.R`,
wherever the window ends behind it; its new table entries are sound -/
theorem At.name {W : Bytes} {c : Nat} {t : CTable} {n : Name} {q : Bytes × CTable} (h : At W c q.1)
    (hs : TableSound Rs.R (W.take c) t) (hok : NameOk Rs none n) (hn : nameExt c t n none = some q) {endp : Nat}
    (he : c + q.1.length ≤ endp) (hw : endp ≤ W.length) :
    TableSound Rs.R (W.take (c + q.1.length)) (t ++ q.2) ∧
      ∃ n', getName W endp c = .ok (n', c + q.1.length) ∧ Rs.R n' n := by
  obtain ⟨full, hwn, hwf, habs, hg⟩ := hok
  obtain ⟨_, hwn', rfl⟩ := nameExt_some hn
  cases hwn.symm.trans hwn'
  obtain ⟨rfl, -⟩ := wireName_none hwn
  -- `Rs.sound` speaks of the buffer `A ++ written` as it was when the name had just been written; `W` continues it with `Z`
  obtain ⟨Z, hW, hl⟩ := h.split
  rw [h.take_eq]
  generalize W.take c = A at hs hW hl ⊢
  subst hl hW
  obtain ⟨s1, ls, hd, hr⟩ := Rs.sound A t full hwf habs hg hs
  exact ⟨s1, ls ++ [[]], getName_of_Dec (hd.mono Z) endp he hw (wf_congr _ _ (Eq.symm (Rs.toEqv hr)) hwf), hr⟩

/-! ### similarity of parsed and original values: equal except for the ASCII case of compressed names -/

def RData.sim (Rs : RelSpec) : RData → RData → Prop
  | .raw a, .raw b => a = b
  | .name1 a, .name1 b => Rs.R a b
  | .mx p a, .mx q b => p = q ∧ Rs.R a b
  | .soa m r a b c d e, .soa m' r' a' b' c' d' e' =>
    Rs.R m m' ∧ Rs.R r r' ∧ a = a' ∧ b = b' ∧ c = c' ∧ d = d' ∧ e = e'
  | _, _ => False

/-- field ranges of an rdata (what `struct.pack` accepts) and legality of its names -/
def RData.valid (Rs : RelSpec) : RData → Prop
  | .raw _ => True
  | .name1 n => NameOk Rs none n
  | .mx p n => p < 65536 ∧ NameOk Rs none n
  | .soa m r a b c d e =>
    NameOk Rs none m ∧ NameOk Rs none r ∧ a < 4294967296 ∧ b < 4294967296 ∧ c < 4294967296 ∧ d < 4294967296 ∧ e < 4294967296

/-- `restrict_to` = up to the end of what was written -/
theorem At.rdata {W : Bytes} {c : Nat} {t : CTable} {rd : RData} {q : Bytes × CTable} {rdtype : Nat} (h : At W c q.1)
    (hs : TableSound Rs.R (W.take c) t) (hv : rd.valid Rs) (hshape : shapeOf rdtype = rd.shape)
    (hq : rdataExt c t none rd = some q) :
    TableSound Rs.R (W.take (c + q.1.length)) (t ++ q.2) ∧
      ∃ rd', parseRData W c (c + q.1.length) none rdtype = .ok rd' ∧ rd'.sim Rs rd := by
  have hend := h.end_le
  unfold parseRData
  rw [hshape]
  cases rd with
  | raw b =>
    cases hq
    refine ⟨by simpa using hs.take h, .raw b, ?_, rfl⟩
    simp only [RData.shape]
    rw [Nat.add_sub_cancel_left, h.slice_eq]
  | name1 n =>
    obtain ⟨s1, n', hg, hn'⟩ := h.name hs hv hq (Nat.le_refl _) hend
    exact ⟨s1, .name1 n', by simp [RData.shape, hg, relTo], hn'⟩
  | mx p n =>
    obtain ⟨q1, h1, rfl⟩ := rdataExt_mx hq
    have hl : c + (u16 p ++ q1.1).length = c + 2 + q1.1.length := by rw [List.length_append, u16_length, Nat.add_assoc]
    rw [hl] at hend ⊢
    obtain ⟨s1, n', hg, hn'⟩ := (h.snd 2).name (hs.take h.fst) hv.2 h1 (Nat.le_refl _) hend
    refine ⟨s1, .mx p n', ?_, rfl, hn'⟩
    have c2 : ¬ c + 2 + q1.1.length - c < 2 := by omega
    simp [RData.shape, hg, relTo, h.fst.val16 hv.1, c2]
  | soa m r a b c' d e =>
    obtain ⟨q1, q2, h1, h2, rfl⟩ := rdataExt_soa hq
    obtain ⟨hm, hr, ha, hb, hc, hd, he⟩ := hv
    have hl : c + (q1.1 ++ q2.1 ++ u32 a ++ u32 b ++ u32 c' ++ u32 d ++ u32 e).length
        = c + q1.1.length + q2.1.length + 20 := by
      simp only [List.length_append, u32_length]; omega
    rw [hl] at hend ⊢
    have hq12 := h.fst.fst.fst.fst.fst
    obtain ⟨s1, m', hg1, hm'⟩ := hq12.fst.name hs hm h1 (by omega) hend
    obtain ⟨s2, r', hg2, hr'⟩ := (hq12.snd _ rfl).name s1 hr h2 (by omega) hend
    -- the five integers, as one group behind the two names
    have h5 : At W (c + q1.1.length + q2.1.length) (u32 a ++ u32 b ++ u32 c' ++ u32 d ++ u32 e) :=
      Nat.add_assoc c _ _ ▸ (show At W c (q1.1 ++ q2.1 ++ (u32 a ++ u32 b ++ u32 c' ++ u32 d ++ u32 e)) by
        simpa only [List.append_assoc] using h).snd _ List.length_append
    have s3 : TableSound Rs.R (W.take (c + q1.1.length + q2.1.length + 20)) (t ++ q1.2 ++ q2.2) := s2.take h5
    refine ⟨by rwa [List.append_assoc] at s3, .soa m' r' a b c' d e, ?_, hm', hr', rfl, rfl, rfl, rfl, rfl⟩
    have c1 : ¬ (c + q1.1.length + q2.1.length + 20 - (c + q1.1.length + q2.1.length) < 20) := by omega
    simp only [RData.shape, hg1, hg2, relTo, c1, ne_eq, not_true_eq_false, if_false, h5.fst.fst.fst.fst.val32 ha,
      (h5.fst.fst.fst.snd 4).val32 hb, (h5.fst.fst.snd 8).val32 hc, (h5.fst.snd 12).val32 hd, (h5.snd 16).val32 he]

theorem ttlClamp_lt : ConstsC03.ttlClampAbove < 4294967296 := by decide

/-- what `_get_section` sees at the start of a resource record: the owner up to `Rs.R`, the position after it, and the
four integers -/
theorem At.rrHeader {W Y : Bytes} {c : Nat} {t : CTable} {owner : Name} {q1 : Bytes × CTable} {ty cl ttl rdlen : Nat}
    (h : At W c (q1.1 ++ u16 ty ++ u16 cl ++ u32 ttl ++ u16 rdlen ++ Y)) (hs : TableSound Rs.R (W.take c) t)
    (hown : NameOk Rs none owner) (h1 : nameExt c t owner none = some q1)
    (hty : ty < 65536) (hcl : cl < 65536) (httl : ttl < 4294967296) (hlen : rdlen < 65536) :
    TableSound Rs.R (W.take (c + q1.1.length + 10)) (t ++ q1.2) ∧ At W (c + q1.1.length + 10) Y ∧
    ∃ owner', Rs.R owner' owner ∧ getName W W.length c = .ok (owner', c + q1.1.length) ∧ ¬ W.length - (c + q1.1.length) < 10 ∧
      beVal (slice W (c + q1.1.length) 2) = ty ∧ beVal (slice W (c + q1.1.length + 2) 2) = cl ∧
      beVal (slice W (c + q1.1.length + 4) 4) = ttl ∧ beVal (slice W (c + q1.1.length + 8) 2) = rdlen := by
  have h' : At W c (q1.1 ++ ((u16 ty ++ u16 cl ++ u32 ttl ++ u16 rdlen) ++ Y)) := by simpa only [List.append_assoc] using h
  have hf := (h'.snd _ rfl).fst
  have h10 : c + q1.1.length + 10 ≤ W.length := hf.end_le
  obtain ⟨s1, owner', hg, hown'⟩ := h'.fst.name hs hown h1 (by omega) (Nat.le_refl _)
  exact ⟨s1.take hf, (h'.snd _ rfl).snd 10, owner', hown', hg, by omega, hf.fst.fst.fst.val16 hty, (hf.fst.fst.snd 2).val16 hcl,
    (hf.fst.snd 4).val32 httl, (hf.snd 8).val16 hlen⟩

/-- The judgement every read-back statement from here on is an instance of.  `e` are octets the renderer appended at
offset `c`, where its table was `t`, with the new table entries `n`.  In whatever wire `W` they stand there, the table
being sound for what precedes them, the reader step `f` succeeds, stops at the end of `e` and satisfies `Q`; and the
table is sound for `W` up to there.  `c` is the position of the state `f` starts from.  A judgement for one piece is
proved from the definition (`reads_rr`: locate the fields with `At`, evaluate the reader); judgements are put together by
`Reads.seq` alone, which does all the bookkeeping of offsets, lengths and tables (`reads_tail` is the smallest example,
`reads_rrsets` the typical induction). -/
def Reads (Rs : RelSpec) (t : CTable) (c : Nat) (e : Bytes) (n : CTable) (f : Bytes → Except PErr PState)
    (Q : PState → Prop) : Prop :=
  ∀ W, At W c e → TableSound Rs.R (W.take c) t →
    TableSound Rs.R (W.take (c + e.length)) (t ++ n) ∧ ∃ st', f W = .ok st' ∧ st'.cur = c + e.length ∧ Q st'

theorem Reads.nil {t : CTable} {st : PState} {Q : PState → Prop} (hQ : Q st) :
    Reads Rs t st.cur [] [] (fun _ => .ok st) Q :=
  fun _ _ hs => ⟨by simpa using hs, st, rfl, rfl, hQ⟩

theorem Reads.mono {t : CTable} {c : Nat} {e : Bytes} {n : CTable} {f : Bytes → Except PErr PState} {Q Q' : PState → Prop}
    (h : Reads Rs t c e n f Q) (hQ : ∀ s, s.cur = c + e.length → Q s → Q' s) : Reads Rs t c e n f Q' := by
  intro W hW hs
  obtain ⟨hs', st', hf, hc, hq⟩ := h W hW hs
  exact ⟨hs', st', hf, hc, hQ st' hc hq⟩

theorem Reads.congr {t : CTable} {c : Nat} {e : Bytes} {n : CTable} {f f' : Bytes → Except PErr PState} {Q : PState → Prop}
    (h : Reads Rs t c e n f Q) (hf : ∀ W, f' W = f W) : Reads Rs t c e n f' Q :=
  fun W hW hs => hf W ▸ h W hW hs

/-- a piece rendered against a fresh table (the TSIG record) -/
theorem Reads.fresh {t : CTable} {c : Nat} {e : Bytes} {n : CTable} {f : Bytes → Except PErr PState} {Q : PState → Prop}
    (h : Reads Rs [] c e n f Q) : Reads Rs t c e n f Q := by
  intro W hW hs
  obtain ⟨hs', r⟩ := h W hW (fun p hp => nomatch hp)
  exact ⟨(hs.take hW).append (by simpa using hs'), r⟩

/-- reading two pieces one after the other: the second is read from whatever state the first has left.  `F` is the
model's reader for both pieces together and `hF` says that it runs `f`, then `g`: by `rfl` where the model is written
that way, by `parseSection_add` for a loop split in two. -/
theorem Reads.seq {t : CTable} {c : Nat} {e₁ e₂ : Bytes} {n₁ n₂ : CTable} {f : Bytes → Except PErr PState}
    {g : Bytes → PState → Except PErr PState} {Q₁ Q₂ : PState → Prop} (h₁ : Reads Rs t c e₁ n₁ f Q₁)
    (h₂ : ∀ s, s.cur = c + e₁.length → Q₁ s → Reads Rs (t ++ n₁) s.cur e₂ n₂ (fun W => g W s) Q₂)
    (F : Bytes → Except PErr PState)
    (hF : ∀ W, F W = match f W with | .error x => .error x | .ok s => g W s) :
    Reads Rs t c (e₁ ++ e₂) (n₁ ++ n₂) F Q₂ := by
  intro W hW hs
  obtain ⟨hs₁, s₁, hf, hc₁, hq₁⟩ := h₁ W hW.fst hs
  obtain ⟨hs₂, s₂, hg, hc₂, hq₂⟩ := h₂ s₁ hc₁ hq₁ W (hc₁ ▸ hW.snd _ rfl) (hc₁ ▸ hs₁)
  rw [hc₁, Nat.add_assoc, ← List.length_append, List.append_assoc] at hs₂
  exact ⟨hs₂, s₂, by rw [hF, hf]; exact hg, by rw [hc₂, hc₁, List.length_append, Nat.add_assoc], hq₂⟩

/-- `rdclass'`, `deleting'` are whatever `_parse_rr_header` makes of the wire class -/
theorem reads_rr {cfg : PCfg} (horg : cfg.origin = none) {upd : Bool} {t : CTable} {owner : Name}
    {rdtype rdclass ttl : Nat} {rd : RData} {q : Bytes × CTable} {sec : Nat} (count i : Nat) {st : PState}
    {rdclass' : Nat} {deleting' : Option Nat}
    (hhdr : parseRRHeader upd st.q sec rdclass rdtype = .ok (rdclass', deleting', false))
    (hown : NameOk Rs none owner) (hv : rd.valid Rs) (hshape : shapeOf rdtype = rd.shape) (ht : rdtype < 65536)
    (hc : rdclass < 65536) (httl : ttl ≤ ConstsC03.ttlClampAbove)
    (hns : rdtype ≠ ConstsC03.typeOPT ∧ rdtype ≠ ConstsC03.typeTSIG)
    (h : rrExt owner rdtype rdclass ttl none st.cur t rd = .ok q) :
    Reads Rs t st.cur q.1 q.2 (fun W => parseRR cfg upd W sec count i st) fun st' =>
      ∃ owner' rd', Rs.R owner' owner ∧ rd'.sim Rs rd ∧
        st' = ({ st with cur := st.cur + q.1.length } : PState).setSection sec
          (sectionAdd (st.section sec) owner' rdclass' rdtype (rdCovers rdtype rd') deleting' (cfg.oneRRPerRRset || upd)
            (some (rd', ttl))) := by
  intro W hW hs
  obtain ⟨q1, q3, h1, h3, hbig, rfl⟩ := rrExt_ok h
  obtain ⟨s1, hY, owner', hown', hg, c10, e1, e2, e3, e4⟩ := hW.rrHeader hs hown h1 ht hc
    (Nat.lt_of_le_of_lt httl ttlClamp_lt) (by omega)
  obtain ⟨s3, rd', hprd, hsim⟩ := hY.rdata s1 hv hshape h3
  have hfin : st.cur + (q1.1 ++ u16 rdtype ++ u16 rdclass ++ u32 ttl ++ u16 q3.1.length ++ q3.1).length
      = st.cur + q1.1.length + 10 + q3.1.length := by
    simp only [List.length_append, u16_length, u32_length]; omega
  have hend := hY.end_le
  dsimp only
  rw [hfin, ← List.append_assoc]
  refine ⟨s3, _, ?_, cur_setSection .., owner', rd', hown', hsim, rfl⟩
  have hsp : ¬ (rdtype = ConstsC03.typeOPT ∨ rdtype = ConstsC03.typeTSIG) := fun hh => hh.elim hns.1 hns.2
  have clen : ¬ q3.1.length > W.length - (st.cur + q1.1.length + 10) := by omega
  have hclamp : ¬ ttl > ConstsC03.ttlClampAbove := by omega
  unfold parseRR
  rw [hg]
  simp only [horg, c10, if_false, e1, e2, e3, e4, hsp, hhdr, Bool.false_eq_true]
  simp only [clen, if_false, hns.1, hns.2, hprd, hclamp]

end Model
