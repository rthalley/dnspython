import Proofs.RdataTextEsc
/-! The `txt_is_utf8` style: `_escapify_unicode` of the decoded string is read back by `Token.unescape_to_bytes`
as the original octets (C05). -/
namespace Model

theorem utf8Char_2 (a b : Nat) (ha : 194 ≤ a ∧ a < 224) (hb : 128 ≤ b ∧ b < 192) :
    utf8Char ((a - 192) * 64 + (b - 128)) = some [a, b] := by
  have h1 : ¬ (a - 192) * 64 + (b - 128) < 128 := by omega
  have h2 : (a - 192) * 64 + (b - 128) < 2048 := by omega
  have e1 : 192 + ((a - 192) * 64 + (b - 128)) / 64 = a := by omega
  have e2 : 128 + ((a - 192) * 64 + (b - 128)) % 64 = b := by omega
  simp only [utf8Char, h1, h2, if_false, if_true, e1, e2]

/-- the hypotheses are the acceptance tests of `utf8Decode`, in its words -/
theorem utf8Char_3 (a b c : Nat) (ha : 224 ≤ a ∧ a < 240)
    (h : 128 ≤ b ∧ b < 192 ∧ 128 ≤ c ∧ c < 192 ∧ 2048 ≤ (a - 224) * 4096 + (b - 128) * 64 + (c - 128) ∧
      ¬ (55296 ≤ (a - 224) * 4096 + (b - 128) * 64 + (c - 128) ∧ (a - 224) * 4096 + (b - 128) * 64 + (c - 128) < 57344)) :
    utf8Char ((a - 224) * 4096 + (b - 128) * 64 + (c - 128)) = some [a, b, c] := by
  generalize hcp : (a - 224) * 4096 + (b - 128) * 64 + (c - 128) = cp at *
  have h1 : ¬ cp < 128 := by omega
  have h2 : ¬ cp < 2048 := by omega
  have h3 : cp < 65536 := by omega
  have e1 : 224 + cp / 4096 = a := by omega
  have e2 : 128 + cp / 64 % 64 = b := by omega
  have e3 : 128 + cp % 64 = c := by omega
  simp only [utf8Char, h1, h2, h3, h.2.2.2.2.2, if_false, if_true, e1, e2, e3]

theorem utf8Char_4 (a b c d : Nat) (ha : 240 ≤ a ∧ a < 245)
    (h : 128 ≤ b ∧ b < 192 ∧ 128 ≤ c ∧ c < 192 ∧ 128 ≤ d ∧ d < 192 ∧
      65536 ≤ (a - 240) * 262144 + (b - 128) * 4096 + (c - 128) * 64 + (d - 128) ∧
      (a - 240) * 262144 + (b - 128) * 4096 + (c - 128) * 64 + (d - 128) < 1114112) :
    utf8Char ((a - 240) * 262144 + (b - 128) * 4096 + (c - 128) * 64 + (d - 128)) = some [a, b, c, d] := by
  generalize hcp : (a - 240) * 262144 + (b - 128) * 4096 + (c - 128) * 64 + (d - 128) = cp at *
  have h1 : ¬ cp < 128 := by omega
  have h2 : ¬ cp < 2048 := by omega
  have h3 : ¬ cp < 65536 := by omega
  have e1 : 240 + cp / 262144 = a := by omega
  have e2 : 128 + cp / 4096 % 64 = b := by omega
  have e3 : 128 + cp / 64 % 64 = c := by omega
  have e4 : 128 + cp % 64 = d := by omega
  simp only [utf8Char, h1, h2, h3, h.2.2.2.2.2.2.2, if_false, if_true, e1, e2, e3, e4]

theorem utf8Encode_cons (c : Nat) (b : Bytes) (cs : List Nat) (r : Bytes) (hc : utf8Char c = some b)
    (hr : utf8Encode cs = some r) : utf8Encode (c :: cs) = some (b ++ r) := by
  simp only [utf8Encode, hc, hr]

theorem utf8Encode_decode (s : Bytes) (us : List Nat) (h : utf8Decode s = some us) : utf8Encode us = some s := by
  fun_induction utf8Decode s generalizing us with
  | case1 => cases h; rfl
  | case2 a rest ha ih =>
    obtain ⟨r, hr, rfl⟩ := Option.map_eq_some_iff.mp h
    exact utf8Encode_cons a [a] r rest (if_pos ha) (ih r hr)
  | case3 a _ ha b rest' hb ih =>
    obtain ⟨r, hr, rfl⟩ := Option.map_eq_some_iff.mp h
    exact utf8Encode_cons _ [a, b] r rest' (utf8Char_2 a b ha hb) (ih r hr)
  | case6 a _ _ ha b c rest' cp hc ih =>
    obtain ⟨r, hr, rfl⟩ := Option.map_eq_some_iff.mp h
    exact utf8Encode_cons _ [a, b, c] r rest'
      (utf8Char_3 a b c ha hc) (ih r hr)
  | case9 a _ _ _ ha b c d rest' cp hc ih =>
    obtain ⟨r, hr, rfl⟩ := Option.map_eq_some_iff.mp h
    exact utf8Encode_cons _ [a, b, c, d] r rest'
      (utf8Char_4 a b c d ha hc) (ih r hr)
  | case4 | case5 | case7 | case8 | case10 | case11 | case12 => nomatch h

/-- obligations on `dns.rdata._unicode_escaped` -/
theorem escUOk_generated : EscROk ConstsC05.unicodeEscaped := by decide

theorem escUChar_unit {esc : List Nat} (hesc : EscROk esc) {c : Nat} {b : Bytes} (hb : utf8Char c = some b) :
    EscUnit (escUChar esc c) c b := by
  obtain ⟨h34, h92, hall⟩ := hesc
  unfold escUChar
  split
  · rename_i hm; exact .bs (hall c hm).1 hb
  · rename_i hm
    split
    · exact .raw (fun h => hm (h ▸ h92)) (fun h => hm (h ▸ h34)) (by omega) hb
    · -- a control character is its own UTF-8 encoding
      obtain rfl : b = [c] := Option.some.inj (hb.symm.trans (by simp [utf8Char]; omega))
      exact .ddd (by omega)

theorem escapifyU_text {esc : List Nat} (hesc : EscROk esc) (us : List Nat) (s : Bytes) (h : utf8Encode us = some s) :
    EscText (escapifyUWith esc us) us s := by
  induction us generalizing s with
  | nil => cases h; exact .nil
  | cons c cs ih =>
    simp only [utf8Encode] at h
    split at h
    · rename_i b r hc hcs
      cases h
      exact .cons (escUChar_unit hesc hc) (ih r hcs)
    · cases h

theorem txtElement_rt (utf8 : Bool) (s : Bytes) (hs : ∀ c ∈ s, c < 256) :
    Lexes (quote (txtElement utf8 ConstsC05.unicodeEscaped Consts.rdataEscaped s))
      [⟨.quoted, txtElement utf8 ConstsC05.unicodeEscaped Consts.rdataEscaped s⟩] ∧
    unescapeBytes (txtElement utf8 ConstsC05.unicodeEscaped Consts.rdataEscaped s) = some s := by
  have hplain := (escapifyR_text escROk_generated s hs).read
  unfold txtElement
  cases utf8 with
  | false => exact ⟨hplain.1, hplain.2.2⟩
  | true =>
    simp only [if_true]
    cases hd : utf8Decode s with
    | none => exact ⟨hplain.1, hplain.2.2⟩
    | some us =>
      have := (escapifyU_text escUOk_generated us s (utf8Encode_decode s us hd)).read
      exact ⟨this.1, this.2.2⟩

end Model
