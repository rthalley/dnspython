import Model.ZoneFile
import Proofs.ZoneFileCname
import Proofs.NameOrder3
/-!
Feeding a well-formed zone's own records, in the order the writer prints them, to `txn.add` rebuilds exactly
that zone (same names in the same order, same rdatasets in the same order, same rdatas, same TTLs).
-/
namespace Model
open NameOrder (nameEq_refl)

def entriesOfRdataset (name : Name) (rds : Rdataset) : List Entry :=
  rds.rrs.map fun rr => ⟨name, rds.ttl, rds.rdtype, rr⟩

def entriesOfNode (name : Name) (nd : Node) : List Entry := nd.flatMap (entriesOfRdataset name)

def entriesOfZone (z : ZoneMap) : List Entry := z.flatMap fun p => entriesOfNode p.1 p.2

/-- fold `txn.add` over a list of records -/
def addAll (eff : Option Name) : ZoneMap → List Entry → RM ZoneMap
  | z, [] => .ok z
  | z, e :: rest =>
    match addEntry z eff e with
    | .ok z' => addAll eff z' rest
    | .error err => .error err

theorem addAll_append (eff : Option Name) (z : ZoneMap) (a b : List Entry) :
    addAll eff z (a ++ b) = (addAll eff z a).bind fun z' => addAll eff z' b := by
  induction a generalizing z with
  | nil => rfl
  | cons e r ih =>
    simp only [List.cons_append, addAll]
    cases addEntry z eff e with
    | error err => rfl
    | ok z' => exact ih z'

/-- records that all go to `txn.add` under one effective origin denote that fold -/
theorem interpTrace_entries (e : Option Name) (es : List Entry) (t : Trace) (z : ZoneMap) :
    interpTrace (es.foldr (Trace.entry e) t) z = (addAll e z es).bind fun z' => interpTrace t z' := by
  induction es generalizing z with
  | nil => rfl
  | cons x es ih =>
    simp only [List.foldr_cons, interpTrace, addAll]
    cases addEntry z e x with
    | error err => rfl
    | ok z' => exact ih z'

def RdatasetWF (rds : Rdataset) : Prop :=
  rds.rrs ≠ [] ∧
  rds.rrs.Pairwise (fun a b => (rdKey a.rd == rdKey b.rd) = false) ∧
  (Consts.singletons.contains rds.rdtype = true → rds.rrs.length = 1)

def NodeWF (nd : Node) : Prop :=
  nd ≠ [] ∧ (∀ r ∈ nd, RdatasetWF r) ∧ nd.Pairwise (fun a b => a.rdtype ≠ b.rdtype) ∧ NodeOK nd

def ZoneWF (eff : Option Name) (z : ZoneMap) : Prop :=
  (∀ p ∈ z, NodeWF p.2) ∧
  z.Pairwise (fun p q => nameEq p.1 q.1 = false) ∧
  (∀ p ∈ z, ∀ r ∈ p.2, soaElsewhere eff p.1 r.rdtype = false)

instance ZoneWF.decidable (eff : Option Name) (z : ZoneMap) : Decidable (ZoneWF eff z) := by
  unfold ZoneWF NodeWF RdatasetWF NodeOK
  exact inferInstance

theorem zoneFind_last (pre : ZoneMap) (name : Name) (nd : Node)
    (hpre : ∀ p ∈ pre, nameEq p.1 name = false) : zoneFind (pre ++ [(name, nd)]) name = some nd := by
  unfold zoneFind
  rw [List.find?_append]
  have : pre.find? (fun p => nameEq p.1 name) = none := by
    rw [List.find?_eq_none]; intro p hp; simp [hpre p hp]
  simp [this, nameEq_refl]

theorem zoneFind_absent (pre : ZoneMap) (name : Name)
    (hpre : ∀ p ∈ pre, nameEq p.1 name = false) : zoneFind pre name = none := by
  unfold zoneFind
  have : pre.find? (fun p => nameEq p.1 name) = none := by
    rw [List.find?_eq_none]; intro p hp; simp [hpre p hp]
  simp [this]

theorem zonePut_last (pre : ZoneMap) (name : Name) (nd nd' : Node)
    (hpre : ∀ p ∈ pre, nameEq p.1 name = false) :
    zonePut (pre ++ [(name, nd)]) name nd' = pre ++ [(name, nd')] := by
  unfold zonePut
  have hany : (pre ++ [(name, nd)]).any (fun p => nameEq p.1 name) = true := by
    simp [nameEq_refl]
  simp only [hany, if_true, List.map_append, List.map_cons, List.map_nil, nameEq_refl]
  congr 1
  rw [List.map_congr_left (g := id)]
  · simp
  · intro p hp; simp [hpre p hp]

theorem zonePut_absent (pre : ZoneMap) (name : Name) (nd' : Node)
    (hpre : ∀ p ∈ pre, nameEq p.1 name = false) :
    zonePut pre name nd' = pre ++ [(name, nd')] := by
  unfold zonePut
  have hany : pre.any (fun p => nameEq p.1 name) = false := by
    rw [List.any_eq_false]; intro p hp; simp [hpre p hp]
  simp [hany]

theorem classifyNode_mem (nd : Node) (k : NodeKind) (hk : k ≠ .neutral) (h : classifyNode nd = k) :
    ∃ r ∈ nd, classifyType r.rdtype = k := by
  induction nd with
  | nil => simp [classifyNode] at h; exact absurd h.symm hk
  | cons a as ih =>
    unfold classifyNode at h
    split at h
    · obtain ⟨r, hr, hrk⟩ := ih h
      exact ⟨r, by simp [hr], hrk⟩
    · rename_i k' hk'
      exact ⟨a, by simp, by rw [← h]⟩

/-- `cur` holds rdatasets of types of the conflict-free node `nd`, and `ty` is a type of `nd` -/
structure Within (nd cur : Node) (ty : Nat) : Prop where
  ok : NodeOK nd
  sub : ∀ r ∈ cur, ∃ r' ∈ nd, r'.rdtype = r.rdtype
  mem : ∃ r' ∈ nd, r'.rdtype = ty

section
variable {eff : Option Name} {pre : ZoneMap} {name : Name} {nd cur : Node} {ty : Nat}

theorem Within.snoc (c : Within nd cur ty) (rds : Rdataset) (h : rds.rdtype = ty) : Within nd (cur ++ [rds]) ty := by
  refine ⟨c.ok, fun r hr => ?_, c.mem⟩
  rcases List.mem_append.mp hr with hr | hr
  · exact c.sub r hr
  · rw [List.mem_singleton.mp hr, h]
    exact c.mem

theorem Within.coexist (c : Within nd cur ty) (r : Rdataset) (hr : r ∈ cur) :
    kindsCoexist (classifyType r.rdtype) (classifyType ty) = true := by
  obtain ⟨r', hr', hre⟩ := c.sub r hr
  obtain ⟨t, ht, hte⟩ := c.mem
  cases h1 : classifyType r.rdtype <;> cases h2 : classifyType ty <;> try rfl
  · exact absurd ⟨⟨t, ht, hte ▸ h2⟩, ⟨r', hr', hre ▸ h1⟩⟩ c.ok
  · exact absurd ⟨⟨r', hr', hre ▸ h1⟩, ⟨t, ht, hte ▸ h2⟩⟩ c.ok

theorem Within.cnameConflict_false (c : Within nd cur ty) : cnameConflict (some cur) ty = false := by
  -- `_check_cname_and_other_data` asks whether the node's kind and the new type's may coexist
  rw [show cnameConflict (some cur) ty = !kindsCoexist (classifyNode cur) (classifyType ty) from (Bool.not_not _).symm]
  by_cases hk : classifyNode cur = .neutral
  · rw [hk]; rfl
  · obtain ⟨r, hr, hrk⟩ := classifyNode_mem cur _ hk rfl
    rw [← hrk, c.coexist r hr]
    rfl

/-- `replace_rdataset`: the new rdataset ends up last -/
theorem Within.nodeReplace (rds : Rdataset) (c : Within nd cur rds.rdtype) (old : List Rdataset)
    (hcur : ∀ r ∈ cur, r.rdtype ≠ rds.rdtype) (hold : ∀ r ∈ old, r.rdtype = rds.rdtype) :
    nodeReplace (cur ++ old) rds = cur ++ [rds] := by
  have h1 : cur.filter (fun r => decide (r.rdtype ≠ rds.rdtype)) = cur :=
    List.filter_eq_self.mpr fun r hr => by simpa using hcur r hr
  have h2 : old.filter (fun r => decide (r.rdtype ≠ rds.rdtype)) = [] :=
    List.filter_eq_nil_iff.mpr fun r hr => by simpa using hold r hr
  rw [nodeReplace_eq_filter, List.filter_append, h1, h2, List.append_nil, List.filter_eq_self.mpr c.coexist]

/-- the part of the zone list that holds the node under construction (absent while it is still empty) -/
def nodeEntry (name : Name) (cur : Node) : ZoneMap := if cur = [] then [] else [(name, cur)]

theorem find_type_none (cur : Node) (ty : Nat) (h : ∀ r ∈ cur, r.rdtype ≠ ty) :
    cur.find? (fun r => decide (r.rdtype = ty)) = none := by
  rw [List.find?_eq_none]; intro r hr; simpa using h r hr

theorem find_type_last (cur : Node) (old : Rdataset) (h : ∀ r ∈ cur, r.rdtype ≠ old.rdtype) :
    (cur ++ [old]).find? (fun r => decide (r.rdtype = old.rdtype)) = some old := by
  rw [List.find?_append, find_type_none cur _ h]; simp

/-- the situation while the node `nd` of `name` is rebuilt behind the finished part `pre` of the zone: the records
to come are of a type `ty` that `cur` does not hold yet -/
structure Building (eff : Option Name) (pre : ZoneMap) (name : Name) (nd cur : Node) (ty : Nat) : Prop
    extends Within nd cur ty where
  fresh : ∀ p ∈ pre, nameEq p.1 name = false
  new : ∀ r ∈ cur, r.rdtype ≠ ty
  soa : soaElsewhere eff name ty = false

theorem Building.zoneAdd_first (c : Building eff pre name nd cur ty) (ttl : Nat) (rr : RR) :
    zoneAdd (pre ++ nodeEntry name cur) eff name ttl ty rr = .ok (pre ++ [(name, cur ++ [⟨ty, ttl, [rr]⟩])]) := by
  unfold zoneAdd
  simp only [c.soa, Bool.false_eq_true, if_false]
  by_cases hc : cur = []
  · subst hc
    simp only [nodeEntry, if_true, List.append_nil, zoneFind_absent pre name c.fresh]
    simp [cnameConflict, rdsUnion, Model.nodeReplace, zonePut_absent pre name _ c.fresh]
  · simp only [nodeEntry, hc, if_false, zoneFind_last pre name cur c.fresh, c.cnameConflict_false]
    simp only [Bool.false_eq_true, if_false, Option.bind_some, find_type_none cur ty c.new, rdsUnion, Option.getD_some]
    have := Within.nodeReplace ⟨ty, ttl, [rr]⟩ c.toWithin [] c.new (by simp)
    simp only [List.append_nil] at this
    rw [this, zonePut_last pre name cur _ c.fresh]

theorem Building.zoneAdd_more (c : Building eff pre name nd cur ty) (ttl : Nat) (done : List RR) (rr : RR)
    (hdone : done ≠ []) (hsing : Consts.singletons.contains ty = false)
    (hnew : ∀ x ∈ done, (rdKey x.rd == rdKey rr.rd) = false) :
    zoneAdd (pre ++ [(name, cur ++ [⟨ty, ttl, done⟩])]) eff name ttl ty rr =
      .ok (pre ++ [(name, cur ++ [⟨ty, ttl, done ++ [rr]⟩])]) := by
  unfold zoneAdd
  simp only [c.soa, Bool.false_eq_true, if_false, zoneFind_last pre name _ c.fresh,
    (c.toWithin.snoc ⟨ty, ttl, done⟩ rfl).cnameConflict_false, Option.bind_some, Option.getD_some]
  have hf := find_type_last cur ⟨ty, ttl, done⟩ (by simpa using c.new)
  simp only at hf
  rw [hf]
  have hany : done.any (fun x => rdKey x.rd == rdKey rr.rd) = false := by
    rw [List.any_eq_false]; intro x hx; simp [hnew x hx]
  simp only [rdsUnion, hdone, if_false, Nat.lt_irrefl, hsing, Bool.false_eq_true, false_and, hany]
  have := Within.nodeReplace ⟨ty, ttl, done ++ [rr]⟩ c.toWithin [⟨ty, ttl, done⟩] c.new (by simp)
  rw [this, zonePut_last pre name _ _ c.fresh]

theorem Building.addAll_more (c : Building eff pre name nd cur ty) (ttl : Nat) (done more : List RR)
    (hdone : done ≠ []) (hsing : more ≠ [] → Consts.singletons.contains ty = false)
    (hpw : (done ++ more).Pairwise (fun a b => (rdKey a.rd == rdKey b.rd) = false)) :
    addAll eff (pre ++ [(name, cur ++ [⟨ty, ttl, done⟩])]) (more.map fun rr => ⟨name, ttl, ty, rr⟩) =
      .ok (pre ++ [(name, cur ++ [⟨ty, ttl, done ++ more⟩])]) := by
  induction more generalizing done with
  | nil => simp [addAll]
  | cons rr rest ih =>
    have hs := hsing (by simp)
    have hnew : ∀ x ∈ done, (rdKey x.rd == rdKey rr.rd) = false := by
      intro x hx
      rw [List.pairwise_append] at hpw
      exact hpw.2.2 x hx rr (by simp)
    simp only [List.map_cons, addAll, addEntry]
    rw [c.zoneAdd_more ttl done rr hdone hs hnew]
    simp only
    have := ih (done ++ [rr]) (by simp) (fun _ => hs) (by simpa [List.append_assoc] using hpw)
    simpa [List.append_assoc] using this

theorem Building.addAll_rdataset (rds : Rdataset) (c : Building eff pre name nd cur rds.rdtype) (hwf : RdatasetWF rds) :
    addAll eff (pre ++ nodeEntry name cur) (entriesOfRdataset name rds) = .ok (pre ++ [(name, cur ++ [rds])]) := by
  obtain ⟨ty, ttl, rrs⟩ := rds
  obtain ⟨hne, hpw, hsing⟩ := hwf
  simp only at hne hpw hsing c
  cases rrs with
  | nil => exact absurd rfl hne
  | cons rr more =>
    simp only [entriesOfRdataset, List.map_cons, addAll, addEntry]
    rw [c.zoneAdd_first ttl rr]
    simp only
    have hs : more ≠ [] → Consts.singletons.contains ty = false := by
      intro hm
      cases hc : Consts.singletons.contains ty with
      | false => rfl
      | true =>
        have := hsing hc
        simp at this
        exact absurd this hm
    have := c.addAll_more ttl [rr] more (by simp) hs (by simpa using hpw)
    simpa using this

end

theorem nodeEntry_ne (name : Name) (cur : Node) (h : cur ≠ []) : nodeEntry name cur = [(name, cur)] := by
  simp [nodeEntry, h]

theorem addAll_node (eff : Option Name) (pre : ZoneMap) (name : Name) (nd cur rem : Node)
    (hpre : ∀ p ∈ pre, nameEq p.1 name = false) (hnd : nd = cur ++ rem)
    (hwf : ∀ r ∈ nd, RdatasetWF r) (hpw : nd.Pairwise (fun a b => a.rdtype ≠ b.rdtype)) (hok : NodeOK nd)
    (hsoa : ∀ r ∈ nd, soaElsewhere eff name r.rdtype = false) :
    addAll eff (pre ++ nodeEntry name cur) (entriesOfNode name rem) = .ok (pre ++ nodeEntry name (cur ++ rem)) := by
  induction rem generalizing cur with
  | nil => simp [entriesOfNode, addAll]
  | cons rds rest ih =>
    have hmem : rds ∈ nd := by rw [hnd]; simp
    have hsub : ∀ r ∈ cur, ∃ r' ∈ nd, r'.rdtype = r.rdtype := fun r hr => ⟨r, by rw [hnd]; simp [hr], rfl⟩
    have hcur : ∀ r ∈ cur, r.rdtype ≠ rds.rdtype := by
      intro r hr
      rw [hnd, List.pairwise_append] at hpw
      exact hpw.2.2 r hr rds (by simp)
    simp only [entriesOfNode, List.flatMap_cons]
    rw [addAll_append,
      Building.addAll_rdataset rds ⟨⟨hok, hsub, rds, hmem, rfl⟩, hpre, hcur, hsoa rds hmem⟩ (hwf rds hmem)]
    simp only [Except.bind]
    have := ih (cur ++ [rds]) (by rw [hnd]; simp)
    rw [nodeEntry_ne name (cur ++ [rds]) (by simp)] at this
    simpa [entriesOfNode, List.append_assoc] using this

theorem addAll_zone (eff : Option Name) (pre rem : ZoneMap) (hwf : ZoneWF eff (pre ++ rem)) :
    addAll eff pre (entriesOfZone rem) = .ok (pre ++ rem) := by
  induction rem generalizing pre with
  | nil => simp [entriesOfZone, addAll]
  | cons p rest ih =>
    obtain ⟨name, nd⟩ := p
    obtain ⟨h1, h2, h3⟩ := hwf
    have hmem : (name, nd) ∈ pre ++ (name, nd) :: rest := by simp
    obtain ⟨hne, hrw, hpw, hok⟩ := h1 (name, nd) hmem
    have hpre : ∀ q ∈ pre, nameEq q.1 name = false := by
      intro q hq
      rw [List.pairwise_append] at h2
      exact h2.2.2 q hq (name, nd) (by simp)
    simp only [entriesOfZone, List.flatMap_cons]
    rw [addAll_append]
    have hn := addAll_node eff pre name nd [] nd hpre (by simp) hrw hpw hok (fun r hr => h3 (name, nd) hmem r hr)
    simp only [nodeEntry, if_true, List.append_nil, List.nil_append] at hn
    rw [hn]
    simp only [Except.bind, hne, if_false]
    have hwf' : ZoneWF eff ((pre ++ [(name, nd)]) ++ rest) := by
      have e : (pre ++ [(name, nd)]) ++ rest = pre ++ (name, nd) :: rest := by simp
      rw [e]; exact ⟨h1, h2, h3⟩
    have := ih (pre ++ [(name, nd)]) hwf'
    simpa [entriesOfZone, List.append_assoc] using this

theorem addAll_rebuild (eff : Option Name) (z : ZoneMap) (hwf : ZoneWF eff z) :
    addAll eff [] (entriesOfZone z) = .ok z := by
  simpa using addAll_zone eff [] z (by simpa using hwf)

end Model
