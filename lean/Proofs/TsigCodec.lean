import Proofs.TsigValidate
/-! The TSIG RDATA codec, in the terms of what `TSIG._to_wire` writes: `TSIG.from_wire_parser` succeeds exactly on a
well-formed absolute name followed by the fixed-layout tail `tsigTail rd`, fields in range, filling the RDATA
(`rdataParse_of_at`, and `rdataParse_ok` for messages of octets). -/
namespace Model.Tsig
open Model Model.NameOrder Rfc8945

/-- everything of the TSIG RDATA after the algorithm name, as RFC 8945 §4.2 lays it out -/
def tsigTail (rd : Rdata) : Bytes :=
  be 6 rd.timeSigned ++ be 2 rd.fudge ++ be 2 rd.mac.length ++ rd.mac ++ be 2 rd.originalId ++ be 2 rd.error
    ++ be 2 rd.other.length ++ rd.other

theorem rdataWire_eq (rd : Rdata) : rdataWire rd = toWire rd.algorithm ++ tsigTail rd := by
  unfold rdataWire tsigTail
  rw [timeEncoded_eq_be]
  simp only [u16_eq_be, List.append_assoc]

theorem tsigTail_length (rd : Rdata) : (tsigTail rd).length = 16 + rd.mac.length + rd.other.length := by
  simp only [tsigTail, List.length_append, be_length]; omega

/-- what the constructor of a TSIG rdata and the 16-bit length fields admit -/
structure RdataOk (rd : Rdata) : Prop where
  algWf : WfName rd.algorithm
  algAbs : isAbs rd.algorithm = true
  time : rd.timeSigned < 281474976710656
  fudge : rd.fudge < 65536
  mac : rd.mac.length < 65536
  oid : rd.originalId < 65536
  err : rd.error ≤ ConstsC14.rcodeMax
  other : rd.other.length < 65536

/-- an absolute name decoded from `a` to `p` and the tail of an admissible `rd` standing at `p`: that parses to `rd`, the
RDATA ending where the tail does -/
theorem rdataParse_of_at {w : Bytes} {a p : Nat} {rd : Rdata} {ls : List Label} (hok : RdataOk rd) (hls : rd.algorithm = ls ++ [[]])
    (hd : Dec w a a ls p) (ht : At w p (tsigTail rd)) : rdataParse w a (p + (tsigTail rd).length) = .ok rd := by
  have hle := ht.end_le
  rw [tsigTail_length] at hle ⊢
  simp only [tsigTail, List.append_assoc, At.append, be_length] at ht
  obtain ⟨ht, hf, hml, hm, ho, he, hol, hot⟩ := ht
  have e1 : rd16 w (p + 8) = rd.mac.length := rd16_at hml hok.mac
  have e2 : rd16 w (p + 10 + rd.mac.length + 4) = rd.other.length := rd16_at hol hok.other
  unfold rdataParse
  rw [nameAt_ok_iff.mpr ⟨by omega, ls, hd, by omega, rfl⟩]
  dsimp only
  rw [← hls, Model.validate_of_wf _ hok.algWf]
  dsimp only
  rw [e1, e2, if_neg (by omega), if_neg (by omega), if_neg (by omega), if_neg (by omega), if_neg (by omega),
    rd16_at (p := p + 10 + rd.mac.length + 2) he (Nat.lt_of_le_of_lt hok.err (by decide)), if_neg (Nat.not_lt.mpr hok.err),
    rd48_at ht hok.time, rd16_at (p := p + 6) hf hok.fudge, slice_at (p := p + 10) hm rfl,
    rd16_at (p := p + 10 + rd.mac.length) ho hok.oid, slice_at (p := p + 10 + rd.mac.length + 6) hot (by omega)]

/-- conversely, in a message of octets: what a successful parse returns is admissible, and its name and tail stand in `[a, e)` -/
theorem rdataParse_ok {w : Bytes} {a e : Nat} {rd : Rdata} (ho : OctetsOk w) (h : rdataParse w a e = .ok rd) :
    RdataOk rd ∧ ∃ ls p, rd.algorithm = ls ++ [[]] ∧ Dec w a a ls p ∧ At w p (tsigTail rd) ∧ p + (tsigTail rd).length = e := by
  unfold rdataParse at h
  cases hn : nameAt w e (nameFuel w) a a a [] with
  | error _ => rw [hn] at h; cases h
  | ok r =>
  obtain ⟨alg0, p⟩ := r
  cases hv : Model.validate alg0 with
  | error _ => rw [hn] at h; dsimp only at h; rw [hv] at h; cases h
  | ok alg =>
  rw [hn] at h
  dsimp only at h
  rw [hv] at h
  dsimp only at h
  generalize hq : p + 10 + rd16 w (p + 8) = q at h
  obtain ⟨_, h⟩ := of_ite_error_eq_ok h
  obtain ⟨_, h⟩ := of_ite_error_eq_ok h
  obtain ⟨_, h⟩ := of_ite_error_eq_ok h
  obtain ⟨_, h⟩ := of_ite_error_eq_ok h
  obtain ⟨h5, h⟩ := of_ite_error_eq_ok h
  obtain ⟨h6, h⟩ := of_ite_error_eq_ok h
  cases h
  obtain ⟨hew, ls, hd, hpe, rfl⟩ := nameAt_ok_iff.mp hn
  obtain ⟨rfl, hwf⟩ := Model.wf_of_validate _ _ hv
  have h5 := Decidable.not_not.mp h5
  -- the two strings have the lengths their length fields give
  have hm : (slice w (p + 10) q).length = rd16 w (p + 8) := by rw [slice_length w _ _ (by omega)]; omega
  have hl : (slice w (q + 6) (q + 6 + rd16 w (q + 4))).length = rd16 w (q + 4) := by rw [slice_length w _ _ (by omega)]; omega
  refine ⟨⟨hwf, isAbs_append_abs rfl ls, rd48_lt w ho p, rd16_lt w ho (p + 6), by rw [hm]; exact rd16_lt w ho (p + 8), rd16_lt w ho q,
    Nat.le_of_not_gt h6, by rw [hl]; exact rd16_lt w ho (q + 4)⟩, ls, p, rfl, hd, ?_, by rw [tsigTail_length, hm, hl]; omega⟩
  simp only [tsigTail, List.append_assoc, At.append, be_length, hm, hl]
  subst hq
  exact ⟨at_rd48 ho (by omega), at_rd16 ho (by omega), at_rd16 ho (p := p + 8) (by omega), at_slice w (by omega) (by omega),
    at_rd16 ho (p := p + 10 + rd16 w (p + 8)) (by omega), at_rd16 ho (p := p + 10 + rd16 w (p + 8) + 2) (by omega),
    at_rd16 ho (p := p + 10 + rd16 w (p + 8) + 4) (by omega), at_slice w (by omega) (by omega)⟩

/-- what `_to_wire` writes, wherever it stands, `from_wire_parser` restricted to it reads back -/
theorem rdataParse_at {w : Bytes} {a : Nat} {rd : Rdata} (h : At w a (rdataWire rd)) (hok : RdataOk rd) :
    rdataParse w a (a + (rdataWire rd).length) = .ok rd := by
  obtain ⟨ls, hls, hp⟩ := abs_split rd.algorithm hok.algWf hok.algAbs
  rw [rdataWire_eq, At.append] at h
  rw [rdataWire_eq, List.length_append, ← Nat.add_assoc]
  exact rdataParse_of_at hok hls (Dec_at h.1 hls hp a) h.2

theorem rdataParse_rdataWire (A : Bytes) (rd : Rdata) (hok : RdataOk rd) :
    rdataParse (A ++ rdataWire rd) A.length (A ++ rdataWire rd).length = .ok rd := by
  have := rdataParse_at (List.append_nil _ ▸ At.mid A (rdataWire rd) []) hok
  rwa [← List.length_append] at this

end Model.Tsig
