import Model.ZoneFile
/-!
The reader as a denotation.  `parseTrace` runs only the zone-independent parser and records the
sequence of records it hands to `txn.add` (with the effective origin in force); `interpTrace` gives the
zone-level meaning of such a sequence.  `readLoop = interpTrace ∘ parseTrace`.
-/
namespace Model

/-- what the parser emits: records in file order, ended by EOF (`done`) or by the first parse error -/
inductive Trace where
  | done (p : PState)
  | err (e : RErr)
  | entry (eff : Option Name) (e : Entry) (rest : Trace)

/-- denotation of a trace: fold `txn.add` over the records; the first failing step decides the outcome -/
def interpTrace : Trace → ZoneMap → RM (PState × ZoneMap)
  | .done p, z => .ok (p, z)
  | .err e, _ => .error e
  | .entry eff e rest, z =>
    match addEntry z eff e with
    | .ok z' => interpTrace rest z'
    | .error err => .error err

/-- the `for` loop of `_generate_line` as a trace; `k r` is what follows the loop -/
def genTrace (ttl ty : Nat) : List (List Nat × List Nat) → PState → (PState → Trace) → Trace
  | [], r, k => k r
  | item :: rest, r, k =>
    match genItem ttl ty item r with
    | .error e => .err e
    | .ok (none, r') => genTrace ttl ty rest r' k
    | .ok (some e, r') => .entry r'.effOrigin e (genTrace ttl ty rest r' k)

/-- the records a text denotes, by running the parser alone -/
def parseTrace : Nat → PState → Trace
  | 0, _ => .err (.other "fuel")
  | f + 1, r =>
    match lineStep r with
    | .error e => .err e
    | .ok (.eof, _) => .done r
    | .ok (.nothing, r') => parseTrace f r'
    | .ok (.entry e, r') => .entry r'.effOrigin e (parseTrace f r')
    | .ok (.generate, r') =>
      match generateParse r' with
      | .error e => .err e
      | .ok (h, r'') =>
        genTrace h.ttl h.rdtype h.items r'' fun r3 => parseTrace f r3

theorem generateLoop_trace (ttl ty : Nat) (items : List (List Nat × List Nat)) (r : PState) (z : ZoneMap)
    (k : PState → Trace) (K : PState × ZoneMap → RM (PState × ZoneMap))
    (hK : ∀ r' z', K (r', z') = interpTrace (k r') z') :
    (generateLoop ttl ty items r z >>= K) = interpTrace (genTrace ttl ty items r k) z := by
  induction items generalizing r z with
  | nil => simp [generateLoop, genTrace, pure, Except.pure, bind, Except.bind, hK]
  | cons item rest ih =>
    simp only [generateLoop, genTrace, bind, Except.bind]
    cases hg : genItem ttl ty item r with
    | error e => simp [interpTrace]
    | ok v =>
      obtain ⟨e, r1⟩ := v
      cases e with
      | none =>
        have := ih r1 z
        simp only [bind, Except.bind] at this
        exact this
      | some e =>
        simp only [interpTrace]
        cases ha : addEntry z r1.effOrigin e with
        | error err => simp
        | ok z1 =>
          simp only
          have := ih r1 z1
          simp only [bind, Except.bind] at this
          exact this

/-- `zoneFromText` without `$INCLUDE` support (the defaults: no files, `allow_include=False`) -/
theorem zoneFromText_def (text : List Nat) (origin : Option Name) (rel chk gfix : Bool) :
    zoneFromText text origin rel chk gfix =
      (do
        let (r, z) ← readLoop (text.length + 2) (PState.init text origin rel gfix) []
        let zorigin := if z.isEmpty then origin else r.zoneOrigin
        if chk then checkOrigin z zorigin rel
        pure (z, zorigin) : RM (ZoneMap × Option Name)) := rfl

theorem readLoop_eq_interp (fuel : Nat) (r : PState) (z : ZoneMap) :
    readLoop fuel r z = interpTrace (parseTrace fuel r) z := by
  induction fuel generalizing r z with
  | zero => simp [readLoop, parseTrace, interpTrace]
  | succ f ih =>
    simp only [readLoop, parseTrace, readStep, bind, Except.bind]
    cases hl : lineStep r with
    | error e => simp [interpTrace]
    | ok v =>
      obtain ⟨ev, r1⟩ := v
      cases ev with
      | eof => simp [pure, Except.pure, interpTrace]
      | nothing => simp [pure, Except.pure, ih]
      | entry e =>
        simp only [interpTrace]
        cases ha : addEntry z r1.effOrigin e with
        | error err => simp
        | ok z1 => simp [pure, Except.pure, ih]
      | generate =>
        simp only [generateLine, bind, Except.bind]
        cases hp : generateParse r1 with
        | error e => simp [interpTrace]
        | ok w =>
          obtain ⟨h, r2⟩ := w
          simp only
          have := generateLoop_trace h.ttl h.rdtype h.items r2 z (fun r3 => parseTrace f r3)
            (fun x => readLoop f x.1 x.2) (by intro r' z'; simp [ih])
          rw [← this]
          simp only [bind, Except.bind, pure, Except.pure]
          cases hgl : generateLoop h.ttl h.rdtype h.items r2 z with
          | error e => rfl
          | ok x => rfl

/-- the fuel of the loop only matters when it runs out: what a run yields it yields with any more fuel -/
theorem readLoop_mono {f f' : Nat} {r : PState} {z : ZoneMap} {x : PState × ZoneMap} (h : readLoop f r z = .ok x)
    (hle : f ≤ f') : readLoop f' r z = .ok x := by
  induction f generalizing f' r z with
  | zero => cases h
  | succ f ih =>
    obtain ⟨g, rfl⟩ : ∃ g, f' = g + 1 := ⟨f' - 1, by omega⟩
    simp only [readLoop, bind, Except.bind] at h ⊢
    cases hs : readStep r z with
    | error e => simp [hs] at h
    | ok o =>
      rw [hs] at h
      cases o with
      | none => exact h
      | some p => exact ih h (by omega)

end Model
