import Proofs.RdataTextIP6Ntoa
/-! `inet_aton` on the texts of the IPv6 grammar with at most one `::`: eight chunks; chunks (or nothing) on either side of
a `::`; the same with a dotted quad in place of the last two groups.  Every such text is a `":".join` of colon-free chunks
(`J`).  The stages of `inet_aton`, each with its lemma: the tests on the ends of the string are decided by the first and
last character (`HexStart`, `ip6Aton_eq_split`); the dotted-quad rewrite looks at the last chunk only (`splitLast_J`,
`v4Ending_none`, `v4Ending_quad`); one colon of a leading or trailing `::` goes, after which the text is
`J (ps ++ [] :: qs)` whichever colon it was (`stripColon_gap`); splitting, padding, expanding the one empty chunk and decoding
give the groups with zero groups in the gap (`atonSplit_gap`) (C05). -/
namespace Model

abbrev J := joinWith 58

theorem J_append {a b : List (List Nat)} (ha : a ≠ []) (hb : b ≠ []) : J (a ++ b) = J a ++ 58 :: J b :=
  joinWith_append 58 a b ha hb

theorem splitOn_J {L : List (List Nat)} (hne : L ≠ []) (h : ∀ c ∈ L, 58 ∉ c) : splitOn 58 (J L) = L :=
  splitOn_joinWith 58 L hne h

def HexStart (t : List Nat) : Prop := ∃ x r, t = x :: r ∧ isHexL x = true

theorem HexStart.ne_nil {t : List Nat} (h : HexStart t) : t ≠ [] := by
  obtain ⟨x, r, rfl, -⟩ := h; simp

/-- in particular such a text begins with neither `:` nor `::` -/
theorem HexStart.not_colon {t : List Nat} (h : HexStart t) (r : List Nat) : startsWith t (58 :: r) = false := by
  obtain ⟨x, s, rfl, hx⟩ := h
  have h58 : x ≠ 58 := by intro e; subst e; simp [isHexL] at hx
  simp [startsWith, h58]

theorem HexStart.ne_cc {t : List Nat} (h : HexStart t) : t ≠ [58, 58] :=
  fun e => absurd (e ▸ h.not_colon [58]) (by decide)

theorem hexStart_append {t : List Nat} (h : HexStart t) (r : List Nat) : HexStart (t ++ r) := by
  obtain ⟨x, s, rfl, hx⟩ := h
  exact ⟨x, s ++ r, rfl, hx⟩

theorem hexStart_of_all {t : List Nat} (hne : t ≠ []) (h : ∀ x ∈ t, isHexL x = true) : HexStart t := by
  obtain ⟨x, r, rfl⟩ := List.exists_cons_of_ne_nil hne
  exact ⟨x, r, rfl, h x (by simp)⟩

theorem J_hexStart {L : List (List Nat)} (hne : L ≠ []) (hL : ∀ c ∈ L, HexChunk c) : HexStart (J L) := by
  obtain ⟨c, r, rfl⟩ := List.exists_cons_of_ne_nil hne
  rw [show J (c :: r) = _ from joinWith_cons 58 c r]
  exact hexStart_append (hexStart_of_all (hL c (by simp)).1 (hL c (by simp)).2.2) _

/-- the joined text ends as its last chunk does -/
theorem J_hexEnd (init : List (List Nat)) (c : List Nat) (h : HexStart c.reverse) : HexStart (J (init ++ [c])).reverse := by
  by_cases hi : init = []
  · subst hi; exact h
  · rw [J_append hi (by simp)]
    simpa [joinWith] using hexStart_append h _

theorem J_hexEnd_chunks {L : List (List Nat)} (hne : L ≠ []) (hL : ∀ c ∈ L, HexChunk c) : HexStart (J L).reverse := by
  have hc := hL _ (List.getLast_mem hne)
  rw [← List.dropLast_concat_getLast hne]
  exact J_hexEnd _ _ (hexStart_of_all (by simpa using hc.1) fun x hx => hc.2.2 x (by simpa using hx))

theorem HexStart.not_colon_end {t : List Nat} (h : HexStart t.reverse) :
    endsWith t [58] = false ∧ endsWith t [58, 58] = false :=
  ⟨h.not_colon [], h.not_colon [58]⟩

def CleanChunks (L : List (List Nat)) : Prop := ∀ c ∈ L, 58 ∉ c ∧ 46 ∉ c ∧ 10 ∉ c

theorem hexChunk_clean (c : List Nat) (h : HexChunk c) : 58 ∉ c ∧ 46 ∉ c ∧ 10 ∉ c :=
  ⟨hexChunk_no c h 58 (by decide), hexChunk_no c h 46 (by decide), hexChunk_no c h 10 (by decide)⟩

theorem hexChunks_clean (L : List (List Nat)) (h : ∀ c ∈ L, HexChunk c) : CleanChunks L :=
  fun c hc => hexChunk_clean c (h c hc)

theorem CleanChunks.nil : CleanChunks [] := nofun

theorem CleanChunks.cons_nil {L : List (List Nat)} (h : CleanChunks L) : CleanChunks ([] :: L) := by
  intro c hc
  rcases List.mem_cons.mp hc with rfl | hc
  · simp
  · exact h c hc

theorem CleanChunks.append {A B : List (List Nat)} (hA : CleanChunks A) (hB : CleanChunks B) : CleanChunks (A ++ B) := by
  intro c hc
  rcases List.mem_append.mp hc with hc | hc
  · exact hA c hc
  · exact hB c hc

theorem J_contains10 (L : List (List Nat)) (h : CleanChunks L) : (J L).contains 10 = false := by
  rw [List.contains_eq_mem, decide_eq_false_iff_not]
  intro hm
  rcases mem_joinWith hm with e | ⟨c, hc, hx⟩
  · exact absurd e (by decide)
  · exact (h c hc).2.2 hx

theorem notDotted_of_noDot (g : List Nat) (h : 46 ∉ g) : isDottedQuadShape g = false := by
  unfold isDottedQuadShape
  rw [splitOn_no_sep 46 g h]
  simp

/-- `rsplit(":", 1)` of a join of colon-free chunks: the join of all but the last chunk, and the last -/
theorem splitLast_J (init : List (List Nat)) (last : List Nat) (h : ∀ c ∈ init ++ [last], 58 ∉ c) :
    splitLast 58 (J (init ++ [last])) = if init = [] then none else some (J init, last) := by
  unfold splitLast
  rw [splitOn_J (by simp) h, List.reverse_append]
  cases hr : init.reverse with
  | nil => simp [List.reverse_eq_nil_iff.mp hr]
  | cons x xs =>
    have : init ≠ [] := fun e => by simp [e] at hr
    simp only [List.reverse_cons, List.reverse_nil, List.nil_append, List.singleton_append, this, if_false]
    rw [← List.reverse_cons, ← hr, List.reverse_reverse]

theorem v4Ending_none (L : List (List Nat)) (hne : L ≠ []) (h : CleanChunks L) : v4Ending (J L) = .ok none := by
  rw [← List.dropLast_concat_getLast hne] at h ⊢
  unfold v4Ending dropFinalNewline
  dsimp only
  rw [splitLast_J _ _ fun c hc => (h c hc).1]
  by_cases hi : L.dropLast = []
  · simp [hi]
  · simp [hi, notDotted_of_noDot _ (h (L.getLast hne) (by simp)).2.1]

theorem ip6Canon_noempty (l : Nat) (cs : List (List Nat)) (b : Bool) (h : ∀ c ∈ cs, HexChunk c) :
    ip6Canon l cs b = some (cs.map pad4) := by
  induction cs with
  | nil => rfl
  | cons c rest ih =>
    obtain ⟨hne, hl, -⟩ := h c (by simp)
    simp [ip6Canon, hne, Nat.not_lt.mpr hl, ih (fun x hx => h x (by simp [hx]))]

theorem ip6Canon_one_empty (l : Nat) (P Q : List (List Nat)) (hP : ∀ c ∈ P, HexChunk c) (hQ : ∀ c ∈ Q, HexChunk c) :
    ip6Canon l (P ++ [] :: Q) false
      = some (P.map pad4 ++ (List.replicate (8 - l + 1) [48, 48, 48, 48] ++ Q.map pad4)) := by
  induction P with
  | nil => simp [ip6Canon, ip6Canon_noempty l Q true hQ]
  | cons c rest ih =>
    obtain ⟨hne, hl, -⟩ := hP c (by simp)
    simp [ip6Canon, hne, Nat.not_lt.mpr hl, ih (fun x hx => hP x (by simp [hx]))]

theorem contains_nil_of_mem (P Q : List (List Nat)) : (P ++ [] :: Q).contains [] = true := by
  simp

/-- a way of writing groups as chunks that `inet_aton` pads back to four digits: `chunkOf` (what `inet_ntoa` prints) and
`hex4` (what the dotted-quad rewrite inserts) -/
def ChunkPrinter (f : Nat → List Nat) : Prop := ∀ g < 65536, HexChunk (f g) ∧ pad4 (f g) = hex4 g

theorem chunkOf_printer : ChunkPrinter chunkOf := fun g hg => ⟨(chunkOf_spec g hg).1, (chunkOf_spec g hg).2.1⟩

theorem hex4_hexChunk (g : Nat) : HexChunk (hex4 g) := by
  refine ⟨by simp [hex4], by simp [hex4], ?_⟩
  intro x hx
  simp [hex4] at hx
  rcases hx with e | e | e | e <;> subst e <;> exact hexDigitLower_isHexL _ (by omega)

theorem hex4_printer : ChunkPrinter hex4 := fun g _ => ⟨hex4_hexChunk g, by simp [pad4, hex4]⟩

theorem hex4_zero : hex4 0 = [48, 48, 48, 48] := by decide

theorem ChunkPrinter.chunks {f : Nat → List Nat} (hf : ChunkPrinter f) {gs : List Nat} (hg : ∀ g ∈ gs, g < 65536) :
    ∀ c ∈ gs.map f, HexChunk c := by
  intro c hc
  obtain ⟨g, hgm, rfl⟩ := List.mem_map.mp hc
  exact (hf g (hg g hgm)).1

theorem ChunkPrinter.pad {f : Nat → List Nat} (hf : ChunkPrinter f) {gs : List Nat} (hg : ∀ g ∈ gs, g < 65536) :
    (gs.map f).map pad4 = gs.map hex4 := by
  rw [List.map_map]
  exact List.map_congr_left fun g hgm => (hf g (hg g hgm)).2

/-- split at the colons, pad, expand the empty chunk, decode -/
def atonSplit (t : Text) : Option Bytes :=
  let chunks := splitOn 58 t
  let l := chunks.length
  if l > 8 then none
  else match ip6Canon l chunks false with
    | none => none
    | some canonical =>
      if l < 8 ∧ !chunks.contains [] then none
      else unhexlify canonical.flatten

/-- after the dotted-quad rewrite one colon of a leading or trailing `::` goes, so that the split yields one empty chunk -/
def stripColon (t : Text) : Text :=
  if startsWith t [58, 58] then t.drop 1 else if ccEndMatch t then t.dropLast else t

/-- the guards of `inet_aton` pass when the text begins with a hex digit or `::` and ends with a hex digit or `::` -/
theorem ip6Aton_eq_split (t : Text) (hs : HexStart t ∨ startsWith t [58, 58] = true)
    (he : HexStart t.reverse ∨ endsWith t [58, 58] = true) (hne : t ≠ [58, 58]) :
    ip6Aton t = match v4Ending t with
      | .error _ => none
      | .ok m => atonSplit (stripColon (match m with | some t' => t' | none => t)) := by
  have h1 : t ≠ [] := by
    rcases hs with h | h
    · exact h.ne_nil
    · rintro rfl; exact absurd h (by decide)
  have h2 : (endsWith t [58] && !endsWith t [58, 58]) = false := by
    rcases he with h | h
    · rw [h.not_colon_end.1]; rfl
    · rw [h, Bool.not_true, Bool.and_false]
  have h3 : (startsWith t [58] && !startsWith t [58, 58]) = false := by
    rcases hs with h | h
    · rw [h.not_colon []]; rfl
    · rw [h, Bool.not_true, Bool.and_false]
  unfold ip6Aton stripColon atonSplit
  simp only [h1, h2, h3, hne, if_false, Bool.false_eq_true]
  cases v4Ending t with
  | error e => rfl
  | ok m => rfl

theorem atonSplit_plain {f : Nat → List Nat} (hf : ChunkPrinter f) {gs : List Nat} (hg : ∀ g ∈ gs, g < 65536)
    (hlen : gs.length = 8) : atonSplit (J (gs.map f)) = some (bytesOfGroups gs) := by
  have hc := hf.chunks hg
  unfold atonSplit
  rw [splitOn_J (List.ne_nil_of_length_pos (by simp [hlen])) fun c h => (hexChunk_clean c (hc c h)).1]
  simp [hlen, ip6Canon_noempty 8 _ false hc, hf.pad hg, unhexlify_groups gs hg]

theorem atonSplit_gap {f : Nat → List Nat} (hf : ChunkPrinter f) {P Q : List Nat} (hP : ∀ g ∈ P, g < 65536)
    (hQ : ∀ g ∈ Q, g < 65536) {n : Nat} (hn : P.length + n + Q.length = 8) (h0 : 0 < n) :
    atonSplit (J (P.map f ++ [] :: Q.map f)) = some (bytesOfGroups (P ++ (List.replicate n 0 ++ Q))) := by
  have hcP := hf.chunks hP
  have hcQ := hf.chunks hQ
  have hclean : CleanChunks (P.map f ++ [] :: Q.map f) := (hexChunks_clean _ hcP).append (hexChunks_clean _ hcQ).cons_nil
  have hg : ∀ g ∈ P ++ (List.replicate n 0 ++ Q), g < 65536 := by
    intro g hg
    simp only [List.mem_append, List.mem_replicate] at hg
    rcases hg with h | ⟨-, rfl⟩ | h
    · exact hP g h
    · decide
    · exact hQ g h
  unfold atonSplit
  rw [splitOn_J (by simp) fun c hc => (hclean c hc).1]
  have hl : (P.map f ++ [] :: Q.map f).length = P.length + 1 + Q.length := by simp; omega
  have hle : ¬ (P.length + 1 + Q.length > 8) := by omega
  simp only [hl, hle, if_false, ip6Canon_one_empty _ _ _ hcP hcQ, hf.pad hP, hf.pad hQ]
  -- the empty chunk stands for `8 - l + 1` groups, where `l` counts it
  rw [← unhexlify_groups _ hg, show 8 - (P.length + 1 + Q.length) + 1 = n by omega]
  simp [hex4_zero]

/-- a side of `::` as chunks of the join: an empty side stands for one empty chunk -/
def orEmpty (L : List (List Nat)) : List (List Nat) := if L = [] then [[]] else L

theorem orEmpty_of_ne_nil {L : List (List Nat)} (h : L ≠ []) : orEmpty L = L := if_neg h

theorem orEmpty_clean {L : List (List Nat)} (hL : ∀ c ∈ L, HexChunk c) : CleanChunks (orEmpty L) := by
  unfold orEmpty
  split
  · exact CleanChunks.nil.cons_nil
  · exact hexChunks_clean L hL

theorem gap_eq_J (ps qs : List (List Nat)) : J ps ++ [58, 58] ++ J qs = J (orEmpty ps ++ [] :: orEmpty qs) := by
  cases ps <;> cases qs <;> simp [orEmpty, J, joinWith_cons, joinWith]

theorem gap_start {ps : List (List Nat)} (hp : ∀ c ∈ ps, HexChunk c) (r : List Nat) :
    HexStart (J ps ++ [58, 58] ++ r) ∨ startsWith (J ps ++ [58, 58] ++ r) [58, 58] = true := by
  by_cases h : ps = []
  · subst h; exact .inr rfl
  · exact .inl (hexStart_append (hexStart_append (J_hexStart h hp) _) _)

theorem gap_end {qs : List (List Nat)} (hq : ∀ c ∈ qs, HexChunk c) (l : List Nat) :
    HexStart (l ++ [58, 58] ++ J qs).reverse ∨ endsWith (l ++ [58, 58] ++ J qs) [58, 58] = true := by
  by_cases h : qs = []
  · subst h; exact .inr (by simp [endsWith, startsWith, J, joinWith])
  · exact .inl (by rw [List.reverse_append]; exact hexStart_append (J_hexEnd_chunks h hq) _)

theorem stripColon_hex {t : Text} (hs : HexStart t) (he : HexStart t.reverse) : stripColon t = t := by
  rw [stripColon, hs.not_colon [58], if_neg Bool.false_ne_true, ccEndMatch, dropFinalNewline,
    he.not_colon_end.2, Bool.false_and, if_neg Bool.false_ne_true]

/-- whichever colon is dropped, what is split has the single empty chunk between the two sides -/
theorem stripColon_gap {ps qs : List (List Nat)} (hp : ∀ c ∈ ps, HexChunk c) (hq : ∀ c ∈ qs, HexChunk c)
    (hne : ps ≠ [] ∨ qs ≠ []) : stripColon (J ps ++ [58, 58] ++ J qs) = J (ps ++ [] :: qs) := by
  rcases ps with _ | ⟨p, ps⟩
  · -- `::` leads: the first colon goes
    obtain ⟨q, qs, rfl⟩ := List.exists_cons_of_ne_nil (hne.resolve_left (fun h => h rfl))
    rfl
  · have hs := hexStart_append (hexStart_append (J_hexStart (List.cons_ne_nil p ps) hp) [58, 58]) (J qs)
    rcases qs with _ | ⟨q, qs⟩
    · -- `::` trails: the last colon goes
      have h10 := J_contains10 _ ((orEmpty_clean hp).append (orEmpty_clean hq).cons_nil)
      rw [← gap_eq_J] at h10
      have hcc : ccEndMatch (J (p :: ps) ++ [58, 58] ++ J []) = true := by
        simp only [ccEndMatch, dropFinalNewline, h10]
        simp [endsWith, startsWith, J, joinWith]
      rw [stripColon, hs.not_colon [58], if_neg Bool.false_ne_true, hcc, if_pos rfl,
        show J (p :: ps) ++ [58, 58] ++ J [] = (J (p :: ps) ++ [58]) ++ [58] by simp [J, joinWith],
        List.dropLast_concat, J_append (by simp) (by simp)]
      rfl
    · rw [stripColon_hex hs (by rw [List.reverse_append]; exact hexStart_append (J_hexEnd_chunks (by simp) hq) _), gap_eq_J]
      rfl

theorem aton_plain {f : Nat → List Nat} (hf : ChunkPrinter f) {gs : List Nat} (hg : ∀ g ∈ gs, g < 65536)
    (hlen : gs.length = 8) : ip6Aton (J (gs.map f)) = some (bytesOfGroups gs) := by
  have hc := hf.chunks hg
  have hne : gs.map f ≠ [] := List.ne_nil_of_length_pos (by simp [hlen])
  have hs := J_hexStart hne hc
  have he := J_hexEnd_chunks hne hc
  rw [ip6Aton_eq_split _ (.inl hs) (.inl he) hs.ne_cc, v4Ending_none _ hne (hexChunks_clean _ hc)]
  dsimp only
  rw [stripColon_hex hs he, atonSplit_plain hf hg hlen]

/-- either side may be empty -/
theorem aton_compressed {f : Nat → List Nat} (hf : ChunkPrinter f) {P Q : List Nat} (hP : ∀ g ∈ P, g < 65536)
    (hQ : ∀ g ∈ Q, g < 65536) {n : Nat} (hn : P.length + n + Q.length = 8) (hn0 : 0 < n) :
    ip6Aton (J (P.map f) ++ [58, 58] ++ J (Q.map f)) = some (bytesOfGroups (P ++ (List.replicate n 0 ++ Q))) := by
  by_cases h0 : P = [] ∧ Q = []
  · obtain ⟨rfl, rfl⟩ := h0
    obtain rfl : n = 8 := by simpa using hn
    exact (by decide : ip6Aton [58, 58] = some (List.replicate 16 0))
  · have hcP := hf.chunks hP
    have hcQ := hf.chunks hQ
    have hne : J (P.map f) ++ [58, 58] ++ J (Q.map f) ≠ [58, 58] := by
      by_cases hp : P = []
      · subst hp
        have hq := J_hexStart (L := Q.map f) (by simpa using fun hq => h0 ⟨rfl, hq⟩) hcQ
        exact fun e => hq.ne_nil (by simpa [J, joinWith] using e)
      · exact (hexStart_append (hexStart_append (J_hexStart (by simpa using hp) hcP) _) _).ne_cc
    rw [ip6Aton_eq_split _ (gap_start hcP _) (gap_end hcQ _) hne,
      show v4Ending (J (P.map f) ++ [58, 58] ++ J (Q.map f)) = .ok none by
      rw [gap_eq_J]; exact v4Ending_none _ (by simp) ((orEmpty_clean hcP).append (orEmpty_clean hcQ).cons_nil)]
    dsimp only
    rw [stripColon_gap hcP hcQ (by simpa using Decidable.not_and_iff_not_or_not.mp h0), atonSplit_gap hf hP hQ hn hn0]

theorem hex2_pair (g : Nat) : hex2 (g / 256) ++ hex2 (g % 256) = hex4 g := by
  have e1 : g / 256 / 16 % 16 = g / 4096 % 16 := by omega
  have e3 : g % 256 / 16 % 16 = g / 16 % 16 := by omega
  have e4 : g % 256 % 16 = g % 16 := by omega
  simp only [hex2, hex4, List.cons_append, List.nil_append, e1, e3, e4]

/-- the dotted quad that stands for the groups `g`, `h` -/
def quadOfGroups (g h : Nat) : List Nat := v4Text (g / 256) (g % 256) (h / 256) (h % 256)

theorem quadOfGroups_hexEnd (g h : Nat) : HexStart (quadOfGroups g h).reverse := by
  have : ∀ a b c d, v4Text a b c d = (natToDec a ++ 46 :: (natToDec b ++ 46 :: (natToDec c ++ [46]))) ++ natToDec d := by
    simp [v4Text]
  rw [quadOfGroups, this, List.reverse_append]
  refine hexStart_append (hexStart_of_all (by simpa using natToDec_ne_nil _) fun x hx => ?_) _
  have := natToDec_digits _ x (List.mem_reverse.mp hx)
  simp [isHexL]; omega

/-- `_v4_ending`: the dotted quad after the last colon is replaced by its two groups -/
theorem v4Ending_quad (L : List (List Nat)) (hne : L ≠ []) (hL : CleanChunks L) (g h : Nat) (hg : g < 65536) (hh : h < 65536) :
    v4Ending (J (L ++ [quadOfGroups g h])) = .ok (some (J (L ++ [hex4 g, hex4 h]))) := by
  have v58 : 58 ∉ quadOfGroups g h := fun hm => by rcases v4Text_chars _ _ _ _ 58 hm with e | e <;> omega
  have vdot : isDottedQuadShape (quadOfGroups g h) = true := by
    unfold isDottedQuadShape quadOfGroups
    rw [splitOn_v4Text]
    simp [natToDec_all_isDigit, natToDec_isEmpty]
  have vaton := ip4Aton_v4Text (g / 256) (g % 256) (h / 256) (h % 256) (by omega) (by omega) (by omega) (by omega)
  rw [← quadOfGroups] at vaton
  unfold v4Ending dropFinalNewline
  dsimp only
  rw [splitLast_J L _ fun c hc => (List.mem_append.mp hc).elim (fun h => (hL c h).1) fun h => List.mem_singleton.mp h ▸ v58,
    if_neg hne]
  simp only [J_contains10 L hL, vdot, vaton, Bool.false_eq_true, if_false, Bool.not_true]
  rw [hex2_pair g, hex2_pair h, J_append hne (by simp)]
  rfl

/-- a dotted quad for the last two groups, after `::` and further chunks; `::a.b.c.d` and `::ffff:a.b.c.d` are the forms
`inet_ntoa` prints -/
theorem aton_embedded {P C : List Nat} (hP : ∀ g ∈ P, g < 65536) (hC : ∀ g ∈ C, g < 65536) {n : Nat}
    (hn : P.length + n + (C.length + 2) = 8) (h0 : 0 < n) {g h : Nat} (hg : g < 65536) (hh : h < 65536) :
    ip6Aton (J (P.map hex4) ++ [58, 58] ++ J (C.map hex4 ++ [quadOfGroups g h])) =
      some (bytesOfGroups (P ++ (List.replicate n 0 ++ (C ++ [g, h])))) := by
  have hcP := hex4_printer.chunks hP
  have he : HexStart (J (P.map hex4) ++ [58, 58] ++ J (C.map hex4 ++ [quadOfGroups g h])).reverse := by
    rw [List.reverse_append]; exact hexStart_append (J_hexEnd _ _ (quadOfGroups_hexEnd g h)) _
  have hQ : ∀ x ∈ C ++ [g, h], x < 65536 := by
    intro x hx
    simp only [List.mem_append, List.mem_cons, List.mem_nil_iff, or_false] at hx
    rcases hx with hx | rfl | rfl
    · exact hC x hx
    · exact hg
    · exact hh
  rw [ip6Aton_eq_split _ (gap_start hcP _) (.inl he)
      (fun e => absurd (e ▸ he.not_colon_end.1) (by decide)),
    -- the quad is the last chunk of the join, the rewrite puts two chunks in its place
    gap_eq_J, orEmpty_of_ne_nil (L := C.map hex4 ++ [quadOfGroups g h]) (by simp), ← List.cons_append, ← List.append_assoc,
    v4Ending_quad _ (by simp) ((orEmpty_clean hcP).append (hexChunks_clean _ (hex4_printer.chunks hC)).cons_nil) g h hg hh]
  have e : J ((orEmpty (P.map hex4) ++ [] :: C.map hex4) ++ [hex4 g, hex4 h]) =
      J (P.map hex4) ++ [58, 58] ++ J ((C ++ [g, h]).map hex4) := by
    rw [gap_eq_J, orEmpty_of_ne_nil (L := (C ++ [g, h]).map hex4) (by simp), List.map_append, List.append_assoc,
      List.cons_append]
    rfl
  dsimp only
  rw [e, stripColon_gap hcP (hex4_printer.chunks hQ) (.inr (by simp)), atonSplit_gap hex4_printer hP hQ (by simpa using hn) h0]

end Model
