import Proofs.BTreeZoneOrder
/-!
The sorted stores of the C20 model (`nget`/`nins`/`ndel` on nodes, `dmem`/`dins`/`ddel` on the delegation
index) as finite maps: pointwise characterisations, preservation of sortedness, and the refinement of the
cursor walks (`takeWhile`/`dropWhile` on a sorted list) to filters.  A node store is well-formed iff its list of
keys is a well-formed index, and `nins`/`ndel` act on the keys as `dins`/`ddel` do, so sortedness is proved
for the index only.
-/
namespace Model
namespace BTZ

/-- well-formed node store: strictly sorted in canonical order, lower-case keys -/
def NWF (l : Nodes) : Prop := l.Pairwise (fun e f => cmpOrder e.1 f.1 < 0) ∧ ∀ e ∈ l, LC e.1

/-- well-formed index -/
def DWF (l : List Name) : Prop := l.Pairwise (fun a b => cmpOrder a b < 0) ∧ ∀ a ∈ l, LC a

theorem NWF_iff_keys {l : Nodes} : NWF l ↔ DWF (l.map (·.1)) := by
  unfold NWF DWF
  rw [List.pairwise_map, List.forall_mem_map]

theorem DWF_nil : DWF [] := ⟨List.Pairwise.nil, by simp⟩
theorem NWF_nil : NWF [] := ⟨List.Pairwise.nil, by simp⟩

theorem DWF_sublist {l l' : List Name} (hs : l'.Sublist l) (h : DWF l) : DWF l' :=
  ⟨h.1.sublist hs, fun a ha => h.2 a (hs.subset ha)⟩

theorem NWF_sublist {l l' : Nodes} (hs : l'.Sublist l) (h : NWF l) : NWF l' :=
  NWF_iff_keys.mpr (DWF_sublist (hs.map _) (NWF_iff_keys.mp h))

theorem NWF_of_keys_eq {l l' : Nodes} (hk : l'.map (·.1) = l.map (·.1)) (h : NWF l) : NWF l' := by
  rw [NWF_iff_keys] at h ⊢; rwa [hk]

theorem NWF_tail {e : Name × Node} {r : Nodes} (h : NWF (e :: r)) : NWF r := NWF_sublist (List.sublist_cons_self e r) h

theorem DWF_ddel {l : List Name} {k : Name} (h : DWF l) : DWF (ddel l k) := DWF_sublist List.filter_sublist h

theorem NWF_ndel {l : Nodes} {k : Name} (h : NWF l) : NWF (ndel l k) := NWF_sublist List.filter_sublist h

theorem NWF_map {l : Nodes} (f : Name × Node → Node) (h : NWF l) : NWF (l.map fun e => (e.1, f e)) :=
  NWF_of_keys_eq (by rw [List.map_map]; rfl) h

theorem dmem_iff {l : List Name} (hl : ∀ a ∈ l, LC a) {k : Name} (hk : LC k) : dmem l k = true ↔ k ∈ l := by
  unfold dmem
  rw [List.any_eq_true]
  constructor
  · rintro ⟨a, ha, he⟩
    rw [(nameEq_eq (hl a ha) hk).mp he] at ha; exact ha
  · intro h; exact ⟨k, h, (nameEq_eq hk hk).mpr rfl⟩

theorem mem_dins {l : List Name} {k a : Name} (hl : ∀ a ∈ l, LC a) (hk : LC k) :
    a ∈ dins l k ↔ a = k ∨ a ∈ l := by
  induction l with
  | nil => simp [dins]
  | cons e r ih =>
    simp only [dins]
    split
    · simp
    · split
      · rename_i _ heq
        rw [(cmpOrder_eq_zero hk (hl e List.mem_cons_self)).mp (by simpa using heq)]
        simp
      · simp only [List.mem_cons, ih (fun a ha => hl a (List.mem_cons_of_mem _ ha))]
        exact or_left_comm

theorem DWF_dins {l : List Name} {k : Name} (h : DWF l) (hk : LC k) : DWF (dins l k) := by
  refine ⟨?_, fun a ha => ?_⟩
  · induction l with
    | nil => simp [dins]
    | cons e r ih =>
      have hp := List.pairwise_cons.mp h.1
      simp only [dins]
      split
      · rename_i hlt
        refine List.pairwise_cons.mpr ⟨fun a ha => ?_, h.1⟩
        rcases List.mem_cons.mp ha with rfl | ha
        · exact hlt
        · exact NameOrder.cmpOrder_lt_trans hlt (hp.1 a ha)
      · split
        · rename_i _ heq
          rw [(cmpOrder_eq_zero hk (h.2 e List.mem_cons_self)).mp (by simpa using heq)]
          exact h.1
        · rename_i hlt heq
          have hgt : cmpOrder e k < 0 := by
            have h1 : cmpOrder k e ≠ 0 := by simpa using heq
            exact cmpOrder_gt_iff.mp (by omega)
          have hr := DWF_sublist (List.sublist_cons_self e r) h
          refine List.pairwise_cons.mpr ⟨fun a ha => ?_, ih hr⟩
          rcases (mem_dins hr.2 hk).mp ha with rfl | ha
          · exact hgt
          · exact hp.1 a ha
  · rcases (mem_dins h.2 hk).mp ha with rfl | ha
    · exact hk
    · exact h.2 a ha

theorem mem_ddel {l : List Name} {k a : Name} (hl : ∀ a ∈ l, LC a) (hk : LC k) :
    a ∈ ddel l k ↔ a ∈ l ∧ a ≠ k := by
  unfold ddel
  rw [List.mem_filter, and_congr_right_iff]
  intro ha
  rw [Bool.not_eq_true', ← Bool.not_eq_true, nameEq_eq (hl a ha) hk]

theorem DWF.nodup {l : List Name} (h : DWF l) : l.Nodup :=
  h.1.imp fun hab e => by rw [e, NameOrder.cmpOrder_self] at hab; exact absurd hab (by decide)

theorem DWF_ext {l₁ l₂ : List Name} (h₁ : DWF l₁) (h₂ : DWF l₂) (h : ∀ a, a ∈ l₁ ↔ a ∈ l₂) : l₁ = l₂ :=
  List.Perm.eq_of_pairwise (le := fun a b => cmpOrder a b < 0)
    (fun a _ _ _ hab hba => by have := NameOrder.cmpOrder_lt_trans hab hba; rw [NameOrder.cmpOrder_self a] at this; cases this)
    h₁.1 h₂.1 ((List.perm_ext_iff_of_nodup h₁.nodup h₂.nodup).mpr h)

theorem foldl_dins {d : List Name} {l : Nodes} (hd : DWF d) (hl : ∀ e ∈ l, LC e.1) :
    DWF (l.foldl (fun d e => dins d e.1) d) ∧
    ∀ a, a ∈ l.foldl (fun d e => dins d e.1) d ↔ a ∈ d ∨ ∃ e ∈ l, e.1 = a := by
  induction l generalizing d with
  | nil => exact ⟨hd, by simp⟩
  | cons e r ih =>
    have he := hl e List.mem_cons_self
    obtain ⟨h1, h2⟩ := ih (DWF_dins hd he) (fun x hx => hl x (List.mem_cons_of_mem _ hx))
    refine ⟨h1, fun a => ?_⟩
    rw [List.foldl_cons, h2, mem_dins hd.2 he]
    simp only [List.mem_cons, exists_eq_or_imp, eq_comm (a := a), or_assoc, or_left_comm]

theorem keys_nins (l : Nodes) (k : Name) (v : Node) : (nins l k v).map (·.1) = dins (l.map (·.1)) k := by
  induction l with
  | nil => rfl
  | cons e r ih =>
    simp only [nins, List.map_cons, dins]
    split
    · rfl
    · split
      · rfl
      · rw [List.map_cons, ih]

theorem NWF_nins {l : Nodes} {k : Name} {v : Node} (h : NWF l) (hk : LC k) : NWF (nins l k v) := by
  rw [NWF_iff_keys, keys_nins]; exact DWF_dins (NWF_iff_keys.mp h) hk

theorem nget_nil (k : Name) : nget [] k = none := rfl

theorem nget_cons {e : Name × Node} {r : Nodes} {k : Name} (he : LC e.1) (hk : LC k) :
    nget (e :: r) k = if e.1 = k then some e.2 else nget r k := by
  unfold nget
  rw [List.find?_cons]
  by_cases h : e.1 = k
  · simp [h, (nameEq_eq hk hk).mpr rfl]
  · simp [h, mt (nameEq_eq he hk).mp h]

theorem nget_none_iff {l : Nodes} (hl : ∀ e ∈ l, LC e.1) {k : Name} (hk : LC k) :
    nget l k = none ↔ ∀ e ∈ l, e.1 ≠ k := by
  induction l with
  | nil => simp [nget_nil]
  | cons e r ih =>
    rw [nget_cons (hl e List.mem_cons_self) hk]
    have ih' := ih (fun a ha => hl a (List.mem_cons_of_mem _ ha))
    by_cases h : e.1 = k
    · simp [h]
    · simp [h, ih']

theorem mem_iff_nget {l : Nodes} (h : NWF l) {k : Name} {v : Node} (hk : LC k) :
    (k, v) ∈ l ↔ nget l k = some v := by
  induction l with
  | nil => simp [nget_nil]
  | cons e r ih =>
    rw [nget_cons (h.2 e List.mem_cons_self) hk, List.mem_cons, ih (NWF_tail h)]
    by_cases he : e.1 = k
    · -- the key of the head does not occur again
      have hr : nget r k = none := by
        rw [nget_none_iff (NWF_tail h).2 hk, ← he]
        intro f hf e'
        have := (List.pairwise_cons.mp h.1).1 f hf
        rw [e', NameOrder.cmpOrder_self] at this
        exact absurd this (by decide)
      simp only [he, if_true, hr, reduceCtorEq, or_false, Option.some.injEq]
      exact ⟨fun e' => by rw [← e'], fun e' => Prod.ext he.symm e'.symm⟩
    · simp only [he, if_false, or_iff_right_iff_imp]
      intro e'; exact absurd (e' ▸ rfl) he

theorem mem_nget {l : Nodes} (h : NWF l) {k : Name} {v : Node} (hm : (k, v) ∈ l) : nget l k = some v :=
  (mem_iff_nget h (h.2 _ hm)).mp hm

theorem nget_some_mem {l : Nodes} {k : Name} {v : Node} (h : NWF l) (hk : LC k) (hg : nget l k = some v) : (k, v) ∈ l :=
  (mem_iff_nget h hk).mpr hg

theorem nget_nins {l : Nodes} {k k' : Name} {v : Node} (h : NWF l) (hk : LC k) (hk' : LC k') :
    nget (nins l k v) k' = if k' = k then some v else nget l k' := by
  have hnew : ∀ r : Nodes, nget ((k, v) :: r) k' = if k' = k then some v else nget r k' := fun r => by
    rw [nget_cons (e := (k, v)) hk hk']; simp only [eq_comm]
  induction l with
  | nil => exact hnew []
  | cons e r ih =>
    have he : LC e.1 := h.2 e List.mem_cons_self
    simp only [nins]
    split
    · exact hnew _
    · split
      · -- the head is replaced: it has the key `k`
        rename_i _ heq
        have hke : k = e.1 := (cmpOrder_eq_zero hk he).mp (by simpa using heq)
        rw [hnew, nget_cons he hk', ← hke]
        by_cases hkk : k' = k
        · simp [hkk]
        · simp [hkk, Ne.symm hkk]
      · rename_i _ heq
        have hne : e.1 ≠ k := fun e' => heq (by rw [← e']; simp [NameOrder.cmpOrder_self])
        rw [nget_cons he hk', ih (NWF_tail h), nget_cons he hk']
        split
        · rename_i hkk; simp [← hkk, hne]
        · rfl

theorem nget_ndel {l : Nodes} {k k' : Name} (h : NWF l) (hk : LC k) (hk' : LC k') :
    nget (ndel l k) k' = if k' = k then none else nget l k' := by
  refine Option.ext fun x => ?_
  rw [← mem_iff_nget (NWF_ndel h) hk', ndel, List.mem_filter, mem_iff_nget h hk', Bool.not_eq_true',
    ← Bool.not_eq_true, nameEq_eq hk' hk]
  split <;> simp [*]

theorem nget_map' {l : Nodes} (f : Name × Node → Node) {k : Name} (h : NWF l) (hk : LC k) :
    nget (l.map fun e => (e.1, f e)) k = (nget l k).map (fun nd => f (k, nd)) := by
  refine Option.ext fun x => ?_
  rw [← mem_iff_nget (NWF_map f h) hk, List.mem_map, Option.map_eq_some_iff]
  constructor
  · rintro ⟨e, he, heq⟩
    injection heq with h1 h2
    exact ⟨e.2, (mem_iff_nget h hk).mp (h1 ▸ he), h1 ▸ h2⟩
  · rintro ⟨nd, hg, hx⟩
    exact ⟨(k, nd), (mem_iff_nget h hk).mpr hg, by rw [hx]⟩

/-- the node at `name` set to `r` (`none`: removed) -/
def nset (N : Nodes) (name : Name) : Option Node → Nodes
  | some nd => nins N name nd
  | none => ndel N name

theorem nget_nset {N : Nodes} {name k : Name} {r : Option Node} (h : NWF N) (hn : LC name) (hk : LC k) :
    nget (nset N name r) k = if k = name then r else nget N k := by
  cases r
  · exact nget_ndel h hn hk
  · exact nget_nins h hn hk

theorem NWF_nset {N : Nodes} {name : Name} {r : Option Node} (h : NWF N) (hn : LC name) : NWF (nset N name r) := by
  cases r
  · exact NWF_ndel h
  · exact NWF_nins h hn

theorem takeWhile_eq_filter {α} {R : α → α → Prop} {p : α → Bool} {l : List α}
    (hs : l.Pairwise R) (hp : ∀ a ∈ l, ∀ b ∈ l, R a b → p b = true → p a = true) :
    l.takeWhile p = l.filter p ∧ l.dropWhile p = l.filter (fun a => !p a) := by
  induction l with
  | nil => simp
  | cons a r ih =>
    have hc := List.pairwise_cons.mp hs
    have ih' := ih hc.2 (fun x hx y hy => hp x (List.mem_cons_of_mem _ hx) y (List.mem_cons_of_mem _ hy))
    by_cases h : p a = true
    · simp [h, ih'.1, ih'.2]
    · have hf : p a = false := by simpa using h
      have hall : ∀ b ∈ r, p b = false := fun b hb =>
        Bool.eq_false_iff.mpr fun hh => h (hp a List.mem_cons_self b (List.mem_cons_of_mem _ hb) (hc.1 b hb) hh)
      have e1 : r.filter p = [] := by
        rw [List.filter_eq_nil_iff]; intro b hb; simp [hall b hb]
      have e2 : r.filter (fun a => !p a) = r := by
        rw [List.filter_eq_self]; intro b hb; simp [hall b hb]
      simp [hf, e1, e2]

/-- a cursor walk "while not after `t`" on a list sorted by the key `key` -/
theorem takeWhile_le {α} (key : α → Name) {l : List α} (hs : l.Pairwise fun a b => cmpOrder (key a) (key b) < 0)
    (t : Name) :
    l.takeWhile (fun e => decide (cmpOrder (key e) t ≤ 0)) = l.filter (fun e => decide (cmpOrder (key e) t ≤ 0)) ∧
    l.dropWhile (fun e => decide (cmpOrder (key e) t ≤ 0)) = l.filter (fun e => !decide (cmpOrder (key e) t ≤ 0)) :=
  takeWhile_eq_filter hs fun a _ b _ hab hb => by
    simp only [decide_eq_true_eq] at hb ⊢
    exact Int.le_of_lt (NameOrder.cmpOrder_lt_of_lt_of_le hab hb)

/-- the last element of a list sorted by the key `key` is its greatest -/
theorem getLast?_eq_some_iff {α} (key : α → Name) {l : List α}
    (hs : l.Pairwise fun a b => cmpOrder (key a) (key b) < 0) {x : α} :
    l.getLast? = some x ↔ x ∈ l ∧ ∀ y ∈ l, cmpOrder (key y) (key x) ≤ 0 := by
  constructor
  · intro h
    obtain ⟨ys, rfl⟩ := List.getLast?_eq_some_iff.mp h
    refine ⟨by simp, fun y hy => ?_⟩
    rcases List.mem_append.mp hy with hy | hy
    · exact Int.le_of_lt ((List.pairwise_append.mp hs).2.2 y hy x (by simp))
    · rw [List.mem_singleton.mp hy, NameOrder.cmpOrder_self]; exact Int.le_refl 0
  · rintro ⟨hx, hmax⟩
    cases hl : l.getLast? with
    | none => rw [List.getLast?_eq_none_iff.mp hl] at hx; cases hx
    | some z =>
      obtain ⟨ys, rfl⟩ := List.getLast?_eq_some_iff.mp hl
      rcases List.mem_append.mp hx with hx | hx
      · -- an element before the last is strictly smaller
        have := NameOrder.cmpOrder_lt_of_lt_of_le ((List.pairwise_append.mp hs).2.2 x hx z (by simp)) (hmax z (by simp))
        rw [NameOrder.cmpOrder_self] at this; cases this
      · rw [List.mem_singleton.mp hx]

/-- the greatest element not after `t` of a list sorted by the key `key` -/
theorem last_le_iff {α} (key : α → Name) {l : List α} (hs : l.Pairwise fun a b => cmpOrder (key a) (key b) < 0)
    (t : Name) {x : α} :
    (l.filter (fun e => decide (cmpOrder (key e) t ≤ 0))).getLast? = some x ↔
      x ∈ l ∧ cmpOrder (key x) t ≤ 0 ∧ ∀ y ∈ l, cmpOrder (key y) t ≤ 0 → cmpOrder (key y) (key x) ≤ 0 := by
  simp only [getLast?_eq_some_iff key (hs.filter _), List.mem_filter, decide_eq_true_eq, and_assoc, and_imp]

/-- the first element of a sorted list that satisfies `p` is the least one -/
theorem find?_min {l : List Name} (hs : l.Pairwise (fun a b => cmpOrder a b < 0)) {p : Name → Bool} {r : Name}
    (h : l.find? p = some r) : r ∈ l ∧ p r = true ∧ ∀ w ∈ l, p w = true → cmpOrder r w ≤ 0 := by
  obtain ⟨hp, as, bs, rfl, has⟩ := List.find?_eq_some_iff_append.mp h
  refine ⟨by simp, hp, fun w hw hpw => ?_⟩
  rcases List.mem_append.mp hw with hw | hw
  · have := has w hw
    rw [hpw] at this; cases this
  · rcases List.mem_cons.mp hw with rfl | hw
    · rw [NameOrder.cmpOrder_self]; exact Int.le_refl 0
    · exact Int.le_of_lt ((List.pairwise_cons.mp (List.pairwise_append.mp hs).2.1).1 w hw)

end BTZ
end Model
