import Proofs.RenderShape
/-! Padding: the length of the rendered OPT record equals the reserve plus the padding, and the TSIG record has
exactly the reserved length, so that the message ends on a multiple of the block size. -/
namespace Model

/-- only suffixes of more than one label are ever remembered in the compression table -/
def KeysLong (t : CTable) : Prop := ∀ p ∈ t, 1 < p.1.length

theorem KeysLong.append {a b : CTable} (ha : KeysLong a) (hb : KeysLong b) : KeysLong (a ++ b) := by
  intro p hp
  rcases List.mem_append.mp hp with h | h
  · exact ha p h
  · exact hb p h

theorem KeysLong.filter {t : CTable} (hk : KeysLong t) (f : Name × Nat → Bool) : KeysLong (t.filter f) := by
  intro p hp
  exact hk p (List.mem_filter.mp hp).1

theorem cLoop_plain (off : Nat) (t : CTable) (n : Name) (h : ∀ p ∈ t, n.length < p.1.length) :
    (cLoop off t n).1 = toWire n := by
  obtain ⟨front, back, tail, rfl, hext, hback, _⟩ := cLoop_spec off t n
  rcases hback with ⟨rfl, rfl⟩ | ⟨pos, _, hget, _⟩
  · rw [hext, List.append_nil, List.append_nil]
  · -- a hit would be an entry with as many labels as `back`
    obtain ⟨p, hp, _, hlow⟩ := ctGet_some hget
    have := h p hp
    rw [lowerName_length _ _ hlow, List.length_append] at this
    omega

theorem nameExt_plain {off : Nat} {t : CTable} {n : Name} {origin : Option Name} {q : Bytes × CTable}
    (hn : isAbs n = true) (ht : ∀ p ∈ t, n.length < p.1.length) (h : nameExt off t n origin = some q) :
    q.1 = toWire n := by
  cases (nameExt_abs off t n hn origin).symm.trans h
  exact cLoop_plain off t n ht

theorem rrsetExt_raw_length {off : Nat} {t : CTable} {origin : Option Name} {r : RRset} {body : Bytes}
    {q : Bytes × CTable × Nat} (hr : r.rdatas = [.raw body]) (hn : isAbs r.name = true)
    (ht : ∀ p ∈ t, r.name.length < p.1.length) (h : rrsetExt off t origin r = .ok q) :
    q.1.length = (toWire r.name).length + 10 + body.length := by
  obtain ⟨q1, h1, _, rfl⟩ := rrsetExt_raw_ok hr h
  simp only [List.length_append, nameExt_plain hn ht h1, u16_length, u32_length]

/-- the padding `add_opt` computes brings the size it was computed from up to a multiple of the block -/
theorem padLen_mod (len pad a b : Nat) (hp : pad ≠ 0) : (len + a + b + padLen len pad a b) % pad = 0 := by
  unfold padLen
  by_cases h : (len + a + b) % pad = 0
  · simp [h]
  · simp only [ne_eq, h, not_false_eq_true, if_true]
    have h1 : (len + a + b) % pad < pad := Nat.mod_lt _ (by omega)
    have h2 := Nat.div_add_mod (len + a + b) pad
    have : len + a + b + (pad - (len + a + b) % pad) = pad * ((len + a + b) / pad + 1) := by
      rw [Nat.mul_succ]; omega
    rw [this, Nat.mul_mod_right]

theorem opt_consts : ConstsC03.optBase = 11 ∧ ConstsC03.optHdr = 4 := by decide

/-- the padded OPT record (root owner, never a table key) is as long as the record with an empty PADDING option, which
is what `_compute_opt_reserve` reserves, plus the padding -/
theorem rrsetExt_padded_length {off : Nat} {t : CTable} {origin : Option Name} {o : EOpt} {len pad a b : Nat}
    {p : Bytes × CTable × Nat} (hk : KeysLong t) (hpad : pad ≠ 0)
    (h : rrsetExt off t origin (optRRset (o.padded len pad a b)) = .ok p) :
    p.1.length = 11 + (o.options.map fun x => x.2.length + 4).sum + 4 + padLen len pad a b := by
  have hl := rrsetExt_raw_length (r := optRRset _) rfl rfl (fun x hx => hk x hx) h
  simp only [EOpt.padded, if_pos hpad, optionsWire_append, optionsWire_length, List.length_append, List.map_cons,
    List.map_nil, List.sum_cons, List.sum_nil, optRRset, toWire, List.flatMap_cons, List.flatMap_nil, List.length_cons,
    List.length_nil, List.length_replicate] at hl
  omega

/-- one record with opaque RDATA and an owner the table cannot shorten, as a run of `itemsExt` -/
theorem itemsExt_raw_length {origin : Option Name} {off : Nat} {t : CTable} {sec : Nat} {r : RRset} {body : Bytes}
    {q : Bytes × CTable} (hr : r.rdatas = [.raw body]) (hn : isAbs r.name = true)
    (ht : ∀ p ∈ t, r.name.length < p.1.length) (h : itemsExt origin off t [.rr sec r] = .ok q) :
    q.1.length = (toWire r.name).length + 10 + body.length := by
  obtain ⟨p, _, hp, hnil, rfl⟩ := itemsExt_cons_ok h
  cases hnil
  simpa using rrsetExt_raw_length hr hn ht hp

theorem toWire_pad (m : Message) (lim : Nat) (pt : Bool) (w : Bytes) (o : EOpt)
    (hopt : m.opt = some o) (hpad : m.pad ≠ 0) (h : m.toWire lim pt = .ok w) :
    w.length % m.pad = 0 := by
  obtain ⟨r, hr, rfl⟩ := toWire_ok_iff.mp h
  obtain ⟨k, fl, b, opt', q, qo, qt, hR, -⟩ := render_ok hr
  -- the OPT record: the reserve, plus `padLen` octets (the table only has keys of the items)
  have hqo := hR.opt.ext
  rw [hR.pad, hopt] at hqo
  obtain ⟨p, _, hp, hnil, rfl⟩ := itemsExt_cons_ok hqo
  cases hnil
  have lo := rrsetExt_padded_length
    (fun x hx => ((newIn_spec _).items (fun it _ => it.namesAll_true) hR.items.ext x hx).2.2) hpad hp
  -- the TSIG record, against an empty table, has exactly the reserved size
  have lt : qt.1.length = b := by
    have hqt := hR.tsig.ext
    have hb := hR.res
    cases hts : m.tsig with
    | none =>
      rw [hts] at hqt
      cases hqt
      simp only [Message.tsigReserve, hts, Except.ok.injEq] at hb
      exact hb
    | some t =>
      rw [hts] at hqt
      obtain ⟨habs, rfl⟩ := tsigReserve_some hts hb
      exact itemsExt_raw_length (r := tsigRRset t) rfl habs (fun _ hp => by cases hp) hqt
  obtain ⟨c1, c2⟩ := opt_consts
  have hres : m.optReserve = 11 + (o.options.map fun p => p.2.length + 4).sum + 4 := by
    simp [Message.optReserve, hopt, hpad, c1, c2]
  have hp := padLen_mod (12 + q.1.length) m.pad m.optReserve b hpad
  rw [hR.out]
  simp only [List.length_append, hdrOf_length, List.append_nil] at lo ⊢
  rw [show 12 + q.1.length + p.1.length + qt.1.length
    = 12 + q.1.length + m.optReserve + b + padLen (12 + q.1.length) m.pad m.optReserve b by omega]
  exact hp

theorem toWire_pad_no_tsig (m : Message) (lim : Nat) (pt : Bool) (w : Bytes) (o : EOpt)
    (hopt : m.opt = some o) (hpad : m.pad ≠ 0) (hts : m.tsig = none) (h : m.toWire lim pt = .ok w) :
    w.length % m.pad = 0 :=
  toWire_pad m lim pt w o hopt hpad h

/-! ### the `Renderer` object route: `add_opt(opt, pad, opt_size, tsig_size)`, `write_header`, then `add_tsig` /
`add_multi_tsig` (`_write_tsig`) -/

/-- holds when the caller hands `add_opt` the exact sizes (the OPT record with an empty PADDING option, the TSIG record
with an uncompressed owner) — whatever the compression table holds, in particular when the key name shares a suffix
with a rendered name, and whether or not the unpadded size was already aligned -/
theorem addOpt_writeTsig_multiple (s : RState) (hk : KeysLong s.tbl) (hlen : 12 ≤ s.out.length) (o : EOpt) (t : Tsig)
    (pad a b : Nat) (hpad : pad ≠ 0) (ha : a = 11 + (o.options.map fun p => p.2.length + 4).sum + 4)
    (habs : isAbs t.name = true) (hb : b = (toWire t.name).length + 10 + (tsigRdataWire t).length)
    (s1 s2 : RState) (h1 : s.addOpt o pad a b = .ok s1) (h2 : s1.writeHeader.writeTsig t = .ok s2) :
    s2.out.length % pad = 0 ∧ s2.tbl = s1.tbl := by
  -- the OPT record: the reserve `a` plus `padLen` octets; `was_padded` is set
  obtain ⟨eo, new, hext, -, rfl⟩ := addRRset_ok (addOpt_ok (stepToExcept_ok.mpr h1))
  have lo := rrsetExt_padded_length hk hpad hext
  have hp : ∀ x, x = s.out.length + a + b + padLen s.out.length pad a b → x % pad = 0 :=
    fun x hx => hx ▸ padLen_mod s.out.length pad a b hpad
  unfold RState.writeTsig at h2
  simp only [writeHeader_eq, if_pos hpad, if_true] at h2
  split at h2
  · cases h2
  · cases h2
  · rename_i r hr
    cases h2
    -- the TSIG record, written without the table, has exactly the size `b`
    obtain ⟨et, _, hext', -, rfl⟩ := addRRset_ok (stepToExcept_ok.mpr hr)
    have lt := rrsetExt_raw_length (r := tsigRRset t) rfl habs (by intro _ hx; cases hx) hext'
    refine ⟨hp _ ?_, rfl⟩
    simp only [tsigRRset, List.length_append, List.length_take, List.length_drop, u16_length, hdrOf_length] at lo lt ⊢
    omega

end Model
