import Model.Message
import Proofs.BytesAt
import Proofs.NameWire
import Proofs.NameText
/-! Byte-level facts for the message parser: what `slice` and `beVal` return where a field stands (`At`, Proofs/BytesAt),
name decoding under a restricted end (`restrict_to`); the four loops of `read()` as one function of the counts
(`readSections`), through which a relation between reader steps lifts from one record to the whole message. -/
namespace Model

theorem slice_mid (X Y Z : Bytes) : slice (X ++ Y ++ Z) X.length Y.length = Y := by
  unfold slice
  rw [List.append_assoc, List.drop_left' rfl, List.take_left' rfl]

theorem At.slice_eq {W Y : Bytes} {c : Nat} (h : At W c Y) : slice W c Y.length = Y := by
  obtain ⟨X, Z, rfl, rfl⟩ := h
  exact slice_mid X Y Z

theorem beVal_u16 (n : Nat) (h : n < 65536) : beVal (u16 n) = n := by
  simp [beVal, u16]; omega

theorem beVal_u32 (n : Nat) (h : n < 4294967296) : beVal (u32 n) = n := by
  simp [beVal, u32]; omega

theorem beVal_append_u32 (a : Bytes) (m : Nat) : beVal (a ++ u32 m) = beVal a * 4294967296 + beVal (u32 m) := by
  simp only [beVal, u32, List.foldl_append, List.foldl_cons, List.foldl_nil]
  omega

/-- `u48` is by definition the high 16 bits followed by the low 32 -/
theorem beVal_u48 (n : Nat) (h : n < 281474976710656) : beVal (u48 n) = n := by
  have h1 : n / 4294967296 < 65536 := by omega
  rw [u48, beVal_append_u32, beVal_u16 _ h1, beVal_u32 _ (Nat.mod_lt _ (by omega))]
  exact Nat.div_add_mod' n 4294967296

theorem At.val16 {W : Bytes} {c n : Nat} (h : At W c (u16 n)) (hn : n < 65536) : beVal (slice W c 2) = n := by
  rw [show slice W c 2 = u16 n from h.slice_eq, beVal_u16 n hn]

theorem At.val32 {W : Bytes} {c n : Nat} (h : At W c (u32 n)) (hn : n < 4294967296) : beVal (slice W c 4) = n := by
  rw [show slice W c 4 = u32 n from h.slice_eq, beVal_u32 n hn]

theorem At.val48 {W : Bytes} {c n : Nat} (h : At W c (u48 n)) (hn : n < 281474976710656) : beVal (slice W c 6) = n := by
  rw [show slice W c 6 = u48 n from h.slice_eq, beVal_u48 n hn]

/-! reading the fields of a layout one after the other -/

theorem At.read16 {W Y : Bytes} {c n : Nat} (h : At W c (u16 n ++ Y)) (hn : n < 65536) :
    beVal (slice W c 2) = n ∧ At W (c + 2) Y := ⟨h.fst.val16 hn, h.snd 2⟩

theorem At.read48 {W Y : Bytes} {c n : Nat} (h : At W c (u48 n ++ Y)) (hn : n < 281474976710656) :
    beVal (slice W c 6) = n ∧ At W (c + 6) Y := ⟨h.fst.val48 hn, h.snd 6⟩

theorem At.readBytes {W Y b : Bytes} {c : Nat} (h : At W c (b ++ Y)) : slice W c b.length = b ∧ At W (c + b.length) Y :=
  ⟨h.fst.slice_eq, h.snd _ rfl⟩

/-- `get_name` under a restricted end, in terms of the decoding relation of the name theory -/
theorem getName_ok_iff {w : Bytes} {endp cur : Nat} {n : Name} {c : Nat} :
    getName w endp cur = .ok (n, c) ↔
      endp ≤ w.length ∧ WfName n ∧ ∃ ls fwd, Dec w cur cur ls fwd ∧ fwd ≤ endp ∧ n = ls ++ [[]] ∧ c = max cur fwd := by
  unfold getName
  constructor
  · intro h
    split at h
    · cases h
    · rename_i n0 f hf
      split at h
      · cases h
      · rename_i n1 hv
        cases h
        obtain ⟨rfl, hw⟩ := wf_of_validate _ _ hv
        obtain ⟨he, ls, fwd, hd, hfe, hn, hf'⟩ := fromWireAux_ok_iff.mp hf
        exact ⟨he, hw, ls, fwd, hd, hfe, by simpa using hn, hf'⟩
  · rintro ⟨he, hw, ls, fwd, hd, hfe, rfl, rfl⟩
    rw [fromWireAux_of_Dec_upto hd hfe he cur []]
    simp [validate_of_wf _ hw]

theorem getName_of_Dec {w : Bytes} {cur : Nat} {ls : List Label} {fwd : Nat} (h : Dec w cur cur ls fwd)
    (endp : Nat) (he : fwd ≤ endp) (hw : endp ≤ w.length) (hwf : WfName (ls ++ [[]])) :
    getName w endp cur = .ok (ls ++ [[]], fwd) :=
  getName_ok_iff.mpr ⟨hw, hwf, ls, fwd, h, he, rfl, by have := h.fwd_le; omega⟩

/-- `PState.section` / `PState.setSection` select one of the four section lists by number, 3 and above meaning
ADDITIONAL: each fact about them is read off these four cases -/
theorem sec_cases (sec : Nat) : sec = 0 ∨ sec = 1 ∨ sec = 2 ∨ (sec ≠ 0 ∧ sec ≠ 1 ∧ sec ≠ 2) := by omega

theorem cur_setSection (st : PState) (sec : Nat) (l : List RRset) : (st.setSection sec l).cur = st.cur := by
  rcases sec_cases sec with rfl | rfl | rfl | ⟨h0, h1, h2⟩ <;> simp [PState.setSection, *]

theorem optTsig_setSection (st : PState) (sec : Nat) (l : List RRset) :
    (st.setSection sec l).opt = st.opt ∧ (st.setSection sec l).tsig = st.tsig := by
  rcases sec_cases sec with rfl | rfl | rfl | ⟨h0, h1, h2⟩ <;> simp [PState.setSection, *]

theorem q_setSection (st : PState) (sec : Nat) (l : List RRset) (h : sec ≠ 0) : (st.setSection sec l).q = st.q := by
  rcases sec_cases sec with rfl | rfl | rfl | ⟨h0, h1, h2⟩ <;> simp [PState.setSection, *] at h ⊢

theorem section_setSection (st : PState) (sec : Nat) (l : List RRset) : (st.setSection sec l).section sec = l := by
  rcases sec_cases sec with rfl | rfl | rfl | ⟨h0, h1, h2⟩ <;> simp [PState.setSection, PState.section, *]

theorem setSection_setSection (st : PState) (sec : Nat) (l1 l2 : List RRset) (c : Nat) :
    ({ (st.setSection sec l1) with cur := c } : PState).setSection sec l2 = ({ st with cur := c } : PState).setSection sec l2 := by
  rcases sec_cases sec with rfl | rfl | rfl | ⟨h0, h1, h2⟩ <;> simp [PState.setSection, *]

theorem setSection_self (st : PState) (sec : Nat) : ({ st with cur := st.cur } : PState).setSection sec (st.section sec) = st := by
  rcases sec_cases sec with rfl | rfl | rfl | ⟨h0, h1, h2⟩ <;> simp [PState.setSection, PState.section, *]

/-- the question, ANSWER and AUTHORITY loops of `read()`, each continuing from the state the one before has left -/
def readToAuthority (cfg : PCfg) (upd : Bool) (w : Bytes) (nq n₁ n₂ : Nat) (st : PState) : Except PErr PState :=
  match (match parseQuestions cfg upd w nq st with
    | .error e => .error e
    | .ok s => parseSection cfg upd w 1 n₁ n₁ 0 s : Except PErr PState) with
  | .error e => .error e
  | .ok s => parseSection cfg upd w 2 n₂ n₂ 0 s

/-- … and `n₃` of the `c₃` records of ADDITIONAL -/
def readSections (cfg : PCfg) (upd : Bool) (w : Bytes) (nq n₁ n₂ c₃ n₃ : Nat) (st : PState) : Except PErr PState :=
  match readToAuthority cfg upd w nq n₁ n₂ st with
  | .error e => .error e
  | .ok s => parseSection cfg upd w 3 c₃ n₃ 0 s

/-- the sections as the reader leaves them, and the final position: everything `read()` does before the trailing-octets test -/
def parseSections (cfg : PCfg) (w : Bytes) : Except PErr PState :=
  readSections cfg (isUpdate (beVal (slice w 2 2))) w (beVal (slice w 4 2)) (beVal (slice w 6 2)) (beVal (slice w 8 2))
    (beVal (slice w 10 2)) (beVal (slice w 10 2)) { cur := 12 }

theorem parseMessage_eq (cfg : PCfg) (w : Bytes) :
    parseMessage cfg w =
      if w.length < 12 then .error .shortHeader
      else match parseSections cfg w with
        | .error e => .error e
        | .ok st =>
          if !cfg.ignoreTrailing ∧ w.length - st.cur ≠ 0 then .error .trailingJunk
          else .ok { id := beVal (slice w 0 2), flags := beVal (slice w 2 2), origin := cfg.origin, q := st.q, an := st.an,
                     au := st.au, ad := st.ad, opt := st.opt, tsig := st.tsig } := by
  unfold parseMessage parseSections readSections readToAuthority
  by_cases hl : w.length < 12
  · simp [hl]
  simp only [hl, if_false]
  cases parseQuestions cfg (isUpdate (beVal (slice w 2 2))) w (beVal (slice w 4 2)) { cur := 12 } with
  | error e => rfl
  | ok s1 =>
    simp only
    cases parseSection cfg (isUpdate (beVal (slice w 2 2))) w 1 (beVal (slice w 6 2)) (beVal (slice w 6 2)) 0 s1 with
    | error e => rfl
    | ok s2 =>
      simp only
      cases parseSection cfg (isUpdate (beVal (slice w 2 2))) w 2 (beVal (slice w 8 2)) (beVal (slice w 8 2)) 0 s2 with
      | error e => rfl
      | ok s3 => rfl

/-! ### one reader following another

`Sim strict g P x' x`: where `x` succeeds with `r`, `x'` succeeds with `g r`, and `P r`; if `strict`, where `x` fails `x'`
fails alike.  Two instances are used: the reader on `w ++ j` follows the reader on `w` (`g = id`, not strict: it may accept
more), and the reader with an origin follows the reader without (`g` relativizes, strict).  The rules say how `Sim` passes
through the constructs the reader is written with.  They apply, by `refine`, to the unfolded bodies of the model's
functions: a `match` in the statement of a rule and a `match` of the same shape over the same types in the model are
compiled to auxiliary matchers with the same value and the same arguments, and unification identifies the two.  (A rule
generic in the matched type does not unify: its matcher takes the type as one more argument, and matchers are not unfolded
otherwise.  Hence `Sim.name` and `Sim.hdr` for the two tuple types, and `cases` where the reader matches on any other
result.)  Should a `match` of the model change its patterns or the type matched on, `refine` with the rule fails at once
with a type mismatch, and the rule is to be restated in the new shape.  The smallest complete use is
`parseQuestion_append`; `parseRR_append` and `parseRR_relF` are the two full ones. -/

def Sim {α α' : Type} (strict : Prop) (g : α → α') (P : α → Prop) (x' : Except PErr α') (x : Except PErr α) : Prop :=
  (∀ r, x = .ok r → x' = .ok (g r) ∧ P r) ∧ (strict → ∀ e, x = .error e → x' = .error e)

section Sim

variable {α α' : Type} {strict : Prop} {g : α → α'} {P : α → Prop}

theorem Sim.error {e : PErr} {x' : Except PErr α'} (h : strict → x' = .error e) : Sim strict g P x' (.error e) :=
  And.intro (fun _ h => nomatch h) fun hs _ he => by cases he; exact h hs

theorem Sim.ok {r : α} {r' : α'} (hr : r' = g r) (hP : P r) : Sim strict g P (.ok r') (.ok r) :=
  And.intro (fun _ h => by cases h; exact ⟨hr ▸ rfl, hP⟩) fun _ _ h => nomatch h

theorem Sim.refl {x : Except PErr α} (hP : ∀ r, x = .ok r → P r) : Sim strict id P x x :=
  And.intro (fun r h => ⟨h, hP r h⟩) fun _ _ h => h

/-- a guard whose condition may differ on the two sides -/
theorem Sim.guard {c c' : Prop} [Decidable c] [Decidable c'] {e : PErr} {y : Except PErr α} {y' : Except PErr α'}
    (hc : ¬ c → ¬ c') (hs : strict → c → c') (hy : ¬ c → Sim strict g P y' y) :
    Sim strict g P (if c' then .error e else y') (if c then .error e else y) := by
  by_cases h : c
  · rw [if_pos h]; exact Sim.error fun s => if_pos (hs s h)
  · rw [if_neg h, if_neg (hc h)]; exact hy h

theorem Sim.ite {c : Prop} [Decidable c] {x y : Except PErr α} {x' y' : Except PErr α'}
    (hx : c → Sim strict g P x' x) (hy : ¬ c → Sim strict g P y' y) :
    Sim strict g P (if c then x' else y') (if c then x else y) := by
  split
  · exact hx ‹_›
  · exact hy ‹_›

/-- through `match … with | .error e => .error e | .ok (n, c) => …` on the result of `get_name` -/
theorem Sim.name {N : Name × Nat → Prop} {x x' : Except PErr (Name × Nat)} (hx : Sim strict id N x' x)
    {k : Name → Nat → Except PErr α} {k' : Name → Nat → Except PErr α'}
    (hk : ∀ n c, x = .ok (n, c) → N (n, c) → Sim strict g P (k' n c) (k n c)) :
    Sim strict g P (match (generalizing := false) x' with | .error e => .error e | .ok (n, c) => k' n c)
      (match (generalizing := false) x with | .error e => .error e | .ok (n, c) => k n c) := by
  rcases x with e | ⟨n, c⟩
  · exact Sim.error fun s => by rw [hx.2 s e rfl]
  · obtain ⟨hx', hn⟩ := hx.1 _ rfl
    rw [hx']
    exact hk n c rfl hn

/-- through the match on what `_parse_rr_header` returns, the same on both sides -/
theorem Sim.hdr {x : Except PErr (Nat × Option Nat × Bool)} {k : Nat → Option Nat → Bool → Except PErr α}
    {k' : Nat → Option Nat → Bool → Except PErr α'} (hk : ∀ a b c, Sim strict g P (k' a b c) (k a b c)) :
    Sim strict g P (match x with | .error e => .error e | .ok (a, b, c) => k' a b c)
      (match x with | .error e => .error e | .ok (a, b, c) => k a b c) := by
  rcases x with _ | ⟨a, b, c⟩
  · exact Sim.error fun _ => rfl
  · exact hk a b c

end Sim

/-- a reader step `f'` on the image of a state follows `f` on the state, `I` being kept -/
def StepSim (strict : Prop) (g : PState → PState) (I : PState → Prop) (f' f : PState → Except PErr PState) : Prop :=
  ∀ st, I st → Sim strict g I (f' (g st)) (f st)

section StepSim

variable {strict : Prop} {g : PState → PState} {I : PState → Prop}

theorem StepSim.comp {f' f h' h : PState → Except PErr PState} (hf : StepSim strict g I f' f)
    (hh : StepSim strict g I h' h) :
    StepSim strict g I (fun st => match f' st with | .error e => .error e | .ok s => h' s)
      (fun st => match f st with | .error e => .error e | .ok s => h s) := by
  intro st hI
  obtain ⟨h1, h2⟩ := hf st hI
  show Sim strict g I (match f' (g st) with | .error e => .error e | .ok s => h' s)
    (match f st with | .error e => .error e | .ok s => h s)
  cases hp : f st with
  | error e => exact Sim.error fun s => by rw [h2 s e hp]
  | ok s =>
    obtain ⟨hf', hIs⟩ := h1 s hp
    rw [hf']
    exact hh s hIs

variable {cfg' cfg : PCfg} {upd : Bool} {w' w : Bytes}

theorem parseQuestions_sim (hq : StepSim strict g I (parseQuestion cfg' upd w') (parseQuestion cfg upd w)) (k : Nat) :
    StepSim strict g I (parseQuestions cfg' upd w' k) (parseQuestions cfg upd w k) := by
  induction k with
  | zero => exact fun _ hI => Sim.ok rfl hI
  | succ k ih => exact hq.comp ih

theorem parseSection_sim {sec count : Nat}
    (hr : ∀ i, StepSim strict g I (parseRR cfg' upd w' sec count i) (parseRR cfg upd w sec count i)) (k : Nat) :
    ∀ i, StepSim strict g I (parseSection cfg' upd w' sec count k i) (parseSection cfg upd w sec count k i) := by
  induction k with
  | zero => exact fun _ _ hI => Sim.ok rfl hI
  | succ k ih => exact fun i => (hr i).comp (ih (i + 1))

/-- what holds of one question and of one record holds of the four loops -/
theorem readSections_sim (hq : StepSim strict g I (parseQuestion cfg' upd w') (parseQuestion cfg upd w))
    (hr : ∀ sec count i, StepSim strict g I (parseRR cfg' upd w' sec count i) (parseRR cfg upd w sec count i))
    (nq n₁ n₂ c₃ n₃ : Nat) :
    StepSim strict g I (readSections cfg' upd w' nq n₁ n₂ c₃ n₃) (readSections cfg upd w nq n₁ n₂ c₃ n₃) :=
  (((parseQuestions_sim hq nq).comp (parseSection_sim (hr 1 n₁) n₁ 0)).comp (parseSection_sim (hr 2 n₂) n₂ 0)).comp
    (parseSection_sim (hr 3 c₃) n₃ 0)

end StepSim

end Model
