import Proofs.RenderTrunc
/-! The ordinary rendering as the parser proofs take it (`toWire_items`, read off `render_ok`): the header octets with the
counts per section written out, then three runs of items — the message's own, the OPT record actually rendered
(`OptPadRel`) and the TSIG record against an empty table. -/
namespace Model

theorem OptPadRel.fields {pad : Nat} {opt opt' : Option EOpt} (h : OptPadRel pad opt opt') :
    (opt = none ∧ opt' = none) ∨
      ∃ o o', opt = some o ∧ opt' = some o' ∧ o'.ttl = o.ttl ∧ o'.payload = o.payload ∧ (pad = 0 → o' = o) := by
  cases opt <;> cases opt' <;> try exact h.elim
  · exact Or.inl ⟨rfl, rfl⟩
  · refine Or.inr ⟨_, _, rfl, rfl, ?_⟩
    rcases h with ⟨_, rfl⟩ | ⟨hne, k, _, rfl⟩
    · exact ⟨rfl, rfl, fun _ => rfl⟩
    · exact ⟨rfl, rfl, fun hp => absurd hp hne⟩

theorem OptPadRel.eq_of_unpadded {pad : Nat} {opt opt' : Option EOpt} (h : OptPadRel pad opt opt')
    (hp : opt = none ∨ pad = 0) : opt' = opt := by
  rcases h.fields with ⟨h1, h2⟩ | ⟨o, o', h1, h2, _, _, he⟩
  · rw [h1, h2]
  · rw [h1, h2, he (hp.resolve_left (by rw [h1]; exact Option.some_ne_none o))]

theorem OptPadRel.isSome {pad : Nat} {opt opt' : Option EOpt} (h : OptPadRel pad opt opt') : opt'.isSome = opt.isSome := by
  rcases h.fields with ⟨h1, h2⟩ | ⟨o, o', h1, h2, _⟩ <;> rw [h1, h2] <;> rfl

theorem countItems_append (a b : List Item) (c : Counts) : countItems c (a ++ b) = countItems (countItems c a) b := by
  induction a generalizing c with
  | nil => rfl
  | cons it rest ih => simp [countItems, ih]

theorem Counts.bump_bump (c : Counts) (k a b : Nat) : (c.bump k a).bump k b = c.bump k (a + b) := by
  unfold Counts.bump
  split
  · simp [Nat.add_assoc]
  · split
    · simp [Nat.add_assoc]
    · split <;> simp [Nat.add_assoc]

theorem countItems_sec (f : RRset → Item) (k : Nat) (hk : ∀ r, (f r).sec = k) (l : List RRset) (c : Counts) :
    countItems c (l.map f) = c.bump k (l.map fun r => itemCount (f r)).sum := by
  induction l generalizing c with
  | nil => simp [countItems, Counts.bump]
  | cons r rest ih => simp only [List.map_cons, countItems, ih, hk, Counts.bump_bump, List.sum_cons]

theorem countItems_message (m : Message) :
    countItems {} m.items = { c0 := m.q.length, c1 := rrCount m.an, c2 := rrCount m.au, c3 := rrCount m.ad } := by
  simp only [Message.items, countItems_append, countItems_sec (fun r => Item.q r.name r.rdtype r.rdclass) 0 fun _ => rfl,
    countItems_sec (Item.rr 1) 1 fun _ => rfl,
    countItems_sec (Item.rr 2) 2 fun _ => rfl, countItems_sec (Item.rr 3) 3 fun _ => rfl]
  simp [Counts.bump, itemCount, rrCount, List.map_const', List.sum_replicate_nat]

theorem countItems_optItems (c : Counts) (opt : Option EOpt) :
    countItems c (optItems opt) = { c with c3 := c.c3 + (optItems opt).length } := by
  cases opt <;> simp [optItems, countItems, Counts.bump, secADD, Item.sec, itemCount, optRRset]

theorem countItems_tsigItems (c : Counts) (tsig : Option Tsig) :
    countItems c (tsigItems tsig) = { c with c3 := c.c3 + (tsigItems tsig).length } := by
  cases tsig <;> simp [tsigItems, countItems, Counts.bump, secADD, Item.sec, itemCount, tsigRRset]

theorem optItems_length (opt : Option EOpt) : (optItems opt).length = if opt.isSome then 1 else 0 := by cases opt <;> rfl

theorem tsigItems_length (tsig : Option Tsig) : (tsigItems tsig).length = if tsig.isSome then 1 else 0 := by cases tsig <;> rfl

/-- the ordinary rendering as octets: the header with the counts per section, then the three runs -/
theorem toWire_items (m : Message) (lim : Nat) (w : Bytes) (h : m.toWire lim false = .ok w) :
    ∃ q opt' qo qt, itemsExt m.origin 12 [] m.items = .ok q ∧ OptPadRel m.pad m.opt opt' ∧
      itemsExt m.origin (12 + q.1.length) q.2 (optItems opt') = .ok qo ∧
      itemsExt m.origin (12 + q.1.length + qo.1.length) [] (tsigItems m.tsig) = .ok qt ∧
      w = hdrOf m.id m.flags
            { c0 := m.q.length, c1 := rrCount m.an, c2 := rrCount m.au,
              c3 := rrCount m.ad + (optItems opt').length + (tsigItems m.tsig).length } ++ q.1 ++ qo.1 ++ qt.1 := by
  obtain ⟨r, hr, rfl⟩ := toWire_ok_iff.mp h
  obtain ⟨k, fl, b, opt', q, qo, qt, hR, ⟨rfl, rfl⟩ | ⟨hpt, -⟩⟩ := render_ok hr
  case inr => cases hpt
  have hq := hR.items.ext
  have hc := hR.counts
  rw [List.take_length] at hq hc
  refine ⟨q, opt', qo, qt, hq, hR.pad ▸ .map_padded .., hR.opt.ext, hR.tsig.ext, ?_⟩
  rw [hR.out, hc, countItems_message, countItems_optItems, countItems_tsigItems]

end Model
