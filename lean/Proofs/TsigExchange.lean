import Proofs.TsigValidate
/-! Multi-message exchanges: the contexts handed to the MAC comparison along a whole exchange. -/
namespace Model.Tsig
open Model Rfc8945

/-- an envelope as the validating side meets it: a message whose last record is a TSIG RR starting at
`tsigStart` with RDATA `rd`, or a message without TSIG -/
inductive Env where
  | signed (wire : Bytes) (tsigStart : Nat) (rd : Rdata)
  | unsigned (wire : Bytes)

/-- the validating side over an exchange (`multi=True`, `tsig_ctx` handed from message to message, as
`dns.query.inbound_xfr` does): `validate` for a signed envelope, `tsig_ctx.update(wire)` for an unsigned one
(the tail of `_WireReader.read`).  Result: what was fed to the MAC at each comparison. -/
def runExchange (V : Verifier) (tbl : List AlgEntry) (key : Key) (owner : Name) (now : Nat) (rm : Bytes) :
    Option Ctx → List Env → Except Err (List Bytes)
  | _, [] => .ok []
  | ctx, .signed w s rd :: rest =>
    match validateV V tbl w key owner rd now rm s ctx true with
    | .error e => .error e
    | .ok (c, ctx') =>
      match runExchange V tbl key owner now rm ctx' rest with
      | .error e => .error e
      | .ok l => .ok (c.data :: l)
  | ctx, .unsigned w :: rest => runExchange V tbl key owner now rm (ctx.map (·.update w)) rest

def Env.toSpec (key : Key) : Env → Rfc8945.Envelope
  | .signed w s rd => .signed w s rd.originalId (varsOf key rd none) rd.mac
  | .unsigned w => .unsigned w

/-- the running context and the RFC's "prior MAC + unsigned messages since" describe the same octets -/
def CtxIsPrior (ctx : Option Ctx) (prior : Option (Bytes × List Bytes)) : Prop :=
  (ctx = none ∧ prior = none) ∨ ∃ c m us, ctx = some c ∧ prior = some (m, us) ∧ c.data = macField m ++ us.flatten

theorem runExchange_inputs (V : Verifier) (tbl : List AlgEntry) (key : Key) (owner : Name) (now : Nat) (rm : Bytes)
    (envs : List Env) : ∀ (ctx : Option Ctx) (prior : Option (Bytes × List Bytes)) (l : List Bytes),
    CtxIsPrior ctx prior → runExchange V tbl key owner now rm ctx envs = .ok l →
    l = exchangeInputs rm prior (envs.map (Env.toSpec key)) := by
  induction envs with
  | nil =>
    intro ctx prior l _ h
    simp [runExchange] at h
    cases prior <;> simp [exchangeInputs, ← h]
  | cons e rest ih =>
    intro ctx prior l hrel h
    cases e with
    | unsigned w =>
      simp only [runExchange] at h
      rcases hrel with ⟨rfl, rfl⟩ | ⟨c, m, us, rfl, rfl, hd⟩
      · simp only [Option.map_none, List.map_cons, Env.toSpec, exchangeInputs] at h ⊢
        exact ih none none l (Or.inl ⟨rfl, rfl⟩) h
      · simp only [Option.map_some, List.map_cons, Env.toSpec, exchangeInputs] at h ⊢
        refine ih _ _ l (Or.inr ⟨c.update w, m, us ++ [w], rfl, rfl, ?_⟩) h
        simp [Ctx.update, hd]
    | signed w s rd =>
      simp only [runExchange] at h
      split at h; · cases h
      rename_i c ctx' hv
      split at h; · cases h
      rename_i l' hrest
      cases h
      obtain ⟨_, _, _, _, _, hd, _, hm⟩ := validateV_ok hv
      obtain ⟨c2, rfl, hc2⟩ := maybeStart_multi tbl key rd.mac ctx' hm
      have hrel' : CtxIsPrior (some c2) (some (rd.mac, [])) := Or.inr ⟨c2, rd.mac, [], rfl, rfl, by simp [hc2]⟩
      have htail := ih (some c2) (some (rd.mac, [])) l' hrel' hrest
      rcases hrel with ⟨rfl, rfl⟩ | ⟨c0, m, us, rfl, rfl, hd0⟩
      · have := digest_first_data tbl (newWire w s) key rd none rm none true c (by simp) hd
        simp only [List.map_cons, Env.toSpec, exchangeInputs, htail, List.cons.injEq, and_true]
        rw [this, newWire_eq_stripTsig]
        by_cases hr : rm = []
        · simp [hr, requestInput]
        · simp [hr, responseInput]
      · have := digest_later_data tbl (newWire w s) key rd none rm c0 c hd
        simp only [List.map_cons, Env.toSpec, exchangeInputs, htail, List.cons.injEq, and_true]
        rw [this, newWire_eq_stripTsig, hd0]
        simp [laterInput]

end Model.Tsig
