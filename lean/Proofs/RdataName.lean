import Model.RdataSchema
import Proofs.NameWire
import Proofs.NameOrder5
/-! names inside RDATA (C02): `getName` decodes what `nameEnc` wrote, wherever it stands and whatever follows
(`getName_enc`); and, for a legal origin, whatever `getName` returns is `nameValid` and was read from a prefix of the input
(`nameSound_of_originOk`). -/
namespace Model

theorem toWire_append' (a b : Name) : toWire (a ++ b) = toWire a ++ toWire b := toWire_append a b

theorem fromWire_abs (n : Name) (hw : WfName n) (ha : isAbs n = true) (pfx tl : Bytes) :
    fromWireAux (pfx ++ (toWire n ++ tl)) (pfx.length + (toWire n ++ tl).length) pfx.length pfx.length pfx.length []
      = .ok (n, pfx.length + (toWire n).length) := by
  obtain ⟨ls, rfl, hp⟩ := abs_split n hw ha
  rw [← List.length_append, ← List.append_assoc,
    fromWireAux_of_Dec (Dec_plain ls hp pfx tl pfx.length) pfx.length [], List.nil_append,
    Nat.max_eq_right (Nat.le_add_right ..)]

theorem wfNameB_iff (n : Name) : wfNameB n = true ↔ WfName n := by
  unfold wfNameB
  constructor
  · intro h
    split at h
    · rename_i m hm; exact (wf_of_validate n m hm).2
    · cases h
  · intro h; rw [validate_of_wf n h]

theorem nameValid_wire {rel : Bool} {o : Option Name} {n : Name} (h : nameValid rel o n = true) :
    WfName (absN (o.getD []) n) ∧ isAbs (absN (o.getD []) n) = true ∧
      (if rel then relativizeO o (absN (o.getD []) n) else .ok (absN (o.getD []) n)) = .ok n := by
  unfold nameValid at h
  unfold absN
  cases o with
  | none =>
    simp only [Bool.and_eq_true] at h
    simp only [h.2, if_true]
    exact ⟨(wfNameB_iff n).1 h.1, trivial, by cases rel <;> rfl⟩
  | some org =>
    simp only [Bool.and_eq_true] at h
    obtain ⟨⟨_, hao⟩, hn⟩ := h
    have hne : org ≠ [] := NameOrder.ne_nil_of_isAbs hao
    by_cases ha : isAbs n = true
    · simp only [ha, if_true, Bool.and_eq_true, Bool.or_eq_true, Bool.not_eq_true'] at hn ⊢
      refine ⟨(wfNameB_iff n).1 hn.1, trivial, ?_⟩
      cases rel with
      | false => rfl
      | true =>
        have hs : isSubdomain n org = false := hn.2.resolve_left (by simp)
        simp [relativizeO, hne, relativize, hs]
    · simp only [ha, Bool.false_eq_true, if_false, Bool.and_eq_true, Option.getD_some] at hn ⊢
      have hw := (wfNameB_iff _).1 hn.2
      refine ⟨hw, (NameOrder.isAbs_append n org hne).trans hao, ?_⟩
      simp only [hn.1, if_true, relativizeO, hne, if_false]
      -- a relative name followed by the origin: relativizing cuts the origin off again
      exact NameOrder.relativize_append hne hw

theorem getName_enc (rel : Bool) (o : Option Name) (n : Name) (h : nameValid rel o n = true) (pfx tl : Bytes) :
    getName rel o pfx (nameEnc o n ++ tl) = .ok (.name n, pfx ++ nameEnc o n, tl) := by
  obtain ⟨hw, ha, hr⟩ := nameValid_wire h
  unfold getName
  rw [show nameEnc o n = toWire (absN (o.getD []) n) from rfl, fromWire_abs _ hw ha pfx tl]
  simp only [validate_of_wf _ hw, hr]
  simp

theorem nameEnc_pos (rel : Bool) (o : Option Name) (n : Name) (h : nameValid rel o n = true) :
    1 ≤ (nameEnc o n).length := by
  obtain ⟨_, ha, _⟩ := nameValid_wire h
  rw [nameEnc, length_toWire]
  exact wireLen_pos _ (NameOrder.ne_nil_of_isAbs ha)

def OriginOk (o : Option Name) : Prop :=
  match o with
  | none => True
  | some org => WfName org ∧ isAbs org = true

def NameSound (o : Option Name) : Prop :=
  ∀ rel pfx rem v p r, getName rel o pfx rem = .ok (v, p, r) →
    ∃ n, v = .name n ∧ nameValid rel o n = true ∧ ∃ c, rem = c ++ r ∧ p = pfx ++ c

theorem getName_split {rel : Bool} {o : Option Name} {pfx rem : Bytes} {v : Val} {p r : Bytes}
    (h : getName rel o pfx rem = .ok (v, p, r)) :
    ∃ nabs n, WfName nabs ∧ isAbs nabs = true ∧ (if rel then relativizeO o nabs else .ok nabs) = .ok n ∧
      v = .name n ∧ ∃ c, rem = c ++ r ∧ p = pfx ++ c := by
  unfold getName at h
  split at h
  · cases h
  · rename_i labels furthest h1
    split at h
    · cases h
    · rename_i nabs h2
      split at h
      · cases h
      · rename_i n h3
        cases h
        obtain ⟨rfl, hw⟩ := wf_of_validate labels nabs h2
        obtain ⟨⟨m, hm⟩, _⟩ := fwAux_shape _ _ _ _ _ _ _ _ h1
        refine ⟨nabs, n, hw, ?_, h3, rfl, List.take (furthest - pfx.length) rem, (List.take_append_drop ..).symm, rfl⟩
        rw [isAbs_iff_getLast?, hm, List.getLast?_concat]

/-- the converse of `nameValid_wire`: what relativizing a legal absolute name against a legal origin leaves is a name
that survives the trip -/
theorem nameValid_of_relativize {rel : Bool} {o : Option Name} {nabs n : Name} (ho : OriginOk o) (hw : WfName nabs)
    (ha : isAbs nabs = true) (hrel : (if rel then relativizeO o nabs else .ok nabs) = .ok n) :
    nameValid rel o n = true := by
  unfold nameValid
  cases o with
  | none =>
    obtain rfl : nabs = n := by cases rel <;> simpa [relativizeO] using hrel
    simp [(wfNameB_iff _).2 hw, ha]
  | some org =>
    obtain ⟨hwo, hao⟩ := ho
    have hne : org ≠ [] := NameOrder.ne_nil_of_isAbs hao
    simp only [(wfNameB_iff org).2 hwo, hao, Bool.true_and]
    cases rel with
    | false =>
      simp at hrel; subst hrel
      simp [ha, (wfNameB_iff _).2 hw]
    | true =>
      simp only [if_true, relativizeO, hne, if_false] at hrel
      by_cases hs : isSubdomain nabs org = true
      · -- `n` is `nabs` without its last `org.length` labels: relative, and `n ++ org` is `nabs` up to case
        obtain ⟨hr, _, hna, hlow⟩ := NameOrder.relativize_below hw hne hs
        cases hr.symm.trans hrel
        simp [hna, (wfNameB_iff _).2 (wf_congr _ _ hlow.symm hw)]
      · rw [relativize_eq, if_neg hs] at hrel
        cases hrel
        simp at hs
        simp [ha, (wfNameB_iff _).2 hw, hs]

theorem nameSound_of_originOk {o : Option Name} (ho : OriginOk o) : NameSound o := by
  intro rel pfx rem v p r h
  obtain ⟨nabs, n, hw, ha, hrel, rfl, hc⟩ := getName_split h
  exact ⟨n, rfl, nameValid_of_relativize ho hw ha hrel, hc⟩

end Model
