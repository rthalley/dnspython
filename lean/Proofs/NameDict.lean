import Model.NameDict
import Proofs.NameOrder3
/-!
`dns.namedict.NameDict.get_deepest_match` returns the longest key that is a superdomain of the queried name,
provided `max_depth` is an upper bound of the label counts of the keys, which `__setitem__` / `__delitem__`
maintain over every history (C06).
-/
namespace Model
namespace NameDictProofs
open NameOrder

/-- `max_depth` bounds the label count of every key -/
def DepthOk (d : NDict) : Prop := ∀ p ∈ d.store, p.1.length ≤ d.maxDepth

theorem nameEq_length {a b : Name} (h : nameEq a b = true) : a.length = b.length :=
  lowerName_length a b ((nameEq_iff a b).1 h)

/-- `__update_max_depth` leaves the store alone and raises the bound to the new key's label count -/
theorem updateMaxDepth_eq (d : NDict) (k : Name) :
    (updateMaxDepth d k).store = d.store ∧ (updateMaxDepth d k).maxDepth = max d.maxDepth k.length := by
  unfold updateMaxDepth
  split
  · rename_i h; exact ⟨rfl, by rw [h, Nat.max_self]⟩
  · split
    · rename_i h; exact ⟨rfl, (Nat.max_eq_right (Nat.le_of_lt h)).symm⟩
    · rename_i h; exact ⟨rfl, (Nat.max_eq_left (Nat.not_lt.1 h)).symm⟩

theorem storeSet_keys (st : List (Name × Nat)) (k : Name) (v : Nat) :
    ∀ p ∈ storeSet st k v, p.1.length = k.length ∨ ∃ q ∈ st, q.1 = p.1 := by
  induction st with
  | nil => intro p hp; cases List.mem_singleton.1 hp; exact Or.inl rfl
  | cons x rest ih =>
    intro p hp
    -- the head keeps its key whether or not its value is overwritten
    have hhead : ∃ q ∈ x :: rest, q.1 = x.1 := ⟨x, List.mem_cons_self, rfl⟩
    rw [storeSet] at hp
    split at hp
    · rcases List.mem_cons.1 hp with rfl | e
      · exact Or.inr hhead
      · exact Or.inr ⟨p, List.mem_cons_of_mem _ e, rfl⟩
    · rcases List.mem_cons.1 hp with rfl | e
      · exact Or.inr hhead
      · exact (ih p e).imp_right fun ⟨q, hq, hq'⟩ => ⟨q, List.mem_cons_of_mem _ hq, hq'⟩

theorem depthOk_set (d : NDict) (k : Name) (v : Nat) (h : DepthOk d) : DepthOk (ndSet d k v) := by
  unfold ndSet DepthOk
  obtain ⟨e1, e2⟩ := updateMaxDepth_eq { d with store := storeSet d.store k v } k
  rw [e1, e2]
  intro p hp
  rcases storeSet_keys d.store k v p hp with e | ⟨q, hq, hq'⟩
  · exact e ▸ Nat.le_max_right ..
  · exact hq' ▸ Nat.le_trans (h q hq) (Nat.le_max_left ..)

theorem foldl_update_eq (l : List (Name × Nat)) (acc : NDict) :
    (l.foldl (fun a p => updateMaxDepth a p.1) acc).store = acc.store ∧
      acc.maxDepth ≤ (l.foldl (fun a p => updateMaxDepth a p.1) acc).maxDepth ∧
      ∀ p ∈ l, p.1.length ≤ (l.foldl (fun a p => updateMaxDepth a p.1) acc).maxDepth := by
  induction l generalizing acc with
  | nil => exact ⟨rfl, Nat.le_refl _, nofun⟩
  | cons x xs ih =>
    obtain ⟨e1, e2⟩ := updateMaxDepth_eq acc x.1
    obtain ⟨i0, i1, i2⟩ := ih (updateMaxDepth acc x.1)
    rw [e2] at i1
    refine ⟨i0.trans e1, Nat.le_trans (Nat.le_max_left ..) i1, fun p hp => ?_⟩
    rcases List.mem_cons.1 hp with rfl | e
    · exact Nat.le_trans (Nat.le_max_right ..) i1
    · exact i2 p e

theorem depthOk_recompute (d : NDict) : DepthOk (recomputeDepth d) := by
  unfold recomputeDepth DepthOk
  obtain ⟨e, _, h⟩ := foldl_update_eq d.store { d with maxDepth := 0 }
  rw [e]
  exact h

theorem depthOk_delBook (d : NDict) (k : Name) (h : DepthOk d) : DepthOk (delBook d k) := by
  have key : ∀ d2 : NDict, DepthOk d2 → DepthOk (if d2.maxDepthItems = 0 then recomputeDepth d2 else d2) := by
    intro d2 h2
    split
    · exact depthOk_recompute _
    · exact h2
  unfold delBook
  simp only
  apply key
  split
  · exact h
  · exact h

theorem depthOk_del (d d' : NDict) (k : Name) (h : DepthOk d) (hd : ndDel d k = some d') : DepthOk d' := by
  unfold ndDel at hd
  split at hd
  · cases hd
  · simp only [Option.some.injEq] at hd
    subst hd
    apply depthOk_delBook
    intro p hp
    exact h p (List.mem_filter.1 hp).1

/-- the loop returns the first hit from above: `i` is the label count of the longest suffix of at most `j` labels
that is a key (`0` if none is), and the result is that suffix with its value -/
theorem tryFrom_spec (st : List (Name × Nat)) (name : Name) (j : Nat) :
    ∃ i, i ≤ j ∧ (∀ i', i < i' → i' ≤ j → ndFind st (name.drop (name.length - i')) = none) ∧
      ((i = 0 ∧ tryFrom st name j = none) ∨
        (1 ≤ i ∧ ∃ v, ndFind st (name.drop (name.length - i)) = some v ∧
          tryFrom st name j = some (name.drop (name.length - i), v))) := by
  induction j with
  | zero => exact ⟨0, Nat.le_refl _, fun _ h1 h2 => absurd h2 (Nat.not_le.2 h1), Or.inl ⟨rfl, rfl⟩⟩
  | succ j ih =>
    rw [tryFrom]
    cases hv : ndFind st (name.drop (name.length - (j + 1))) with
    | some v =>
      exact ⟨j + 1, Nat.le_refl _, fun _ h1 h2 => absurd h2 (Nat.not_le.2 h1), Or.inr ⟨Nat.succ_pos _, v, hv, rfl⟩⟩
    | none =>
      obtain ⟨i, hi, hnone, hres⟩ := ih
      refine ⟨i, Nat.le_succ_of_le hi, fun i' g1 g2 => ?_, hres⟩
      rcases Nat.lt_or_ge i' (j + 1) with h | h
      · exact hnone i' g1 (Nat.le_of_lt_succ h)
      · rw [Nat.le_antisymm g2 h]; exact hv

theorem ndFind_some (st : List (Name × Nat)) (k : Name) (v : Nat) (h : ndFind st k = some v) :
    ∃ p ∈ st, nameEq p.1 k = true ∧ p.2 = v := by
  unfold ndFind at h
  split at h
  · rename_i p hp
    simp only [Option.some.injEq] at h
    exact ⟨p, List.mem_of_find?_eq_some hp, by simpa using List.find?_some hp, h⟩
  · cases h

/-- the bound is the range of the loop, so the loop tries every suffix that is a key -/
theorem present_suffix_in_range (d : NDict) (h : DepthOk d) (name : Name) (i : Nat) (hi : i ≤ name.length)
    (hp : ndHas d.store (name.drop (name.length - i)) = true) :
    i ≤ (if name.length > d.maxDepth then d.maxDepth else name.length) := by
  unfold ndHas at hp
  cases hf : ndFind d.store (name.drop (name.length - i)) with
  | none => rw [hf] at hp; cases hp
  | some v =>
    obtain ⟨p, hp1, hp2, _⟩ := ndFind_some _ _ _ hf
    have hl := nameEq_length hp2
    rw [List.length_drop] at hl
    have := h p hp1
    split <;> omega

theorem no_longer_key (d : NDict) (h : DepthOk d) (name : Name) (lo : Nat)
    (hnone : ∀ i, lo < i → i ≤ (if name.length > d.maxDepth then d.maxDepth else name.length) →
      ndFind d.store (name.drop (name.length - i)) = none) :
    ∀ i, lo < i → i ≤ name.length → ndHas d.store (name.drop (name.length - i)) = false := by
  intro i h1 h2
  cases hh : ndHas d.store (name.drop (name.length - i)) with
  | false => rfl
  | true =>
    rw [ndHas, hnone i h1 (present_suffix_in_range d h name i h2 hh)] at hh
    cases hh

inductive NdOp where
  | set (k : Name) (v : Nat)
  | del (k : Name)

/-- run a history of `d[k] = v` / `del d[k]` (a `del` that raises KeyError leaves the dict as it is) -/
def ndRun : NDict → List NdOp → NDict
  | d, [] => d
  | d, .set k v :: ops => ndRun (ndSet d k v) ops
  | d, .del k :: ops => ndRun ((ndDel d k).getD d) ops

theorem depthOk_run (ops : List NdOp) (d : NDict) (h : DepthOk d) : DepthOk (ndRun d ops) := by
  induction ops generalizing d with
  | nil => exact h
  | cons op ops ih =>
    cases op with
    | set k v => exact ih _ (depthOk_set d k v h)
    | del k =>
      simp only [ndRun]
      cases hd : ndDel d k with
      | none => exact ih _ h
      | some d' => exact ih _ (depthOk_del d d' k h hd)

/-- `get_deepest_match` under the depth invariant: `i` is the label count of the longest suffix of `name` that is a
key (`0` if none is); the result is that suffix with its value, or else the entry of the empty name -/
theorem ndDeepest_spec (d : NDict) (h : DepthOk d) (name : Name) :
    ∃ i, i ≤ name.length ∧
      (∀ i', i < i' → i' ≤ name.length → ndHas d.store (name.drop (name.length - i')) = false) ∧
      ((i = 0 ∧ ndDeepest d name = (ndFind d.store []).map fun v => ([], v)) ∨
        (1 ≤ i ∧ ∃ v, ndFind d.store (name.drop (name.length - i)) = some v ∧
          ndDeepest d name = some (name.drop (name.length - i), v))) := by
  obtain ⟨i, hi, hnone, hres⟩ :=
    tryFrom_spec d.store name (if name.length > d.maxDepth then d.maxDepth else name.length)
  refine ⟨i, by split at hi <;> omega, no_longer_key d h name i hnone, ?_⟩
  unfold ndDeepest
  dsimp only
  rcases hres with ⟨hi0, ht⟩ | ⟨hi1, v, hv, ht⟩
  · rw [ht]
    exact Or.inl ⟨hi0, by cases ndFind d.store [] <;> rfl⟩
  · rw [ht]
    exact Or.inr ⟨hi1, v, hv, rfl⟩

end NameDictProofs
end Model
