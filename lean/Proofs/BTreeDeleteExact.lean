import Proofs.BTreeTree
/-!
`delete_exact` (the `exact` argument of `delete`) at the level of the tree handle: when the stored element is the one
passed, the call is the plain deletion (`delete_exact_eq`: on any node, `exact` can only turn a deletion into a
`ValueError`); otherwise `ValueError` is raised, possibly after the descent has rebalanced the path (steals and merges
stay), and what is left is a well-shaped tree with unchanged contents (`delete_spec_exact`).
-/
namespace Model.BTree

/-- `exact` can only turn a deletion into a `ValueError`, on any node whatever -/
theorem delete_exact_eq (t : Nat) (x : Elt) (f : Nat) (n : Node) (k : Nat)
    (hne : (delete t f n k (some x)).2 ≠ .valueError) : delete t f n k (some x) = delete t f n k none := by
  unfold delete at hne ⊢
  generalize searchInNode n.elts k = sr at hne ⊢
  obtain ⟨i, eq⟩ := sr
  simp only [] at hne ⊢
  -- the test at the head of `delete` can only fail with `exact`
  by_cases hc : eq = true ∧ (some x).isSome = true ∧ some x ≠ some (eltAt n.elts i)
  · rw [if_pos hc] at hne; exact absurd rfl hne
  have hc' : ¬ (eq = true ∧ (none : Option Elt).isSome = true ∧ none ≠ some (eltAt n.elts i)) := by simp
  rw [if_neg hc] at hne ⊢
  rw [if_neg hc']
  -- once it is passed, `exact` is looked at again only in a leaf without the key (an error) and in the recursive call
  cases n with
  | leaf es =>
    cases eq with
    | true => rfl
    | false => exact absurd rfl hne
  | node es cs =>
    match f with
    | 0 => cases eq <;> rfl
    | f + 1 =>
      cases eq with
      | true => rfl
      | false =>
        simp only [Bool.false_eq_true, if_false] at hne ⊢
        cases hp : delPrep t es cs i k with
        | none => rfl
        | some r =>
          obtain ⟨es1, cs1, i1⟩ := r
          simp only [hp, delFinish_false] at hne ⊢
          rw [delete_exact_eq t x f _ _ hne]
termination_by structural f

/-- `_delete(key, exact)` with the repaired root handling (collapse whenever the root is left empty, also when
`delete` raised): the element passed is the stored one → plain deletion; otherwise `ValueError`, and the tree is
well-formed with its contents and `size` unchanged. -/
theorem tree_delete_exact {tr : Tree} (k : Nat) (x : Elt) (hw : TreeWf tr) (hr : RootOk tr.root)
    (hm : tr.immutable = false) (he : tr.collapseOnError = true) :
    (lookup tr.items k = some x → tr.delete k (some x) = tr.delete k none) ∧
    (lookup tr.items k ≠ some x →
      TreeWf (tr.delete k (some x)).1 ∧ RootOk (tr.delete k (some x)).1.root ∧
      (tr.delete k (some x)).1.items = tr.items ∧ (tr.delete k (some x)).2 = .valueError ∧
      (tr.delete k (some x)).1.size = tr.size) := by
  have ht2 : 2 ≤ tr.t := by have := hw.t_ok; omega
  obtain ⟨h, hn⟩ := hw.wf.shape
  have hsp := delete_spec_exact ht2 h tr.root k (some x) hn hw.wf.sorted (Or.inl hr)
  constructor
  · intro hx
    have hok : (delete tr.t h tr.root k (some x)).2 ≠ .valueError := by
      rw [hsp.ret]; simp [delSpec, Tree.items, ← hx]
    simp only [Tree.delete, deleteRoot, height_of_shape hn, delete_exact_eq _ _ _ _ _ hok]
  · intro hx
    have hmis : delSpec (flat tr.root) k (some x) = (flat tr.root, .valueError) := by
      simp only [delSpec, Option.isSome_some, true_and, ne_eq]
      exact if_pos fun hc => hx hc.symm
    rw [hmis] at hsp
    unfold Tree.delete deleteRoot
    simp only [hm, Bool.false_eq_true, if_false, height_of_shape hn]
    rcases hd : delete tr.t h tr.root k (some x) with ⟨r, res⟩
    rw [hd] at hsp
    have e1 : res = .valueError := hsp.ret
    have e2 : flat r = flat tr.root := hsp.flat_eq
    have e4 : r.elts.length ≤ tr.root.elts.length + 0 := hsp.len_hi
    subst e1
    simp only [he, if_true]
    have htop : r.elts.length ≤ maxKeys tr.t := by have := hw.wf.top; omega
    obtain ⟨c1, c2, c3, c4⟩ := collapse_spec ht2 hsp.shape htop
    refine ⟨⟨hw.t_ok, ⟨c1, c3, ?_⟩, ?_⟩, c4, ?_, trivial, trivial⟩
    · show Sorted (flat (collapseRoot r)); rw [c2, e2]; exact hw.wf.sorted
    · show tr.size = (flat (collapseRoot r)).length; rw [c2, e2]; exact hw.size_ok
    · show flat (collapseRoot r) = flat tr.root; rw [c2, e2]

end Model.BTree
