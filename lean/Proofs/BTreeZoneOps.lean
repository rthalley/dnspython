import Proofs.BTreeZoneGlue
/-!
`put_rdataset`, `delete_rdataset`, `delete_node` keep a version `Good`, for every variant, under guards that
exclude exactly the triggers of D15, D16 and CNAME-at-a-cut for the decision points left as shipped.

A write at `name` changes the NS ownership of `name` only, so all that can change in the specification is the
delegation status of `name`, from `d0` to `d1` (`flagsSpec_at`, `flagsSpec_below`).  What the code does once it has
made the node to store is `settle` (`BTreeZoneWrite`): nothing more when `d0 = d1`; an index entry and a walk of the
subtree otherwise.  `good_settle` shows that right once, for the true `d0`, `d1`.  Each write is `settle` for the status
the code reads off the copied node and the index (`Write.run`, `putStatus`, `delStatus`); what is left to show per
write is that in a `Good` version and under the guard it reads the status right — a table by `d0`, `isNS k` and the
kind of the key.  In `good_settle`, `N1` is the store after the copy-on-write step (it agrees with `N` off `name`) and
`r` the node finally stored at `name` (`none`: dropped).
-/
namespace Model
namespace BTZ

theorem good_settle {v : Variant} {cfg : Cfg} {N N1 : Nodes} {D c c1 : List Name} {name : Name}
    {r : Option Node} {d0 d1 : Bool}
    (hg : Good cfg ⟨N, D, c⟩) (hN1 : NWF N1) (hag : AgreeOff N N1 name) (hn : LC name)
    (hz : isSubdomain name (apex cfg) = true)
    (hd0 : d0 = isDelegSpec cfg N name)
    (hd1 : d1 = delegNow cfg N name (r.any fun nd => hasNS nd.rds))
    (hr : ∀ nd, r = some nd → RdsOK nd.rds ∧ nd.flags = ⟨isOrigin cfg name, d1, isGlueSpec cfg N name⟩)
    (hguard : d0 = d1 ∨ v.fixNested = true ∨ nsBelow N name = false) :
    Good cfg (settle v ⟨N1, D, c1⟩ name d0 d1 r) := by
  have hself := fun k hk hp => flagsSpec_below (cfg := cfg) (k := k) hg.wf hg.wf hn hz (fun _ _ _ => Iff.rfl) hk hp
  rw [← isDelegSpec_eq hg.wf, ← hd0] at hself
  unfold settle
  split
  · -- the status of `name` stays: nothing else changes
    rename_i e
    subst e
    apply good_rewritten hg (NWF_nset (r := r) hN1 hn) hg.dwf hn hz ((rewritten_nset hN1 hn r).of_agree hag) hd1 hr
    · intro k nd hk hp hgk
      obtain ⟨s1, s2⟩ := hself k hk hp
      rw [(hg.pointwise hk hgk).2.2]
      exact ⟨not_origin_of_below hz hp hk, s1, by rw [← NS_iff_hasNS hgk]; exact s2⟩
    · intro n hnl
      rw [hg.index n hnl]
      split
      · rename_i e; subst e; rw [← hd0]
      · split
        · rename_i hp
          obtain ⟨s1, s2⟩ := hself n hnl hp
          rw [s2, s1]
        · rfl
  · rename_i hne
    have hgd := hguard.resolve_left hne
    -- one of `d0`, `d1` holds, and a delegation point is not glue
    have hg0 : isGlueSpec cfg N name = false := by
      cases hgl : isGlueSpec cfg N name with
      | false => rfl
      | true =>
        have h0 := isDelegSpec_eq (cfg := cfg) hg.wf name
        simp only [delegNow, hgl, Bool.not_true, Bool.and_false] at h0 hd1
        exact absurd (hd0.trans (h0.trans hd1.symm)) hne
    -- the index entry is set or dropped, and the subtree is walked by the repaired step (as shipped: the same walk)
    have hD1 : DWF (bif d1 then dins D name else ddel D name) := by
      cases d1
      · exact DWF_ddel hg.dwf
      · exact DWF_dins hg.dwf hn
    rw [updateGlue_eq_intended hg hN1 hag hn hz hgd (D1 := bif d1 then dins D name else ddel D name) (fun d hd => by
        cases d1
        · exact Or.inr ((mem_ddel hg.dwf.2 hn).mp hd).1
        · exact (mem_dins hg.dwf.2 hn).mp hd),
      updateGlue_fixed_nodes (v := intended) rfl (ver := ⟨N1, _, c1⟩) hN1 hn d1]
    apply good_rewritten hg (NWF_nset (r := r) (NWF_reflag hN1 name d1) hn)
      (updateGlue_VerWF (v := intended) (ver := ⟨N1, _, c1⟩) ⟨hN1, hD1⟩ hn).delegs hn hz
      ((rewritten_reflag hN1 hn d1 r).of_agree hag) hd1 hr
    · intro k nd _ _ _
      obtain ⟨f1, f2, f3⟩ := fixedNode_flags hN1 (name := name) (k := k) d1 nd
      rw [NSBetween_agree hag] at f2
      exact ⟨f1, by rw [f2, hg0]; simp [or_comm], f3⟩
    · intro n hnl
      cases d1 with
      | true =>
        -- `name` becomes a delegation point
        rw [updateGlue_fixed_delegs_true (v := intended) rfl, List.mem_filter]
        dsimp only
        rw [mem_dins hg.dwf.2 hn]
        split
        · rename_i e; subst e; simp [properSub_irrefl]
        · rename_i e
          split
          · rename_i hp; simp [hp]
          · rename_i hp; simp [e, hp]
      | false =>
        -- `name` stops being a delegation point
        have hdel : name ∈ D := (hg.index name hn).mpr ((Bool.of_not_eq_false hne).symm.trans hd0).symm
        dsimp only
        rw [updateGlue_fixed_delegs_false (v := intended) rfl (ver := ⟨N1, ddel D name, c1⟩) hN1 hD1 hn hnl,
          mem_ddel hg.dwf.2 hn]
        split
        · rename_i e; subst e; simp [properSub_irrefl]
        · rename_i e
          split
          · rename_i hb
            have hnD : n ∉ D := fun hnD => by
              have := hg.antichain n hnD name hdel
              rw [hb] at this; cases this
            simp only [hnD, false_and, false_or, hb, true_and, hg0, Bool.false_eq_true, or_false]
            rw [hag.sameNS n hnl (ne_of_properSub hb), NSBetween_agree hag]
          · rename_i hb; simp [e, hb]

theorem Good.changed {cfg : Cfg} {ver : Ver} (h : Good cfg ver) (c : List Name) :
    Good cfg { ver with changed := c } := ⟨h.wf, h.dwf, h.inzone, h.rds, h.flags, h.index⟩

/-- `_maybe_cow_with_name` in a `Good` version: the state after the copy-on-write step and the node it returns.
The node carries the specified flags, except that a *re-created* node loses DELEGATION unless the repair `fixCow`
is in (D15). -/
theorem cow_shape {cfg : Cfg} {N : Nodes} {D chg : List Name} (v : Variant) (h : Good cfg ⟨N, D, chg⟩) {name : Name}
    (hn : LC name) :
    ∃ node0 chg1, maybeCow v cfg ⟨N, D, chg⟩ name = (⟨nins N name node0, D, chg1⟩, node0) ∧
      RdsOK node0.rds ∧ isDelegSpec cfg N name = delegNow cfg N name (hasNS node0.rds) ∧
      node0.flags = ⟨isOrigin cfg name, isDelegSpec cfg N name && (v.fixCow || dmem chg name),
        isGlueSpec cfg N name⟩ := by
  have hrds : (maybeCow v cfg ⟨N, D, chg⟩ name).2.rds = (match nget N name with | some nd => nd.rds | none => []) := by
    unfold maybeCow
    cases hg : nget N name with
    | none => simp
    | some nd => simp only; split <;> rfl
  refine ⟨(maybeCow v cfg ⟨N, D, chg⟩ name).2, (maybeCow v cfg ⟨N, D, chg⟩ name).1.changed, rfl, ?_, ?_, ?_⟩
  · rw [hrds]
    cases hgn : nget N name with
    | none => exact RdsOK_nil
    | some nd => exact (h.pointwise hn hgn).2.1
  · rw [isDelegSpec_eq h.wf, hrds]
    unfold nsAt
    cases nget N name <;> rfl
  · unfold maybeCow
    simp only [glueIdx_eq h name, dmem_eq_deleg h hn]
    cases hg : nget N name with
    | none =>
      -- a new node: no NS here, so not a delegation
      have hd : isDelegSpec cfg N name = false := by simp [isDelegSpec, nsAt, hg]
      rcases h.flags_cases hn with ⟨ho, _, hgl⟩ | ⟨ho, _, hgl⟩ | ⟨ho, hgl⟩ <;> simp [ho, hd, hgl]
    | some nd =>
      -- a node already copied in this version keeps its flags, which are the specified ones
      have hf0 := (h.pointwise hn hg).2.2
      rcases h.flags_cases hn with ⟨ho, hd, hgl⟩ | ⟨ho, hd, hgl⟩ | ⟨ho, hgl⟩
      · cases dmem chg name <;> simp [hf0, flagsSpec, ho, hd, hgl]
      · cases dmem chg name <;> simp [hf0, flagsSpec, ho, hd, hgl]
      · cases dmem chg name <;> cases hd : isDelegSpec cfg N name <;>
          cases v.fixCow <;> simp [hf0, flagsSpec, ho, hd, hgl]

theorem delNode_good {v : Variant} {cfg : Cfg} {ver : Ver} {name : Name} (hg : Good cfg ver) (hn : LC name)
    (hz : isSubdomain name (apex cfg) = true) (hgd : delNodeGuard v ver name = true) :
    Good cfg (Write.delNode.run v cfg ver name) := by
  have hdm := dmem_eq_deleg hg hn
  obtain ⟨N, D, chg⟩ := ver
  unfold delNodeGuard at hgd
  simp only [Bool.or_eq_true, Bool.not_eq_true', hdm] at hgd
  simp only [Write.run]
  cases hgn : nget N name with
  | none => exact hg
  | some node =>
    have hfd : node.flags.deleg = isDelegSpec cfg N name := by rw [(hg.pointwise hn hgn).2.2]; rfl
    refine Good.changed (good_settle hg hg.wf (AgreeOff.refl N name) hn hz hfd (by simp [delegNow])
      (fun nd e => by cases e) ?_) _
    cases hd : isDelegSpec cfg N name
    · exact .inl (hfd.trans hd)
    · exact .inr (hgd.imp_right fun h => by simpa [hd] using h)

theorem delRds_good {v : Variant} {cfg : Cfg} {ver : Ver} {name : Name} {k : RdKey} (hg : Good cfg ver)
    (hk : KeyWf k) (hn : LC name) (hz : isSubdomain name (apex cfg) = true)
    (hgd : delRdsGuard v ver name k = true) : Good cfg ((Write.delRds k).run v cfg ver name) := by
  have hdm := dmem_eq_deleg hg hn
  obtain ⟨N, D, chg⟩ := ver
  obtain ⟨node0, chg1, hmc, hrds0, hd0, hfl⟩ := cow_shape v hg hn
  simp only at hdm
  unfold delRdsGuard at hgd
  simp only [Bool.and_eq_true, Bool.or_eq_true, Bool.not_eq_true', hdm] at hgd
  obtain ⟨g1, g2⟩ := hgd
  simp only [Write.run, hmc]
  -- under the guard the code takes the status of `name` for what it is, before and after
  obtain ⟨hst, hne⟩ : delStatus D name node0 k =
        (isDelegSpec cfg N name, delegNow cfg N name (hasNS (node0.rds.erase k))) ∧
      (isDelegSpec cfg N name = delegNow cfg N name (hasNS (node0.rds.erase k)) ∨ v.fixNested = true ∨
        nsBelow N name = false) := by
    simp only [delStatus, hfl, hdm, hasNS_erase hrds0 hk]
    cases hd : isDelegSpec cfg N name <;> cases hns : isNS k
    · simp [← hd0, hd]
    · simp [delegNow]
    · -- NS ownership unchanged; the copy kept the delegation flag (repair in, or copied before)
      have hb : (v.fixCow || dmem chg name) = true := by simpa [hd, hns] using g1
      simp [hb, ← hd0, hd]
    · -- the NS rdataset of a delegation point is deleted
      simpa [delegNow] using g2.imp_right fun h => by simpa [hns, hd] using h
  rw [hst]
  exact good_settle hg (NWF_nins hg.wf hn) (AgreeOff.nins hg.wf hn node0) hn hz rfl (by rw [delKept_ns])
    (fun nd e => by rw [delKept_some e]; exact ⟨RdsOK_erase hrds0 k, by rw [hfl]⟩) hne

theorem put_good {v : Variant} {cfg : Cfg} {ver : Ver} {name : Name} {k : RdKey} (hg : Good cfg ver)
    (hk : KeyWf k) (hn : LC name) (hz : isSubdomain name (apex cfg) = true)
    (hgd : putGuard v cfg ver name k = true) : Good cfg ((Write.put k).run v cfg ver name) := by
  have hglue := glueIdx_eq hg name
  have hdm := dmem_eq_deleg hg hn
  obtain ⟨N, D, chg⟩ := ver
  obtain ⟨node0, chg1, hmc, hrds0, hd0, hfl⟩ := cow_shape v hg hn
  simp only at hglue hdm
  unfold putGuard at hgd
  simp only [Bool.and_eq_true, Bool.or_eq_true, Bool.not_eq_true', hdm, hglue] at hgd
  obtain ⟨⟨g1, g2⟩, g3⟩ := hgd
  have hrepl := hasNS_replace hrds0 hk
  simp only [Write.run, hmc]
  -- under the guard the code takes the status of `name` for what it is, before and after
  obtain ⟨hst, hne⟩ : putStatus v D name node0 k =
        (isDelegSpec cfg N name, delegNow cfg N name (hasNS (replaceRds node0.rds k))) ∧
      (isDelegSpec cfg N name = delegNow cfg N name (hasNS (replaceRds node0.rds k)) ∨ v.fixNested = true ∨
        nsBelow N name = false) := by
    simp only [putStatus, hfl, hdm, hrepl]
    cases hd : isDelegSpec cfg N name with
    | true =>
      rw [hd] at hd0
      obtain ⟨⟨ho, hns0⟩, hgl⟩ : (isOrigin cfg name = false ∧ hasNS node0.rds = true) ∧ isGlueSpec cfg N name = false := by
        simpa [delegNow] using hd0.symm
      cases hns : isNS k with
      | true => simp [delegNow, ho, hgl]  -- NS put again at a delegation point
      | false =>
        -- the copy kept the delegation flag (repair in, or copied before)
        have hb : (v.fixCow || dmem chg name) = true := by simpa [hd, hns] using g1
        by_cases hc : classify k = Kind.cname
        · -- CNAME at a delegation point drops the NS rdataset (the repair is in, by the guard)
          have hfc : v.fixCname = true := by simpa [hd, hc] using g3
          simpa [hns, hb, hc, hfc, delegNow] using g2.imp_right fun h => by simpa [hd, hc] using h
        · simp [hb, hc, hns0, delegNow, ho, hgl]
    | false =>
      rw [hd] at hd0
      cases hns : isNS k with
      | true =>
        cases hog : isOrigin cfg name || isGlueSpec cfg N name with
        | true =>
          -- NS written at the apex or at glue
          rcases Bool.or_eq_true_iff.mp hog with h | h <;> simp [delegNow, h]
        | false =>
          -- a new delegation point
          obtain ⟨ho, hgl⟩ := Bool.or_eq_false_iff.mp hog
          simpa [hns, delegNow, ho, hgl] using g2.imp_right fun h => by simpa [hd, hns, ho, hgl] using h
      | false =>
        -- no NS before (or a shadowed one), none put
        by_cases hc : classify k = Kind.cname
        · simp [hc, delegNow]
        · simp [hc, ← hd0]
  rw [hst]
  exact good_settle hg (NWF_nins hg.wf hn) (AgreeOff.nins hg.wf hn node0) hn hz rfl rfl
    (fun nd e => by cases e; exact ⟨RdsOK_replace hrds0 hk, by rw [hfl]⟩) hne

theorem Write.run_good {v : Variant} {cfg : Cfg} {ver : Ver} {name : Name} (w : Write) (hg : Good cfg ver)
    (hw : w.Wf) (hn : LC name) (hz : isSubdomain name (apex cfg) = true)
    (hgd : w.guard v cfg ver name = true) : Good cfg (w.run v cfg ver name) := by
  cases w with
  | put k => exact put_good hg hw hn hz hgd
  | delRds k => exact delRds_good hg hw hn hz hgd
  | delNode => exact delNode_good hg hn hz hgd

end BTZ
end Model
