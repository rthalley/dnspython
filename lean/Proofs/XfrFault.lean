import Proofs.XfrConv
/-!
# Faults at an arbitrary position of an IXFR response: the state of the machine before any difference sequence
and inside its deletions (`IxfrAt`), and what each kind of misplaced rrset does there
-/
namespace Model.Xfr

theorem ixfrSteps_append (o : Name) : ∀ (pre rest : List Step) (cur : Soa),
    ixfrSteps o cur (pre ++ rest) = ixfrSteps o cur pre ++ ixfrSteps o (lastSoa cur pre) rest := by
  intro pre
  induction pre with
  | nil => intro rest cur; rfl
  | cons st more ih => intro rest cur; simp [ixfrSteps, lastSoa, ih]

theorem lastSoa_append : ∀ (pre rest : List Step) (cur : Soa),
    lastSoa cur (pre ++ rest) = lastSoa (lastSoa cur pre) rest := by
  intro pre
  induction pre with
  | nil => intro rest cur; rfl
  | cons st more ih => intro rest cur; simp [lastSoa, ih]

theorem applyAll_append (o : Name) (w : Zone) (pre rest : List Step) :
    applyAll o w (pre ++ rest) = applyAll o (applyAll o w pre) rest := by
  simp [applyAll]

theorem StepsOk.split {o : Name} {dn : Soa} : ∀ (pre rest : List Step) (cur : Soa) (w : Zone),
    StepsOk o dn cur w (pre ++ rest) →
    StepsOk o dn cur w pre ∧ StepsOk o dn (lastSoa cur pre) (applyAll o w pre) rest := by
  intro pre
  induction pre with
  | nil => intro rest cur w h; exact ⟨trivial, h⟩
  | cons st more ih =>
    intro rest cur w h
    obtain ⟨a, b, c, d, e, f⟩ := h
    have r := ih rest st.soa (applyStep o w st) f
    exact ⟨⟨a, b, c, d, e, r.1⟩, by simpa [lastSoa, applyAll] using r.2⟩

section
variable {fix : Bool} {o : Name} {t : Nat} {ser : Option Nat} {udp : Bool} {f : RRset} {x : Txn} {z : Zone} {more : Bool}

/-- whether it is taken for the final SOA or for the start of a deletion set, `FormError` -/
theorem mid_soa_mismatch {b : Nat} {dn s : Soa} {exp : Bool} (hne : s.rdata.serial ≠ b) :
    procRRset false (mid o t true (some b) udp (soaRR o dn) exp false x z) (soaRR o s) more =
      .error (.FormError, z) := by
  rw [mid_soa_ixfr, if_neg hne]

/-- The working copy is followed as a set of records `V`; "not there" is with respect to a coherent zone `W` that holds
`V` and the record. -/
theorem mid_del_absent {r : RR} {V W : Zone} (ht : r.rdtype ≠ soaType) (hz : isSubdomain r.owner o = true)
    (hx : x.work ≃z V) (hW : Coherent W) (hsub : ∀ q ∈ V, q ∈ W) (hr : r ∈ W) (hnot : r ∉ V) :
    procRRset fix (mid o t true ser udp f false true x z) (single r) more = .error (.DeleteNotExact, z) := by
  rw [mid_data (rs := single r) (fun h => ht h.1) hz,
    txnDeleteExact_absent hW (fun q hq => hsub q ((hx q).1 hq)) hr fun h => hnot ((hx r).1 h)]
  rfl

theorem mid_add_nonapex_soa {inc : Bool} {rs : RRset} {exp : Bool}
    (ht : rs.rdtype = soaType) (hno : rs.owner ≠ o) (hz : isSubdomain rs.owner o = true) :
    procRRset fix (mid o t inc ser udp f exp false x z) rs more = .error (.ValueError, z) := by
  cases exp with
  | false => rw [mid_data (fun h => hno h.2) hz, txnAdd_nonapex_soa ht hno]; rfl
  | true => rw [mid_fallback fun h => hno h.2, mid_data (fun h => hno h.2) hz, txnAdd_nonapex_soa ht hno]; rfl

/-- `habs`: the zone has no SOA but at the apex -/
theorem mid_del_nonapex_soa {rs : RRset} (ht : rs.rdtype = soaType) (hno : rs.owner ≠ o)
    (hz : isSubdomain rs.owner o = true) (hne : rs.rdatas ≠ []) {V : Zone} (hx : x.work ≃z V)
    (habs : ∀ q ∈ V, q.rdtype = soaType → q.owner = o) :
    procRRset fix (mid o t true ser udp f false true x z) rs more = .error (.DeleteNotExact, z) := by
  have hex : existing x.work rs.owner rs.rdtype = [] :=
    List.eq_nil_iff_forall_not_mem.2 fun q hq =>
      have h := mem_existing.1 hq
      hno (h.2.1.symm.trans (habs q ((hx q).1 h.1) (h.2.2.trans ht)))
  rw [mid_data (fun h => hno h.2) hz, txnDeleteExact_none hne hex]; rfl

end


theorem IxfrAt.before {o : Name} {cur : Soa} {pre : List Step} {st : Step} {post : List Step} {z0 : Zone}
    (h : IxfrAt o cur pre st post z0) (udp : Bool) :
    ∃ x', flatRun ⟨some o, ixfrType, some cur.rdata.serial, udp⟩ z0
          (soaRR o (lastSoa cur (pre ++ st :: post)) :: ixfrSteps o cur pre) =
        .ok (mid o ixfrType true (some (lastSoa cur pre).rdata.serial) udp (soaRR o (lastSoa cur (pre ++ st :: post)))
              pre.isEmpty false x' z0) ∧
      x'.work ≃z applyAll o z0 pre ∧ Coherent x'.work ∧
      (lastSoa cur pre).rdata ≠ (lastSoa cur (pre ++ st :: post)).rdata ∧
      (∀ r ∈ st.dels, r.rdtype ≠ soaType ∧ isSubdomain r.owner o = true ∧ r ∈ x'.work) ∧ st.dels.Nodup ∧
      (∀ r ∈ st.adds, r.rdtype ≠ soaType ∧ isSubdomain r.owner o = true) ∧
      Coherent (applyStep o x'.work st) ∧
      StepsOk o (lastSoa cur (pre ++ st :: post)) st.soa (applyStep o x'.work st) post := by
  obtain ⟨hpre, hst⟩ := StepsOk.split pre (st :: post) cur z0 h.ok
  obtain ⟨x', hf, q⟩ := ixfr_prefix_flat o cur (lastSoa cur (pre ++ st :: post)) pre z0 udp h.s1 h.s2 h.coh hpre
  obtain ⟨a, b, c, d, e, f⟩ := StepsOk.congr (st :: post) (Zone.equiv_symm q) hst
  exact ⟨x', hf, q, Coherent.congr q (hpre.coherent h.coh), a, b, c, d, e, f⟩

theorem IxfrAt.here {o : Name} {cur : Soa} {pre : List Step} {st : Step} {post : List Step} {z0 : Zone}
    (h : IxfrAt o cur pre st post z0) :
    Coherent (applyAll o z0 pre) ∧
      (∀ r ∈ st.dels, r.rdtype ≠ soaType ∧ isSubdomain r.owner o = true ∧ r ∈ applyAll o z0 pre) ∧ st.dels.Nodup ∧
      (∀ r ∈ st.adds, r.rdtype ≠ soaType ∧ isSubdomain r.owner o = true) := by
  obtain ⟨hpre, _, hdel, hnd, hadd, _⟩ := StepsOk.split pre (st :: post) cur z0 h.ok
  exact ⟨hpre.coherent h.coh, hdel, hnd, hadd⟩

theorem IxfrAt.in_dels {o : Name} {cur : Soa} {pre : List Step} {st : Step} {post : List Step} {z0 : Zone}
    (h : IxfrAt o cur pre st post z0) (udp : Bool) {ds : List RR} (hds : ds.Sublist st.dels) :
    ∃ x1, flatRun ⟨some o, ixfrType, some cur.rdata.serial, udp⟩ z0
          (soaRR o (lastSoa cur (pre ++ st :: post)) ::
            (ixfrSteps o cur pre ++ soaRR o (lastSoa cur pre) :: ds.map single)) =
        .ok (mid o ixfrType true (some (lastSoa cur pre).rdata.serial) udp (soaRR o (lastSoa cur (pre ++ st :: post)))
              false true x1 z0) ∧
      x1.work ≃z delAll (applyAll o z0 pre) ds := by
  obtain ⟨x', hf, q, _, hne, _⟩ := h.before udp
  obtain ⟨hcW, hdel, hnd, _⟩ := h.here
  obtain ⟨e1, q1⟩ := procAnswers_dels ds x' _ q hcW (fun r hr => hdel r (hds.subset hr)) (hnd.sublist hds)
  refine ⟨_, ?_, q1⟩
  rw [← List.cons_append, flatRun_append _ hf, procAnswers, step_delstart hne rfl]
  exact e1

end Model.Xfr
