import Proofs.RdataTextBitmap
import Proofs.RdataTextApl
import Proofs.RdataTextSigtime
/-! What `from_text` guarantees about the value it returns (C05): every field and tail of a parsed record has the shape
its kind prescribes and lies within the range the parser checks (`FieldRange`, `TailRange`).  Both "accepted from text ⇒
encodable to wire" and "accepted from text ⇒ printable" are read off these ranges.  Each reader is followed from its token
to the value (`Returns`); what its decoder guarantees is stated next to the decoder. -/
namespace Model
open Dnssec

/-- shape and range of the value `parseField` returns for a field of each kind -/
inductive FieldRange : FK → FV → Prop
  | uint {max v} : v ≤ max → FieldRange (.uint max) (.n v)
  | oct16 {v} : v ≤ 65535 → FieldRange .oct16 (.n v)
  | ttl {v} : v ≤ Consts.maxTTL → FieldRange .ttl (.n v)
  | name {n} : FieldRange .name (.nm n)
  | nameRaw {n} : FieldRange .nameRaw (.nm n)
  | cstr {mt mb q s} : (∀ m, mb = some m → s.length ≤ m) → FieldRange (.cstr mt mb q) (.b s)
  | ip4 {a} : a.length = 4 → FieldRange .ip4 (.b a)
  | ip6 {a} : a.length = 16 → FieldRange .ip6 (.b a)
  | algo {v} : v ≤ 255 → FieldRange .algo (.n v)
  | salt {s} : s.length ≤ 255 → FieldRange .salt (.b s)
  | eui {n s} : FieldRange (.eui n) (.b s)
  | hex16x4 {s} : FieldRange .hex16x4 (.b s)
  | nsap {s} : FieldRange .nsap (.b s)
  | rdtype {v} : v ≤ 65535 → FieldRange .rdtype (.n v)
  | algoName {v} : v ≤ 255 → FieldRange .algoName (.n v)
  | scheme {v} : v ≤ 255 → FieldRange .scheme (.n v)
  | ctype {v} : v ≤ 65535 → FieldRange .ctype (.n v)
  | keyFlags {v} : v ≤ 65535 → FieldRange .keyFlags (.n v)
  | keyProto {v} : v ≤ 255 → FieldRange .keyProto (.n v)
  | sigtime {v} : v < 4294967296 → FieldRange .sigtime (.n v)
  | b32hex {s} : s.length ≤ 255 → FieldRange .b32hex (.b s)
  | hexOne {s} : s.length ≤ 255 → FieldRange .hexOne (.b s)
  | b64One {s} : s.length ≤ 65535 → FieldRange .b64One (.b s)
  | gpos {lim s} : s.length ≤ 255 → FieldRange (.gpos lim) (.b s)
  | rcode {v} : v ≤ 4095 → FieldRange .rcode (.n v)

theorem parseField_range (env : PEnv) (k : FK) (t : Tok) : Returns (FieldRange k) (parseField env k t) := by
  -- each kind's reader step by step: `match_some` where `Token.unescape` or a decoder hands its value on, `ite_none` /
  -- `ite_some` at a guard, `map` at the final wrapper; the bound comes from the guard named or from the decoder's own lemma
  cases k with
  | uint max => exact .map ((asUint_le _ _ _).mono fun _ => .uint)
  | oct16 => exact .map ((asUint_le _ _ _).mono fun _ => .oct16)
  | ttl => exact .map ((asTtl_le _).mono fun _ => .ttl)
  | name => exact .map fun _ _ => .name
  | nameRaw => exact .map fun _ _ => .nameRaw
  | cstr mt mb q => exact .match_some fun _ => .map fun b hb => .cstr fun m hm => bytesMax_le m _ b (hm ▸ hb)
  | ip4 => exact .ite_none fun _ => .match_some fun _ => .map ((ip4Aton_length _).mono fun _ => .ip4)
  | ip6 => exact .ite_none fun _ => .match_some fun _ => .map ((ip6Aton_length _).mono fun _ => .ip6)
  | algo => exact .match_some fun _ => .map ((algoFromText_le _).mono fun _ => .algo)
  | salt =>
    exact .match_some fun _ => .ite (fun _ => .some (.salt (Nat.zero_le _))) fun _ =>
      .match_some fun _ => .ite_none fun hb => .some (.salt (by omega))
  | eui n =>
    exact .match_some fun _ => .ite_none fun _ => .ite_none fun _ => .match_some fun _ => .ite_some fun _ => .some .eui
  | hex16x4 => exact .ite_none fun _ => .match_some fun _ => .map fun _ _ => .hex16x4
  | nsap => exact .match_some fun _ => .ite_none fun _ => .ite_none fun _ => .map fun _ _ => .nsap
  | rdtype => exact .match_some fun _ => .map ((rdtypeFromText_le _).mono fun _ => .rdtype)
  | algoName => exact .match_some fun _ => .map ((enumFromText_le _ _ 255 tablesFit.alg _).mono fun _ => .algoName)
  | scheme => exact .match_some fun _ => .map ((enumFromText_le _ _ 255 tablesFit.scheme _).mono fun _ => .scheme)
  | ctype =>
    refine .match_some fun _ => ?_
    split
    · rename_i n hn
      exact .some (.ctype (tablesFit.ctype _ (lookupName_mem _ _ _ hn)))
    · exact .match_int fun _ _ => .ite_none fun hn => .some (.ctype (by omega))
  | keyFlags =>
    simp only [parseField, parseFieldExtra]
    split
    · rename_i n hd
      exact .some (.keyFlags (keyDirect_le _ _ n hd))
    · exact .map ((keyFlags_fold_lt _ _ (.some (by omega))).mono fun _ h => .keyFlags (by omega))
  | keyProto =>
    simp only [parseField, parseFieldExtra]
    split
    · rename_i n hd
      exact .some (.keyProto (keyDirect_le _ _ n hd))
    · exact .map fun n hn => .keyProto (tablesFit.keyProto _ (lookupName_mem _ _ _ hn))
  | sigtime => exact .match_some fun _ => .map ((sigtimeFromText_lt _).mono fun _ => .sigtime)
  | b32hex =>
    exact .match_some fun _ => .ite_none fun _ => .match_some fun _ => .ite_none fun hb => .some (.b32hex (by omega))
  | hexOne => exact .match_some fun _ => .match_some fun _ => .ite_none fun hb => .some (.hexOne (by omega))
  | b64One => exact .match_some fun _ => .match_some fun _ => .ite_none fun hb => .some (.b64One (by omega))
  | gpos lim => exact .match_some fun _ => .ite_none fun hl => .ite_some fun _ => .some (.gpos (by omega))
  | rcode => exact .match_some fun _ => .map ((enumFromText_le _ _ 4095 tablesFit.rcode _).mono fun _ => .rcode)

inductive FieldsRange : List FK → List FV → Prop
  | nil : FieldsRange [] []
  | cons {k v ks vs} : FieldRange k v → FieldsRange ks vs → FieldsRange (k :: ks) (v :: vs)

theorem parseFields_range (env : PEnv) (ks : List FK) (toks : List Tok) :
    Returns (fun p => FieldsRange ks p.1) (parseFields env ks toks) := by
  induction ks generalizing toks with
  | nil => exact .some .nil
  | cons k ks ih =>
    cases toks with
    | nil => exact .none
    | cons t ts =>
      simp only [parseFields]
      split
      · rename_i v vs rest hv hr
        exact .some (.cons (parseField_range env k t v hv) (ih ts _ hr))
      · exact .none

/-- the gateway text read for types 1 and 2 is an address `inet_aton` accepts -/
def GatewayRange (kind : Nat) (addr : List Nat) : Prop :=
  kind = 0 ∨ (kind = 1 ∧ (ip4Aton addr).isSome = true) ∨ (kind = 2 ∧ (ip6Aton addr).isSome = true) ∨ kind = 3

theorem parseGatewayTok_range (env : PEnv) (ty : Nat) (t : Tok) :
    Returns (fun p => GatewayRange ty p.1) (parseGatewayTok env ty t) := by
  unfold parseGatewayTok
  refine .ite (fun _ => .match_some fun _ => ?_) fun _ => .ite_some fun h3 => .map fun _ _ => .inr (.inr (.inr h3))
  refine .ite (fun h0 => .ite_some fun _ => .some (.inl h0)) fun _ => .ite (fun h1 => ?_) fun _ => ?_
  · exact .ite_some fun hv => .some (.inr (.inl ⟨h1, hv⟩))
  · exact .ite_some fun hv => .some (.inr (.inr (.inl ⟨by omega, hv⟩)))

/-- shape and range of the value `parseTailE` returns for a tail of each kind -/
inductive TailRange : TK → Option FV → Prop
  | none : TailRange .none none
  | hex {d} : TailRange .hex (some (.b d))
  | b64 {f d} : TailRange (.b64 f) (some (.b d))
  | keyB64 {d} : TailRange .keyB64 (some (.b d))
  | bitmap {ws} : (∀ w ∈ ws, w.1 < 256 ∧ w.2.length ≤ 32) → TailRange .bitmap (some (.wl ws))
  | names {ns} : TailRange .names (some (.nl ns))
  | b64Opt {d} : d.length ≤ 65535 → TailRange .b64Opt (some (.b d))
  | tsigOther {d} : TailRange .tsigOther (some (.b d))
  | txt {ss} : (∀ s ∈ ss, s.length ≤ 255) → TailRange .txt (some (.bl ss))
  | optCstr {s} : s.length ≤ 255 → TailRange .optCstr (some (.b s))
  | apl {items} : (∀ it ∈ items, AplRange it) → TailRange .apl (some (.apl items))
  | wks {addr proto bm} : addr.length = 4 → proto ≤ 255 → TailRange .wks (some (.wks addr proto bm))
  | gateway {ti ai kind addr nm key} : GatewayRange kind addr → TailRange (.gateway ti ai) (some (.gw kind addr nm key))

theorem parseTailE_range (env : PEnv) (vals : List FV) (tk : TK) (toks : List Tok) :
    Returns (TailRange tk) (parseTailE env vals tk toks) := by
  cases tk with
  | none => exact .ite_some fun _ => .some .none
  | hex => exact .match_some fun _ => .map fun _ _ => .hex
  | b64 f => exact .match_some fun _ => .map fun _ _ => .b64
  | keyB64 =>
    exact .ite (fun _ => .ite_some fun _ => .some .keyB64) fun _ => .match_some fun _ => .map fun _ _ => .keyB64
  | bitmap =>
    exact .map fun tys ht => .bitmap fun w hw =>
      have h := (fromRdtypes_exact tys (bitmap_types_range _ tys ht)).2.2 w hw
      ⟨h.1, h.2.2.1⟩
  | names => exact .map fun _ _ => .names
  | b64Opt => exact .match_some fun _ => .match_some fun _ => .ite_none fun hb => .some (.b64Opt (by omega))
  | tsigOther =>
    simp only [parseTailE, parseTail]
    split
    · exact .ite_some fun _ => .some .tsigOther
    · exact .ite_none fun _ => .match_some fun _ => .match_some fun _ => .ite_some fun _ => .some .tsigOther
    · exact .none
  | txt =>
    simp only [parseTailE, parseTail]
    split
    · rename_i ss hss
      exact .ite_none fun _ => .some (.txt (parseTxt_le _ ss hss))
    · exact .none
  | optCstr =>
    simp only [parseTailE, parseTail]
    split
    · exact .some (.optCstr (Nat.zero_le _))
    · exact .match_some fun _ => .map fun b hb => .optCstr (bytesMax_le _ _ b hb)
    · exact .none
  | apl => exact .map fun items hp => .apl (parseApl_range toks items hp)
  | wks =>
    simp only [parseTailE, parseTail, parseWks]
    split
    · split
      · split
        · exact .none
        · rename_i addr ha
          refine .ite_some fun _ => .ite_none fun hp => ?_
          split
          · exact .some (.wks (ip4Aton_length _ _ ha) (by omega))
          · exact .none
      · exact .none
    · exact .none
  | gateway ti ai =>
    simp only [parseTailE, parseGateway]
    split
    · rename_i ty t rest _
      split
      · exact .none
      · rename_i addr nm hg
        have hr : GatewayRange ty addr := parseGatewayTok_range env ty t _ hg
        split
        · exact .ite_some fun _ => .some (.gateway hr)
        · split
          · exact .match_some fun _ => .map fun _ _ => .gateway hr
          · exact .none
    · exact .none

theorem parseRec_range (sch : Schema) (env : PEnv) (toks : List Tok) :
    Returns (fun p => FieldsRange sch.fields p.1 ∧ TailRange sch.tail p.2) (parseRec sch env toks) := by
  unfold parseRec
  split
  · exact .none
  · rename_i vals rest hpf
    split
    · exact .none
    · rename_i tail hpt
      exact .ite_some fun _ => .some ⟨parseFields_range env _ toks _ hpf, parseTailE_range env _ _ rest _ hpt⟩

def namesOfFV : FV → List Name
  | .nm n => [n]
  | .nl ns => ns
  | .gw _ _ nm _ => [nm]
  | _ => []

end Model
