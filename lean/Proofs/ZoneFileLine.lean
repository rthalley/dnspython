import Model.ZoneFile
import Proofs.ZoneFileLineG
/-!
The writer's canonical shape of a record line, `owner SP ttl SP class SP type <rdata> NL`, is one of the shapes of
`ZoneFileLineG` (explicit owner, single blanks, TTL and class both written): it is read back as exactly one record.
-/
namespace Model

/-- owner text, TTL text, class text, type text of a canonical line and the side conditions under which they are
the tokens the reader sees -/
structure LineOK (ow ttlT clsT tyT : List Nat) (co zo n : Name) (ttl ty : Nat) : Prop where
  ow_ok : identOK ow = true
  ow_ne : ow ≠ []
  ow_nodollar : ow.head? ≠ some 36
  ow_name : (identToken ow).asName (some co) false none = .ok n
  in_zone : isSubdomain n zo = true
  ttl_ok : identOK ttlT = true
  ttl_ne : ttlT ≠ []
  ttl_val : ttlOf ttlT = some ttl
  cls_ok : identOK clsT = true
  cls_ne : clsT ≠ []
  cls_val : classFromText clsT = some 1
  ty_ok : identOK tyT = true
  ty_ne : tyT ≠ []
  ty_val : typeFromText tyT = some ty

/-- the parser state after the record: the SOA-minimum default is picked up when no default is known yet -/
def afterRecord (r : PState) (n : Name) (ttl ty : Nat) (rd : Rdata) (rest : List Nat) : PState :=
  let r1 : PState := { r with tok := after 0 false rest, lastName := some n, lastTTL := ttl, lastTTLKnown := true }
  if !r1.defaultTTLKnown ∧ ty = tSOA then
    match rd with
    | .soa _ _ _ _ _ _ minimum => { r1 with defaultTTL := minimum, defaultTTLKnown := true }
    | _ => r1
  else r1

/-- the canonical line among the general record lines -/
def canonLine (ow ttlT clsT tyT rdText : List Nat) (n m : Name) (ttl ty : Nat) (rd : Rdata)
    (comment : Option (List Nat)) : GLine :=
  { owner := some ow, b0 := [32], hdr := .tc ttlT [32] clsT [32] tyT, rdText, n, m, ttl, ty, rd, comment }

theorem canonLine_good {ow ttlT clsT tyT rdText : List Nat} {co zo n m : Name} {ttl ty : Nat} {rd : Rdata}
    {comment : Option (List Nat)} {rel gfix : Bool}
    (hl : LineOK ow ttlT clsT tyT co zo n ttl ty) (hm : ownerInZone rel n zo = .ok m)
    (hrd : RdataReads ty rdText rd comment (some co) rel (some zo) gfix) :
    (canonLine ow ttlT clsT tyT rdText n m ttl ty rd comment).Good co zo rel gfix :=
  have sp : SepOK [32] := ⟨sp_blank, by simp⟩
  { b0 := sp
    owner := fun _ h => by cases h; exact ⟨hl.ow_ok, hl.ow_ne, hl.ow_nodollar, hl.ow_name⟩
    in_zone := hl.in_zone
    stored := hm
    hdr := ⟨⟨hl.ttl_ok, hl.ttl_ne⟩, sp, ⟨hl.cls_ok, hl.cls_ne⟩, sp, ⟨hl.ty_ok, hl.ty_ne⟩, hl.ttl_val, hl.cls_val,
      hl.ty_val⟩
    rdata := hrd }

/-- a record line as the writer prints it; `rdText` starts at the separator after the type and ends with the newline -/
structure RecLine where
  ow : List Nat
  ttlT : List Nat
  clsT : List Nat
  tyT : List Nat
  rdText : List Nat
  n : Name          -- absolute owner
  m : Name          -- owner as stored in the zone
  ttl : Nat
  ty : Nat
  rd : Rdata
  comment : Option (List Nat)

/-- side conditions of one line under origin `zo` (no `$ORIGIN` change: current origin = zone origin) -/
def RecLine.Good (l : RecLine) (zo : Name) (rel gfix : Bool) : Prop :=
  LineOK l.ow l.ttlT l.clsT l.tyT zo zo l.n l.ttl l.ty ∧
  ownerInZone rel l.n zo = .ok l.m ∧
  RdataReads l.ty l.rdText l.rd l.comment (some zo) rel (some zo) gfix

def RecLine.toG (l : RecLine) : GLine :=
  canonLine l.ow l.ttlT l.clsT l.tyT l.rdText l.n l.m l.ttl l.ty l.rd l.comment

theorem RecLine.Good.toG {l : RecLine} {zo : Name} {rel gfix : Bool} (h : l.Good zo rel gfix) :
    l.toG.Good zo zo rel gfix :=
  canonLine_good h.1 h.2.1 h.2.2

end Model
