import Proofs.NetWait
import Proofs.NetUdp
/-! `_net_read` / `_net_write` of `Model.Net`: soundness for every script, completeness for every script that delivers
enough octets before EOF and before the deadline.  `dns.asyncquery`'s stream functions are `dns.query`'s: `_read_exactly`
over a backend `recv(count, timeout)` computes what `_net_read` over `_wait_for` computes, for every script, count,
deadline and clock, and the backend's `sendall` is the socket script `backendSends`; hence `tcpA = tcp` and
`udpWithFallbackA = udpWithFallback` on that script. -/
namespace Model.Net

/-- total time the script spends in would-block waits -/
def blockTimeR : List REv → Nat
  | [] => 0
  | .block dt :: rest => dt + blockTimeR rest
  | _ :: rest => blockTimeR rest

/-- no EOF mark and no empty chunk (which a socket reports as EOF) -/
def Clean : List REv → Prop
  | [] => True
  | .data d :: rest => d ≠ [] ∧ Clean rest
  | .block _ :: rest => Clean rest
  | .eof :: _ => False

theorem netRead_zero (evs : List REv) (exp : Option Nat) (now : Nat) (acc : Bytes) :
    netRead evs 0 exp now acc = .ok (acc, evs, now) := by
  unfold netRead; rfl

theorem netRead_sound (evs : List REv) (count : Nat) (exp : Option Nat) (now : Nat) (acc r : Bytes)
    (evs' : List REv) (now' : Nat) (h : netRead evs count exp now acc = .ok (r, evs', now')) :
    ∃ x, r = acc ++ x ∧ x.length = count ∧ stream evs = x ++ stream evs' := by
  fun_induction netRead evs count exp now acc
  case case1 => cases h; exact ⟨[], by simp⟩
  case case5 ih => exact ih h
  case case7 d rest c exp now acc hne hle ih =>
    obtain ⟨x, h1, h2, h3⟩ := ih h
    exact ⟨d ++ x, by simp [h1], by simp [h2]; omega, by simp [stream, h3]⟩
  case case8 d rest c exp now acc hne hgt =>
    cases h
    exact ⟨d.take (c + 1), rfl, by simp; omega, by simp [stream, ← List.append_assoc]⟩
  all_goals cases h

theorem netRead_complete (evs : List REv) (count : Nat) (exp : Option Nat) (now : Nat) (acc : Bytes)
    (hcl : Clean evs) (hexp : ∀ e, exp = some e → now + blockTimeR evs < e) (hc : count ≤ (stream evs).length) :
    ∃ r evs' now', netRead evs count exp now acc = .ok (r, evs', now') ∧ Clean evs' ∧
      now' + blockTimeR evs' ≤ now + blockTimeR evs := by
  fun_induction netRead evs count exp now acc
  case case1 => exact ⟨_, _, _, rfl, hcl, Nat.le_refl _⟩
  case case2 => simp [stream] at hc
  case case3 => exact hcl.elim
  case case4 hw => cases (waitFor_onTime hexp).1.symm.trans hw
  case case5 dt rest c exp now acc now1 hw ih =>
    cases (waitFor_onTime hexp).1.symm.trans hw
    obtain ⟨r, evs', now', h1, h2, h3⟩ := ih hcl (waitFor_onTime hexp).2 hc
    exact ⟨r, evs', now', h1, h2, by simp only [blockTimeR]; omega⟩
  case case6 d rest c exp now acc hd => exact absurd (List.isEmpty_iff.1 hd) hcl.1
  case case7 d rest c exp now acc hne hle ih =>
    exact ih hcl.2 hexp (by simp [stream] at hc; omega)
  case case8 d rest c exp now acc hne hgt =>
    refine ⟨_, _, _, rfl, ⟨fun h0 => ?_, hcl.2⟩, Nat.le_refl _⟩
    have : (d.drop (c + 1)).length = 0 := by rw [h0]; rfl
    rw [List.length_drop] at this
    omega

/-- on a clean, on-time script whose stream starts with `x`, reading `|x|` octets returns exactly `x` and leaves the rest -/
theorem netRead_exact (evs : List REv) (x tail : Bytes) (exp : Option Nat) (now : Nat) (acc : Bytes)
    (hcl : Clean evs) (hexp : ∀ e, exp = some e → now + blockTimeR evs < e) (hs : stream evs = x ++ tail) :
    ∃ evs' now', netRead evs x.length exp now acc = .ok (acc ++ x, evs', now') ∧ stream evs' = tail ∧ Clean evs' ∧
      now' + blockTimeR evs' ≤ now + blockTimeR evs := by
  obtain ⟨r, evs', now', hr, hc, ht⟩ := netRead_complete evs x.length exp now acc hcl hexp (by simp [hs])
  obtain ⟨y, hy1, hy2, hy3⟩ := netRead_sound _ _ _ _ _ _ _ _ hr
  obtain ⟨rfl, e2⟩ := List.append_inj (hs ▸ hy3) hy2.symm
  exact ⟨evs', now', hy1 ▸ hr, e2.symm, hc, ht⟩

theorem starved_kinds (exp : Option Nat) : starved exp = .timeout ∨ starved exp = .exhausted := by
  cases exp <;> simp [starved]

/-- `.exhausted`: no deadline and waiting for ever -/
theorem netRead_error_kinds (evs : List REv) (count : Nat) (exp : Option Nat) (now : Nat) (acc : Bytes) (e : Err)
    (h : netRead evs count exp now acc = .error e) : e = .eof ∨ e = .timeout ∨ e = .exhausted := by
  fun_induction netRead evs count exp now acc
  case case2 exp _ _ => cases h; exact Or.inr (starved_kinds exp)
  case case4 hw => cases h; exact Or.inr (Or.inl (waitFor_error' _ _ _ _ hw))
  case case5 ih => exact ih h
  case case7 ih => exact ih h
  all_goals cases h
  all_goals exact Or.inl rfl

theorem beVal_be16 (n : Nat) (h : n < 65536) : beVal (be16 n) = n := by
  simp [beVal, be16]; omega

def capacity : List SEv → Nat
  | [] => 0
  | .accept k :: rest => k + capacity rest
  | .block _ :: rest => capacity rest

def blockTimeS : List SEv → Nat
  | [] => 0
  | .block dt :: rest => dt + blockTimeS rest
  | .accept _ :: rest => blockTimeS rest

theorem netWrite_nil (evs : List SEv) (exp : Option Nat) (now : Nat) (sent : Bytes) :
    netWrite evs [] exp now sent = (sent, .ok (evs, now)) := by
  unfold netWrite; rfl

theorem netWrite_sound (evs : List SEv) (rem : Bytes) (exp : Option Nat) (now : Nat) (sent : Bytes) :
    ∃ k, (netWrite evs rem exp now sent).1 = sent ++ rem.take k ∧
      ((∃ v, (netWrite evs rem exp now sent).2 = .ok v) → (netWrite evs rem exp now sent).1 = sent ++ rem) := by
  fun_induction netWrite evs rem exp now sent
  case case1 => exact ⟨0, by simp⟩
  case case2 => exact ⟨0, by simp⟩
  case case3 k rest x xs exp now sent ih =>
    obtain ⟨j, h1, h2⟩ := ih
    refine ⟨k + j, ?_, fun hv => ?_⟩
    · rw [h1, List.append_assoc, List.take_add]
    · rw [h2 hv, List.append_assoc, List.take_append_drop]
  case case4 => exact ⟨0, by simp⟩
  case case5 ih => exact ih

theorem netWrite_complete (evs : List SEv) (rem : Bytes) (exp : Option Nat) (now : Nat) (sent : Bytes)
    (hexp : ∀ e, exp = some e → now + blockTimeS evs < e) (hc : rem.length ≤ capacity evs) :
    ∃ v, (netWrite evs rem exp now sent).2 = .ok v := by
  fun_induction netWrite evs rem exp now sent
  case case1 => exact ⟨_, rfl⟩
  case case2 => simp [capacity] at hc
  case case3 k rest x xs exp now sent ih =>
    exact ih hexp (by simp [capacity] at hc ⊢; omega)
  case case4 hw => cases (waitFor_onTime hexp).1.symm.trans hw
  case case5 hw ih =>
    cases (waitFor_onTime hexp).1.symm.trans hw
    exact ih (waitFor_onTime hexp).2 hc

theorem readExactlyA_zero (exp : Option Nat) (evs : List REv) (b : Option Nat) (now : Nat) (acc : Bytes) :
    readExactlyA exp evs 0 b now acc = .ok (acc, evs, now) := by
  unfold readExactlyA; rfl

theorem readExactlyA_eq (exp : Option Nat) (evs : List REv) (count now : Nat) (acc : Bytes) :
    readExactlyA exp evs count (timeoutOf exp now) now acc = netRead evs count exp now acc := by
  fun_induction netRead evs count exp now acc <;>
    simp [readExactlyA, waitB_timeoutOf, starvedB_timeoutOf, *]

theorem readExactly_eq (evs : List REv) (count : Nat) (exp : Option Nat) (now : Nat) :
    readExactly evs count exp now = netRead evs count exp now [] :=
  readExactlyA_eq exp evs count now []

theorem receiveFrameA_eq (evs : List REv) (exp : Option Nat) (now : Nat) :
    receiveFrameA evs exp now = receiveFrame evs exp now := by
  unfold receiveFrameA receiveFrame
  simp only [readExactly_eq]

theorem receiveTcpA_eq (body : Bytes → Body) (it : Bool) (evs : List REv) (exp : Option Nat) (now : Nat) :
    receiveTcpA body it false evs exp now = receiveTcp body it evs exp now := by
  unfold receiveTcpA receiveTcp
  rw [receiveFrameA_eq]

theorem receiveFrame_sound {evs : List REv} {exp : Option Nat} {now : Nat} {frame : Bytes} {evs' : List REv} {now' : Nat}
    (h : receiveFrame evs exp now = .ok (frame, evs', now')) :
    ∃ ld, ld.length = 2 ∧ frame.length = beVal ld ∧ stream evs = ld ++ frame ++ stream evs' := by
  have h2 : ConstsC18.lenPrefix = 2 := by decide
  unfold receiveFrame at h
  rw [h2] at h
  split at h
  · simp at h
  · rename_i ld evs1 now1 hr1
    obtain ⟨x, hx1, hx2, hx3⟩ := netRead_sound _ _ _ _ _ _ _ _ hr1
    obtain ⟨y, hy1, hy2, hy3⟩ := netRead_sound _ _ _ _ _ _ _ _ h
    simp only [List.nil_append] at hx1 hy1
    subst hx1; subst hy1
    exact ⟨ld, hx2, hy2, by rw [hx3, hy3, List.append_assoc]⟩

theorem receiveFrame_error_kinds {evs : List REv} {exp : Option Nat} {now : Nat} {e : Err}
    (h : receiveFrame evs exp now = .error e) : e = .eof ∨ e = .timeout ∨ e = .exhausted := by
  unfold receiveFrame at h
  split at h
  · next e' he => cases h; exact netRead_error_kinds _ _ _ _ _ _ he
  · exact netRead_error_kinds _ _ _ _ _ _ h

/-- what `receive_tcp` returns is the first length-prefixed message of the stream, parsed whole -/
theorem receiveTcp_returns {it : Bool} {body : Bytes → Body} {revs : List REv} {exp : Option Nat} {now : Nat}
    {r : TRet} (h : receiveTcp body it revs exp now = .ok r) :
    (∃ ld, ld.length = 2 ∧ r.frame.length = beVal ld ∧ stream revs = ld ++ r.frame ++ stream r.rest) ∧
    header r.frame = some (r.msg.id, r.msg.flags) ∧ (body r.frame).broken = none ∧
    ((body r.frame).trailing = true → it = true) := by
  unfold receiveTcp at h
  split at h
  · cases h
  · rename_i frame rest now1 hframe
    split at h
    · cases h
    · rename_i m hp
      cases h
      unfold parseFrame at hp
      split at hp <;> cases hp
      rename_i hf
      obtain ⟨f1, _, _, _, f4, f5, _⟩ := (fromWire_ok_iff _ _ _ _).1 hf
      exact ⟨receiveFrame_sound hframe, f1, f4, f5⟩

theorem tcp_ok {q : Msg} {qwire : Bytes} {timeout : Option Nat} {it : Bool} {body : Bytes → Body}
    {sevs : List SEv} {revs : List REv} {now : Nat} {sent : Bytes} {r : TRet}
    (h : tcp q qwire timeout it body sevs revs now = (sent, .ok r)) :
    ∃ v, sendTcp qwire sevs (expiration timeout now) now = (sent, .ok v) ∧
      receiveTcp body it revs (expiration timeout now) v.2 = .ok r ∧ isResponse q r.msg = true := by
  simp only [tcp] at h
  split at h
  · cases h
  · rename_i sent' evs1 now1 hs
    split at h
    · cases h
    · rename_i r' hr
      split at h
      · cases h
      · rename_i hb
        cases h
        exact ⟨_, hs, hr, by simpa using hb⟩

/-- The backend's `sendall(data, timeout)` seen as a `dns.query` socket: `send` raises `BlockingIOError` once per
wait and then accepts everything (`n` octets or more) at once. -/
def backendSends (blocks : List Nat) (n : Nat) : List SEv := blocks.map .block ++ [.accept n]

theorem netWrite_backend (exp : Option Nat) (blocks : List Nat) (now x : Nat) (xs sent : Bytes) (n : Nat)
    (hn : (x :: xs).length ≤ n) :
    netWrite (backendSends blocks n) (x :: xs) exp now sent =
      match udpSend exp blocks now with
      | .error (e, _) => (sent, .error e)
      | .ok now1 => (sent ++ x :: xs, .ok ([], now1)) := by
  fun_induction udpSend exp blocks now
  case case1 =>
    simp only [backendSends, List.map_nil, List.nil_append, netWrite, List.drop_eq_nil_of_le hn, List.take_of_length_le hn]
  case case2 hw => simp only [backendSends, List.map_cons, List.cons_append, netWrite, hw]
  case case3 hw ih => simpa only [backendSends, List.map_cons, List.cons_append, netWrite, hw] using ih

/-- `dns.asyncquery.tcp` over a backend socket is `dns.query.tcp` over the socket `backendSends`, for every receive
script; so is `udp_with_fallback` (below), and what holds of the one for every send script holds of the other. -/
theorem tcpA_eq_tcp (q : Msg) (qwire : Bytes) (timeout : Option Nat) (it : Bool) (body : Bytes → Body)
    (blocks : List Nat) (revs : List REv) (now : Nat) :
    tcpA q qwire timeout it body blocks revs now =
      tcp q qwire timeout it body (backendSends blocks (qwire.length + 2)) revs now := by
  simp only [tcpA, tcp, sendTcpA, sendTcp]
  -- what is sent starts with the two length octets: the non-empty form `netWrite`'s equations ask for
  rw [sendB_eq, show be16 qwire.length ++ qwire = _ :: (_ :: qwire) from rfl,
    netWrite_backend _ _ _ _ _ _ _ (by simp)]
  cases udpSend (expiration timeout now) blocks now with
  | error e => rfl
  | ok now1 => simp only [receiveTcpA_eq, List.nil_append]

theorem udpWithFallbackA_eq (q : Msg) (qwire : Bytes) (af : Nat) (dest : Addr) (timeout : Option Nat) (o : UOpts)
    (sendBlocks : List Nat) (script : List UEv) (body : Bytes → Body) (tb : List Nat) (revs : List REv) (now : Nat) :
    udpWithFallbackA q qwire af dest timeout o sendBlocks script body tb revs now =
      udpWithFallback q qwire af dest timeout o sendBlocks script body (backendSends tb (qwire.length + 2)) revs now := by
  unfold udpWithFallbackA udpWithFallback
  simp only [udpA_eq, tcpA_eq_tcp]

theorem asFallback_fst (t : Nat) (p : Bytes × Except Err TRet) : (asFallback t p).1 = p.1 := by
  obtain ⟨sent, res⟩ := p
  cases res <;> rfl

theorem tcp_fst (q : Msg) (qwire : Bytes) (timeout : Option Nat) (it : Bool) (body : Bytes → Body)
    (sevs : List SEv) (revs : List REv) (now : Nat) :
    (tcp q qwire timeout it body sevs revs now).1 = (sendTcp qwire sevs (expiration timeout now) now).1 := by
  simp only [tcp]
  split
  · rename_i hs; rw [hs]
  · rename_i hs
    rw [hs]
    split
    · rfl
    · split <;> rfl

end Model.Net
