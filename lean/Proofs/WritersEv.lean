import Proofs.WritersBase
/-!
The invariant about events, `InvEv`: the wake-up token (`_write_event`), the waiter queue, who owns which event, and what
a thread knows at the program points of `writer()` and `_end_write_unlocked`; a few consequences several clauses need;
and `invEv_trans`, its preservation by every transition.

The clauses about a thread at a program point (`app … testW`, `wait`, `acq`) are read as a proof outline, `evAt`: one
assertion per program point.  It is kept by the thread that moves (`evAt_trans`: one `cases` on the transition, twelve
transitions arrive at a point that asserts something), by the steps of the others while the thread is inside a critical
section because those change nothing shared (`Trans.held`), and the two assertions outside the critical sections (parked,
woken) are checked against the writers of the queue and the token.  The clauses about events (`wq`, `tok`, …) follow the
life of one event: where was it before the step, and which of the fields the clause reads can the step have written
(`Trans.waiters_cases`, `Trans.writeEvent_cases`, `Trans.evSet_eq`).
-/
namespace Model.Writers

/-- the lock is held, and its holder is at program point `p` -/
def State.lockAt (s : State) (p : Pc) : Prop := s.lock ≠ none ∧ ∀ u, s.lock = some u → (s.loc u).pc = p

theorem State.lockAt_of_lock {s : State} {t : Tid} {p : Pc} (hl : s.lock = some t) (hpc : (s.loc t).pc = p) : s.lockAt p :=
  ⟨hl ▸ nofun, fun _ hu => Option.some.inj (hl.symm.trans hu) ▸ hpc⟩

structure InvEv (s : State) : Prop where
  /-- an event held in a local variable exists and was created by that thread -/
  evLt : ∀ t e, (s.loc t).ev = some e → e < s.nextEv ∧ s.owner e = t
  /-- every queued event belongs to a thread that is parked on it (or about to be), is not set and is not the token -/
  wq : ∀ e, e ∈ s.waiters → e < s.nextEv ∧ (s.loc (s.owner e)).ev = some e ∧ queuedPc (s.loc (s.owner e)).pc = true ∧
        e ∉ s.evSet ∧ s.writeEvent ≠ some e
  wqNodup : s.waiters.Nodup
  /-- only existing events have been set -/
  setLt : ∀ e, e ∈ s.evSet → e < s.nextEv
  /-- the token belongs to exactly one thread, which is on its way to admission -/
  tok : ∀ e, s.writeEvent = some e → e < s.nextEv ∧ (s.loc (s.owner e)).ev = some e ∧ tokenPc (s.loc (s.owner e)).pc = true ∧
        e ∉ s.waiters ∧
        (e ∈ s.evSet ∨ ((s.loc (s.owner e)).pc = .wWait ∧ s.lockAt .eSet)) ∧
        (s.writeTxn = none ∨ (s.loc (s.owner e)).pc = .wClrEv)
  /-- about to enqueue: the event just created is unknown to everybody else -/
  app : ∀ t, (s.loc t).pc = .wAppend → (s.loc t).ev ≠ none ∧
        ∀ e, (s.loc t).ev = some e → e ∉ s.waiters ∧ s.writeEvent ≠ some e ∧ e ∉ s.evSet
  /-- enqueued, about to release the lock -/
  relB : ∀ t, (s.loc t).pc = .wRelB → (s.loc t).ev ≠ none ∧ ∀ e, (s.loc t).ev = some e → e ∈ s.waiters
  /-- parked in `event.wait()`: the event is queued, or it is the token (no wake-up is lost) -/
  wait : ∀ t, (s.loc t).pc = .wWait → (s.loc t).ev ≠ none ∧
        ∀ e, (s.loc t).ev = some e → e ∈ s.waiters ∨ s.writeEvent = some e
  /-- woken up and on the way to the admission test: the thread holds the token, and its event is set -/
  acq : ∀ t, (s.loc t).pc = .wAcq ∨ (s.loc t).pc = .wTest → ∀ e, (s.loc t).ev = some e → s.writeEvent = some e ∧ e ∈ s.evSet
  /-- the admission test was passed with `event == self._write_event` -/
  mkEv : ∀ t, (s.loc t).pc = .wMkTxn → s.writeEvent = (s.loc t).ev
  /-- only a newcomer fails the admission test (a woken thread holds the token and finds no transaction open) -/
  newEv : ∀ t, (s.loc t).pc = .wNewEv → (s.loc t).ev = none
  /-- why it failed: somebody is bound to pop the queue the newcomer is joining (`orphan`) -/
  failed : ∀ t, (s.loc t).pc = .wNewEv ∨ (s.loc t).pc = .wAppend → s.writeTxn ≠ none ∨ s.writeEvent ≠ none
  /-- `_maybe_wakeup_one_waiter_unlocked`, program point by program point -/
  setE : ∀ t, (s.loc t).pc = .eSet → s.writeTxn = none ∧ ∃ e, s.writeEvent = some e ∧ e ∉ s.evSet
  pop : ∀ t, (s.loc t).pc = .ePop → s.waiters ≠ [] ∧ s.writeTxn = none ∧ s.writeEvent = none
  testW : ∀ t, (s.loc t).pc = .eTestW → s.writeTxn = none ∧ s.writeEvent = none
  /-- a non-empty queue is never orphaned: somebody is bound to pop it -/
  orphan : s.waiters ≠ [] → s.writeTxn ≠ none ∨ s.writeEvent ≠ none ∨ s.lockAt .eTestW ∨ s.lockAt .ePop

theorem invEv_init : InvEv init := by
  constructor <;> simp [init]

variable {c : Cfg} {s s' : State} {t u : Tid} {e : Ev}

/-- the proof outline of `writer()` and `_maybe_wakeup_one_waiter_unlocked`: what a thread with locals `l` knows at program
point `p` about its event, the queue and the token.  These are the clauses `app … testW`, `wait`, `acq` of `InvEv`
(`InvEv.outline`); written by program point, one `cases` on the transition checks all of them for the thread that moves. -/
def evAt (s : State) (l : Local) : Pc → Prop
  | .wAcq | .wTest => ∀ e, l.ev = some e → s.writeEvent = some e ∧ e ∈ s.evSet
  | .wMkTxn => s.writeEvent = l.ev
  | .wNewEv => l.ev = none ∧ (s.writeTxn ≠ none ∨ s.writeEvent ≠ none)
  | .wAppend => (l.ev ≠ none ∧ ∀ e, l.ev = some e → e ∉ s.waiters ∧ s.writeEvent ≠ some e ∧ e ∉ s.evSet) ∧
      (s.writeTxn ≠ none ∨ s.writeEvent ≠ none)
  | .wRelB => l.ev ≠ none ∧ ∀ e, l.ev = some e → e ∈ s.waiters
  | .wWait => l.ev ≠ none ∧ ∀ e, l.ev = some e → e ∈ s.waiters ∨ s.writeEvent = some e
  | .eTestW => s.writeTxn = none ∧ s.writeEvent = none
  | .ePop => s.waiters ≠ [] ∧ s.writeTxn = none ∧ s.writeEvent = none
  | .eSet => s.writeTxn = none ∧ ∃ e, s.writeEvent = some e ∧ e ∉ s.evSet
  | _ => True

theorem InvEv.outline (h : InvEv s) (u : Tid) : evAt s (s.loc u) (s.loc u).pc := by
  cases hpc : (s.loc u).pc
  case wAcq => exact h.acq u (.inl hpc)
  case wTest => exact h.acq u (.inr hpc)
  case wMkTxn => exact h.mkEv u hpc
  case wNewEv => exact ⟨h.newEv u hpc, h.failed u (.inl hpc)⟩
  case wAppend => exact ⟨h.app u hpc, h.failed u (.inr hpc)⟩
  case wRelB => exact h.relB u hpc
  case wWait => exact h.wait u hpc
  case eTestW => exact h.testW u hpc
  case ePop => exact h.pop u hpc
  case eSet => exact h.setE u hpc
  all_goals exact trivial

theorem InvEv.owner_ne {p : Pc} (h : InvEv s) (he : e ∈ s.waiters) (hpc : (s.loc t).pc = p) (hp : queuedPc p = false) :
    s.owner e ≠ t := by
  rintro rfl; rw [← hpc, (h.wq e he).2.2.1] at hp; cases hp

theorem InvEv.waiters_nil (h : InvEv s) (hwt : s.writeTxn = none) (hwe : s.writeEvent = none) (hT : ¬ s.lockAt .eTestW)
    (hP : ¬ s.lockAt .ePop) : s.waiters = [] :=
  Classical.byContradiction fun hne => (h.orphan hne).elim (· hwt) fun h => h.elim (· hwe) fun h => h.elim hT hP

/-- the token's event is set, unless the thread that popped it is still about to set it and its owner is parked -/
theorem InvEv.tok_set (h : InvEv s) (he : s.writeEvent = some e) :
    e ∈ s.evSet ∨ ((s.loc (s.owner e)).pc = .wWait ∧ s.lockAt .eSet) :=
  (h.tok e he).2.2.2.2.1

/-- a transaction is open beside the token only for the instant in which the token's owner has created it -/
theorem InvEv.tok_txn (h : InvEv s) (he : s.writeEvent = some e) : s.writeTxn = none ∨ (s.loc (s.owner e)).pc = .wClrEv :=
  (h.tok e he).2.2.2.2.2

theorem InvEv.wq_unset (h : InvEv s) (he : e ∈ s.waiters) : e ∉ s.evSet :=
  (h.wq e he).2.2.2.1

theorem InvEv.token_is_set (h : InvEv s) (he : s.writeEvent = some e) (hl : s.lock = none) : e ∈ s.evSet :=
  (h.tok_set he).resolve_right fun h => h.2.1 hl

theorem InvEv.head_notin {rest : List Ev} (h : InvEv s) (hw : s.waiters = e :: rest) : e ∉ rest ∧ rest.Nodup :=
  List.nodup_cons.mp (hw ▸ h.wqNodup)

theorem InvEv.token_owner (h : InvEv s) (hL : InvLock s) (hwe : s.writeEvent = some e) (ho : s.writeTxn = some t) :
    s.owner e = t ∧ (s.loc t).pc = .wClrEv := by
  rcases h.tok_txn hwe with h6 | h6
  · rw [ho] at h6; cases h6
  · have := hL.own_at h6
    rw [ho] at this
    cases this
    exact ⟨rfl, h6⟩

theorem InvEv.token_consumer (h : InvEv s) (hL : InvLock s) (hpc : (s.loc t).pc = .wClrEv) (hwe : s.writeEvent = some e)
    (he : (s.loc u).ev = some e) : u = t :=
  (h.evLt u e he).2.symm.trans (h.token_owner hL hwe (hL.own_at hpc)).1

theorem InvEv.writeEvent_none_of_owner {p : Pc} (h : InvEv s) (hL : InvLock s) (hpc : (s.loc t).pc = p)
    (ho : isOwner p = true := by rfl) (hne : p ≠ .wClrEv := by nofun) : s.writeEvent = none := by
  rcases hwe : s.writeEvent with _ | e
  · rfl
  · exact absurd ((h.token_owner hL hwe (hL.own_at hpc ho)).2.symm.trans hpc).symm hne

theorem InvEv.test_passes (h : InvEv s) (hpc : (s.loc t).pc = .wTest) (hev : (s.loc t).ev = some e) :
    s.writeTxn = none ∧ s.writeEvent = some e := by
  have hwe := (h.acq t (.inr hpc) e hev).1
  refine ⟨?_, hwe⟩
  rcases h.tok_txn hwe with h6 | h6
  · exact h6
  · rw [(h.evLt t e hev).2, hpc] at h6; cases h6

theorem InvEv.ev_none_of_test_fails (h : InvEv s) (hpc : (s.loc t).pc = .wTest)
    (hf : ¬ (s.writeTxn = none ∧ (s.loc t).ev = s.writeEvent)) : (s.loc t).ev = none := by
  rcases hev : (s.loc t).ev with _ | e
  · rfl
  · have := h.test_passes hpc hev
    exact absurd ⟨this.1, hev.trans this.2.symm⟩ hf

theorem Trans.lockAt_other {p : Pc} (hL : InvLock s) (htr : Trans c s t s') (hne : (s.loc t).pc ≠ p) (hl : s.lockAt p) :
    s'.lockAt p := by
  obtain ⟨h1, h2⟩ := hl
  rcases hlk : s.lock with _ | v
  · exact absurd hlk h1
  · have hv := h2 v hlk
    have hvt : v ≠ t := by rintro rfl; exact hne hv
    obtain ⟨l, rfl⟩ := htr.held hL hlk hvt
    exact State.lockAt_of_lock hlk (by rw [setLoc_loc, if_neg hvt]; exact hv)

/-- the token stays what it is while a thread other than the mover holds it in its `event`: only that thread consumes
it, and nobody pops the queue while a token is out -/
theorem InvEv.token_stays (h : InvEv s) (hL : InvLock s) (htr : Trans c s t s') (hut : u ≠ t) (he : (s.loc u).ev = some e)
    (hwe : s.writeEvent = some e) : s'.writeEvent = some e := by
  rcases htr.writeEvent_cases with hw | ⟨hpc, _⟩ | ⟨hpc, _⟩
  · exact hw.trans hwe
  · exact absurd (h.token_consumer hL hpc hwe he) hut
  · rw [(h.pop t hpc).2.2] at hwe; cases hwe

/-- the outline is kept: by the thread that moves, transition by transition; for a thread inside a critical section by the
steps of the others because those change nothing shared; a parked or woken thread is checked against the steps that write the
queue and the token -/
theorem evAt_trans {p : Pc} (hL : InvLock s) (h : InvEv s) (htr : Trans c s t s') (hu : (s'.loc u).pc = p) :
    evAt s' (s'.loc u) p := by
  subst hu
  by_cases hut : u = t
  · subst hut
    cases htr <;> rw [setLoc_loc_self]
    case wInit => exact nofun
    case wAcqFirst hev => exact fun e he => nomatch hev.symm.trans he
    case wAcqAgain hpc _ _ => exact h.acq u (.inl hpc)
    case wWait e0 hpc hev hset =>
      -- woken up: the event is set, so it has left the queue and is the token
      intro e he
      cases hev.symm.trans he
      exact ⟨((h.wait u hpc).2 e0 hev).resolve_left fun hw => h.wq_unset hw hset, hset⟩
    case wTestOk hev => exact hev.symm
    case wTestFail hpc hf =>
      have hev := h.ev_none_of_test_fails hpc hf
      refine ⟨hev, ?_⟩
      by_cases h1 : s.writeTxn = none
      · exact .inr fun h2 => hf ⟨h1, hev.trans h2.symm⟩
      · exact .inl h1
    case wNewEv hpc =>
      -- the event is new: everything the invariant knows about has a smaller number
      refine ⟨⟨nofun, fun e he => ?_⟩, h.failed u (.inl hpc)⟩
      cases he
      exact ⟨fun hw => Nat.lt_irrefl _ (h.wq _ hw).1, fun hw => Nat.lt_irrefl _ (h.tok _ hw).1,
        fun hw => Nat.lt_irrefl _ (h.setLt _ hw)⟩
    case wAppend e _ hev =>
      exact ⟨hev ▸ nofun, fun e' he' => by cases hev.symm.trans he'; exact List.mem_append_right _ List.mem_cons_self⟩
    case wRelB hpc => exact ⟨(h.relB u hpc).1, fun e he => .inl ((h.relB u hpc).2 e he)⟩
    case eTxnNone hpc => exact ⟨rfl, (h.writeEvent_none_of_owner hL hpc :)⟩
    case eTestWSome hpc hw => exact ⟨hw, h.testW u hpc⟩
    case ePop e rest hpc hw => exact ⟨(h.pop u hpc).2.1, e, rfl, h.wq_unset (hw ▸ List.mem_cons_self)⟩
    all_goals exact trivial
  · rw [htr.loc_ne hut]
    have old := h.outline u
    by_cases hl : holdsLock (s.loc u).pc = true
    · obtain ⟨l, rfl⟩ := htr.held hL ((hL.lock u).mp hl) hut
      exact old
    · -- outside the critical sections only `wWait` and `wAcq` assert anything
      cases hpc : (s.loc u).pc <;> rw [hpc] at hl old <;> first | exact trivial | exact absurd rfl hl | skip
      case wWait =>
        refine ⟨old.1, fun e he => (old.2 e he).elim (fun hm => ?_) fun hwe => .inr (h.token_stays hL htr hut he hwe)⟩
        -- a queued event stays queued until it is popped, and then it is the token
        rcases htr.waiters_cases with hw | ⟨_, _, _, hw⟩ | ⟨_, e0, hw, hwe⟩
        · exact .inl (hw ▸ hm)
        · exact .inl (hw ▸ List.mem_append_left _ hm)
        · rcases List.mem_cons.mp (hw ▸ hm) with rfl | hm
          · exact .inr hwe
          · exact .inl hm
      case wAcq => exact fun e he => ⟨h.token_stays hL htr hut he (old e he).1, htr.evSet_mono (old e he).2⟩

theorem invEv_trans (hL : InvLock s) (h : InvEv s) (htr : Trans c s t s') : InvEv s' where
  evLt := by
    intro u e he
    have old : ∀ {v}, (s.loc v).ev = some e → e < s'.nextEv ∧ s'.owner e = v := fun hv =>
      have ⟨h1, h2⟩ := h.evLt _ e hv
      ⟨Nat.lt_of_lt_of_le h1 htr.nextEv_le, (htr.owner_eq h1).trans h2⟩
    by_cases hut : u = t
    · subst hut
      rw [htr.ev_eq] at he
      split at he
      · cases he
      · split at he
        next hpc => cases he; exact ⟨(htr.newEv hpc).1 ▸ Nat.lt_succ_self _, (htr.newEv hpc).2⟩
        next => exact old he
    · exact old (htr.loc_ne hut ▸ he)
  wq := by
    intro e he
    by_cases hold : e ∈ s.waiters
    · obtain ⟨h1, h2, h3, h4, h5⟩ := h.wq e hold
      rw [htr.owner_eq h1]
      have hown : (s'.loc (s.owner e)).ev = some e ∧ queuedPc (s'.loc (s.owner e)).pc = true := by
        by_cases ho : s.owner e = t
        · -- the owner moves: from the release to `wait()`; it is not woken while its event is queued
          rw [ho] at h2 h3 ⊢
          have hw : (s.loc t).pc ≠ .wWait := fun hpc => by
            obtain ⟨e0, hev, hm⟩ := htr.wait_guard hpc
            cases hev.symm.trans h2; exact h4 hm
          rw [htr.ev_eq, if_neg (pc_ne_of h3 rfl), if_neg (pc_ne_of h3 rfl)]
          exact ⟨h2, queuedPc_succ _ h3 hw _ htr.pc_mem⟩
        · rw [htr.loc_ne ho]; exact ⟨h2, h3⟩
      refine ⟨Nat.lt_of_lt_of_le h1 htr.nextEv_le, hown.1, hown.2, ?_, ?_⟩
      · -- only the token is ever set
        rw [htr.evSet_eq]; split
        · exact fun hm => (List.mem_append.mp hm).elim (fun hm => h5 (Option.mem_toList.mp hm)) h4
        · exact h4
      · -- the token is taken from the head of the queue, and `e` is behind it
        rcases htr.writeEvent_cases with hw | ⟨_, hw⟩ | ⟨_, e0, hq, hw⟩ <;> rw [hw]
        · exact h5
        · nofun
        · exact fun heq => (h.head_notin hq).1 (Option.some.inj heq ▸ he)
    · -- newly queued: by its owner, which goes on to the release
      rcases htr.waiters_cases with hw | ⟨hpc, e0, hev, hw⟩ | ⟨_, e0, hw, _⟩
      · exact absurd (hw ▸ he) hold
      · rw [hw] at he
        cases List.mem_singleton.mp ((List.mem_append.mp he).resolve_left hold)
        obtain ⟨h1, h2⟩ := h.evLt t e hev
        obtain ⟨_, h4, h5⟩ := (h.app t hpc).2 e hev
        have hq := htr.pc_mem
        rw [hpc] at hq
        -- the step from `wAppend` writes nothing else that the clause reads
        rw [htr.owner_eq h1, h2, List.mem_singleton.mp hq, htr.evSet_eq, if_neg (hpc ▸ nofun),
          htr.writeEvent_same (hpc ▸ nofun) (hpc ▸ nofun), htr.ev_eq, if_neg (hpc ▸ nofun), if_neg (hpc ▸ nofun)]
        exact ⟨Nat.lt_of_lt_of_le h1 htr.nextEv_le, hev, rfl, h5, h4⟩
      · exact absurd (hw ▸ List.mem_cons_of_mem _ he) hold
  wqNodup := by
    rcases htr.waiters_cases with hw | ⟨hpc, e, hev, hw⟩ | ⟨_, e, hw, _⟩
    · rw [hw]; exact h.wqNodup
    · rw [hw]
      refine List.nodup_append.mpr ⟨h.wqNodup, List.pairwise_singleton _ _, fun a ha b hb hab => ?_⟩
      exact ((h.app t hpc).2 e hev).1 (List.mem_singleton.mp hb ▸ hab ▸ ha)
    · exact (h.head_notin hw).2
  setLt := by
    intro e he
    refine Nat.lt_of_lt_of_le ?_ htr.nextEv_le
    rw [htr.evSet_eq] at he; split at he
    · exact (List.mem_append.mp he).elim (fun hm => (h.tok e (Option.mem_toList.mp hm)).1) (h.setLt e)
    · exact h.setLt e he
  tok := by
    intro e he
    by_cases hold : s.writeEvent = some e
    · obtain ⟨h1, h2, h3, h4, h5, h6⟩ := h.tok e hold
      rw [htr.owner_eq h1]
      by_cases ho : s.owner e = t
      · -- the steps of the token's owner: woken up it finds its event set, and it passes the admission test
        rw [ho] at h2 h3 h5 h6 ⊢
        cases htr <;> rw [setLoc_loc_self] <;> (have hpc : (s.loc t).pc = _ := ‹_›) <;> rw [hpc] at h3 h5 h6 <;> simp at h3
        case wWait e0 _ hev hset =>
          cases hev.symm.trans h2
          exact ⟨h1, h2, rfl, h4, .inl hset, .inl (h6.resolve_right nofun)⟩
        case wAcqFirst | wAcqAgain =>
          exact ⟨h1, h2, rfl, h4, .inl (h.acq t (.inl hpc) e h2).2, .inl (h6.resolve_right nofun)⟩
        case wTestOk => exact ⟨h1, h2, rfl, h4, .inl (h.acq t (.inr hpc) e h2).2, .inl (h6.resolve_right nofun)⟩
        case wTestFail hf => cases (h.ev_none_of_test_fails hpc hf).symm.trans h2
        case wMkTxn => exact ⟨h1, h2, rfl, h4, .inl (h5.resolve_right fun h => nomatch h.1), .inr rfl⟩
        case wClrEv => cases he
      · -- the token is somebody else's: its owner does not move
        rw [htr.loc_ne ho]
        refine ⟨Nat.lt_of_lt_of_le h1 htr.nextEv_le, h2, h3, ?_, ?_, ?_⟩
        · rcases htr.waiters_cases with hw | ⟨hpc, e0, hev, hw⟩ | ⟨_, e0, hw, _⟩
          · rw [hw]; exact h4
          · rw [hw]
            exact fun hm => (List.mem_append.mp hm).elim h4 fun hm =>
              ((h.app t hpc).2 e0 hev).2.1 (List.mem_singleton.mp hm ▸ hold)
          · exact fun hm => h4 (hw ▸ List.mem_cons_of_mem _ hm)
        · -- the waker stays at `eSet` until it moves itself, and then the token's event is set
          rcases h5 with h5 | h5
          · exact .inl (htr.evSet_mono h5)
          · by_cases hpc : (s.loc t).pc = .eSet
            · rw [htr.evSet_eq, if_pos hpc, hold]; exact .inl List.mem_cons_self
            · exact .inr ⟨h5.1, htr.lockAt_other hL hpc h5.2⟩
        · rcases htr.own_cases with hw | ⟨hpc, _⟩ | ⟨_, hw, _⟩
          · rw [hw.1]; exact h6
          · -- a thread that passed the test with the token as its event would be the token's owner
            exact absurd (h.evLt t e ((h.mkEv t hpc).symm.trans hold)).2 ho
          · exact .inl hw
    · -- a new token: the head of the queue, whose owner is parked
      rcases htr.writeEvent_cases with hw | ⟨_, hw⟩ | ⟨hpc, e0, hq, hw⟩ <;> rw [hw] at he
      · exact absurd he hold
      · cases he
      · cases he
        have he0 : e ∈ s.waiters := hq ▸ List.mem_cons_self
        obtain ⟨h1, h2, h3, _, _⟩ := h.wq e he0
        have hne := h.owner_ne he0 hpc rfl
        have hl := hL.lock_at hpc
        -- were the owner still at `wRelB` it would hold the lock, which `t` holds
        have hww : (s.loc (s.owner e)).pc = .wWait := ((queuedPc_iff _).mp h3).resolve_left fun h3 =>
          hne (Option.some.inj ((hL.lock_at h3).symm.trans hl))
        have hq' := htr.pc_mem
        rw [hpc] at hq'
        rw [htr.owner_eq h1, htr.loc_ne hne]
        exact ⟨Nat.lt_of_lt_of_le h1 htr.nextEv_le, h2, hww ▸ rfl, (h.head_notin hq).1,
          .inr ⟨hww, State.lockAt_of_lock (htr.lock_kept hl (hpc ▸ by decide)) (List.mem_singleton.mp hq')⟩,
          .inl (htr.writeTxn_none (h.pop t hpc).2.1 (hpc ▸ nofun))⟩
  app u hu := (evAt_trans hL h htr hu).1
  relB u hu := evAt_trans hL h htr hu
  wait u hu := evAt_trans hL h htr hu
  acq u hu := hu.elim (evAt_trans hL h htr) (evAt_trans hL h htr)
  mkEv u hu := evAt_trans hL h htr hu
  newEv u hu := (evAt_trans hL h htr hu).1
  failed u hu := hu.elim (fun hu => (evAt_trans hL h htr hu).2) fun hu => (evAt_trans hL h htr hu).2
  setE u hu := evAt_trans hL h htr hu
  pop u hu := evAt_trans hL h htr hu
  testW u hu := evAt_trans hL h htr hu
  orphan := by
    intro hw
    have hT := htr.lockAt_other hL (p := .eTestW)
    have hP := htr.lockAt_other hL (p := .ePop)
    cases htr
    case wAppend hpc _ => exact (h.failed t (.inr hpc)).imp_right .inl
    case wMkTxn => exact .inl nofun
    case wClrEv hpc =>
      have ho := hL.own_at hpc
      exact .inl (ho ▸ nofun)
    case ePop => exact .inr (.inl nofun)
    case eTxnNone hpc => exact .inr (.inr (.inl (State.lockAt_of_lock (hL.lock_at hpc) (by rw [setLoc_loc_self]))))
    case eTestWSome hpc _ => exact .inr (.inr (.inr (State.lockAt_of_lock (hL.lock_at hpc) (by rw [setLoc_loc_self]))))
    case eTestWNone hw0 => exact absurd hw0 hw
    all_goals
      have hpc : (s.loc t).pc = _ := ‹_›
      exact (h.orphan hw).imp_right (Or.imp_right (Or.imp (hT (by rw [hpc]; exact Pc.noConfusion)) (hP (by rw [hpc]; exact Pc.noConfusion))))

/-! Tactic abbreviations: `thread_facts`/`event_facts` put every clause of the invariants about one thread / one event
into the context; `pres_thread` tries, for a clause about a thread `u` after a step of `t`, the case `u = t` by `simp`, the
unchanged clause, and then `simp_all`/`grind` on all the facts. -/

macro "thread_facts " hL:ident h:ident u:term : tactic =>
  `(tactic| (have := ($hL).lock $u; have := ($hL).own $u; have := ($hL).mkTxn $u;
             have := ($h).evLt $u; have := ($h).app $u; have := ($h).relB $u; have := ($h).wait $u;
             have := ($h).acq $u; have := ($h).mkEv $u; have := ($h).newEv $u; have := ($h).failed $u;
             have := ($h).setE $u; have := ($h).pop $u; have := ($h).testW $u))

macro "event_facts " h:ident e:term : tactic =>
  `(tactic| (have := ($h).wq $e; have := ($h).tok $e; have := ($h).setLt $e))

macro "pres_thread " s:ident hL:ident h:ident t:ident u:ident old:term : tactic =>
  `(tactic| (by_cases hu : $u = $t <;>
    first
    | (subst hu; simp; done)
    | (simp only [setLoc_loc, if_neg hu, setLoc_waiters, setLoc_writeEvent, setLoc_evSet, setLoc_writeTxn, setLoc_lock,
        setLoc_nextEv, setLoc_owner]; exact $old)
    | (thread_facts $hL $h $t; thread_facts $hL $h $u; event_facts $h (State.nextEv $s); (simp_all <;> grind))
    | (thread_facts $hL $h $t; thread_facts $hL $h $u; event_facts $h (State.nextEv $s);
       have htok := ($h).tok; have hwq := ($h).wq; have hset := ($h).setLt; have hown := ($hL).own; have hlock := ($hL).lock;
       have hevLt := ($h).evLt;
       (simp_all <;> grind))
    | (thread_facts $hL $h $t; thread_facts $hL $h $u; event_facts $h (State.nextEv $s);
       have htok := ($h).tok; have hwq := ($h).wq; have hset := ($h).setLt; have hown := ($hL).own; have hlock := ($hL).lock;
       have hevLt := ($h).evLt;
       (cases hE : State.writeEvent $s <;> cases hT : (State.loc $s $t).ev <;> simp_all <;> grind))))

end Model.Writers
