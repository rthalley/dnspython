import Model.Name
/-! How the operations of `dns/name.py` return: the constructor check `validate` accepts exactly the
well-formed names (`validate_eq_ok_iff`, which depends only on label lengths; pieces of a well-formed name are
well formed), ASCII case folding and `isAbs` commute with what the operations do to label lists (`isAbs` sees only the
last label; these lemmas are in namespace `NameOrder`), and each compound
operation (`concatenate`, `split`, `parent`, `relativize`, `derelativize`, `_handle_relativity_and_call`,
`_absolute_successor`, `_absolute_predecessor`) gets its equations or the list of ways in which it succeeds, so that
what is proved about them (closure under the limits for C01, the order for C06) does not unfold the definitions
again. -/
namespace Model

theorem firstEmpty_none_iff (n : List Label) (j : Nat) : firstEmpty n j = none ↔ ∀ l ∈ n, l ≠ [] := by
  induction n generalizing j with
  | nil => exact ⟨fun _ _ h => (nomatch h), fun _ => rfl⟩
  | cons x xs ih =>
    rw [firstEmpty, List.forall_mem_cons]
    split
    · rename_i hx; exact ⟨nofun, fun h => absurd hx h.1⟩
    · rename_i hx; rw [ih]; exact ⟨fun h => ⟨hx, h⟩, fun h => h.2⟩

theorem firstEmpty_some {n : List Label} {j i : Nat} (h : firstEmpty n j = some i) :
    ∃ pre post, n = pre ++ [] :: post ∧ (∀ l ∈ pre, l ≠ []) ∧ i = j + pre.length := by
  induction n generalizing j with
  | nil => cases h
  | cons x xs ih =>
    rw [firstEmpty] at h
    split at h
    · rename_i hx; cases h; exact ⟨[], xs, by rw [hx]; rfl, nofun, rfl⟩
    · rename_i hx
      obtain ⟨pre, post, rfl, hpre, rfl⟩ := ih h
      exact ⟨x :: pre, post, rfl, List.forall_mem_cons.mpr ⟨hx, hpre⟩, by rw [List.length_cons]; omega⟩

/-- the test of `_validate_labels` on the first empty label says that only the last label may be empty -/
theorem firstEmpty_last_iff (n : List Label) :
    (∀ i, firstEmpty n 0 = some i → i = n.length - 1) ↔ ∀ l ∈ n.dropLast, l ≠ [] := by
  cases hf : firstEmpty n 0 with
  | none =>
    exact ⟨fun _ l hl => (firstEmpty_none_iff n 0).1 hf l (List.dropLast_subset n hl), fun _ => nofun⟩
  | some i =>
    obtain ⟨pre, post, rfl, hpre, rfl⟩ := firstEmpty_some hf
    cases post with
    | nil =>
      rw [List.dropLast_concat]
      exact ⟨fun _ => hpre, fun _ i hi => by cases hi; simp⟩
    | cons p ps =>
      refine ⟨fun h => ?_, fun h => ?_⟩
      · have := h _ rfl
        simp only [List.length_append, List.length_cons] at this
        omega
      · rw [List.dropLast_append_cons, List.dropLast_cons_cons] at h
        exact absurd rfl (h [] (List.mem_append_right _ List.mem_cons_self))

theorem validate_eq_ok_iff (n m : Name) : validate n = .ok m ↔ m = n ∧ WfName n := by
  unfold validate WfName
  split
  · rename_i h1
    obtain ⟨l, hl, hlen⟩ := List.any_eq_true.mp h1
    exact ⟨nofun, fun h => absurd (h.2.1 l hl) (Nat.not_le.mpr (of_decide_eq_true hlen))⟩
  · rename_i h1
    have hlab : ∀ l ∈ n, l.length ≤ Consts.maxLabel := fun l hl =>
      Nat.le_of_not_lt fun hgt => h1 (List.any_eq_true.mpr ⟨l, hl, decide_eq_true hgt⟩)
    split
    · rename_i h2; exact ⟨nofun, fun h => absurd h.2.2.1 (Nat.not_le.mpr h2)⟩
    · rename_i h2
      rw [← firstEmpty_last_iff]
      cases firstEmpty n 0 with
      | none => exact ⟨fun h => ⟨(Except.ok.inj h).symm, hlab, Nat.le_of_not_lt h2, nofun⟩, fun h => h.1 ▸ rfl⟩
      | some i =>
        dsimp only
        split
        · rename_i hi; exact ⟨nofun, fun h => absurd (h.2.2.2 i rfl) hi⟩
        · rename_i hi
          exact ⟨fun h => ⟨(Except.ok.inj h).symm, hlab, Nat.le_of_not_lt h2,
            fun j hj => Option.some.inj hj ▸ Decidable.not_not.mp hi⟩, fun h => h.1 ▸ rfl⟩

instance (n : Name) : Decidable (WfName n) := by unfold WfName; exact inferInstance

theorem validate_of_wf (n : Name) (h : WfName n) : validate n = .ok n :=
  (validate_eq_ok_iff n n).2 ⟨rfl, h⟩

theorem wf_of_validate (n m : Name) (h : validate n = .ok m) : m = n ∧ WfName n :=
  (validate_eq_ok_iff n m).1 h

theorem split_ok {a x y : Name} {d : Nat} (h : split a d = .ok (x, y)) :
    (d = 0 ∧ x = a ∧ y = []) ∨ (d = a.length ∧ x = [] ∧ y = a) ∨
      (d < a.length ∧ validate (a.take (a.length - d)) = .ok x ∧ validate (a.drop (a.length - d)) = .ok y) := by
  unfold split at h
  dsimp only at h
  split at h
  · rename_i h0; cases h; exact Or.inl ⟨h0, rfl, rfl⟩
  · split at h
    · rename_i h1; cases h; exact Or.inr (Or.inl ⟨h1, rfl, rfl⟩)
    · split at h
      · cases h
      · rename_i h1 h2
        cases hv1 : validate (a.take (a.length - d)) with
        | error e => rw [hv1] at h; cases h
        | ok r1 =>
          cases hv2 : validate (a.drop (a.length - d)) with
          | error e => rw [hv1, hv2] at h; cases h
          | ok r2 =>
            rw [hv1, hv2] at h
            cases h
            exact Or.inr (Or.inr ⟨Nat.lt_of_le_of_ne (Nat.not_lt.mp h2) h1, rfl, rfl⟩)

theorem lowerOctet_idem (c : Nat) : lowerOctet (lowerOctet c) = lowerOctet c := by
  unfold lowerOctet
  split
  · split <;> omega
  · rfl

theorem lowerLabel_idem (l : Label) : lowerLabel (lowerLabel l) = lowerLabel l := by
  rw [lowerLabel, lowerLabel, List.map_map]
  exact List.map_congr_left fun c _ => lowerOctet_idem c

theorem lowerName_idem (n : Name) : lowerName (lowerName n) = lowerName n := by
  rw [lowerName, lowerName, List.map_map]
  exact List.map_congr_left fun l _ => lowerLabel_idem l

theorem length_lowerName (n : Name) : (lowerName n).length = n.length := List.length_map _

theorem lowerName_length (a b : Name) (h : lowerName a = lowerName b) : a.length = b.length := by
  rw [← length_lowerName a, h, length_lowerName]

theorem lens_of_lower_eq (x y : Name) (h : lowerName x = lowerName y) :
    x.map List.length = y.map List.length := by
  have := congrArg (List.map List.length) h
  simpa [lowerName, lowerLabel, List.map_map, Function.comp_def] using this

theorem wfName_iff_lens (n : Name) : WfName n ↔
    (∀ k ∈ n.map List.length, k ≤ Consts.maxLabel) ∧ ((n.map List.length).map (· + 1)).sum ≤ Consts.maxName ∧
      ∀ k ∈ (n.map List.length).dropLast, k ≠ 0 := by
  simp only [WfName, wireLen, ← List.map_dropLast, List.forall_mem_map, List.map_map, Function.comp_def, ne_eq,
    List.length_eq_zero_iff]

theorem wf_congr (x y : Name) (h : lowerName x = lowerName y) (hx : WfName x) : WfName y := by
  rw [wfName_iff_lens, ← lens_of_lower_eq x y h, ← wfName_iff_lens]
  exact hx

theorem isAbs_iff_getLast? (n : Name) : isAbs n = true ↔ n.getLast? = some [] := by
  unfold isAbs
  split
  · rename_i h; exact iff_of_true rfl h
  · rename_i h; exact iff_of_false (by decide) fun e => h e

theorem dropLast_append_root {n : Name} (ha : isAbs n = true) : n.dropLast ++ [[]] = n := by
  obtain ⟨ys, rfl⟩ := List.getLast?_eq_some_iff.1 ((isAbs_iff_getLast? n).1 ha)
  rw [List.dropLast_concat]

theorem wireLen_pos (n : Name) (h : n ≠ []) : 1 ≤ wireLen n := by
  cases n with
  | nil => exact absurd rfl h
  | cons l ls => rw [wireLen, List.map_cons, List.sum_cons]; omega

namespace NameOrder

theorem firstEmpty_none (n : List Label) (j : Nat) (h : ∀ l ∈ n, l ≠ []) : firstEmpty n j = none :=
  (firstEmpty_none_iff n j).2 h

theorem validate_eq (n r : Name) (h : validate n = .ok r) : r = n := (wf_of_validate n r h).1

theorem isAbs_append (a b : Name) (hb : b ≠ []) : isAbs (a ++ b) = isAbs b := by
  unfold isAbs
  rw [List.getLast?_append]
  cases hb' : b.getLast? with
  | none => exact absurd (List.getLast?_eq_none_iff.1 hb') hb
  | some x => simp

theorem isAbs_cons (x : Label) (s : Name) (hs : s ≠ []) : isAbs (x :: s) = isAbs s := by
  have := isAbs_append [x] s hs
  simpa using this

theorem isAbs_singleton (x : Label) : isAbs [x] = true ↔ x = [] := by
  unfold isAbs; cases x <;> simp

theorem ne_nil_of_isAbs {a : Name} (h : isAbs a = true) : a ≠ [] := by
  intro e; subst e; simp [isAbs] at h

theorem lowerLabel_eq_nil (l : Label) : lowerLabel l = [] ↔ l = [] := by
  simp [lowerLabel]

theorem isAbs_lowerName (a : Name) : isAbs (lowerName a) = isAbs a := by
  unfold isAbs lowerName
  rw [List.getLast?_map]
  cases a.getLast? with
  | none => rfl
  | some l => cases l <;> rfl

theorem isAbs_of_lower_eq {a b : Name} (h : lowerName a = lowerName b) : isAbs a = isAbs b := by
  rw [← isAbs_lowerName a, h, isAbs_lowerName]

theorem isAbs_append_abs {o : Name} (ho : isAbs o = true) (n : Name) : isAbs (n ++ o) = true :=
  (isAbs_append n o (ne_nil_of_isAbs ho)).trans ho

theorem isAbs_of_suffix (a b : Name) (hb : b ≠ []) (hs : b <:+ a) : isAbs a = isAbs b := by
  obtain ⟨t, rfl⟩ := hs
  exact isAbs_append t b hb

theorem isAbs_drop (name : Name) {k : Nat} (hk : 1 ≤ k) (hk' : k ≤ name.length) :
    isAbs (name.drop (name.length - k)) = isAbs name :=
  (isAbs_of_suffix name (name.drop (name.length - k)) (fun e => by
    have := congrArg List.length e
    rw [List.length_drop, List.length_nil] at this
    omega) (List.drop_suffix _ _)).symm

theorem isAbs_take_of_inner {a : Name} (h : ∀ l ∈ a.dropLast, l ≠ []) {k : Nat} (hk : k < a.length) :
    isAbs (a.take k) = false := by
  unfold isAbs
  cases hl : (a.take k).getLast? with
  | none => rfl
  | some x =>
    -- the last label of a proper prefix is not the last label of the name, so it is not empty
    have hx : x ∈ a.dropLast := by
      rw [List.dropLast_eq_take]
      exact (List.take_prefix_take_left (Nat.le_sub_one_of_lt hk)).subset (List.mem_of_getLast? hl)
    cases x with
    | nil => exact absurd rfl (h [] hx)
    | cons _ _ => rfl

theorem isAbs_take_false (a : Name) (h : WfName a) (k : Nat) (hk : k < a.length) : isAbs (a.take k) = false :=
  isAbs_take_of_inner h.2.2 hk

theorem wireLen_append (a b : Name) : wireLen (a ++ b) = wireLen a + wireLen b := by
  simp [wireLen, List.sum_append]

theorem wf_take (a : Name) (h : WfName a) (k : Nat) : WfName (a.take k) := by
  obtain ⟨h1, h2, h3⟩ := h
  refine ⟨fun l hl => h1 l (List.mem_of_mem_take hl), ?_, ?_⟩
  · have := wireLen_append (a.take k) (a.drop k)
    rw [List.take_append_drop] at this
    omega
  · intro l hl
    rw [List.dropLast_eq_take, List.take_take] at hl
    rw [List.dropLast_eq_take] at h3
    have hle : min ((a.take k).length - 1) k ≤ a.length - 1 :=
      Nat.le_trans (Nat.min_le_left ..) (Nat.sub_le_sub_right (List.length_take_le' k a) 1)
    exact h3 l ((List.take_prefix_take_left hle).subset hl)

end NameOrder

theorem sliceToNeg_take (n : Name) (k : Nat) : sliceToNeg n k = n.take (n.length - k) := by
  unfold sliceToNeg
  split
  · rename_i h; rw [h]
  · rfl

theorem relativize_eq (n o : Name) :
    relativize n o = if isSubdomain n o then validate (n.take (n.length - o.length)) else .ok n := by
  rw [relativize, sliceToNeg_take]

/-- `name.derelativize(origin)` for an absolute origin -/
def absN (o : Name) (n : Name) : Name := if isAbs n then n else n ++ o

theorem absN_abs {n : Name} (h : isAbs n = true) (o : Name) : absN o n = n := if_pos h

theorem absN_rel {n : Name} (h : isAbs n = false) (o : Name) : absN o n = n ++ o := by rw [absN, h]; rfl

theorem derelativize_of_abs {n : Name} (h : isAbs n = true) (o : Name) : derelativize n o = .ok n := by
  rw [derelativize, h]; rfl

theorem derelativize_of_rel {n : Name} (h : isAbs n = false) (o : Name) : derelativize n o = validate (n ++ o) := by
  rw [derelativize, concatenate, h]; rfl

theorem concatenate_eq_ok_iff (a b r : Name) :
    concatenate a b = .ok r ↔ ¬ (isAbs a = true ∧ b.length > 0) ∧ r = a ++ b ∧ WfName (a ++ b) := by
  unfold concatenate
  split
  · rename_i hc; exact ⟨nofun, fun h => absurd hc h.1⟩
  · rename_i hc; rw [validate_eq_ok_iff]; exact ⟨fun h => ⟨hc, h⟩, And.right⟩

theorem rel_labels_nonempty (n : Name) (hn : WfName n) (hr : isAbs n = false) : ∀ l ∈ n, l ≠ [] := by
  intro l hl hnil
  subst hnil
  have hne : n ≠ [] := List.ne_nil_of_mem hl
  rw [← List.dropLast_concat_getLast hne] at hl
  rcases List.mem_append.mp hl with h | h
  · exact hn.2.2 [] h rfl
  · have : isAbs n = true := (isAbs_iff_getLast? n).2 (by rw [List.getLast?_eq_some_getLast hne, ← List.mem_singleton.mp h])
    rw [hr] at this; cases this

/-- the derelativized label sequence of a well-formed relative name against a well-formed absolute origin is
a well-formed absolute name as soon as it fits in 255 octets -/
theorem wf_append_origin (n o : Name) (hn : WfName n) (hr : isAbs n = false) (ho : WfName o)
    (hoa : isAbs o = true) (hle : wireLen (n ++ o) ≤ Consts.maxName) :
    WfName (n ++ o) ∧ isAbs (n ++ o) = true := by
  have hone := NameOrder.ne_nil_of_isAbs hoa
  refine ⟨⟨fun l hl => (List.mem_append.mp hl).elim (hn.1 l) (ho.1 l), hle, fun l hl => ?_⟩,
    (NameOrder.isAbs_append n o hone).trans hoa⟩
  rw [List.dropLast_append_of_ne_nil hone] at hl
  exact (List.mem_append.mp hl).elim (rel_labels_nonempty n hn hr l) (ho.2.2 l)

/-- an over-long combination of two well-formed names is refused by the constructor with NameTooLong (no
label is too long, so the scan for LabelTooLong finds nothing first) -/
theorem validate_append_too_long (n o : Name) (hn : WfName n) (ho : WfName o)
    (hgt : wireLen (n ++ o) > Consts.maxName) : validate (n ++ o) = .error .nameTooLong := by
  unfold validate
  have h1 : (n ++ o).any (fun l => decide (l.length > Consts.maxLabel)) = false := by
    rw [List.any_eq_false]
    intro l hl
    have : l.length ≤ Consts.maxLabel := by
      rcases List.mem_append.mp hl with h | h
      · exact hn.1 l h
      · exact ho.1 l h
    simp; omega
  rw [h1]; simp [hgt]

/-- `relativize` of a legal name cannot fail: the part in front of the origin is legal too -/
theorem relativize_of_wf {n : Name} (hn : WfName n) (o : Name) :
    relativize n o = .ok (if isSubdomain n o then n.take (n.length - o.length) else n) := by
  rw [relativize_eq]
  split
  · exact validate_of_wf _ (NameOrder.wf_take n hn _)
  · rfl

theorem parent_ok {a p : Name} (h : parent a = .ok p) :
    ¬ (nameEq a [[]] = true ∨ nameEq a [] = true) ∧ p = a.drop 1 ∧ WfName p := by
  unfold parent at h
  split at h
  · cases h
  · rename_i hne
    obtain ⟨rfl, hw⟩ := wf_of_validate _ _ h
    exact ⟨hne, rfl, hw⟩

theorem handleRelativity_ok {f : Name → Name → Bool → Except NameErr Name} {n o r : Name} {p : Bool}
    (h : handleRelativity f n o p = .ok r) :
    isAbs o = true ∧
      ((isAbs n = true ∧ isSubdomain n o = true ∧ f n o p = .ok r) ∨
        (isAbs n = false ∧ WfName (n ++ o) ∧ ∃ r0, f (n ++ o) o p = .ok r0 ∧ relativize r0 o = .ok r)) := by
  unfold handleRelativity at h
  cases ho : isAbs o with
  | false => simp only [ho, Bool.not_false, if_true] at h; cases h
  | true =>
    refine ⟨rfl, ?_⟩
    cases hn : isAbs n with
    | true =>
      simp only [ho, hn, Bool.not_true, Bool.false_eq_true, if_false] at h
      cases hsub : isSubdomain n o with
      | false => simp only [hsub, Bool.not_false, if_true] at h; cases h
      | true =>
        simp only [hsub, Bool.not_true, Bool.false_eq_true, if_false] at h
        cases hf : f n o p with
        | error e => rw [hf] at h; cases h
        | ok r' => rw [hf] at h; exact Or.inl ⟨rfl, rfl, h⟩
    | false =>
      simp only [ho, hn, Bool.not_true, Bool.not_false, Bool.false_eq_true, if_false, if_true,
        derelativize_of_rel hn] at h
      cases hv : validate (n ++ o) with
      | error e => rw [hv] at h; cases h
      | ok nm =>
        obtain ⟨rfl, hw⟩ := wf_of_validate _ _ hv
        rw [hv] at h
        dsimp only at h
        cases hf : f (n ++ o) o p with
        | error e => rw [hf] at h; cases h
        | ok r0 => rw [hf] at h; exact Or.inr ⟨rfl, hw, r0, rfl, h⟩

theorem handleRelativity_abs (f : Name → Name → Bool → Except NameErr Name) (n o r : Name) (p : Bool)
    (hn : isAbs n = true) (h : handleRelativity f n o p = .ok r) :
    isAbs o = true ∧ isSubdomain n o = true ∧ f n o p = .ok r := by
  obtain ⟨ho, ⟨_, h'⟩ | ⟨hn', _⟩⟩ := handleRelativity_ok h
  · exact ⟨ho, h'⟩
  · rw [hn] at hn'; cases hn'

theorem handleRelativity_rel (f : Name → Name → Bool → Except NameErr Name) (n o r : Name) (p : Bool)
    (hn : isAbs n = false) (h : handleRelativity f n o p = .ok r) :
    isAbs o = true ∧ ∃ r0, f (n ++ o) o p = .ok r0 ∧ relativize r0 o = .ok r := by
  obtain ⟨ho, ⟨hn', _⟩ | ⟨_, _, h'⟩⟩ := handleRelativity_ok h
  · rw [hn] at hn'; cases hn'
  · exact ⟨ho, h'⟩

theorem absSuccLoop_ok {o s r : Name} {x : Label} (h : absSuccLoop o (x :: s) = .ok r) :
    r = o ∨ (¬ nameEq (x :: s) o = true ∧
      ((∃ y, (y = x ++ [0] ∨ incrLabel x = some y) ∧ r = y :: s ∧ WfName (y :: s)) ∨
        absSuccLoop o s = .ok r)) := by
  rw [absSuccLoop] at h
  by_cases he : nameEq (x :: s) o = true
  · rw [if_pos he] at h; exact Or.inl (Except.ok.inj h).symm
  · rw [if_neg he] at h
    refine Or.inr ⟨he, ?_⟩
    dsimp only at h
    split at h
    · rename_i nm hext
      cases h
      split at hext
      · split at hext
        · rename_i nm' hv
          cases hext
          obtain ⟨rfl, hw⟩ := wf_of_validate _ _ hv
          exact Or.inl ⟨_, Or.inl rfl, rfl, hw⟩
        · cases hext
      · cases hext
    · split at h
      · rename_i y hy
        obtain ⟨rfl, hw⟩ := wf_of_validate _ _ h
        exact Or.inl ⟨y, Or.inr hy, rfl, hw⟩
      · exact Or.inr h

theorem absoluteSuccessor_ok {n o r : Name} {p : Bool} (h : absoluteSuccessor n o p = .ok r) :
    (r = [0] :: n ∧ WfName ([0] :: n)) ∨ absSuccLoop o n = .ok r := by
  unfold absoluteSuccessor at h
  dsimp only at h
  split at h
  · rename_i nm hpre
    cases h
    split at hpre
    · split at hpre
      · rename_i x hv
        cases hpre
        obtain ⟨rfl, hw⟩ := wf_of_validate _ _ hv
        exact Or.inl ⟨rfl, hw⟩
      · cases hpre
    · cases hpre
  · exact Or.inr h

theorem padToMaxLabel_append (l : Label) (s : Name) : ∃ t, padToMaxLabel l s = l ++ t := by
  unfold padToMaxLabel
  dsimp only
  split
  · exact ⟨[], (List.append_nil l).symm⟩
  · exact ⟨_, rfl⟩

theorem padToMaxName_ok {n r : Name} (h : padToMaxName n = .ok r) : (∃ P, r = P ++ n) ∧ WfName r := by
  obtain ⟨rfl, hw⟩ := wf_of_validate _ _ h
  exact ⟨⟨_, rfl⟩, hw⟩

/-- how `_absolute_predecessor` returns: the wrap-around at the origin; the parent when the least label is `\000`; else
the name with its least label stepped down — the last octet dropped if it is 0, else decremented (`[` to `@`) and
padded with 0xFF — under padding labels `P` (none unless `prefix_ok`) -/
theorem absolutePredecessor_ok {n o r : Name} {p : Bool} (h : absolutePredecessor n o p = .ok r) :
    (nameEq n o = true ∧ padToMaxName n = .ok r) ∨
    (¬ nameEq n o = true ∧ WfName r ∧ ∃ x s, n = x :: s ∧
      ((x = [0] ∧ r = s ∧ ¬ (nameEq n [[]] = true ∨ nameEq n [] = true)) ∨
        ∃ init lo nl P, x = init ++ [lo] ∧ r = P ++ nl :: s ∧
          (nl = init ∧ lo = 0 ∨ lo ≠ 0 ∧ ∃ t, nl = init ++ (if lo = 91 then 64 else lo - 1) :: t))) := by
  unfold absolutePredecessor at h
  by_cases he : nameEq n o = true
  · rw [if_pos he] at h; exact Or.inl ⟨he, h⟩
  · rw [if_neg he] at h
    refine Or.inr ⟨he, ?_⟩
    cases n with
    | nil => cases h
    | cons x s =>
      dsimp only at h
      by_cases h0 : x = [0]
      · rw [if_pos h0] at h
        obtain ⟨hne, hr, hw⟩ := parent_ok h
        exact ⟨hw, x, s, rfl, Or.inl ⟨h0, hr, hne⟩⟩
      · rw [if_neg h0] at h
        cases hl : x.getLast? with
        | none => rw [hl] at h; cases h
        | some lo =>
          obtain ⟨init, rfl⟩ := List.getLast?_eq_some_iff.1 hl
          rw [hl, List.dropLast_concat] at h
          dsimp only at h
          -- the new least label, in the form the order proof wants it
          have hnl : ∀ nl, nl = (if lo = 0 then init else padToMaxLabel (init ++ [if lo = 91 then 64 else lo - 1]) s) →
              nl = init ∧ lo = 0 ∨ lo ≠ 0 ∧ ∃ t, nl = init ++ (if lo = 91 then 64 else lo - 1) :: t := by
            intro nl e
            by_cases hlo : lo = 0
            · exact Or.inl ⟨by rw [e, if_pos hlo], hlo⟩
            · obtain ⟨t, ht⟩ := padToMaxLabel_append (init ++ [if lo = 91 then 64 else lo - 1]) s
              exact Or.inr ⟨hlo, t, by rw [e, if_neg hlo, ht, List.append_assoc]; rfl⟩
          cases hv : validate ((if lo = 0 then init
              else padToMaxLabel (init ++ [if lo = 91 then 64 else lo - 1]) s) :: s) with
          | error e => rw [hv] at h; cases h
          | ok nm =>
            obtain ⟨rfl, hw⟩ := wf_of_validate _ _ hv
            rw [hv] at h
            dsimp only at h
            cases p with
            | false => cases h; exact ⟨hw, _, s, rfl, Or.inr ⟨init, lo, _, [], rfl, rfl, hnl _ rfl⟩⟩
            | true =>
              obtain ⟨⟨P, rfl⟩, hwr⟩ := padToMaxName_ok h
              exact ⟨hwr, _, s, rfl, Or.inr ⟨init, lo, _, P, rfl, rfl, hnl _ rfl⟩⟩

end Model
