import Proofs.NameOps
/-! The text form of names (C01).  `from_text` is three steps (`fromText_eq`): collect labels (`ftLabels`), append the
origin unless the last label is empty (`attachOrigin`), hand the result to the constructor.  The escape automaton behind
`ftLabels` inverts `_escapify` octet by octet, label by label and over a whole dotted name (`ftLabels_toText`). -/
namespace Model

/-- What the round trip needs from the escaped set (checked by `decide` on the generated constant). -/
def EscOk (esc : List Nat) : Prop :=
  46 ∈ esc ∧ 92 ∈ esc ∧ 64 ∈ esc ∧ ∀ d ∈ esc, isDigit d = false

instance (esc : List Nat) : Decidable (EscOk esc) := by unfold EscOk; exact inferInstance

theorem escOk_generated : EscOk Consts.nameEscaped := by decide

theorem isDigit_dec (x : Nat) (h : x < 10) : isDigit (48 + x) = true := by
  simp [isDigit]; omega

theorem dec3_value (c : Nat) : (c / 100 * 10 + c / 10 % 10) * 10 + c % 10 = c := by
  rw [show c / 100 = c / 10 / 10 from (Nat.div_div_eq_div_mul c 10 10).symm, Nat.div_add_mod', Nat.div_add_mod']

theorem ftRun_char {c : Nat} (h1 : c ≠ 46) (h2 : c ≠ 92) (L : List Label) (lab : Label) (rest : List Nat) :
    ftRun ⟨L, lab, none⟩ (c :: rest) = ftRun ⟨L, lab ++ [c], none⟩ rest := by
  rw [ftRun, ftStep]
  dsimp only
  rw [if_neg h1, if_neg h2]

theorem ftRun_dot {lab : Label} (h : lab ≠ []) (L : List Label) (rest : List Nat) :
    ftRun ⟨L, lab, none⟩ (46 :: rest) = ftRun ⟨L ++ [lab], [], none⟩ rest := by
  rw [ftRun, ftStep]
  dsimp only
  rw [if_pos rfl, if_neg h]

theorem ftRun_backslash {c : Nat} (h : isDigit c = false) (L : List Label) (lab : Label) (rest : List Nat) :
    ftRun ⟨L, lab, none⟩ (92 :: c :: rest) = ftRun ⟨L, lab ++ [c], none⟩ rest := by
  simp [ftRun, ftStep, h]

theorem ftRun_decimal {a b c : Nat} (ha : a < 10) (hb : b < 10) (hc : c < 10) (hle : (a * 10 + b) * 10 + c ≤ 255)
    (L : List Label) (lab : Label) (rest : List Nat) :
    ftRun ⟨L, lab, none⟩ (92 :: (48 + a) :: (48 + b) :: (48 + c) :: rest) =
      ftRun ⟨L, lab ++ [(a * 10 + b) * 10 + c], none⟩ rest := by
  simp [ftRun, ftStep, isDigit_dec, ha, hb, hc, Nat.not_lt.mpr hle]

/-- the three forms of an escaped octet: backslash + octet, the octet itself, backslash + three decimal digits -/
theorem escOctet_forms (esc : List Nat) (c : Nat) :
    (c ∈ esc ∧ escOctet esc c = [92, c]) ∨
    (c ∉ esc ∧ (0x20 < c ∧ c < 0x7F) ∧ escOctet esc c = [c]) ∨
    (c ∉ esc ∧ ¬ (0x20 < c ∧ c < 0x7F) ∧ escOctet esc c = 92 :: dec3 c) := by
  unfold escOctet
  by_cases hm : c ∈ esc
  · exact Or.inl ⟨hm, if_pos hm⟩
  · by_cases hp : 0x20 < c ∧ c < 0x7F
    · exact Or.inr (Or.inl ⟨hm, hp, by rw [if_neg hm, if_pos hp]⟩)
    · exact Or.inr (Or.inr ⟨hm, hp, by rw [if_neg hm, if_neg hp]⟩)

theorem ftRun_escOctet (esc : List Nat) (hesc : EscOk esc) (L : List Label) (lab : Label) (c : Nat)
    (hc : c < 256) (rest : List Nat) :
    ftRun ⟨L, lab, none⟩ (escOctet esc c ++ rest) = ftRun ⟨L, lab ++ [c], none⟩ rest := by
  obtain ⟨h46, h92, _, hdig⟩ := hesc
  rcases escOctet_forms esc c with ⟨hm, e⟩ | ⟨hm, _, e⟩ | ⟨_, hp, e⟩ <;> rw [e]
  · exact ftRun_backslash (hdig c hm) L lab rest
  · exact ftRun_char (c := c) (fun h => hm (h ▸ h46)) (fun h => hm (h ▸ h92)) L lab rest
  · have := ftRun_decimal (a := c / 100) (b := c / 10 % 10) (c := c % 10) (by omega) (by omega) (by omega)
      (by rw [dec3_value]; omega) L lab rest
    rwa [dec3_value] at this

theorem ftRun_escapify (esc : List Nat) (hesc : EscOk esc) (l : Label) (hl : ∀ c ∈ l, c < 256)
    (L : List Label) (lab : Label) (rest : List Nat) :
    ftRun ⟨L, lab, none⟩ (escapifyWith esc l ++ rest) = ftRun ⟨L, lab ++ l, none⟩ rest := by
  induction l generalizing lab with
  | nil => simp [escapifyWith]
  | cons c cs ih =>
    have hc : c < 256 := hl c (by simp)
    have hcs : ∀ x ∈ cs, x < 256 := fun x hx => hl x (by simp [hx])
    have : escapifyWith esc (c :: cs) ++ rest = escOctet esc c ++ (escapifyWith esc cs ++ rest) := by
      simp [escapifyWith]
    rw [this, ftRun_escOctet esc hesc L lab c hc, ih hcs]
    simp

def OctetsOk (n : Name) : Prop := ∀ l ∈ n, ∀ c ∈ l, c < 256

instance (n : Name) : Decidable (OctetsOk n) := by unfold OctetsOk; exact inferInstance

theorem ftRun_joinDot (esc : List Nat) (hesc : EscOk esc) (ls : List Label) (hne : ls ≠ [])
    (hoct : OctetsOk ls) (hmid : ∀ l ∈ ls.dropLast, l ≠ []) (L : List Label) :
    ftRun ⟨L, [], none⟩ (joinDot (ls.map (escapifyWith esc))) =
      .ok ⟨L ++ ls.dropLast, ls.getLast hne, none⟩ := by
  induction ls generalizing L with
  | nil => exact absurd rfl hne
  | cons x rest ih =>
    cases rest with
    | nil =>
      have := ftRun_escapify esc hesc x (hoct x List.mem_cons_self) L [] []
      rw [List.append_nil, List.nil_append] at this
      rw [List.dropLast_singleton, List.append_nil]
      exact this
    | cons y ys =>
      have hx : x ≠ [] := hmid x List.mem_cons_self
      have hoct' : OctetsOk (y :: ys) := fun l hl => hoct l (List.mem_cons_of_mem _ hl)
      have hmid' : ∀ l ∈ (y :: ys).dropLast, l ≠ [] := fun l hl => hmid l (List.mem_cons_of_mem _ hl)
      have step := ftRun_escapify esc hesc x (hoct x List.mem_cons_self) L []
        (46 :: joinDot ((y :: ys).map (escapifyWith esc)))
      rw [List.nil_append, ftRun_dot hx, ih (List.cons_ne_nil _ _) hoct' hmid' (L ++ [x]), List.append_assoc] at step
      exact step

/-- the labels `from_text` collects before it looks at the origin: none for `@` and the empty text, the root label for
`.`, else what the escape automaton collected -/
def ftLabels (text : List Nat) : Except NameErr (List Label) :=
  if text = [64] ∨ text = [] then .ok []
  else if text = [46] then .ok [[]]
  else match ftRun ftInit text with
    | .error e => .error e
    | .ok s => if s.esc.isSome then .error .badEscape else .ok (s.labels ++ [s.label])

/-- the origin, if there is one, is appended unless the last label is empty -/
def attachOrigin (labels : List Label) : Option Name → List Label
  | some o => absN o labels
  | none => labels

/-- `from_text`: collect the labels, append the origin unless the last label is empty, construct -/
theorem fromText_eq (text : List Nat) (origin : Option Name) :
    fromText text origin = match ftLabels text with
      | .error e => .error e
      | .ok labels => validate (attachOrigin labels origin) := by
  unfold fromText ftLabels
  by_cases h64 : text = [64]
  · subst h64; cases origin <;> rfl
  by_cases h0 : text = []
  · subst h0; cases origin <;> rfl
  by_cases h46 : text = [46]
  · subst h46; cases origin <;> rfl
  simp only [if_neg h64, if_neg h0, if_neg h46, if_neg (not_or.2 ⟨h64, h0⟩)]
  cases ftRun ftInit text with
  | error e => rfl
  | ok s =>
    dsimp only
    by_cases hesc : s.esc.isSome = true
    · rw [if_pos hesc]
    · rw [if_neg hesc]
      dsimp only
      cases origin with
      | none => rfl
      | some o =>
        dsimp only [attachOrigin, absN]
        by_cases hl : isAbs (s.labels ++ [s.label]) = true
        · rw [if_pos hl, if_neg (not_or.2 ⟨List.append_ne_nil_of_right_ne_nil _ (List.cons_ne_nil _ _),
            not_not_intro ((isAbs_iff_getLast? _).1 hl)⟩)]
        · rw [if_neg hl, if_pos (Or.inr (mt (isAbs_iff_getLast? _).2 hl))]

theorem ftLabels_of_run {text : List Nat} {L : List Label} {lab : Label} (hne : text ≠ []) (h64 : text ≠ [64])
    (h46 : text ≠ [46]) (hrun : ftRun ftInit text = .ok ⟨L, lab, none⟩) : ftLabels text = .ok (L ++ [lab]) := by
  rw [ftLabels, if_neg (not_or.2 ⟨h64, hne⟩), if_neg h46, hrun]
  rfl

theorem fromText_of_run {text : List Nat} {L : List Label} {lab : Label} (hne : text ≠ []) (h64 : text ≠ [64])
    (h46 : text ≠ [46]) (hrun : ftRun ftInit text = .ok ⟨L, lab, none⟩) (origin : Option Name) :
    fromText text origin = validate (match origin with
      | some o => if lab = [] then L ++ [lab] else L ++ [lab] ++ o
      | none => L ++ [lab]) := by
  rw [fromText_eq, ftLabels_of_run hne h64 h46 hrun]
  cases origin with
  | none => rfl
  | some o =>
    have hab : isAbs (L ++ [lab]) = true ↔ lab = [] := by
      rw [isAbs_iff_getLast?, List.getLast?_concat, Option.some.injEq]
    dsimp only [attachOrigin, absN]
    by_cases hl : lab = []
    · rw [if_pos hl, if_pos (hab.2 hl)]
    · rw [if_neg hl, if_neg (mt hab.1 hl)]

theorem fromText_wf {t : List Nat} {o : Option Name} {n : Name} (h : fromText t o = .ok n) : WfName n := by
  rw [fromText_eq] at h
  split at h
  · cases h
  · exact (wf_of_validate _ _ h).1 ▸ (wf_of_validate _ _ h).2

theorem fromText_of_abs {t : List Nat} {n : Name} (h : fromText t none = .ok n) (ha : isAbs n = true)
    (o : Option Name) : fromText t o = .ok n := by
  rw [fromText_eq] at h ⊢
  split at h
  · cases h
  · obtain ⟨rfl, _⟩ := wf_of_validate _ _ h
    cases o with
    | none => exact h
    | some o => dsimp only [attachOrigin] at h ⊢; rwa [absN_abs ha]

/-- An escaped octet starts with a backslash or is an octet outside the escaped set; so does an escaped label and the
dotted text of a name whose first label is not empty. -/
theorem escOctet_first (esc : List Nat) (c : Nat) : ∃ h t, escOctet esc c = h :: t ∧ (h = 92 ∨ h ∉ esc) := by
  rcases escOctet_forms esc c with ⟨_, e⟩ | ⟨hm, _, e⟩ | ⟨_, _, e⟩
  · exact ⟨92, _, e, Or.inl rfl⟩
  · exact ⟨c, [], e, Or.inr hm⟩
  · exact ⟨92, _, e, Or.inl rfl⟩

theorem escapify_head (esc : List Nat) (l : Label) (hl : l ≠ []) :
    ∃ h t, escapifyWith esc l = h :: t ∧ (h = 92 ∨ h ∉ esc) := by
  cases l with
  | nil => exact absurd rfl hl
  | cons c cs =>
    obtain ⟨h, t, e, p⟩ := escOctet_first esc c
    exact ⟨h, t ++ escapifyWith esc cs, by rw [escapifyWith, List.flatMap_cons, e]; rfl, p⟩

theorem joinDot_first (esc : List Nat) (ls : List Label) (hne : ls ≠ []) (hfirst : ls.head hne ≠ []) :
    ∃ h t, joinDot (ls.map (escapifyWith esc)) = h :: t ∧ (h = 92 ∨ h ∉ esc) := by
  cases ls with
  | nil => exact absurd rfl hne
  | cons x rest =>
    simp at hfirst
    obtain ⟨h, t, e, p⟩ := escapify_head esc x hfirst
    cases rest with
    | nil => exact ⟨h, t, by simp [joinDot, e], p⟩
    | cons y ys => exact ⟨h, t ++ 46 :: joinDot ((y :: ys).map (escapifyWith esc)), by simp [joinDot, e], p⟩

theorem joinDot_head (esc : List Nat) (hesc : EscOk esc) (ls : List Label) (hne : ls ≠ [])
    (hfirst : ls.head hne ≠ []) :
    ∃ h t, joinDot (ls.map (escapifyWith esc)) = h :: t ∧ (h = 92 ∨ (h ≠ 64 ∧ h ≠ 46)) := by
  obtain ⟨h, t, e, p⟩ := joinDot_first esc ls hne hfirst
  exact ⟨h, t, e, p.imp_right fun hm => ⟨fun e => hm (e ▸ hesc.2.2.1), fun e => hm (e ▸ hesc.1)⟩⟩

/-- the three forms of `to_text`: `@`, `.`, or the escaped labels joined by dots, the first of them not empty -/
theorem toText_cases (n : Name) (h : WfName n) :
    n = [] ∨ n = [[]] ∨ ∃ h0 : n ≠ [], n.head h0 ≠ [] ∧ toText n = joinDot (n.map (escapifyWith Consts.nameEscaped)) := by
  by_cases h0 : n = []
  · exact Or.inl h0
  by_cases h1 : n = [[]]
  · exact Or.inr (Or.inl h1)
  refine Or.inr (Or.inr ⟨h0, ?_, by rw [toText, if_neg h0, if_neg h1]; rfl⟩)
  cases n with
  | nil => exact absurd rfl h0
  | cons x rest =>
    cases rest with
    | nil => exact fun hx => h1 (congrArg (· :: []) hx)
    | cons y ys => exact h.2.2 x List.mem_cons_self

theorem ftLabels_toText (n : Name) (h : WfName n) (ho : OctetsOk n) : ftLabels (toText n) = .ok n := by
  have hesc := escOk_generated
  rcases toText_cases n h with rfl | rfl | ⟨h0, hfirst, htt⟩
  · rfl
  · rfl
  -- the text starts neither with `@` nor with a lone `.`, so the escape automaton runs over all of it
  obtain ⟨hd, tl, htext, hhd⟩ := joinDot_head Consts.nameEscaped hesc n h0 hfirst
  have hrun := ftRun_joinDot Consts.nameEscaped hesc n h0 ho h.2.2 []
  rw [← htt] at hrun
  rw [htext] at htt
  have ne64 : toText n ≠ [64] := fun e => by
    cases htt.symm.trans e
    exact hhd.elim (fun hh => by cases hh) fun hh => hh.1 rfl
  have ne46 : toText n ≠ [46] := fun e => by
    cases htt.symm.trans e
    exact hhd.elim (fun hh => by cases hh) fun hh => hh.2 rfl
  rw [ftLabels_of_run (htt ▸ List.cons_ne_nil _ _) ne64 ne46 hrun, List.nil_append, List.dropLast_concat_getLast h0]

end Model
