import Proofs.RenderFrame
import Proofs.NameOrder5
/-! Rendering with an origin = rendering the message whose relative names have been made absolute, without origin:
each item of the latter appends what the corresponding item of the former does (`itemExt_mapNames`, `wireName_absN`),
which is all `toWire_congr` asks. -/
namespace Model

def RData.mapNames (f : Name → Name) : RData → RData
  | .raw b => .raw b
  | .name1 n => .name1 (f n)
  | .mx p n => .mx p (f n)
  | .soa m r a b c d e => .soa (f m) (f r) a b c d e

def RRset.mapNames (f : Name → Name) (r : RRset) : RRset :=
  { r with name := f r.name, rdatas := r.rdatas.map (RData.mapNames f) }

/-- the message with every relative name derelativized against `o`, and no origin -/
def Message.absolutize (o : Name) (m : Message) : Message :=
  { m with origin := none, q := m.q.map (RRset.mapNames (absN o)), an := m.an.map (RRset.mapNames (absN o)),
           au := m.au.map (RRset.mapNames (absN o)), ad := m.ad.map (RRset.mapNames (absN o)) }

theorem wireName_absN (o n : Name) (ho : isAbs o = true) : wireName (absN o n) none = wireName n (some o) := by
  unfold wireName absN
  by_cases hn : isAbs n = true
  · simp [hn]
  · simp [hn, ho, (NameOrder.below_of_append n o ho).1]

/-! An item's octets depend on its names and on the origin only through `wireName`: a change `f` of the names together with
a change of the origin that leaves every `wireName` alone leaves what the item appends alone. -/

theorem rdataExt_mapNames (f : Name → Name) (og og' : Option Name) (h : ∀ n, wireName (f n) og' = wireName n og)
    (off : Nat) (t : CTable) (rd : RData) : rdataExt off t og' (rd.mapNames f) = rdataExt off t og rd := by
  cases rd <;> simp only [RData.mapNames, rdataExt, nameExt, h]

theorem rdsExt_mapNames (f : Name → Name) (og og' : Option Name) (h : ∀ n, wireName (f n) og' = wireName n og)
    (owner : Name) (rdtype rdclass ttl : Nat) (rds : List RData) : ∀ (off : Nat) (t : CTable),
      rdsExt (f owner) rdtype rdclass ttl og' off t (rds.map (RData.mapNames f)) =
        rdsExt owner rdtype rdclass ttl og off t rds := by
  induction rds with
  | nil => intro off t; rfl
  | cons rd rest ih =>
    intro off t
    simp only [List.map_cons, rdsExt, rrExt, nameExt, h, rdataExt_mapNames f og og' h, ih]

def Item.mapNames (f : Name → Name) : Item → Item
  | .q n t c => .q (f n) t c
  | .rr sec r => .rr sec (r.mapNames f)

theorem itemExt_mapNames (f : Name → Name) (og og' : Option Name) (h : ∀ n, wireName (f n) og' = wireName n og)
    (off : Nat) (t : CTable) (it : Item) : itemExt off t og' (it.mapNames f) = itemExt off t og it := by
  cases it with
  | q n rdtype rdclass => simp only [Item.mapNames, itemExt, nameExt, h]
  | rr sec r =>
    simp only [Item.mapNames, itemExt, rrsetExt, RRset.mapNames, RRset.wireClass, List.length_map, nameExt, h,
      rdsExt_mapNames f og og' h]

theorem Item.mapNames_sec (f : Name → Name) (it : Item) : (it.mapNames f).sec = it.sec := by
  cases it <;> rfl

theorem items_absolutize (o : Name) (m : Message) : (m.absolutize o).items = m.items.map (Item.mapNames (absN o)) := by
  simp [Message.items, Message.absolutize, List.map_map, Function.comp_def, Item.mapNames, RRset.mapNames]

theorem toWire_absolutize (m : Message) (o : Name) (hm : m.origin = some o) (ho : isAbs o = true) (lim : Nat) (pt : Bool) :
    (m.absolutize o).toWire lim pt = m.toWire lim pt :=
  toWire_congr m (m.absolutize o) _ rfl rfl rfl rfl rfl rfl (items_absolutize o m)
    (fun it _ => ⟨Item.mapNames_sec _ it, fun off t =>
      hm ▸ itemExt_mapNames (absN o) (some o) none (fun n => wireName_absN o n ho) off t it⟩) lim pt

end Model
