import Proofs.RenderBasic
/-! Soundness of `Name.to_wire(file, compress)` (`toWireCLoop`) for C01/C03: every table entry, old or new, points
at an offset where a name related to its key decodes, and so does the start offset of what was written.  It is read off
what the loop writes (`cLoop_abs`): plain labels decode (`Dec.plain`), then the root, or a pointer to an entry that was
sound before.  At the end the file-writing path `toWireF` as equations: the constructor check on the name (+ origin), then
the plain encoding or that loop. -/
namespace Model

/-- an entry of the compression table is sound in the buffer `out`: its offset fits a pointer and a
name decodes there which is `R`-related to the entry's key -/
def EntrySound (R : Name → Name → Prop) (out : Bytes) (p : Name × Nat) : Prop :=
  p.2 ≤ Consts.maxPtr ∧ ∃ ls fwd, Dec out p.2 p.2 ls fwd ∧ R (ls ++ [[]]) p.1

def TableSound (R : Name → Name → Prop) (out : Bytes) (t : CTable) : Prop :=
  ∀ p ∈ t, EntrySound R out p

theorem EntrySound.mono {R out p} (h : EntrySound R out p) (ext : Bytes) : EntrySound R (out ++ ext) p := by
  obtain ⟨h1, ls, fwd, hd, hr⟩ := h
  exact ⟨h1, ls, fwd, hd.mono ext, hr⟩

theorem ptr_consts : Consts.ptrBase = 49152 ∧ Consts.maxPtr = 16383 ∧ Consts.ptrTagMin = 192 := by decide

theorem ptr_octets {pos : Nat} (h : pos ≤ Consts.maxPtr) :
    Consts.ptrTagMin ≤ (Consts.ptrBase + pos) / 256 ∧
      (Consts.ptrBase + pos) / 256 % 64 * 256 + (Consts.ptrBase + pos) % 256 = pos := by
  obtain ⟨hbase, hmax, htag⟩ := ptr_consts
  rw [hmax] at h
  rw [hbase, htag]
  omega

theorem Dec.pointer {out : Bytes} {pos bp fwd : Nat} {ls : List Label} (hpos : pos ≤ Consts.maxPtr)
    (hd : Dec out pos pos ls fwd) (hbp : pos < bp) :
    Dec (out ++ [(Consts.ptrBase + pos) / 256, (Consts.ptrBase + pos) % 256]) out.length bp ls
      (out ++ [(Consts.ptrBase + pos) / 256, (Consts.ptrBase + pos) % 256]).length := by
  obtain ⟨htag, htgt⟩ := ptr_octets hpos
  have h0 : (out ++ [(Consts.ptrBase + pos) / 256, (Consts.ptrBase + pos) % 256])[out.length]? =
      some ((Consts.ptrBase + pos) / 256) := by
    rw [List.getElem?_append_right (Nat.le_refl _), Nat.sub_self]; rfl
  have h1 : (out ++ [(Consts.ptrBase + pos) / 256, (Consts.ptrBase + pos) % 256])[out.length + 1]? =
      some ((Consts.ptrBase + pos) % 256) := by
    rw [List.getElem?_append_right (Nat.le_add_right ..), Nat.add_sub_cancel_left]; rfl
  have := Dec.ptr out.length bp _ _ ls fwd h0 htag h1 (htgt.symm ▸ hbp) (htgt.symm ▸ hd.mono _)
  rw [Nat.max_eq_left (Nat.le_trans hd.fwd_le.2 (Nat.le_add_right ..))] at this
  rw [List.length_append]
  exact this

theorem rel_append_left {R : Name → Name → Prop} (hRcons : ∀ l a b, R a b → R (l :: a) (l :: b)) (front : List Label)
    {a b : Name} (h : R a b) : R (front ++ a) (front ++ b) := by
  induction front with
  | nil => exact h
  | cons l f ih => exact hRcons l _ _ ih

/-- The loop of `to_wire` with a compression table.  `out0`/`t0` are the buffer and table in which the table is known to
be sound, `out` the buffer now (an extension of `out0`), `pend` entries added since, all for longer names than this one (so
never hit); pointers written go below `out0.length`. -/
theorem loop_sound (R : Name → Name → Prop) (hRcons : ∀ l a b, R a b → R (l :: a) (l :: b))
    (hRroot : R [[]] [[]])
    (out0 : Bytes) (t0 : CTable) (hs : TableSound R out0 t0) (labels : Name) :
    PlainLabels labels.dropLast → labels.getLast? = some [] →
    (∀ p ∈ t0, ∀ k, lowerName p.1 = lowerName (labels.drop k) → ∀ m, R m p.1 → R m (labels.drop k)) →
    ∀ (out : Bytes) (pend : CTable), (∃ mid, out = out0 ++ mid) → (∀ p ∈ pend, labels.length < p.1.length) →
    ∃ ext new, (toWireCLoop out (t0 ++ pend) labels).1 = out ++ ext ∧
      (toWireCLoop out (t0 ++ pend) labels).2 = t0 ++ pend ++ new ∧
      (∀ bp, out0.length ≤ bp → ∃ ls, Dec (out ++ ext) out.length bp ls (out ++ ext).length
          ∧ R (ls ++ [[]]) labels) ∧
      (∀ p ∈ new, (∃ k, p.1 = labels.drop k) ∧ EntrySound R (out ++ ext) p) := by
  intro hplain hlast hhit out pend ⟨mid, hmid⟩ hpend
  have hlen0 : out0.length ≤ out.length := hmid ▸ List.length_append ▸ Nat.le_add_right ..
  obtain ⟨ls0, rfl⟩ := List.getLast?_eq_some_iff.1 hlast
  rw [List.dropLast_concat] at hplain
  obtain ⟨front, back, tail, hn, hfp, hext, hback, hnew⟩ := cLoop_abs out.length (t0 ++ pend) hplain
  have hdrop : ∀ a b, front = a ++ b → b ++ back = (ls0 ++ [[]]).drop a.length := fun a b h => by
    rw [hn, h, List.append_assoc, List.drop_left]
  -- what stands after the front labels decodes to `back`, wherever it is put
  have htail : ∀ pre bp, out0.length ≤ bp →
      ∃ ls, Dec (out ++ pre ++ tail) (out ++ pre).length bp ls (out ++ pre ++ tail).length ∧ R (ls ++ [[]]) back := by
    intro pre bp hbp
    rcases hback with ⟨rfl, rfl⟩ | ⟨pos, hget, rfl⟩
    · refine ⟨[], ?_, hRroot⟩
      rw [List.length_append (as := out ++ pre)]
      exact Dec.root (w := out ++ pre ++ [0]) _ bp (by rw [List.getElem?_append_right (Nat.le_refl _), Nat.sub_self]; rfl)
    · -- the entry hit is one of `t0`, since those of `pend` are longer than any suffix
      obtain ⟨p, hpmem, rfl, hplow⟩ := ctGet_some hget
      have hp0 : p ∈ t0 := (List.mem_append.mp hpmem).resolve_right fun h => by
        have := hpend p h
        rw [lowerName_length _ _ hplow, hn, List.length_append] at this
        omega
      obtain ⟨hle, ls, fwd, hd, hr⟩ := hs p hp0
      have hb := hdrop front [] (List.append_nil _).symm
      rw [List.nil_append] at hb
      refine ⟨ls, Dec.pointer (fwd := fwd) hle ?_ (Nat.lt_of_lt_of_le hd.fwd_le.1 (Nat.le_trans hd.fwd_le.2 hbp)),
        hb ▸ hhit p hp0 _ (hb ▸ hplow) _ hr⟩
      rw [hmid, List.append_assoc]
      exact hd.mono _
  -- so every suffix `b ++ back` decodes where it was written
  have hdec : ∀ a b, front = a ++ b → ∀ bp, out0.length ≤ bp →
      ∃ ls, Dec (out ++ (toWire front ++ tail)) (out ++ toWire a).length bp ls (out ++ (toWire front ++ tail)).length ∧
        R (ls ++ [[]]) (b ++ back) := by
    intro a b hab bp hbp
    obtain ⟨ls, hd, hr⟩ := htail (toWire front) bp hbp
    refine ⟨b ++ ls, ?_, List.append_assoc b ls _ ▸ rel_append_left hRcons b hr⟩
    rw [← List.append_assoc out]
    rw [hab, toWire_append, ← List.append_assoc] at hd ⊢
    exact Dec.plain (fun l hl => hfp l (hab ▸ List.mem_append_right _ hl)) hd
  rw [toWireCLoop_eq, hext]
  refine ⟨_, _, rfl, rfl, fun bp hbp => ?_, fun p hp => ?_⟩
  · have := hdec [] front rfl bp hbp
    rwa [show out ++ toWire [] = out from List.append_nil _, ← hn] at this
  · obtain ⟨a, b, hab, rfl, hmax⟩ := hnew p hp
    obtain ⟨ls, hd, hr⟩ := hdec a b hab _ (Nat.le_trans hlen0 (Nat.le_add_right ..))
    rw [List.length_append] at hd
    exact ⟨⟨_, hdrop a b hab⟩, hmax, ls, _, hd, hr⟩

/-- … for one name written at the end of a buffer in which the whole table is sound: the statement on `cLoop` that the
renderer (C03) and `C01.toWireC_rel` use -/
theorem cLoop_sound_rel (R : Name → Name → Prop) (hRcons : ∀ l a b, R a b → R (l :: a) (l :: b)) (hRroot : R [[]] [[]])
    (A : Bytes) (t : CTable) (full : Name) (hw : WfName full) (ha : isAbs full = true) (hs : TableSound R A t)
    (hhit : ∀ p ∈ t, ∀ k, lowerName p.1 = lowerName (full.drop k) → ∀ m, R m p.1 → R m (full.drop k)) :
    (∀ p ∈ (cLoop A.length t full).2, (∃ k, p.1 = full.drop k) ∧ EntrySound R (A ++ (cLoop A.length t full).1) p) ∧
    ∃ ls, Dec (A ++ (cLoop A.length t full).1) A.length A.length ls (A.length + (cLoop A.length t full).1.length)
      ∧ R (ls ++ [[]]) full := by
  obtain ⟨ls0, hn, hp⟩ := abs_split full hw ha
  have hplain : PlainLabels full.dropLast := by rw [hn]; simpa using hp
  have hlast : full.getLast? = some [] := by rw [hn]; simp
  obtain ⟨ext, new, h1, h2, h3, h4⟩ := loop_sound R hRcons hRroot A t hs full hplain hlast hhit
    A [] ⟨[], by simp⟩ (by simp)
  simp only [List.append_nil, toWireCLoop_eq] at h1 h2
  rw [List.append_cancel_left h1, List.append_cancel_left h2]
  refine ⟨h4, ?_⟩
  obtain ⟨ls, hd, hr⟩ := h3 A.length (Nat.le_refl _)
  rw [List.length_append] at hd
  exact ⟨ls, hd, hr⟩

/-- what the file-writing path returns once the label sequence (the name, or name + origin) has passed the
constructor: the octets appended, and the table as the compression loop leaves it -/
def wroteF (out : Bytes) (t : Option CTable) (labels : Name) : Bytes × Option CTable :=
  match t with
  | none => (out ++ toWire labels, none)
  | some tb => ((toWireCLoop out tb labels).1, some (toWireCLoop out tb labels).2)

theorem toWireF_abs (out : Bytes) (t : Option CTable) {n : Name} (origin : Option Name) (canon : Bool)
    (ha : isAbs n = true) (hw : WfName n) :
    toWireF out t n origin canon = .ok (wroteF out t (if canon then lowerName n else n)) := by
  simp only [toWireF, ha, if_true, validate_of_wf _ hw]
  cases t <;> rfl

theorem toWireF_rel (out : Bytes) (t : Option CTable) {n o : Name} (canon : Bool) (hr : isAbs n = false)
    (hoa : isAbs o = true) :
    toWireF out t n (some o) canon = match validate (n ++ o) with
      | .error e => .error e
      | .ok _ => .ok (wroteF out t (if canon then lowerName (n ++ o) else n ++ o)) := by
  simp only [toWireF, hr, Bool.false_eq_true, if_false, hoa, if_true]
  cases validate (n ++ o) with
  | error e => rfl
  | ok _ => cases t <;> rfl

end Model
