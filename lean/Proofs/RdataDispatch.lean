import Model.RdataDispatch
/-! `get_rdata_class` is history independent (C02): whatever lookups and `load_all_types` calls came before,
the class returned is the one the stateless rule `dispatchSpec` names. -/
namespace Model

theorem cacheGet_set (s : DState) (k k' : Nat × Nat) (v : Impl) :
    cacheGet (cacheSet s k v) k' = if k' = k then some v else cacheGet s k' := by
  unfold cacheGet cacheSet
  simp only [List.lookup_cons]
  by_cases h : k' = k
  · simp [h]
  · have : (k' == k) = false := by simpa using h
    simp [this, h]

def Present (s : DState) (k : Nat × Nat) : Prop := (cacheGet s k).isSome = true

theorem present_set {s : DState} {k k' : Nat × Nat} (v : Impl) (h : Present s k') : Present (cacheSet s k v) k' := by
  unfold Present at *
  rw [cacheGet_set]
  split <;> simp [h]

theorem present_set_self (s : DState) (k : Nat × Nat) (v : Impl) : Present (cacheSet s k v) k := by
  unfold Present
  rw [cacheGet_set]
  simp

/-- the invariant of the module state: what the dictionary holds is what the stateless rule names (and the generic
class never sits in an ANY slot); once dynamic loading is off every module is in it; a slot that holds an ANY
module has the ANY slot filled too -/
structure DInv (files : List (Nat × Nat)) (s : DState) : Prop where
  val : ∀ c t v, cacheGet s (c, t) = some v → v = dispatchSpec files c t ∧ (v = .generic → c ≠ 255)
  full : s.dynamic = false → ∀ d t, hasModule files d t = true → Present s (d, t)
  any : ∀ c t, cacheGet s (c, t) = some (.module 255 t) → Present s (255, t)

def NoDouble (files : List (Nat × Nat)) : Prop :=
  ∀ d t, hasModule files d t = true → d ≠ 255 → hasModule files 255 t = false

theorem NoDouble.own_false {files : List (Nat × Nat)} (hnd : NoDouble files) {c t : Nat}
    (hm : hasModule files 255 t = true) (hc : c ≠ 255) : hasModule files c t = false :=
  Bool.eq_false_iff.2 fun h => by rw [hnd c t h hc] at hm; cases hm

theorem dinv_init (files : List (Nat × Nat)) : DInv files DState.init :=
  ⟨fun c t v h => by simp [cacheGet, DState.init] at h, fun h => by simp [DState.init] at h,
   fun c t h => by simp [cacheGet, DState.init] at h⟩

/-- an ANY module may be recorded in a class slot only together with (or after) the ANY slot -/
theorem dinv_set {files : List (Nat × Nat)} {s : DState} (hi : DInv files s) (c t : Nat) (v : Impl)
    (hv : v = dispatchSpec files c t) (hg : v = .generic → c ≠ 255)
    (ha : v = .module 255 t → c = 255 ∨ Present s (255, t)) : DInv files (cacheSet s (c, t) v) := by
  refine ⟨fun c' t' v' h => ?_, fun hd d t' hm => present_set v (hi.full hd d t' hm), fun c' t' h => ?_⟩
  · rw [cacheGet_set] at h
    split at h
    · rename_i hk
      cases hk
      cases h
      exact ⟨hv, hg⟩
    · exact hi.val c' t' v' h
  · rw [cacheGet_set] at h
    split at h
    · rename_i hk
      cases hk
      cases h
      rcases ha rfl with rfl | hp
      · exact present_set_self ..
      · exact present_set _ hp
    · exact present_set v (hi.any c' t' h)

theorem spec_generic_iff (files : List (Nat × Nat)) (c t : Nat) :
    dispatchSpec files c t = .generic ↔ hasModule files c t = false ∧ hasModule files 255 t = false := by
  unfold dispatchSpec
  cases hasModule files c t <;> cases hasModule files 255 t <;> simp

/-- what one lookup `res = getClass files s c t ug` guarantees: the invariant is kept, the flag does not change,
nothing is forgotten, with `use_generic` the answer is the stateless rule's, and while dynamic loading is on the
modules for `(c, t)` and `(ANY, t)` are in the dictionary afterwards -/
structure GetOk (files : List (Nat × Nat)) (s : DState) (c t : Nat) (ug : Bool) (res : Option Impl × DState) : Prop where
  inv : DInv files res.2
  dyn : res.2.dynamic = s.dynamic
  mono : ∀ k, Present s k → Present res.2 k
  spec : ug = true → res.1 = some (dispatchSpec files c t)
  loaded : s.dynamic = true → ∀ d, hasModule files d t = true → (d = c ∨ d = 255) → Present res.2 (d, t)

theorem getOk_generic {files : List (Nat × Nat)} {s : DState} (hi : DInv files s) (c t : Nat) (ug : Bool)
    (hc : hasModule files c t = false) (ha : hasModule files 255 t = false) :
    GetOk files s c t ug
      (if ug = true then (some .generic, if c = 255 then s else cacheSet s (c, t) .generic) else (none, s)) := by
  have hspec : dispatchSpec files c t = .generic := (spec_generic_iff files c t).2 ⟨hc, ha⟩
  have hno : ∀ d, hasModule files d t = true → (d = c ∨ d = 255) → False := by
    rintro d hd (rfl | rfl)
    · rw [hc] at hd; cases hd
    · rw [ha] at hd; cases hd
  cases ug with
  | false => exact ⟨hi, rfl, fun _ h => h, nofun, fun _ d hd hdc => (hno d hd hdc).elim⟩
  | true =>
    by_cases hc255 : c = 255
    · simp only [if_true, hc255]
      exact ⟨hi, rfl, fun _ h => h, fun _ => by rw [← hc255, hspec], fun _ d hd hdc => (hno d hd (hc255 ▸ hdc)).elim⟩
    · simp only [if_true, hc255, if_false]
      exact ⟨dinv_set hi c t _ hspec.symm (fun _ => hc255) nofun, rfl, fun _ h => present_set _ h,
        fun _ => by rw [hspec], fun _ d hd hdc => (hno d hd hdc).elim⟩

theorem getClass_spec (files : List (Nat × Nat)) (hnd : NoDouble files) (s : DState) (hi : DInv files s)
    (c t : Nat) (ug : Bool) : GetOk files s c t ug (getClass files s c t ug) := by
  unfold getClass
  cases h1 : cacheGet s (c, t) with
  | some k =>
    refine ⟨hi, rfl, fun _ h => h, fun _ => by rw [(hi.val c t k h1).1], fun _ d hd hdc => ?_⟩
    rcases hdc with rfl | rfl
    · simp [Present, h1]
    · by_cases hc : c = 255
      · subst hc; simp [Present, h1]
      · -- `c` has no module of its own (else ANY would not), so `k` is the ANY module, present by `any`
        have hk : k = .module 255 t := by rw [(hi.val c t k h1).1]; simp [dispatchSpec, hnd.own_false hd hc, hd]
        exact hi.any c t (hk ▸ h1)
  | none =>
    cases h2 : cacheGet s (255, t) with
    | some k =>
      have hk := hi.val 255 t k h2
      have hm : hasModule files 255 t = true := by
        cases hm : hasModule files 255 t with
        | true => rfl
        | false => exact absurd rfl (hk.2 (by rw [hk.1]; simp [dispatchSpec, hm]))
      have hc : c ≠ 255 := fun hc => by rw [hc, h2] at h1; cases h1
      refine ⟨hi, rfl, fun _ h => h, fun _ => ?_, fun _ d hd hdc => ?_⟩
      · simp [hk.1, dispatchSpec, hnd.own_false hm hc, hm]
      · rcases hdc with rfl | rfl
        · rw [hnd.own_false hm hc] at hd; cases hd
        · simp [Present, h2]
    | none =>
      simp only
      by_cases hdyn : s.dynamic = true
      · simp only [hdyn, if_true]
        by_cases hc : hasModule files c t = true
        · -- the class's own module is imported
          simp only [hc, if_true]
          have hspec : dispatchSpec files c t = .module c t := by simp [dispatchSpec, hc]
          refine ⟨dinv_set hi c t _ hspec.symm nofun fun h => .inl (by cases h; rfl), rfl,
            fun _ h => present_set _ h, fun _ => by rw [hspec], fun _ d hd hdc => ?_⟩
          rcases hdc with rfl | rfl
          · exact present_set_self ..
          · by_cases hc255 : c = 255
            · subst hc255; exact present_set_self ..
            · rw [hnd.own_false hd hc255] at hc; cases hc
        · simp only [hc, Bool.false_eq_true, if_false]
          have hc' : hasModule files c t = false := by simpa using hc
          by_cases ha : hasModule files 255 t = true
          · -- the ANY module is imported and recorded in both slots
            simp only [ha, if_true]
            have hspec : dispatchSpec files c t = .module 255 t := by simp [dispatchSpec, hc', ha]
            have hspecA : dispatchSpec files 255 t = .module 255 t := by simp [dispatchSpec, ha]
            refine ⟨dinv_set (dinv_set hi 255 t _ hspecA.symm nofun fun _ => .inl rfl) c t _ hspec.symm nofun
                fun _ => .inr (present_set_self ..), rfl, fun _ h => present_set _ (present_set _ h),
              fun _ => by rw [hspec], fun _ d hd hdc => ?_⟩
            rcases hdc with rfl | rfl
            · exact present_set_self ..
            · exact present_set _ (present_set_self ..)
          · -- nothing to import
            simp only [ha, Bool.false_eq_true, if_false]
            exact getOk_generic hi c t ug hc' (by simpa using ha)
      · -- dynamic loading disabled: every module is already in the dictionary, so there is none for this pair
        have hdyn' : s.dynamic = false := by simpa using hdyn
        simp only [hdyn', Bool.false_eq_true, if_false]
        have absent : ∀ d, cacheGet s (d, t) = none → hasModule files d t = false := fun d hd =>
          Bool.eq_false_iff.2 fun hm => by have := hi.full hdyn' d t hm; simp [Present, hd] at this
        exact getOk_generic hi c t ug (absent c h1) (absent 255 h2)

theorem fold_gets (files : List (Nat × Nat)) (hnd : NoDouble files) (c : Nat) : ∀ (enums : List Nat) (s : DState), DInv files s →
    DInv files (enums.foldl (fun s t => (getClass files s c t false).2) s) ∧
    (enums.foldl (fun s t => (getClass files s c t false).2) s).dynamic = s.dynamic ∧
    (∀ k, Present s k → Present (enums.foldl (fun s t => (getClass files s c t false).2) s) k) ∧
    (s.dynamic = true → ∀ t ∈ enums, ∀ d, hasModule files d t = true → (d = c ∨ d = 255) →
      Present (enums.foldl (fun s t => (getClass files s c t false).2) s) (d, t)) := by
  intro enums
  induction enums with
  | nil => intro s hi; exact ⟨hi, rfl, fun _ h => h, fun _ t ht => by simp at ht⟩
  | cons e es ih =>
    intro s hi
    obtain ⟨h1, h2, h3, _, h5⟩ := getClass_spec files hnd s hi c e false
    obtain ⟨i1, i2, i3, i4⟩ := ih _ h1
    simp only [List.foldl_cons]
    refine ⟨i1, by rw [i2, h2], fun k hk => i3 k (h3 k hk), ?_⟩
    intro hdyn t ht d hd hdc
    rcases List.mem_cons.1 ht with rfl | ht'
    · exact i3 _ (h5 hdyn d hd hdc)
    · exact i4 (by rw [h2]; exact hdyn) t ht' d hd hdc

theorem filesOk_spec {files : List (Nat × Nat)} {enums : List Nat} (h : filesOk files enums = true) :
    NoDouble files ∧ ∀ d t, hasModule files d t = true → t ∈ enums ∧ (d = 255 ∨ d = 1 ∨ (d = 3 ∧ t = 1)) := by
  have key : ∀ d t, hasModule files d t = true →
      (d = 255 ∨ hasModule files 255 t = false) ∧ t ∈ enums ∧ (d = 255 ∨ d = 1 ∨ (d = 3 ∧ t = 1)) := by
    intro d t hm
    have := List.all_eq_true.1 h (d, t) (by simpa [hasModule] using hm)
    simpa [hasModule, and_assoc, or_assoc] using this
  exact ⟨fun d t hm hd => (key d t hm).1.resolve_left hd, fun d t hm => (key d t hm).2⟩

theorem loadAll_inv (files : List (Nat × Nat)) (enums : List Nat) (hok : filesOk files enums = true)
    (s : DState) (hi : DInv files s) (disable : Bool) : DInv files (loadAll files enums s disable) := by
  obtain ⟨hnd, hall⟩ := filesOk_spec hok
  unfold loadAll
  obtain ⟨i1, i2, i3, i4⟩ := fold_gets files hnd 1 enums s hi
  obtain ⟨j1, j2, j3, _, j5⟩ := getClass_spec files hnd _ i1 3 1 false
  refine ⟨j1.val, ?_, j1.any⟩
  intro hd d t hm
  simp only [Bool.and_eq_false_iff] at hd
  by_cases hs : s.dynamic = true
  · -- every module was reached by the preload
    obtain ⟨hte, hdd⟩ := hall d t hm
    rcases hdd with rfl | rfl | ⟨rfl, rfl⟩
    · exact j3 _ (i4 hs t hte 255 hm (Or.inr rfl))
    · exact j3 _ (i4 hs t hte 1 hm (Or.inl rfl))
    · exact j5 (by rw [i2]; exact hs) 3 hm (Or.inl rfl)
  · have hs' : s.dynamic = false := by simpa using hs
    exact j1.full (by rw [j2, i2]; exact hs') d t hm

/-- **history independence of dispatch**: after any sequence of lookups (any class, any type, with or without
`use_generic`) and `load_all_types` calls (either flag), `get_rdata_class(c, t)` returns what the stateless rule names -/
theorem dispatch_history (files : List (Nat × Nat)) (enums : List Nat) (hok : filesOk files enums = true)
    (ops : List DOp) (c t : Nat) :
    (getClass files (ops.foldl (stepD files enums) DState.init) c t true).1 = some (dispatchSpec files c t) := by
  obtain ⟨hnd, _⟩ := filesOk_spec hok
  have hinv : ∀ (ops : List DOp) (s : DState), DInv files s → DInv files (ops.foldl (stepD files enums) s) := by
    intro ops
    induction ops with
    | nil => intro s h; exact h
    | cons o os ih =>
      intro s h
      simp only [List.foldl_cons]
      apply ih
      cases o with
      | get c t ug => exact (getClass_spec files hnd s h c t ug).inv
      | loadAll d => exact loadAll_inv files enums hok s h d
  exact (getClass_spec files hnd _ (hinv ops _ (dinv_init files)) c t true).spec rfl

end Model
