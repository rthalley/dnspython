import Proofs.BTreeRebalance
/-!
Layer L3: `balance` (try_left_steal / try_right_steal / merge) applied to the minimal child at which the parent is cut
for a key (`Cut`) keeps the parent's flattening and cuts it again for that key, at a child that is not minimal: the three
outcomes (`bal_left_steal`, `bal_right_steal`, `bal_merge`) and the decision between them as the code takes it
(`balance_spec_at`).
-/
namespace Model.BTree

/-- what `balance` delivers to `delete`: the parent is again cut for `key`, at a child `c1` (index `j`) that is not
minimal; its flattening is unchanged and it lost at most one element -/
def BalOutAt (j : Nat) (t h : Nat) (key : Nat) (es : List Elt) (cs : List Node) (r : List Elt × List Node) : Prop :=
  ∃ el1 er1 cl1 c1 cr1, r = (el1 ++ er1, cl1 ++ c1 :: cr1) ∧ Cut t h key el1 er1 cl1 c1 cr1 ∧
    flat (.node (el1 ++ er1) (cl1 ++ c1 :: cr1)) = flat (.node es cs) ∧ minKeys t < c1.elts.length ∧
    es.length ≤ (el1 ++ er1).length + 1 ∧ (el1 ++ er1).length ≤ es.length ∧ el1.length = j

theorem bal_left_steal {t h key : Nat} {el er : List Elt} {p : Elt} {cl cr : List Node} {l c : Node}
    (hk : Kids t h (el ++ p :: er) (cl ++ l :: c :: cr)) (hcl : cl.length = el.length)
    (hs : Sorted (flat (.node (el ++ p :: er) (cl ++ l :: c :: cr))))
    (hlmin : l.elts.length ≠ minKeys t) (hcmax : c.elts.length < maxKeys t)
    (hwl : ∀ x ∈ el, x.1 < key) (hp : p.1 < key) (hwr : ∀ x ∈ er, key < x.1) :
    BalOutAt (el.length + 1) t h key (el ++ p :: er) (cl ++ l :: c :: cr)
      (el ++ (stealFromLeft l c p).2.1 :: er, cl ++ (stealFromLeft l c p).1 :: (stealFromLeft l c p).2.2 :: cr) := by
  have hl := kids_at hk
  have hc := kids_at_succ hk
  obtain ⟨h1, h2, h3, h4, h5, hmem⟩ := stealFromLeft_spec p hl.1 hc.1 (occ_pos hl.2 hlmin)
  generalize stealFromLeft l c p = st at *
  obtain ⟨l', up, c'⟩ := st
  simp only at h1 h2 h3 h4 h5 hmem ⊢
  obtain ⟨hol', hoc', hc'⟩ := occ_steal hl.2 hc.2 hlmin hcmax h3 h4
  obtain ⟨hk', hflat, hsep⟩ := steal_in_place hk hcl ⟨h1, hol'⟩ ⟨h2, hoc'⟩ h5
  have hup : up.1 < p.1 := (hsep hs).2 p hmem
  rw [← hflat] at hs
  refine ⟨el ++ [up], er, cl ++ [l'], c', cr, by simp,
    ⟨by simpa using hk', by simp [hcl], by simpa using hs, ?_, hwr⟩, by simpa using hflat, hc', by simp, by simp, by simp⟩
  exact List.forall_mem_append.mpr ⟨hwl, List.forall_mem_singleton.mpr (Nat.lt_trans hup hp)⟩

theorem bal_right_steal {t h key : Nat} {el er : List Elt} {q : Elt} {cl cr : List Node} {c r : Node}
    (hk : Kids t h (el ++ q :: er) (cl ++ c :: r :: cr)) (hcl : cl.length = el.length)
    (hs : Sorted (flat (.node (el ++ q :: er) (cl ++ c :: r :: cr))))
    (hrmin : r.elts.length ≠ minKeys t) (hcmax : c.elts.length < maxKeys t)
    (hwl : ∀ x ∈ el, x.1 < key) (hq : key < q.1) (hwr : ∀ x ∈ er, key < x.1) :
    BalOutAt el.length t h key (el ++ q :: er) (cl ++ c :: r :: cr)
      (el ++ (stealFromRight c r q).2.1 :: er, cl ++ (stealFromRight c r q).1 :: (stealFromRight c r q).2.2 :: cr) := by
  have hc := kids_at hk
  have hr := kids_at_succ hk
  obtain ⟨h1, h2, h3, h4, h5, hmem⟩ := stealFromRight_spec q hc.1 hr.1 (occ_pos hr.2 hrmin)
  generalize stealFromRight c r q = st at *
  obtain ⟨c', up, r'⟩ := st
  simp only at h1 h2 h3 h4 h5 hmem ⊢
  obtain ⟨hor', hoc', hc'⟩ := occ_steal hr.2 hc.2 hrmin hcmax h4 h3
  obtain ⟨hk', hflat, hsep⟩ := steal_in_place hk hcl ⟨h1, hoc'⟩ ⟨h2, hor'⟩ h5
  have hup : q.1 < up.1 := (hsep hs).1 q hmem
  exact ⟨el, up :: er, cl, c', r' :: cr, rfl,
    ⟨hk', hcl, hflat.symm ▸ hs, hwl, List.forall_mem_cons.mpr ⟨Nat.lt_trans hq hup, hwr⟩⟩, hflat, hc', by simp, by simp,
    rfl⟩

theorem bal_merge {t h key : Nat} {el er : List Elt} {p : Elt} {cl cr : List Node} {a b : Node} (ht : 1 ≤ t)
    (hk : Kids t h (el ++ p :: er) (cl ++ a :: b :: cr)) (hcl : cl.length = el.length)
    (hs : Sorted (flat (.node (el ++ p :: er) (cl ++ a :: b :: cr))))
    (ha : a.elts.length = minKeys t) (hb : b.elts.length = minKeys t)
    (hwl : ∀ x ∈ el, x.1 < key) (hwr : ∀ x ∈ er, key < x.1) :
    BalOutAt el.length t h key (el ++ p :: er) (cl ++ a :: b :: cr) (el ++ er, cl ++ mergeNodes a p b :: cr) := by
  obtain ⟨h1, h2, h3⟩ := mergeNodes_spec p (kids_at hk).1 (kids_at_succ hk).1
  have hflat : flat (.node (el ++ er) (cl ++ mergeNodes a p b :: cr)) =
      flat (.node (el ++ p :: er) (cl ++ a :: b :: cr)) := by
    rw [flat_node_split _ _ _ _ _ hcl, flat_node_split2 _ _ _ _ _ _ _ hcl, h3]
  refine ⟨el, er, cl, mergeNodes a p b, cr, rfl, ⟨kids_merge2 hk ⟨h1, ?_⟩, hcl, hflat.symm ▸ hs, hwl, hwr⟩, hflat,
    ?_, by simp <;> omega, by simp, rfl⟩
  · simp only [Occ, h2, ha, hb, minKeys, maxKeys]; omega
  · rw [h2, ha, hb]; omega

theorem balance_of_left {t : Nat} {es : List Elt} {cs : List Node} {idx : Nat} {r : List Elt × List Node}
    (h : tryLeftSteal t es cs idx = some r) : balance t es cs idx = some r := by
  simp only [balance, h]

theorem balance_of_right {t : Nat} {es : List Elt} {cs : List Node} {idx : Nat} {r : List Elt × List Node}
    (h1 : tryLeftSteal t es cs idx = none) (h2 : tryRightSteal t es cs idx = some r) :
    balance t es cs idx = some r := by
  simp only [balance, h1, h2]

/-- `merge(parent, index - 1)` unless `index == 0`: in both cases the index is `idx - 1` -/
theorem balance_of_merge {t : Nat} {es : List Elt} {cs : List Node} {idx : Nat}
    (h1 : tryLeftSteal t es cs idx = none) (h2 : tryRightSteal t es cs idx = none) :
    balance t es cs idx = merge es cs (idx - 1) := by
  simp only [balance, h1, h2]
  split
  · subst idx; rfl
  · rfl

theorem isMinimal_iff {t : Nat} {n : Node} : isMinimal t n = true ↔ n.elts.length = minKeys t := by
  simp [isMinimal]

/-- `balance` of the minimal child at the search window of `key`, case by case as the code decides: steal from the
left sibling if it can spare an element, else from the right one, else merge (with the left sibling if there is one).
The child to continue in has the same index after a steal and the index before it after a merge (for the leftmost
child that is again index 0). -/
theorem balance_spec_at {t h key : Nat} {el er : List Elt} {cl cr : List Node} {c : Node} (ht : 2 ≤ t)
    (w : Cut t h key el er cl c cr) (hmin : c.elts.length = minKeys t) (hne : 1 ≤ (el ++ er).length) :
    ∃ r, balance t (el ++ er) (cl ++ c :: cr) el.length = some r ∧
      BalOutAt (if r.1.length = (el ++ er).length then el.length else el.length - 1) t h key
        (el ++ er) (cl ++ c :: cr) r := by
  obtain ⟨hk, hcl, hs, hwl, hwr⟩ := w
  have hcr : cr.length = er.length := kids_cr_length hk hcl
  have hcmax : c.elts.length < maxKeys t := hmin ▸ minKeys_lt_maxKeys (by omega)
  -- the left sibling `l`, if there is one, behind the separator `p`
  have hsnoc : ∀ {el' : List Elt} {p : Elt}, el = el' ++ [p] → ∃ cl' l, cl = cl' ++ [l] ∧ cl'.length = el'.length := by
    rintro el' p rfl
    obtain ⟨cl', l, rfl⟩ := snoc_of_pos cl (by simp at hcl; omega)
    exact ⟨cl', l, rfl, by simpa using hcl⟩
  by_cases hleft : ∃ el' p cl' l, el = el' ++ [p] ∧ cl = cl' ++ [l] ∧ l.elts.length ≠ minKeys t
  · obtain ⟨el', p, cl', l, rfl, rfl, hlmin⟩ := hleft
    have hcl' : cl'.length = el'.length := by simpa using hcl
    simp only [List.append_assoc, List.singleton_append, List.length_append, List.length_singleton] at hk hs ⊢
    have hls := tryLeftSteal_eq t el' er p cl' l c cr hcl'
    rw [if_neg (mt isMinimal_iff.mp hlmin)] at hls
    refine ⟨_, balance_of_left hls, ?_⟩
    rw [if_pos (by simp)]
    exact bal_left_steal hk hcl' hs hlmin hcmax (fun x hx => hwl x (by simp [hx])) (hwl p (by simp)) hwr
  have hls : tryLeftSteal t (el ++ er) (cl ++ c :: cr) el.length = none := by
    rcases nil_or_snoc el with rfl | ⟨el', p, rfl⟩
    · exact tryLeftSteal_zero ..
    · obtain ⟨cl', l, rfl, hcl'⟩ := hsnoc rfl
      have := tryLeftSteal_eq t el' er p cl' l c cr hcl'
      rw [if_pos (isMinimal_iff.mpr (Classical.not_not.mp fun h => hleft ⟨_, _, _, _, rfl, rfl, h⟩))] at this
      simpa using this
  -- the merge, once the right sibling (if there is one) is known to be minimal as well
  have hmerge : tryRightSteal t (el ++ er) (cl ++ c :: cr) el.length = none →
      (∀ q er' r cr', er = q :: er' → cr = r :: cr' → r.elts.length = minKeys t) →
      ∃ r, balance t (el ++ er) (cl ++ c :: cr) el.length = some r ∧
        BalOutAt (if r.1.length = (el ++ er).length then el.length else el.length - 1) t h key
          (el ++ er) (cl ++ c :: cr) r := by
    intro hrs hrmin
    rw [balance_of_merge hls hrs]
    rcases nil_or_snoc el with rfl | ⟨el', p, rfl⟩
    · obtain rfl : cl = [] := List.eq_nil_of_length_eq_zero hcl
      cases er with
      | nil => simp at hne
      | cons q er =>
        cases cr with
        | nil => simp at hcr
        | cons r cr =>
          refine ⟨_, merge_eq [] er q [] c r cr rfl, ?_⟩
          rw [if_neg (by simp)]
          exact bal_merge (el := []) (cl := []) (by omega) hk rfl hs hmin (hrmin _ _ _ _ rfl rfl) (fun _ h => nomatch h)
            (fun x hx => hwr x (by simp [hx]))
    · obtain ⟨cl', l, rfl, hcl'⟩ := hsnoc rfl
      simp only [List.append_assoc, List.singleton_append, List.length_append, List.length_singleton,
        Nat.add_sub_cancel] at hk hs ⊢
      refine ⟨_, merge_eq el' er p cl' l c cr hcl', ?_⟩
      rw [if_neg (by simp only [List.length_append, List.length_cons]; omega)]
      exact bal_merge (by omega) hk hcl' hs (Classical.not_not.mp fun h => hleft ⟨_, _, _, _, rfl, rfl, h⟩) hmin
        (fun x hx => hwl x (by simp [hx])) hwr
  cases er with
  | nil =>
    obtain rfl : cr = [] := List.eq_nil_of_length_eq_zero hcr
    exact hmerge (tryRightSteal_none_of_short _ _ _ _ (by simp; omega)) (fun _ _ _ _ h => nomatch h)
  | cons q er =>
    cases cr with
    | nil => simp at hcr
    | cons r cr =>
      have hrs := tryRightSteal_eq t el er q cl c r cr hcl
      by_cases hrmin : r.elts.length = minKeys t
      · rw [if_pos (isMinimal_iff.mpr hrmin)] at hrs
        exact hmerge hrs fun _ _ _ _ h1 h2 => by cases h1; cases h2; exact hrmin
      · rw [if_neg (mt isMinimal_iff.mp hrmin)] at hrs
        refine ⟨_, balance_of_right hls hrs, ?_⟩
        rw [if_pos (by simp)]
        exact bal_right_steal hk hcl hs hrmin hcmax hwl (hwr q (by simp)) (fun x hx => hwr x (by simp [hx]))

end Model.BTree
