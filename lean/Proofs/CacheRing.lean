import Model.Cache
import Proofs.CacheLru
/-! C17: the sentinel ring at pointer level (`prev` / `next` as coded) implements the list: `link_after` and `unlink` on
segments of the ring, then every operation of `LRUCache` along a run. -/
namespace Model.Cache

/-- `next` leads from `a` through exactly the nodes of `l` to `b`, and `prev` leads back -/
def Seg (p : Ptrs) : Nat → List Nat → Nat → Prop
  | a, [], b => p.next a = b ∧ p.prev b = a
  | a, x :: l, b => p.next a = x ∧ p.prev x = a ∧ Seg p x l b

/-- the pointers represent the ring `l` (first = `sentinel.next`, last = `sentinel.prev`) -/
def Ring (p : Ptrs) (l : List Nat) : Prop := Seg p 0 l 0 ∧ (0 :: l).Nodup

theorem setP_same (f : Nat → Nat) (i v : Nat) : setP f i v i = v := if_pos rfl
theorem setP_other (f : Nat → Nat) (i v j : Nat) (h : j ≠ i) : setP f i v j = f j := if_neg h

theorem seg_frame (p p' : Ptrs) (a : Nat) (l : List Nat) (b : Nat) (h : Seg p a l b)
    (hn : ∀ i ∈ a :: l, p'.next i = p.next i) (hp : ∀ i ∈ l ++ [b], p'.prev i = p.prev i) : Seg p' a l b := by
  induction l generalizing a with
  | nil => exact ⟨(hn a (by simp)).trans h.1, (hp b (by simp)).trans h.2⟩
  | cons x l ih =>
    exact ⟨(hn a (by simp)).trans h.1, (hp x (by simp)).trans h.2.1,
      ih x h.2.2 (fun i hi => hn i (List.mem_cons_of_mem _ hi)) fun i hi => hp i (List.mem_cons_of_mem _ hi)⟩

/-- The start of a segment matters only through `next a` and the `prev` of that node: a segment may be entered from
another node `a'` whose `next` is made to point where `a`'s did, if the rest is left alone.  (Both `link_after` and
`unlink` of the first node are this.) -/
theorem seg_restart (p p' : Ptrs) (a a' : Nat) (l : List Nat) (b : Nat) (h : Seg p a l b) (hnd : (l ++ [b]).Nodup)
    (hna : p'.next a' = p.next a) (hpa : p'.prev (p.next a) = a')
    (hn : ∀ i ∈ l, p'.next i = p.next i) (hp : ∀ i ∈ l ++ [b], i ≠ p.next a → p'.prev i = p.prev i) :
    Seg p' a' l b := by
  cases l with
  | nil => exact ⟨hna.trans h.1, h.1 ▸ hpa⟩
  | cons x l =>
    refine ⟨hna.trans h.1, h.1 ▸ hpa, seg_frame p p' x l b h.2.2 hn fun i hi => ?_⟩
    exact hp i (List.mem_cons_of_mem _ hi) (h.1 ▸ fun e => (List.nodup_cons.mp hnd).1 (e ▸ hi))

theorem ring_first (p : Ptrs) (l : List Nat) (h : Ring p l) : p.next 0 = l.head?.getD 0 := by
  cases l <;> exact h.1.1

theorem seg_last (p : Ptrs) (a : Nat) (l : List Nat) (b : Nat) (h : Seg p a l b) : p.prev b = (a :: l).getLast (by simp) := by
  induction l generalizing a with
  | nil => exact h.2
  | cons x l ih => simp only [Seg] at h; rw [ih x h.2.2]; simp [List.getLast_cons]

/-- `sentinel.prev` is the last node of the ring (the least recently used one), or the sentinel itself -/
theorem ring_last (p : Ptrs) (l : List Nat) (h : Ring p l) : p.prev 0 = l.getLast?.getD 0 := by
  rw [seg_last p 0 l 0 h.1]
  cases l with
  | nil => rfl
  | cons x l => simp [List.getLast?_eq_some_getLast, List.getLast_cons]

theorem linkAfter_next (p : Ptrs) (x a : Nat) : (linkAfter p x a).next = setP (setP p.next x (p.next a)) a x := rfl

theorem linkAfter_prev (p : Ptrs) (x a : Nat) (hxa : x ≠ a) :
    (linkAfter p x a).prev = setP (setP p.prev x a) (p.next a) x := by
  simp [linkAfter, setP, hxa.symm]

theorem seg_next_mem (p : Ptrs) (a : Nat) (l : List Nat) (b : Nat) (h : Seg p a l b) : p.next a ∈ l ++ [b] := by
  cases l <;> simp [h.1]

theorem nodup_snoc {l : List Nat} {b : Nat} (hl : l.Nodup) (hbl : b ∉ l) : (l ++ [b]).Nodup :=
  List.nodup_append.mpr ⟨hl, List.pairwise_singleton _ b, fun _ hi _ hj e => hbl (List.mem_singleton.mp hj ▸ e ▸ hi)⟩

theorem seg_link (p : Ptrs) (a : Nat) (l : List Nat) (b x : Nat) (h : Seg p a l b)
    (hxa : x ≠ a) (hxb : x ≠ b) (hxl : x ∉ l) (hal : a ∉ l) (hbl : b ∉ l) (hl : l.Nodup) :
    Seg (linkAfter p x a) a (x :: l) b := by
  have hx : ∀ i ∈ l ++ [b], i ≠ x := fun i hi e => by
    rcases List.mem_append.mp hi with hm | hm
    · exact hxl (e ▸ hm)
    · exact hxb (e.symm.trans (List.mem_singleton.mp hm))
  have hN := linkAfter_next p x a
  have hP := linkAfter_prev p x a hxa
  refine ⟨?_, ?_, seg_restart p _ a x l b h (nodup_snoc hl hbl) ?_ ?_ (fun i hi => ?_) fun i hi hne => ?_⟩
  · rw [hN, setP_same]
  · rw [hP, setP_other _ _ _ _ (hx _ (seg_next_mem p a l b h)).symm, setP_same]
  · rw [hN, setP_other _ _ _ _ hxa, setP_same]
  · rw [hP, setP_same]
  · rw [hN, setP_other _ _ _ _ fun (e : i = a) => hal (e ▸ hi), setP_other _ _ _ _ (hx i (List.mem_append_left _ hi))]
  · rw [hP, setP_other _ _ _ _ hne, setP_other _ _ _ _ (hx i hi)]

/-- `node.link_after(sentinel)` puts the node first and leaves the rest of the ring as it was -/
theorem ring_link (p : Ptrs) (l : List Nat) (x : Nat) (h : Ring p l) (hx0 : x ≠ 0) (hxl : x ∉ l) :
    Ring (linkAfter p x 0) (x :: l) := by
  have hnd := List.nodup_cons.mp h.2
  refine ⟨seg_link p 0 l 0 x h.1 hx0 hx0 hxl hnd.1 hnd.1 hnd.2, ?_⟩
  exact List.nodup_cons.mpr ⟨fun hm => (List.mem_cons.mp hm).elim (fun e => hx0 e.symm) hnd.1,
    List.nodup_cons.mpr ⟨hxl, hnd.2⟩⟩

theorem seg_prev_mem (p : Ptrs) (a : Nat) (l : List Nat) (b x : Nat) (h : Seg p a l b) (hx : x ∈ l) :
    p.prev x ∈ a :: l ∧ p.next x ∈ l ++ [b] := by
  induction l generalizing a with
  | nil => cases hx
  | cons y l ih =>
    rcases List.mem_cons.mp hx with e | hm
    · subst e
      exact ⟨h.2.1 ▸ List.mem_cons_self, List.mem_cons_of_mem _ (seg_next_mem p x l b h.2.2)⟩
    · have := ih y h.2.2 hm
      exact ⟨List.mem_cons_of_mem _ this.1, List.mem_cons_of_mem _ this.2⟩

theorem unlinkP_next (p : Ptrs) (x : Nat) : (unlinkP p x).next = setP p.next (p.prev x) (p.next x) := by
  have e : setP p.prev (p.next x) (p.prev x) x = p.prev x := by
    unfold setP; split <;> rfl
  show setP p.next (setP p.prev (p.next x) (p.prev x) x) (p.next x) = _
  rw [e]

theorem unlinkP_prev (p : Ptrs) (x : Nat) : (unlinkP p x).prev = setP p.prev (p.next x) (p.prev x) := rfl

theorem seg_unlink (p : Ptrs) (a : Nat) (l : List Nat) (b x : Nat) (h : Seg p a l b) (hx : x ∈ l)
    (hal : a ∉ l) (hbl : b ∉ l) (hl : l.Nodup) : Seg (unlinkP p x) a (l.erase x) b := by
  have hN := unlinkP_next p x
  have hP := unlinkP_prev p x
  induction l generalizing a with
  | nil => cases hx
  | cons y l ih =>
    have hnd := List.nodup_cons.mp hl
    have hbl' : b ∉ l := fun hm => hbl (List.mem_cons_of_mem _ hm)
    by_cases hyx : y = x
    · -- the first node goes: the segment is entered from `a` instead
      subst hyx
      rw [List.erase_cons_head]
      have hprev : p.prev y = a := h.2.1
      refine seg_restart p _ y a l b h.2.2 (nodup_snoc hnd.2 hbl') ?_ ?_ (fun i hi => ?_) fun i _ hne => ?_
      · rw [hN, hprev, setP_same]
      · rw [hP, setP_same, hprev]
      · rw [hN, hprev, setP_other _ _ _ _ fun (e : i = a) => hal (List.mem_cons_of_mem _ (e ▸ hi))]
      · rw [hP, setP_other _ _ _ _ hne]
    · -- `next` is written at prev x ∈ y :: l (never a); `prev` is written at next x ∈ l ++ [b] (never y)
      have hxl : x ∈ l := (List.mem_cons.mp hx).resolve_left (Ne.symm hyx)
      have hmem := seg_prev_mem p y l b x h.2.2 hxl
      rw [List.erase_cons_tail (by simpa using hyx)]
      refine ⟨?_, ?_, ih y h.2.2 hxl hnd.1 hbl' hnd.2⟩
      · rw [hN, setP_other _ _ _ _ fun (e : a = p.prev x) => hal (e ▸ hmem.1)]; exact h.1
      · rw [hP, setP_other _ _ _ _ fun (e : y = p.next x) => ?_]; exact h.2.1
        rcases List.mem_append.mp (e ▸ hmem.2) with hm | hm
        · exact hnd.1 hm
        · exact hbl (List.mem_singleton.mp hm ▸ List.mem_cons_self)

/-- `node.unlink()` removes exactly that node and leaves the order of the others -/
theorem ring_unlink (p : Ptrs) (l : List Nat) (x : Nat) (h : Ring p l) (hx : x ∈ l) :
    Ring (unlinkP p x) (l.erase x) := by
  have hnd := List.nodup_cons.mp h.2
  refine ⟨seg_unlink p 0 l 0 x h.1 hx hnd.1 hnd.1 hnd.2, ?_⟩
  exact List.nodup_cons.mpr ⟨fun hm => hnd.1 (List.mem_of_mem_erase hm), hnd.2.erase x⟩

def ids (r : List Node) : List Nat := r.map (fun n => nid n.key)

theorem nid_not_mem_ids {r : List Node} {k : Key} (h : ∀ n ∈ r, n.key ≠ k) : nid k ∉ ids r := by
  intro hm
  obtain ⟨y, hy, he⟩ := List.mem_map.mp hm
  exact h y hy (Nat.succ.inj he)

theorem ids_nodup (r : List Node) (h : RingNodup r) : (ids r).Nodup := by
  induction r with
  | nil => exact List.nodup_nil
  | cons x rest ih =>
    have hp := List.pairwise_cons.mp h
    exact List.nodup_cons.mpr ⟨nid_not_mem_ids fun y hy e => hp.1 y hy e.symm, ih hp.2⟩

theorem zero_not_mem_ids (r : List Node) : 0 ∉ ids r := by
  intro h
  obtain ⟨y, _, he⟩ := List.mem_map.mp h
  cases he

theorem ids_removeKey (r : List Node) (k : Key) (h : RingNodup r) : ids (removeKey r k) = (ids r).erase (nid k) := by
  rw [(ids_nodup r h).erase_eq_filter]
  unfold ids
  rw [List.filter_map]
  exact congrArg _ (List.filter_congr fun n _ => by by_cases e : n.key = k <;> simp [nid, e])

theorem mem_ids_of_findNode {r : List Node} {k : Key} {n : Node} (h : findNode r k = some n) : nid k ∈ ids r :=
  List.mem_map.mpr ⟨n, (findNode_some h).1, by rw [(findNode_some h).2]⟩

theorem not_mem_ids_of_findNode {r : List Node} {k : Key} (h : findNode r k = none) : nid k ∉ ids r :=
  nid_not_mem_ids (findNode_none h)

theorem erase_snoc (l : List Nat) (x : Nat) (h : (l ++ [x]).Nodup) : (l ++ [x]).erase x = l := by
  rw [List.erase_append_right _ fun hm => (List.nodup_append.mp h).2.2 x hm x (List.mem_singleton_self x) rfl]
  simp

/-- the make-room loop at pointer level unlinks `sentinel.prev` exactly when the loop of the list model drops its
last node -/
theorem evictP_evictLoop (limit : Nat) (hl : 1 ≤ limit) (fuel : Nat) (p : Ptrs) (r : List Node) (h : Ring p (ids r)) :
    Ring (evictP limit fuel (p, r.length)).1 (ids (evictLoop limit fuel r)) := by
  induction fuel generalizing p r with
  | zero => exact h
  | succ f ih =>
    unfold evictP evictLoop
    split
    · next hge =>
      have hne : r ≠ [] := fun e => by rw [e] at hge; exact absurd hge (by simp; omega)
      obtain ⟨r', x, rfl⟩ : ∃ r' x, r = r' ++ [x] := ⟨_, _, (List.dropLast_concat_getLast hne).symm⟩
      have e : ids (r' ++ [x]) = ids r' ++ [nid x.key] := List.map_append
      rw [e] at h
      have hr := ring_unlink p _ (nid x.key) h (by simp)
      rw [erase_snoc _ _ (List.nodup_cons.mp h.2).2] at hr
      rw [ring_last p _ h]
      simpa using ih _ r' hr
    · exact h

theorem evictP_ids (limit : Nat) (hl : 1 ≤ limit) (fuel : Nat) (p : Ptrs) (r : List Node) (h : Ring p (ids r))
    (hf : r.length ≤ fuel) : Ring (evictP limit fuel (p, r.length)).1 (ids (r.take (limit - 1))) :=
  evictLoop_eq_take limit hl fuel r hf ▸ evictP_evictLoop limit hl fuel p r h

theorem flushP_ring (fuel : Nat) (p : Ptrs) (l : List Nat) (h : Ring p l) (hf : l.length < fuel) :
    Ring (flushP fuel p (p.next 0)) [] := by
  induction fuel generalizing p l with
  | zero => omega
  | succ f ih =>
    unfold flushP
    cases l with
    | nil => rw [h.1.1, if_pos rfl]; exact h
    | cons x rest =>
      have hx0 : x ≠ 0 := fun e => (List.nodup_cons.mp h.2).1 (e ▸ List.mem_cons_self)
      have hr := ring_unlink p (x :: rest) x h List.mem_cons_self
      rw [List.erase_cons_head] at hr
      -- once the first node `x` is unlinked, `sentinel.next` is what `x.next` was
      have hnext : p.next x = (unlinkP p x).next 0 := by rw [unlinkP_next, h.1.2.1, setP_same]
      rw [h.1.1, if_neg hx0, hnext]
      exact ih _ rest hr (Nat.lt_of_succ_lt_succ hf)

/-- `node.unlink()` of the node that carries `k` -/
theorem ring_unlink_ids {p : Ptrs} {r : List Node} {k : Key} {n : Node} (hnd : RingNodup r) (h : Ring p (ids r))
    (hf : findNode r k = some n) : Ring (unlinkP p (nid k)) (ids (removeKey r k)) :=
  ids_removeKey r k hnd ▸ ring_unlink p _ (nid k) h (mem_ids_of_findNode hf)

/-- `link_after(sentinel)` of a node whose key the ring does not hold -/
theorem ring_link_ids {p : Ptrs} {r : List Node} {k : Key} (x : Node) (hk : x.key = k) (h : Ring p (ids r))
    (hx : ∀ n ∈ r, n.key ≠ k) : Ring (linkAfter p (nid k) 0) (ids (x :: r)) :=
  hk ▸ ring_link p _ (nid k) h (Nat.succ_ne_zero _) (nid_not_mem_ids hx)

theorem ring_stepP (p : Ptrs) (s : LState) (op : Op) (hi : InvL s) (h : Ring p (ids s.ring)) :
    Ring (stepP p s op) (ids (stepL s op).1.ring) := by
  have hnd := hi.nodup
  have hrem : ∀ k, ∀ n ∈ removeKey s.ring k, n.key ≠ k := fun k n hn => (mem_removeKey.mp hn).2
  cases op
  case get k =>
    simp only [stepP, stepL]
    cases hf : findNode s.ring k with
    | none => exact h
    | some n =>
      have hr := ring_unlink_ids hnd h hf
      by_cases he : n.ans.exp ≤ s.now
      · simpa [he] using hr
      · simp only [he, if_false]
        exact ring_link_ids _ (findNode_some hf).2 hr (hrem k)
  case put k a =>
    rw [stepL_put s k a hi.maxPos]
    simp only [stepP]
    -- whichever way the ring without `k` was reached, the loop cuts it and the new node is linked first
    have hfinal : ∀ q, Ring q (ids (removeKey s.ring k)) → (removeKey s.ring k).length ≤ s.ring.length →
        Ring (linkAfter (evictP s.maxSize s.ring.length (q, (removeKey s.ring k).length)).1 (nid k) 0)
          (ids ({ key := k, ans := a, hits := 0, stamp := s.tick + 1 } :: (removeKey s.ring k).take (s.maxSize - 1))) :=
      fun q hq hlen => ring_link_ids _ rfl (evictP_ids s.maxSize hi.maxPos _ q _ hq hlen)
        fun n hn => hrem k n (List.mem_of_mem_take hn)
    cases hf : findNode s.ring k with
    | none =>
      have := hfinal p
      rw [removeKey_eq_self (findNode_none hf)] at this ⊢
      exact this h (Nat.le_refl _)
    | some n =>
      have hlen : (removeKey s.ring k).length = s.ring.length - 1 := by
        have := congrArg List.length (ids_removeKey s.ring k hnd)
        rwa [List.length_erase_of_mem (mem_ids_of_findNode hf), ids, ids, List.length_map, List.length_map] at this
      exact hlen ▸ hfinal _ (ring_unlink_ids hnd h hf) (hlen ▸ Nat.sub_le _ _)
  case flush k =>
    simp only [stepP, stepL]
    cases hf : findNode s.ring k with
    | none => rw [removeKey_eq_self (findNode_none hf)]; exact h
    | some n => exact ring_unlink_ids hnd h hf
  case flushAll => exact flushP_ring _ p (ids s.ring) h (by simp [ids])
  case setMax n =>
    rw [stepL_setMax]
    exact evictP_ids (clampMax n + 1) (Nat.le_add_left 1 _) _ p _ h (Nat.le_refl _)
  case hitsFor k => rw [stepL_hitsFor]; exact h
  all_goals exact h

theorem ring_runPL (p : Ptrs) (s : LState) (ops : List Op) (hi : InvL s) (h : Ring p (ids s.ring)) :
    Ring (runPL p s ops).1 (ids (runPL p s ops).2.ring) ∧ (runPL p s ops).2 = (runL s ops).1 := by
  induction ops generalizing p s with
  | nil => exact ⟨h, rfl⟩
  | cons op rest ih =>
    simp only [runPL, runL]
    exact ih _ _ (invL_step s op hi) (ring_stepP p s op hi h)

theorem ring_ptrs0 : Ring ptrs0 [] := ⟨⟨rfl, rfl⟩, by simp⟩

end Model.Cache
