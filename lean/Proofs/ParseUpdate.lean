import Proofs.ParseMessage
import Proofs.RenderFrame
/-! Dynamic update messages: the delete / prerequisite forms round-trip through the ANY / NONE classes; render-then-parse
of updates, OPT and TSIG included, and the general statement through `canonUpdate`. -/
namespace Model

variable {Rs : RelSpec}

theorem sectionAdd_force_none (L : List RRset) (name : Name) (rdclass rdtype covers : Nat) (d : Option Nat) :
    sectionAdd L name rdclass rdtype covers d true none =
      L ++ [{ name := name, rdclass := rdclass, rdtype := rdtype, covers := covers, deleting := d }] := by
  simp [sectionAdd]

theorem sectionAdd_force_some (L : List RRset) (name : Name) (rdclass rdtype covers : Nat) (d : Option Nat)
    (rd : RData) (ttl : Nat) :
    sectionAdd L name rdclass rdtype covers d true (some (rd, ttl)) =
      L ++ [{ name := name, rdclass := rdclass, rdtype := rdtype, covers := covers, deleting := d, ttl := ttl,
              rdatas := [rd] }] := by
  simp [sectionAdd, rrsetAdd]

/-- RDLENGTH 0: the delete-rrset, delete-name and "absent"/"present" forms -/
theorem reads_empty {cfg : PCfg} (horg : cfg.origin = none) {t : CTable} {r : RRset} {q : Bytes × CTable × Nat}
    {sec : Nat} (count i : Nat) {st : PState} {zc cls : Nat}
    (hhdr : parseRRHeader true st.q sec cls r.rdtype = .ok (zc, some cls, true))
    (hown : NameOk Rs none r.name) (ht : r.rdtype < 65536)
    (hns : r.rdtype ≠ ConstsC03.typeOPT ∧ r.rdtype ≠ ConstsC03.typeTSIG) (hrd : r.rdatas = [])
    (hdel : r.deleting = some cls) (hcls : cls < 65536) (h : rrsetExt st.cur t none r = .ok q) :
    q.2.2 = 1 ∧ Reads Rs t st.cur q.1 q.2.1 (fun W => parseRR cfg true W sec count i st) fun st' => ∃ owner', Rs.R owner' r.name ∧
      st' = ({ st with cur := st.cur + q.1.length } : PState).setSection sec
        (st.section sec ++ [{ name := owner', rdclass := zc, rdtype := r.rdtype, covers := 0, deleting := some cls }]) := by
  have hwc : r.wireClass = cls := by simp [RRset.wireClass, hdel]
  rcases rrsetExt_ok h with ⟨_, q1, h1, rfl⟩ | ⟨hne, _⟩
  · refine ⟨rfl, fun W hW hs => ?_⟩
    rw [hwc] at hW ⊢
    obtain ⟨s1, -, owner', hown', hg, c10, e1, e2, e3, e4⟩ := (show At W st.cur (_ ++ []) by simpa using hW).rrHeader hs hown
      h1 ht hcls (show 0 < 4294967296 by omega) (show 0 < 65536 by omega)
    have hfin : st.cur + (q1.1 ++ u16 r.rdtype ++ u16 cls ++ u32 0 ++ u16 0).length = st.cur + q1.1.length + 10 := by
      simp only [List.length_append, u16_length, u32_length]; omega
    refine ⟨hfin ▸ s1, _, ?_, cur_setSection .., owner', hown', rfl⟩
    have hsp : ¬ (r.rdtype = ConstsC03.typeOPT ∨ r.rdtype = ConstsC03.typeTSIG) := fun hh => hh.elim hns.1 hns.2
    dsimp only
    unfold parseRR
    rw [hg]
    simp only [horg, c10, if_false, e1, e2, e3, e4, hsp, hhdr, if_true, Nat.lt_irrefl, gt_iff_lt, Bool.or_true,
      sectionAdd_force_none, hfin]
  · exact absurd hrd hne

/-- a record set of an update message in the representation the parser produces (`deleting` carries a wire class of
ANY/NONE, the RRset itself has the zone's class), one record (or one class/type-only record) per record set -/
structure URRsetOk (Rs : RelSpec) (zc sec : Nat) (r : RRset) : Prop where
  name : NameOk Rs none r.name
  rdtype : r.rdtype < 65536
  notSpecial : r.rdtype ≠ ConstsC03.typeOPT ∧ r.rdtype ≠ ConstsC03.typeTSIG
  form :
    (∃ rd, r.rdatas = [rd] ∧ rd.valid Rs ∧ shapeOf r.rdtype = rd.shape ∧ rdCovers r.rdtype rd = r.covers ∧
        r.ttl ≤ ConstsC03.ttlClampAbove ∧
        ((r.deleting = none ∧ r.rdclass < 65536 ∧ r.rdclass ≠ ConstsC03.classANY ∧ r.rdclass ≠ ConstsC03.classNONE) ∨
         (r.deleting = some ConstsC03.classNONE ∧ r.rdclass = zc ∧ sec ≠ 1)))
    ∨ (r.rdatas = [] ∧ r.ttl = 0 ∧ r.covers = 0 ∧ r.rdclass = zc ∧
        (r.deleting = some ConstsC03.classANY ∨ (r.deleting = some ConstsC03.classNONE ∧ sec = 1)))

theorem class_consts : ConstsC03.classANY = 255 ∧ ConstsC03.classNONE = 254 := by decide

/-- the parser's representation is what `UpdateMessage._parse_rr_header` makes of the class on the wire: it gives back
class and `deleting`, and announces an empty record exactly for the class/type-only forms -/
theorem URRsetOk.header {zc sec : Nat} {r : RRset} (hr : URRsetOk Rs zc sec r) (hsec : sec ≠ 0) {z : RRset}
    (hz : z.rdclass = zc) : r.wireClass < 65536 ∧
      parseRRHeader true [z] sec r.wireClass r.rdtype = .ok (r.rdclass, r.deleting, decide (r.rdatas = [])) := by
  obtain ⟨cany, cnone⟩ := class_consts
  rcases hr.form with ⟨rd, hrd, -, -, -, -, ⟨hd, hc1, hc2, hc3⟩ | ⟨hd, hc1, hc2⟩⟩ | ⟨hrd, -, -, hrc, hd | ⟨hd, hs1⟩⟩ <;>
    simp only [RRset.wireClass, hd, hrd]
  · exact ⟨hc1, by simp [parseRRHeader, hsec, hc2, hc3]⟩
  · exact ⟨by rw [cnone]; omega, by simp [parseRRHeader, hsec, hz, hc1, cany, cnone, hc2]⟩
  · exact ⟨by rw [cany]; omega, by simp [parseRRHeader, hsec, hz, hrc]⟩
  · exact ⟨by rw [cnone]; omega, by simp [parseRRHeader, hz, hrc, hs1]⟩

theorem reads_urrset {cfg : PCfg} (horg : cfg.origin = none) {zc sec : Nat} (hsec : sec ≠ 0) {r : RRset}
    (hr : URRsetOk Rs zc sec r) {t : CTable} {q : Bytes × CTable × Nat} (count i : Nat) {st : PState}
    {z : RRset} (hq : st.q = [z]) (hz : z.rdclass = zc) (h : rrsetExt st.cur t none r = .ok q) :
    Reads Rs t st.cur q.1 q.2.1 (fun W => parseSection cfg true W sec count q.2.2 i st) fun st' => ∃ r', r'.sim Rs r ∧
      st' = ({ st with cur := st.cur + q.1.length } : PState).setSection sec (st.section sec ++ [r']) := by
  obtain ⟨hwc, hhdr⟩ := hr.header hsec hz
  rw [← hq] at hhdr
  rcases hr.form with ⟨rd, hrd, hv, hshape, hcov, httl, -⟩ | ⟨hrd, httl, hcov, -, hdel⟩
  · -- a record
    rcases rrsetExt_ok h with ⟨he, _⟩ | ⟨_, qs, hqs, rfl⟩
    · rw [hrd] at he; cases he
    rw [hrd] at hqs hhdr ⊢
    obtain ⟨q1, _, h1, h2, rfl⟩ := rdsExt_cons_ok hqs
    cases h2
    simp only [List.append_nil, List.length_cons, List.length_nil, Nat.zero_add]
    refine ((reads_rr horg count i hhdr hr.name hv hshape hr.rdtype hwc httl hr.notSpecial h1).mono ?_).congr
      fun W => parseSection_one ..
    rintro s - ⟨owner', rd', hown', hsim, rfl⟩
    refine ⟨{ name := owner', rdclass := r.rdclass, rdtype := r.rdtype, covers := rdCovers r.rdtype rd',
              deleting := r.deleting, ttl := r.ttl, rdatas := [rd'] },
      ⟨hown', rfl, rfl, by rw [rdCovers_of_sim hsim, hcov], rfl, rfl, by rw [hrd]; exact SimList.cons hsim SimList.nil⟩, ?_⟩
    simp [sectionAdd_force_some]
  · -- a class/type-only record
    obtain ⟨cls, hd⟩ : ∃ cls, r.deleting = some cls := by rcases hdel with hd | ⟨hd, _⟩ <;> exact ⟨_, hd⟩
    have hwcls : r.wireClass = cls := by simp [RRset.wireClass, hd]
    rw [hrd, hd, hwcls] at hhdr
    obtain ⟨hk, hre⟩ := reads_empty horg count i hhdr hr.name hr.rdtype hr.notSpecial hrd hd (hwcls ▸ hwc) h
    rw [hk]
    refine (hre.mono ?_).congr fun W => parseSection_one ..
    rintro s - ⟨owner', hown', rfl⟩
    exact ⟨{ name := owner', rdclass := r.rdclass, rdtype := r.rdtype, covers := 0, deleting := some cls },
      ⟨hown', rfl, rfl, hcov.symm, hd.symm, httl.symm, by rw [hrd]; exact SimList.nil⟩, rfl⟩

theorem rrCount_urrsets (zc sec : Nat) (rs : List RRset) (h : ∀ r ∈ rs, URRsetOk Rs zc sec r) : rrCount rs = rs.length :=
  rrCount_eq_length rs fun r hr => by rcases (h r hr).form with ⟨rd, hrd, _⟩ | ⟨hrd, _⟩ <;> simp [hrd]

theorem reads_zone {cfg : PCfg} (horg : cfg.origin = none) {z : RRset} (hz : QOk Rs z)
    (hsoa : z.rdtype = ConstsC03.typeSOA) (hmeta : z.rdclass ∉ ConstsC03.metaclasses) {t : CTable} {q : Bytes × CTable}
    {st : PState} (hq0 : st.q = []) (h : itemsExt none st.cur t [Item.q z.name z.rdtype z.rdclass] = .ok q) :
    Reads Rs t st.cur q.1 q.2 (fun W => parseQuestions cfg true W 1 st) fun st' => ∃ z', z'.sim Rs z ∧
      z'.rdclass = z.rdclass ∧ st' = { st with cur := st.cur + q.1.length, q := [z'] } := by
  obtain ⟨p, _, hp, h2, rfl⟩ := itemsExt_cons_ok h
  cases h2
  obtain ⟨q1, h1, rfl⟩ := itemExt_q_ok hp
  simp only [List.append_nil]
  refine ((reads_question horg hz h1 (upd := true) (rc := z.rdclass) (d := none) (e := false)
    (by simp [parseRRHeader, hq0, hmeta, hsoa])).mono ?_).congr fun W => ?_
  · rintro s - ⟨n', hn', rfl⟩
    exact ⟨{ name := n', rdclass := z.rdclass, rdtype := z.rdtype },
      ⟨hn', rfl, rfl, hz.covers.symm, hz.deleting.symm, hz.ttl.symm, by rw [hz.rdatas]; exact SimList.nil⟩, rfl,
      by simp [hq0]⟩
  · simp only [parseQuestions]
    cases parseQuestion cfg true W st <;> rfl

/-- the parser's representation of the record an RRset renders to in an update message whose zone class is `zc`:
a wire class of ANY/NONE is carried in `deleting` and the RRset takes the zone's class -/
def RRset.canon (zc : Nat) (r : RRset) : RRset :=
  if r.wireClass = ConstsC03.classANY ∨ r.wireClass = ConstsC03.classNONE then
    { r with rdclass := zc, deleting := some r.wireClass }
  else { r with rdclass := r.wireClass, deleting := none }

theorem canon_wireClass (zc : Nat) (r : RRset) : (r.canon zc).wireClass = r.wireClass := by
  unfold RRset.canon
  split <;> simp [RRset.wireClass]

theorem rrsetExt_canon (off : Nat) (t : CTable) (origin : Option Name) (zc : Nat) (r : RRset) :
    rrsetExt off t origin (r.canon zc) = rrsetExt off t origin r := by
  have h1 := canon_wireClass zc r
  have h2 : (r.canon zc).name = r.name ∧ (r.canon zc).rdtype = r.rdtype ∧ (r.canon zc).ttl = r.ttl ∧
      (r.canon zc).rdatas = r.rdatas := by
    unfold RRset.canon; split <;> exact ⟨rfl, rfl, rfl, rfl⟩
  unfold rrsetExt
  rw [h1, h2.1, h2.2.1, h2.2.2.1, h2.2.2.2]

def Message.canonUpdate (m : Message) (zc : Nat) : Message :=
  { m with an := m.an.map (RRset.canon zc), au := m.au.map (RRset.canon zc), ad := m.ad.map (RRset.canon zc) }

def Item.canon (zc : Nat) : Item → Item
  | .rr sec r => .rr sec (r.canon zc)
  | it => it

theorem items_canonUpdate (m : Message) (zc : Nat) : (m.canonUpdate zc).items = m.items.map (Item.canon zc) := by
  simp [Message.items, Message.canonUpdate, List.map_map, Function.comp_def, Item.canon]

theorem toWire_canonUpdate (m : Message) (zc lim : Nat) (pt : Bool) : (m.canonUpdate zc).toWire lim pt = m.toWire lim pt :=
  toWire_congr m (m.canonUpdate zc) (Item.canon zc) rfl rfl rfl rfl rfl rfl (items_canonUpdate m zc)
    (fun it _ => ⟨by cases it <;> rfl, fun off t => by
      cases it with
      | q n ty c => rfl
      | rr sec r => exact rrsetExt_canon off t m.origin zc r⟩) lim pt

theorem sectionParses_urrsets {cfg : PCfg} (horg : cfg.origin = none) {zc sec : Nat} (hsec : sec ≠ 0) {rs : List RRset}
    (hok : ∀ r ∈ rs, URRsetOk Rs zc sec r) :
    SectionParses Rs cfg true (fun qs => ∃ z', qs = [z'] ∧ z'.rdclass = zc) sec rs := by
  intro t q count st hQ hsecL hq
  have := reads_rrsets count (I := fun rest st => (∀ r ∈ rest, URRsetOk Rs zc sec r) ∧ ∃ z', st.q = [z'] ∧ z'.rdclass = zc)
    (fun r rest t q i st hI h => by
      obtain ⟨hok, z', hq', hzc⟩ := hI
      refine (reads_urrset horg hsec (hok r (by simp)) count i hq' hzc h).mono ?_
      rintro s - ⟨r', hsim, rfl⟩
      exact ⟨⟨fun x hx => hok x (by simp [hx]), z', by rw [q_setSection _ _ _ hsec]; exact hq', hzc⟩, r', hsim, rfl⟩)
    rs t q 0 st ⟨hok, hQ⟩ hq
  rwa [hsecL] at this

theorem parse_body_update {cfg : PCfg} (horg : cfg.origin = none) {m : Message}
    (hz : ∃ z, m.q = [z] ∧ QOk Rs z ∧ z.rdtype = ConstsC03.typeSOA ∧ z.rdclass ∉ ConstsC03.metaclasses ∧
      (∀ r ∈ m.an, URRsetOk Rs z.rdclass 1 r) ∧ (∀ r ∈ m.au, URRsetOk Rs z.rdclass 2 r) ∧
      (∀ r ∈ m.ad, URRsetOk Rs z.rdclass 3 r)) : BodyParses Rs cfg true m := by
  obtain ⟨z, hmq, hzq, hsoa, hmeta, han, hau, had⟩ := hz
  refine bodyParses_of (fun qs => ∃ z', qs = [z'] ∧ z'.rdclass = z.rdclass) ?_
    (sectionParses_urrsets horg (by omega) han) (sectionParses_urrsets horg (by omega) hau)
    (sectionParses_urrsets horg (by omega) had)
  intro q hq
  rw [hmq] at hq ⊢
  exact (reads_zone horg hzq hsoa hmeta (st := { cur := 12 }) rfl hq).mono fun s _ ⟨z', hsim, hzc, hs⟩ =>
    ⟨[z'], SimList.cons hsim SimList.nil, ⟨z', rfl, hzc⟩, hs⟩

/-- well-formed dynamic update message in the parser's representation (absolute names, no OPT/TSIG) -/
structure UMsgOk (Rs : RelSpec) (m : Message) : Prop where
  origin : m.origin = none
  id : m.id < 65536
  flags : m.flags < 65536
  isUpd : isUpdate m.flags = true
  noOpt : m.opt = none
  noTsig : m.tsig = none
  zone : ∃ z, m.q = [z] ∧ QOk Rs z ∧ z.rdtype = ConstsC03.typeSOA ∧ z.rdclass ∉ ConstsC03.metaclasses ∧
    (∀ r ∈ m.an, URRsetOk Rs z.rdclass 1 r) ∧ (∀ r ∈ m.au, URRsetOk Rs z.rdclass 2 r) ∧ (∀ r ∈ m.ad, URRsetOk Rs z.rdclass 3 r)
  counts : m.an.length < 65536 ∧ m.au.length < 65536 ∧ m.ad.length < 65536

/-- well-formed dynamic update in the parser's representation, with or without OPT and TSIG, no padding -/
structure UMsgOkT (Rs : RelSpec) (m : Message) : Prop where
  origin : m.origin = none
  id : m.id < 65536
  flags : m.flags < 65536
  isUpd : isUpdate m.flags = true
  opt : ∀ o, m.opt = some o → OptOk o
  pad : m.pad = 0
  tsig : ∀ t, m.tsig = some t → TsigOk Rs t
  zone : ∃ z, m.q = [z] ∧ QOk Rs z ∧ z.rdtype = ConstsC03.typeSOA ∧ z.rdclass ∉ ConstsC03.metaclasses ∧
    (∀ r ∈ m.an, URRsetOk Rs z.rdclass 1 r) ∧ (∀ r ∈ m.au, URRsetOk Rs z.rdclass 2 r) ∧ (∀ r ∈ m.ad, URRsetOk Rs z.rdclass 3 r)
  counts : m.an.length < 65536 ∧ m.au.length < 65536 ∧ m.ad.length + 2 < 65536

theorem parse_toWire_update_full (m : Message) (lim : Nat) (w : Bytes) (hok : UMsgOkT Rs m) (h : m.toWire lim false = .ok w)
    (cfg : PCfg) (horg : cfg.origin = none) (hkey : cfg.hasKey = true) :
    ∃ m', parseMessage cfg w = .ok m' ∧ m'.simT Rs m := by
  obtain ⟨z, hmq, _, _, _, han, hau, had⟩ := hok.zone
  obtain ⟨can, cau, cad⟩ := hok.counts
  rw [← rrCount_urrsets _ _ _ han] at can
  rw [← rrCount_urrsets _ _ _ hau] at cau
  rw [← rrCount_urrsets _ _ _ had] at cad
  obtain ⟨m', opt', hp, hs, hrel⟩ := parse_toWire_of_body m lim w h cfg horg hok.origin
    (hok.isUpd ▸ parse_body_update horg hok.zone) hok.id hok.flags (by rw [hmq]; simp) can cau
    (by split <;> split <;> omega) (fun o ho => ⟨hok.opt o ho, fun hp => absurd hok.pad hp⟩)
    (fun ts hts => ⟨hok.tsig ts hts, hkey⟩)
  rw [hrel.eq_of_unpadded (Or.inr hok.pad)] at hs
  exact ⟨m', hp, hs⟩

theorem parse_toWire_update (m : Message) (lim : Nat) (w : Bytes) (hok : UMsgOk Rs m) (h : m.toWire lim false = .ok w)
    (cfg : PCfg) (horg : cfg.origin = none) :
    ∃ m', parseMessage cfg w = .ok m' ∧ m'.sim Rs m := by
  obtain ⟨z, hmq, _, _, _, han, hau, had⟩ := hok.zone
  obtain ⟨can, cau, cad⟩ := hok.counts
  rw [← rrCount_urrsets _ _ _ han] at can
  rw [← rrCount_urrsets _ _ _ hau] at cau
  rw [← rrCount_urrsets _ _ _ had] at cad
  obtain ⟨m', opt', hp, hs, hrel⟩ := parse_toWire_of_body m lim w h cfg horg hok.origin
    (hok.isUpd ▸ parse_body_update horg hok.zone) hok.id hok.flags (by rw [hmq]; simp) can cau
    (by rw [hok.noOpt, hok.noTsig]; exact cad) (fun o ho => by rw [hok.noOpt] at ho; cases ho)
    (fun ts hts => by rw [hok.noTsig] at hts; cases hts)
  rw [hrel.eq_of_unpadded (Or.inl hok.noOpt)] at hs
  exact ⟨m', hp, Message.sim_of_simT hs hok.noTsig⟩

theorem parse_toWire_update_canon (m : Message) (zc lim : Nat) (w : Bytes) (hok : UMsgOkT Rs (m.canonUpdate zc))
    (h : m.toWire lim false = .ok w) (cfg : PCfg) (horg : cfg.origin = none) (hkey : cfg.hasKey = true) :
    ∃ m', parseMessage cfg w = .ok m' ∧ m'.simT Rs (m.canonUpdate zc) := by
  rw [← toWire_canonUpdate m zc lim false] at h
  exact parse_toWire_update_full _ lim w hok h cfg horg hkey

theorem canon_of_ok (zc sec : Nat) (r : RRset) (h : URRsetOk Rs zc sec r) : r.canon zc = r := by
  obtain ⟨cany, cnone⟩ := class_consts
  unfold RRset.canon
  rcases h.form with ⟨rd, _, _, _, _, _, hcl⟩ | ⟨_, _, _, hrc, hdel⟩
  · rcases hcl with ⟨hd, _, h2, h3⟩ | ⟨hd, hc, _⟩
    · have hw : r.wireClass = r.rdclass := by simp [RRset.wireClass, hd]
      rw [hw]
      simp only [h2, h3, or_self, if_false]
      cases r; simp at hd ⊢; exact hd.symm
    · have hw : r.wireClass = ConstsC03.classNONE := by simp [RRset.wireClass, hd]
      rw [hw]
      simp only [or_true, if_true]
      cases r; simp at hd hc ⊢; exact ⟨hc.symm, hd.symm⟩
  · rcases hdel with hd | ⟨hd, _⟩
    · have hw : r.wireClass = ConstsC03.classANY := by simp [RRset.wireClass, hd]
      rw [hw]
      simp only [true_or, if_true]
      cases r; simp at hd hrc ⊢; exact ⟨hrc.symm, hd.symm⟩
    · have hw : r.wireClass = ConstsC03.classNONE := by simp [RRset.wireClass, hd]
      rw [hw]
      simp only [or_true, if_true]
      cases r; simp at hd hrc ⊢; exact ⟨hrc.symm, hd.symm⟩

theorem map_canon_of_ok (zc sec : Nat) (l : List RRset) (h : ∀ r ∈ l, URRsetOk Rs zc sec r) : l.map (RRset.canon zc) = l := by
  induction l with
  | nil => rfl
  | cons r rest ih =>
    simp only [List.map_cons]
    rw [canon_of_ok zc sec r (h r (by simp)), ih (fun x hx => h x (by simp [hx]))]

theorem canonUpdate_of_ok (m : Message) (z : RRset) (han : ∀ r ∈ m.an, URRsetOk Rs z.rdclass 1 r)
    (hau : ∀ r ∈ m.au, URRsetOk Rs z.rdclass 2 r) (had : ∀ r ∈ m.ad, URRsetOk Rs z.rdclass 3 r) :
    m.canonUpdate z.rdclass = m := by
  unfold Message.canonUpdate
  rw [map_canon_of_ok _ 1 _ han, map_canon_of_ok _ 2 _ hau, map_canon_of_ok _ 3 _ had]

/-! Well-formedness of a concrete update message is decidable as well. -/
section Decide

variable [DecidablePred Rs.Good]

instance {α : Type} {P : α → Prop} [DecidablePred P] : (l : List α) → Decidable (∃ a, l = [a] ∧ P a)
  | [a] => decidable_of_iff (P a) ⟨fun h => ⟨a, rfl, h⟩, fun ⟨_, h, hp⟩ => by cases h; exact hp⟩
  | [] => isFalse fun ⟨_, h, _⟩ => nomatch h
  | _ :: _ :: _ => isFalse fun ⟨_, h, _⟩ => nomatch h

instance (zc sec : Nat) (r : RRset) : Decidable (URRsetOk Rs zc sec r) :=
  decidable_of_iff (_ ∧ _ ∧ _ ∧ _) ⟨fun ⟨a, b, c, d⟩ => ⟨a, b, c, d⟩, fun ⟨a, b, c, d⟩ => ⟨a, b, c, d⟩⟩

instance (m : Message) : Decidable (UMsgOkT Rs m) :=
  decidable_of_iff (_ ∧ _ ∧ _ ∧ _ ∧ (∀ o ∈ m.opt, OptOk o) ∧ _ ∧ (∀ t ∈ m.tsig, TsigOk Rs t) ∧ _ ∧ _)
    ⟨fun ⟨a, b, c, d, e, f, g, h, i⟩ => ⟨a, b, c, d, e, f, g, h, i⟩, fun ⟨a, b, c, d, e, f, g, h, i⟩ => ⟨a, b, c, d, e, f, g, h, i⟩⟩

end Decide

end Model
