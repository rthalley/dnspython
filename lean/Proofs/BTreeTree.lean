import Proofs.BTreeRoot
/-!
The tree handle (`BTree` / `BTreeDict` / `BTreeSet`): well-formedness of a handle and the refinement
statements for `insert_element` and `_delete` at that level (`tree_insert_spec`, `tree_delete_spec`).
-/
namespace Model.BTree

/-- a well-formed tree handle: `t ≥ 3` (the constructor's guard), a well-formed root, and `size` equal to
the number of stored elements -/
structure TreeWf (tr : Tree) : Prop where
  t_ok : 3 ≤ tr.t
  wf : Wf tr.t tr.root
  size_ok : tr.size = (flat tr.root).length

theorem empty_treeWf {t : Nat} (ht : 3 ≤ t) (io ca : Bool) :
    TreeWf (Tree.empty t io ca) ∧ RootOk (Tree.empty t io ca).root := by
  refine ⟨⟨ht, ⟨⟨0, by simp [Tree.empty]⟩, by simp [Tree.empty, Node.elts], by simp [Tree.empty]⟩,
    by simp [Tree.empty]⟩, Or.inl (by simp [Tree.empty, Node.isLeaf])⟩

theorem tree_insert_spec {tr : Tree} (e : Elt) (hw : TreeWf tr) (hm : tr.immutable = false) :
    TreeWf (tr.insert e).1 ∧ (tr.insert e).1.items = insSorted e tr.items ∧
    (tr.insert e).2 = .ok (lookup tr.items e.1) ∧
    (RootOk tr.root → RootOk (tr.insert e).1.root) ∧
    (tr.insert e).1.t = tr.t ∧ (tr.insert e).1.immutable = false ∧
    (tr.insert e).1.inOrder = tr.inOrder ∧ (tr.insert e).1.collapseAlways = tr.collapseAlways := by
  have ht2 : 2 ≤ tr.t := by have := hw.t_ok; omega
  obtain ⟨h1, h2, h3⟩ := insertRoot_spec ht2 tr.inOrder e hw.wf
  have hrk := insertRoot_rootOk ht2 tr.inOrder e hw.wf
  unfold Tree.insert
  simp only [hm, Bool.false_eq_true, if_false]
  rcases hir : insertRoot tr.t tr.inOrder tr.root e with ⟨r, old⟩
  rw [hir] at h1 h2 h3 hrk
  simp only [] at h1 h2 h3 hrk ⊢
  refine ⟨⟨hw.t_ok, h1, ?_⟩, h2, by simp [h3, Tree.items], hrk, ?_⟩
  · simp only []
    rw [h2, h3]
    exact size_insert hw.wf.sorted hw.size_ok
  · simp

/-- the common part of the `_delete` statements: when `deleteRoot` refines the deletion, so does `_delete` on the handle,
and what else (`P`) holds of the root it returns holds of the new handle's root -/
theorem tree_delete_of_root {tr : Tree} {P : Node → Prop} (k : Nat) (hw : TreeWf tr) (hm : tr.immutable = false)
    (hroot : Wf tr.t (deleteRoot tr.collapseAlways tr.t tr.root k none).1 ∧
      P (deleteRoot tr.collapseAlways tr.t tr.root k none).1 ∧
      flat (deleteRoot tr.collapseAlways tr.t tr.root k none).1 = delKey k (flat tr.root) ∧
      (deleteRoot tr.collapseAlways tr.t tr.root k none).2 = .ok (lookup (flat tr.root) k)) :
    TreeWf (tr.delete k none).1 ∧ P (tr.delete k none).1.root ∧
    (tr.delete k none).1.items = delKey k tr.items ∧ (tr.delete k none).2 = .ok (lookup tr.items k) := by
  obtain ⟨h1, hP, h2, h3⟩ := hroot
  unfold Tree.delete
  simp only [hm, Bool.false_eq_true, if_false]
  rcases hdr : deleteRoot tr.collapseAlways tr.t tr.root k none with ⟨r, res⟩
  rw [hdr] at h1 hP h2 h3
  simp only [] at h1 hP h2 h3
  subst h3
  simp only []
  refine ⟨⟨hw.t_ok, h1, ?_⟩, hP, h2, ?_⟩
  · simp only []
    rw [h2]
    exact size_delete hw.wf.sorted hw.size_ok
  · simp [Tree.items]

/-- `_delete` on every well-formed tree, either variant of the root collapse: it refines the deletion, or — exactly on an
internal root without elements over a single minimal child — raises `IndexError` and changes nothing -/
theorem tree_delete_weak {tr : Tree} (k : Nat) (hw : TreeWf tr) (hm : tr.immutable = false) :
    ((tr.delete k none).2 = .indexError ∧ (tr.delete k none).1 = tr ∧
        ∃ c, tr.root = .node [] [c] ∧ c.elts.length = minKeys tr.t) ∨
    (TreeWf (tr.delete k none).1 ∧ (tr.delete k none).1.items = delKey k tr.items ∧
      (tr.delete k none).2 = .ok (lookup tr.items k)) := by
  rcases deleteRoot_weak (by have := hw.t_ok; omega) tr.collapseAlways k hw.wf with ⟨h1, h2, h3⟩ | ⟨h1, h2, h3, _⟩
  · left
    simp only [Tree.delete, hm, Bool.false_eq_true, if_false]
    rcases hdr : deleteRoot tr.collapseAlways tr.t tr.root k none with ⟨r, res⟩
    rw [hdr] at h1 h2
    simp only [] at h1 h2
    subst h1 h2
    refine ⟨rfl, ?_, h3⟩
    cases tr
    simp_all
  · right
    obtain ⟨a, _, b, c⟩ := tree_delete_of_root (P := fun _ => True) k hw hm ⟨h1, trivial, h2, h3⟩
    exact ⟨a, b, c⟩

/-- `_delete` with the intended root collapse -/
theorem tree_delete_spec {tr : Tree} (k : Nat) (hw : TreeWf tr) (hr : RootOk tr.root) (hm : tr.immutable = false)
    (hv : tr.collapseAlways = true) :
    TreeWf (tr.delete k none).1 ∧ RootOk (tr.delete k none).1.root ∧
    (tr.delete k none).1.items = delKey k tr.items ∧ (tr.delete k none).2 = .ok (lookup tr.items k) :=
  tree_delete_of_root k hw hm (by rw [hv]; exact deleteRoot_intended (by have := hw.t_ok; omega) k hw.wf hr)

/-- the full shape as plain data: every node in preorder with its kind, elements and number of children
(what the correspondence check compares) -/
def shapeCode (n : Node) : List (Bool × List Elt × Nat) :=
  (preorder n).map fun x => (x.isLeaf, x.elts, x.children.length)

theorem frozen_insert {tr : Tree} (e : Elt) (h : tr.immutable = true) : tr.insert e = (tr, .immutableErr) := by
  simp [Tree.insert, h]

theorem frozen_delete {tr : Tree} (k : Nat) (x : Option Elt) (h : tr.immutable = true) :
    tr.delete k x = (tr, .immutableErr) := by
  simp [Tree.delete, h]

end Model.BTree
