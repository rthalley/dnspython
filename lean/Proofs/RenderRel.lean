import Model.Render
import Proofs.RenderBasic
/-! The renderer relative to the current offset: what each write appends (octets and table entries) as a function
of `file.tell()`, the table, the origin and the value written — and nothing else.  In this form RDLENGTH is
written directly (no back-patch), and the content of the buffer before the write is irrelevant.  Everything else
that is proved about one `add_*` call is proved about these functions. -/
namespace Model

def nameExt (off : Nat) (t : CTable) (n : Name) (origin : Option Name) : Option (Bytes × CTable) :=
  match wireName n origin with
  | some full => some (cLoop off t full)
  | none => none

theorem toWireC_rel (out : Bytes) (t : CTable) (n : Name) (origin : Option Name) :
    toWireC out t n origin =
      match nameExt out.length t n origin with
      | some p => .ok (out ++ p.1, t ++ p.2)
      | none => .error .needAbsolute := by
  rw [toWireC_eq]
  unfold nameExt
  cases wireName n origin <;> rfl

theorem nameExt_some {off : Nat} {t : CTable} {n : Name} {origin : Option Name} {q : Bytes × CTable}
    (h : nameExt off t n origin = some q) : ∃ full, wireName n origin = some full ∧ q = cLoop off t full := by
  unfold nameExt at h
  split at h
  · cases h; exact ⟨_, ‹_›, rfl⟩
  · cases h

theorem nameExt_abs (off : Nat) (t : CTable) (n : Name) (hn : isAbs n = true) (og : Option Name) :
    nameExt off t n og = some (cLoop off t n) := by
  rw [nameExt, wireName_abs hn]

def rdataExt (off : Nat) (t : CTable) (origin : Option Name) : RData → Option (Bytes × CTable)
  | .raw b => some (b, [])
  | .name1 n => nameExt off t n origin
  | .mx p n =>
    match nameExt (off + 2) t n origin with
    | some q => some (u16 p ++ q.1, q.2)
    | none => none
  | .soa m r a b c d e =>
    match nameExt off t m origin with
    | none => none
    | some q1 =>
      match nameExt (off + q1.1.length) (t ++ q1.2) r origin with
      | none => none
      | some q2 => some (q1.1 ++ q2.1 ++ u32 a ++ u32 b ++ u32 c ++ u32 d ++ u32 e, q1.2 ++ q2.2)

theorem rdataExt_mx {off : Nat} {t : CTable} {origin : Option Name} {p : Nat} {n : Name} {q : Bytes × CTable}
    (h : rdataExt off t origin (.mx p n) = some q) :
    ∃ q1, nameExt (off + 2) t n origin = some q1 ∧ q = (u16 p ++ q1.1, q1.2) := by
  simp only [rdataExt] at h
  split at h
  · cases h; exact ⟨_, ‹_›, rfl⟩
  · cases h

theorem rdataExt_soa {off : Nat} {t : CTable} {origin : Option Name} {m r : Name} {a b c d e : Nat} {q : Bytes × CTable}
    (h : rdataExt off t origin (.soa m r a b c d e) = some q) :
    ∃ q1 q2, nameExt off t m origin = some q1 ∧ nameExt (off + q1.1.length) (t ++ q1.2) r origin = some q2 ∧
      q = (q1.1 ++ q2.1 ++ u32 a ++ u32 b ++ u32 c ++ u32 d ++ u32 e, q1.2 ++ q2.2) := by
  simp only [rdataExt] at h
  split at h
  · cases h
  · rename_i q1 h1
    split at h
    · cases h
    · cases h; exact ⟨q1, _, h1, ‹_›, rfl⟩

theorem u16_length (n : Nat) : (u16 n).length = 2 := rfl
theorem u32_length (n : Nat) : (u32 n).length = 4 := rfl
theorem u48_length (n : Nat) : (u48 n).length = 6 := rfl

/-- an empty body is left alone, and the placeholder already reads 0 -/
theorem patchLen_eq (pre body : Bytes) :
    patchLen (pre ++ [0, 0] ++ body) (pre ++ [0, 0]).length =
      if body.length > 65535 then .error .formError else .ok (pre ++ u16 body.length ++ body) := by
  have hl : (pre ++ [0, 0] ++ body).length - (pre ++ [0, 0]).length = body.length := by simp; omega
  have ht : (pre ++ [0, 0] ++ body).take ((pre ++ [0, 0]).length - 2) = pre := by
    simp [List.append_assoc]
  unfold patchLen
  simp only [hl, ht, List.drop_left]
  by_cases hz : body.length > 0
  · simp only [hz, if_true]
  · have hb : body = [] := List.length_eq_zero_iff.mp (by omega)
    subst hb
    simp [u16]

theorem rdataToWire_rel (out : Bytes) (t : CTable) (origin : Option Name) (rd : RData) :
    rdataToWire out t origin rd =
      match rdataExt out.length t origin rd with
      | some p => .ok (out ++ p.1, t ++ p.2)
      | none => .error .needAbsolute := by
  cases rd with
  | raw b => simp [rdataToWire, rdataExt]
  | name1 n => exact toWireC_rel out t n origin
  | mx p n =>
    simp only [rdataToWire, rdataExt, toWireC_rel, List.length_append, u16_length]
    cases nameExt (out.length + 2) t n origin <;> simp
  | soa m r a b c d e =>
    simp only [rdataToWire, rdataExt, toWireC_rel]
    cases nameExt out.length t m origin with
    | none => rfl
    | some q1 =>
      simp only [List.length_append]
      cases nameExt (out.length + q1.1.length) (t ++ q1.2) r origin <;> simp

/-- one resource record: owner, TYPE, CLASS, TTL, RDLENGTH, RDATA -/
def rrExt (owner : Name) (rdtype rdclass ttl : Nat) (origin : Option Name) (off : Nat) (t : CTable) (rd : RData) :
    Except RErr (Bytes × CTable) :=
  match nameExt off t owner origin with
  | none => .error .needAbsolute
  | some q1 =>
    match rdataExt (off + q1.1.length + 10) (t ++ q1.2) origin rd with
    | none => .error .needAbsolute
    | some q3 =>
      if q3.1.length > 65535 then .error .formError
      else .ok (q1.1 ++ u16 rdtype ++ u16 rdclass ++ u32 ttl ++ u16 q3.1.length ++ q3.1, q1.2 ++ q3.2)

def rdsExt (owner : Name) (rdtype rdclass ttl : Nat) (origin : Option Name) :
    Nat → CTable → List RData → Except RErr (Bytes × CTable)
  | _, _, [] => .ok ([], [])
  | off, t, rd :: rest =>
    match rrExt owner rdtype rdclass ttl origin off t rd with
    | .error e => .error e
    | .ok q =>
      match rdsExt owner rdtype rdclass ttl origin (off + q.1.length) (t ++ q.2) rest with
      | .error e => .error e
      | .ok q' => .ok (q.1 ++ q'.1, q.2 ++ q'.2)

theorem rrExt_ok {owner : Name} {rdtype rdclass ttl : Nat} {origin : Option Name} {off : Nat} {t : CTable} {rd : RData}
    {q : Bytes × CTable} (h : rrExt owner rdtype rdclass ttl origin off t rd = .ok q) :
    ∃ q1 q3, nameExt off t owner origin = some q1 ∧
      rdataExt (off + q1.1.length + 10) (t ++ q1.2) origin rd = some q3 ∧ q3.1.length ≤ 65535 ∧
      q = (q1.1 ++ u16 rdtype ++ u16 rdclass ++ u32 ttl ++ u16 q3.1.length ++ q3.1, q1.2 ++ q3.2) := by
  unfold rrExt at h
  split at h
  · cases h
  · rename_i q1 h1
    split at h
    · cases h
    · rename_i q3 h3
      split at h
      · cases h
      · cases h; exact ⟨q1, q3, h1, h3, by omega, rfl⟩

theorem rdsExt_cons_ok {owner : Name} {rdtype rdclass ttl : Nat} {origin : Option Name} {off : Nat} {t : CTable}
    {rd : RData} {rest : List RData} {q : Bytes × CTable}
    (h : rdsExt owner rdtype rdclass ttl origin off t (rd :: rest) = .ok q) :
    ∃ q1 q2, rrExt owner rdtype rdclass ttl origin off t rd = .ok q1 ∧
      rdsExt owner rdtype rdclass ttl origin (off + q1.1.length) (t ++ q1.2) rest = .ok q2 ∧
      q = (q1.1 ++ q2.1, q1.2 ++ q2.2) := by
  unfold rdsExt at h
  split at h
  · cases h
  · rename_i q1 h1
    split at h
    · cases h
    · cases h; exact ⟨q1, _, h1, ‹_›, rfl⟩

theorem rdsLoop_rel (owner : Name) (rdtype rdclass ttl : Nat) (origin : Option Name) (rds : List RData) :
    ∀ (out : Bytes) (t : CTable),
      rdsLoop owner rdtype rdclass ttl origin out t rds =
        match rdsExt owner rdtype rdclass ttl origin out.length t rds with
        | .ok p => .ok (out ++ p.1, t ++ p.2)
        | .error e => .error e := by
  induction rds with
  | nil => intro out t; simp [rdsLoop, rdsExt]
  | cons rd rest ih =>
    intro out t
    unfold rdsLoop rdsExt rrExt
    rw [toWireC_rel]
    cases nameExt out.length t owner origin with
    | none => rfl
    | some q1 =>
      have hl : (out ++ q1.1 ++ u16 rdtype ++ u16 rdclass ++ u32 ttl ++ [0, 0]).length = out.length + q1.1.length + 10 := by
        simp only [List.length_append, u16_length, u32_length, List.length_cons, List.length_nil]
      simp only [rdataToWire_rel, hl]
      cases rdataExt (out.length + q1.1.length + 10) (t ++ q1.2) origin rd with
      | none => rfl
      | some q3 =>
        have hp := patchLen_eq (out ++ q1.1 ++ u16 rdtype ++ u16 rdclass ++ u32 ttl) q3.1
        rw [hl] at hp
        simp only [hp]
        by_cases hb : q3.1.length > 65535
        · simp [hb]
        · simp only [hb, if_false, ih, List.length_append, List.append_assoc]
          generalize rdsExt owner rdtype rdclass ttl origin _ _ rest = x
          cases x <;> rfl

/-- `RRset.to_wire` relative to the offset: octets, table entries, number of records -/
def rrsetExt (off : Nat) (t : CTable) (origin : Option Name) (r : RRset) : Except RErr (Bytes × CTable × Nat) :=
  let rdclass := r.wireClass
  if r.rdatas.length = 0 then
    match nameExt off t r.name origin with
    | none => .error .needAbsolute
    | some q => .ok (q.1 ++ u16 r.rdtype ++ u16 rdclass ++ u32 0 ++ u16 0, q.2, 1)
  else
    match rdsExt r.name r.rdtype rdclass r.ttl origin off t r.rdatas with
    | .error e => .error e
    | .ok q => .ok (q.1, q.2, r.rdatas.length)

theorem rrsetExt_ok {off : Nat} {t : CTable} {origin : Option Name} {r : RRset} {q : Bytes × CTable × Nat}
    (h : rrsetExt off t origin r = .ok q) :
    (r.rdatas = [] ∧ ∃ q1, nameExt off t r.name origin = some q1 ∧
        q = (q1.1 ++ u16 r.rdtype ++ u16 r.wireClass ++ u32 0 ++ u16 0, q1.2, 1)) ∨
    (r.rdatas ≠ [] ∧ ∃ q1, rdsExt r.name r.rdtype r.wireClass r.ttl origin off t r.rdatas = .ok q1 ∧
        q = (q1.1, q1.2, r.rdatas.length)) := by
  unfold rrsetExt at h
  simp only [List.length_eq_zero_iff] at h
  split at h
  · split at h
    · cases h
    · cases h; exact .inl ⟨‹_›, _, ‹_›, rfl⟩
  · split at h
    · cases h
    · cases h; exact .inr ⟨‹_›, _, ‹_›, rfl⟩

theorem rrsetExt_raw_ok {off : Nat} {t : CTable} {origin : Option Name} {r : RRset} {body : Bytes}
    {q : Bytes × CTable × Nat} (hr : r.rdatas = [.raw body]) (h : rrsetExt off t origin r = .ok q) :
    ∃ q1, nameExt off t r.name origin = some q1 ∧ body.length ≤ 65535 ∧
      q = (q1.1 ++ u16 r.rdtype ++ u16 r.wireClass ++ u32 r.ttl ++ u16 body.length ++ body, q1.2, 1) := by
  rcases rrsetExt_ok h with ⟨he, _⟩ | ⟨_, qs, hs, rfl⟩
  · rw [hr] at he; cases he
  · rw [hr] at hs ⊢
    obtain ⟨_, _, h1, h2, rfl⟩ := rdsExt_cons_ok hs
    cases h2
    obtain ⟨q1, _, hn, h3, hb, rfl⟩ := rrExt_ok h1
    cases h3
    exact ⟨q1, hn, hb, by simp⟩

theorem rrsetToWire_rel (out : Bytes) (t : CTable) (origin : Option Name) (r : RRset) :
    rrsetToWire out t origin r =
      match rrsetExt out.length t origin r with
      | .ok p => .ok (out ++ p.1, t ++ p.2.1, p.2.2)
      | .error e => .error e := by
  unfold rrsetToWire rrsetExt
  simp only
  split
  · rw [toWireC_rel]
    cases nameExt out.length t r.name origin with
    | none => rfl
    | some q => simp [List.append_assoc]
  · rw [rdsLoop_rel]
    cases rdsExt r.name r.rdtype r.wireClass r.ttl origin out.length t r.rdatas <;> rfl

/-- what one `add_question` / `add_rrset` appends -/
def itemExt (off : Nat) (t : CTable) (origin : Option Name) : Item → Except RErr (Bytes × CTable × Nat)
  | .q n rdtype rdclass =>
    match nameExt off t n origin with
    | none => .error .needAbsolute
    | some q => .ok (q.1 ++ u16 rdtype ++ u16 rdclass, q.2, 1)
  | .rr _ r => rrsetExt off t origin r

theorem itemExt_q_ok {off : Nat} {t : CTable} {origin : Option Name} {n : Name} {rdtype rdclass : Nat}
    {q : Bytes × CTable × Nat} (h : itemExt off t origin (.q n rdtype rdclass) = .ok q) :
    ∃ q1, nameExt off t n origin = some q1 ∧ q = (q1.1 ++ u16 rdtype ++ u16 rdclass, q1.2, 1) := by
  simp only [itemExt] at h
  split at h
  · cases h
  · cases h; exact ⟨_, ‹_›, rfl⟩

theorem setSection_eq (s : RState) (sec : Nat) :
    s.setSection sec = if sec < s.sec then .error .formError else .ok { s with sec := sec } := by
  unfold RState.setSection
  split
  · rfl
  · rename_i he
    obtain rfl : s.sec = sec := by simpa using he
    rw [if_neg (Nat.lt_irrefl _)]

/-- one `add_question` / `add_rrset` call: the section check, then the item's octets and table entries handed to the exit
of `_track_size` -/
theorem addItem_rel (s : RState) (it : Item) :
    s.addItem it =
      if it.sec < s.sec then .err .formError else
      match itemExt s.out.length s.tbl s.origin it with
      | .error e => .err e
      | .ok p => ({ s with sec := it.sec } : RState).endTrack s.out.length (s.out ++ p.1) (s.tbl ++ p.2.1) it.sec p.2.2 := by
  cases it with
  | q n rdtype rdclass =>
    simp only [RState.addItem, RState.addQuestion, Item.sec, itemExt, setSection_eq]
    by_cases hlt : 0 < s.sec
    · simp only [hlt, if_true]
    · simp only [hlt, if_false, toWireC_rel]
      cases nameExt s.out.length s.tbl n s.origin with
      | none => rfl
      | some q => simp [List.append_assoc]
  | rr sec r =>
    simp only [RState.addItem, RState.addRRset, Item.sec, itemExt, setSection_eq]
    by_cases hlt : sec < s.sec
    · simp only [hlt, if_true]
    · simp only [hlt, if_false, rrsetToWire_rel]
      cases rrsetExt s.out.length s.tbl s.origin r <;> rfl

def itemCount : Item → Nat
  | .q .. => 1
  | .rr _ r => max 1 r.rdatas.length

theorem itemExt_count {off : Nat} {t : CTable} {origin : Option Name} {it : Item} {q : Bytes × CTable × Nat}
    (h : itemExt off t origin it = .ok q) : q.2.2 = itemCount it := by
  cases it with
  | q n rdtype rdclass => obtain ⟨_, _, rfl⟩ := itemExt_q_ok h; rfl
  | rr sec r =>
    rcases rrsetExt_ok (show rrsetExt off t origin r = .ok q from h) with ⟨hz, _, _, rfl⟩ | ⟨hz, _, _, rfl⟩
    · simp [itemCount, hz]
    · have := List.length_pos_iff.mpr hz
      simp only [itemCount]; omega

/-- what the section loops append: the items one after the other -/
def itemsExt (origin : Option Name) : Nat → CTable → List Item → Except RErr (Bytes × CTable)
  | _, _, [] => .ok ([], [])
  | off, t, it :: rest =>
    match itemExt off t origin it with
    | .error e => .error e
    | .ok p =>
      match itemsExt origin (off + p.1.length) (t ++ p.2.1) rest with
      | .error e => .error e
      | .ok p' => .ok (p.1 ++ p'.1, p.2.1 ++ p'.2)

theorem itemsExt_cons_ok {origin : Option Name} {off : Nat} {t : CTable} {it : Item} {rest : List Item}
    {q : Bytes × CTable} (h : itemsExt origin off t (it :: rest) = .ok q) :
    ∃ p p', itemExt off t origin it = .ok p ∧ itemsExt origin (off + p.1.length) (t ++ p.2.1) rest = .ok p' ∧
      q = (p.1 ++ p'.1, p.2.1 ++ p'.2) := by
  unfold itemsExt at h
  split at h
  · cases h
  · rename_i p hp
    split at h
    · cases h
    · cases h; exact ⟨p, _, hp, ‹_›, rfl⟩

theorem itemsExt_append_ok {origin : Option Name} {a b : List Item} {q : Bytes × CTable} : ∀ {off : Nat} {t : CTable},
    itemsExt origin off t (a ++ b) = .ok q →
    ∃ p p', itemsExt origin off t a = .ok p ∧ itemsExt origin (off + p.1.length) (t ++ p.2) b = .ok p' ∧
      q = (p.1 ++ p'.1, p.2 ++ p'.2) := by
  induction a generalizing q with
  | nil => intro off t h; exact ⟨([], []), q, rfl, by simpa using h, by simp⟩
  | cons it rest ih =>
    intro off t h
    obtain ⟨p, r, hp, hr, rfl⟩ := itemsExt_cons_ok h
    obtain ⟨p1, p2, h1, h2, rfl⟩ := ih hr
    refine ⟨(p.1 ++ p1.1, p.2.1 ++ p1.2), p2, by simp only [itemsExt, hp, h1], ?_, by simp⟩
    simpa only [List.length_append, List.append_assoc, Nat.add_assoc] using h2

/-! ### properties of what the writers return

Every writer above `nameExt` only appends literal octets and names, one after the other.  So a property of "the octets
`b` and table entries `new` that a write at offset `off` with table `t` returned" that holds of literal octets and of
names (those satisfying `N`) and is kept by sequencing holds of all of them. -/

def RData.namesAll (N : Name → Prop) : RData → Prop
  | .raw _ => True
  | .name1 n => N n
  | .mx _ n => N n
  | .soa m r .. => N m ∧ N r

def RRset.namesAll (N : Name → Prop) (r : RRset) : Prop := N r.name ∧ ∀ rd ∈ r.rdatas, rd.namesAll N

def Item.namesAll (N : Name → Prop) : Item → Prop
  | .q n _ _ => N n
  | .rr _ r => r.namesAll N

theorem RData.namesAll_true (rd : RData) : rd.namesAll fun _ => True := by
  cases rd <;> simp [RData.namesAll]

theorem Item.namesAll_true (it : Item) : it.namesAll fun _ => True := by
  cases it with
  | q n _ _ => trivial
  | rr _ r => exact ⟨trivial, fun rd _ => rd.namesAll_true⟩

structure ExtSpec (origin : Option Name) (N : Name → Prop) (P : Nat → CTable → Bytes → CTable → Prop) : Prop where
  bytes : ∀ off t b, P off t b []
  name : ∀ {off t n q}, N n → nameExt off t n origin = some q → P off t q.1 q.2
  seq : ∀ {off t b1 n1 b2 n2}, P off t b1 n1 → P (off + b1.length) (t ++ n1) b2 n2 → P off t (b1 ++ b2) (n1 ++ n2)

namespace ExtSpec
variable {origin : Option Name} {N : Name → Prop} {P : Nat → CTable → Bytes → CTable → Prop} (S : ExtSpec origin N P)
include S

theorem nameThen {off t n q} (b : Bytes) (hn : N n) (h : nameExt off t n origin = some q) : P off t (q.1 ++ b) q.2 := by
  simpa using S.seq (S.name hn h) (S.bytes _ _ b)

theorem bytesThen {off t b2 n2} (b : Bytes) (h : P (off + b.length) t b2 n2) : P off t (b ++ b2) n2 := by
  simpa using S.seq (S.bytes off t b) (by simpa using h)

theorem rdata {off t rd q} (hn : rd.namesAll N) (h : rdataExt off t origin rd = some q) : P off t q.1 q.2 := by
  cases rd with
  | raw b => cases h; exact S.bytes _ _ _
  | name1 n => exact S.name hn h
  | mx p n =>
    obtain ⟨q1, h1, rfl⟩ := rdataExt_mx h
    exact S.bytesThen (u16 p) (S.name hn h1)
  | soa m r a b c d e =>
    obtain ⟨q1, q2, h1, h2, rfl⟩ := rdataExt_soa h
    simpa [List.append_assoc] using
      S.seq (S.name hn.1 h1) (S.nameThen (u32 a ++ u32 b ++ u32 c ++ u32 d ++ u32 e) hn.2 h2)

theorem rr {owner rdtype rdclass ttl off t rd q} (ho : N owner) (hn : rd.namesAll N)
    (h : rrExt owner rdtype rdclass ttl origin off t rd = .ok q) : P off t q.1 q.2 := by
  obtain ⟨q1, q3, h1, h3, _, rfl⟩ := rrExt_ok h
  have := S.seq (S.nameThen (u16 rdtype ++ u16 rdclass ++ u32 ttl ++ u16 q3.1.length) ho h1)
    (b2 := q3.1) (n2 := q3.2) (by simpa [u16, u32, Nat.add_assoc] using S.rdata hn h3)
  simpa [List.append_assoc] using this

theorem rds {owner rdtype rdclass ttl} (ho : N owner) : ∀ {rds off t q}, (∀ rd ∈ rds, rd.namesAll N) →
    rdsExt owner rdtype rdclass ttl origin off t rds = .ok q → P off t q.1 q.2 := by
  intro rds
  induction rds with
  | nil => intro off t q _ h; cases h; exact S.bytes _ _ _
  | cons rd rest ih =>
    intro off t q hn h
    obtain ⟨q1, q2, h1, h2, rfl⟩ := rdsExt_cons_ok h
    exact S.seq (S.rr ho (hn rd (List.mem_cons_self ..)) h1) (ih (fun x hx => hn x (List.mem_cons_of_mem _ hx)) h2)

theorem rrset {off t r q} (hn : r.namesAll N) (h : rrsetExt off t origin r = .ok q) : P off t q.1 q.2.1 := by
  rcases rrsetExt_ok h with ⟨_, q1, h1, rfl⟩ | ⟨_, q1, h1, rfl⟩
  · simpa [List.append_assoc] using S.nameThen (u16 r.rdtype ++ u16 r.wireClass ++ u32 0 ++ u16 0) hn.1 h1
  · exact S.rds hn.1 hn.2 h1

theorem item {off t it q} (hn : it.namesAll N) (h : itemExt off t origin it = .ok q) : P off t q.1 q.2.1 := by
  cases it with
  | q n rdtype rdclass =>
    obtain ⟨q1, h1, rfl⟩ := itemExt_q_ok h
    simpa [List.append_assoc] using S.nameThen (u16 rdtype ++ u16 rdclass) hn h1
  | rr sec r => exact S.rrset hn h

theorem items : ∀ {its off t q}, (∀ it ∈ its, it.namesAll N) → itemsExt origin off t its = .ok q → P off t q.1 q.2 := by
  intro its
  induction its with
  | nil => intro off t q _ h; cases h; exact S.bytes _ _ _
  | cons it rest ih =>
    intro off t q hn h
    obtain ⟨p, p', h1, h2, rfl⟩ := itemsExt_cons_ok h
    exact S.seq (S.item (hn it (List.mem_cons_self ..)) h1) (ih (fun x hx => hn x (List.mem_cons_of_mem _ hx)) h2)

end ExtSpec

theorem nameExt_new {off : Nat} {t : CTable} {n : Name} {origin : Option Name} {q : Bytes × CTable}
    (h : nameExt off t n origin = some q) : NewIn off q.1.length q.2 := by
  obtain ⟨full, _, rfl⟩ := nameExt_some h
  exact cLoop_new _ _ _

theorem newIn_spec (origin : Option Name) : ExtSpec origin (fun _ => True) fun off _ b new => NewIn off b.length new where
  bytes _ _ _ := NewIn.nil _ _
  name _ h := nameExt_new h
  seq h1 h2 := (h1.mono (Nat.le_refl _) (by simp)).append (h2.mono (by omega) (by simp; omega))

theorem itemExt_new {off : Nat} {t : CTable} {origin : Option Name} {it : Item} {q : Bytes × CTable × Nat}
    (h : itemExt off t origin it = .ok q) : NewIn off q.1.length q.2.1 :=
  (newIn_spec origin).item it.namesAll_true h

theorem toWireC_appends {out t n origin o t'} (h : toWireC out t n origin = .ok (o, t')) : Appends out t o t' := by
  rw [toWireC_rel] at h
  split at h
  · rename_i p hp
    cases h; exact (nameExt_new hp).appends
  · cases h

theorem rdataToWire_appends {out t origin rd o t'} (h : rdataToWire out t origin rd = .ok (o, t')) :
    Appends out t o t' := by
  rw [rdataToWire_rel] at h
  split at h
  · rename_i p hp
    cases h; exact ((newIn_spec origin).rdata rd.namesAll_true hp).appends
  · cases h

theorem rrsetToWire_appends {out t origin r o t' n} (h : rrsetToWire out t origin r = .ok (o, t', n)) :
    Appends out t o t' := by
  rw [rrsetToWire_rel] at h
  split at h
  · rename_i p hp
    cases h; exact ((newIn_spec origin).item (it := .rr 0 r) (Item.namesAll_true _) hp).appends
  · cases h

end Model
