/-! Core Lean has no `DecidableEq (Except ε α)`.  With it a statement about a concrete run of a model function (a test
vector, a counter-example) is settled by evaluating both sides. -/
namespace Model

instance decEqExcept {ε α : Type} [DecidableEq ε] [DecidableEq α] : DecidableEq (Except ε α)
  | .ok a, .ok b => decidable_of_iff (a = b) ⟨congrArg _, Except.ok.inj⟩
  | .error a, .error b => decidable_of_iff (a = b) ⟨congrArg _, Except.error.inj⟩
  | .ok _, .error _ => isFalse nofun
  | .error _, .ok _ => isFalse nofun

end Model
