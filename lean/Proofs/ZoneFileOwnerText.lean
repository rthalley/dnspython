import Model.ZoneFile
import Proofs.NameText
import Proofs.TokenizerLayout
import Proofs.TokenizerTTL
/-!
The fields the writer prints in front of the RDATA are identifiers for the tokenizer: the escaped text of any
name (`Name.to_text`), the decimal TTL, the class and type mnemonics.
-/
namespace Model

/-- what the escaped set of `dns.name` must contain for a name's text to be one token that is not a directive -/
def EscTokOK (esc : List Nat) : Prop :=
  34 ∈ esc ∧ 40 ∈ esc ∧ 41 ∈ esc ∧ 59 ∈ esc ∧ 92 ∈ esc ∧ 36 ∈ esc ∧ ∀ d ∈ esc, d ≠ 10

instance (esc : List Nat) : Decidable (EscTokOK esc) := by unfold EscTokOK; exact inferInstance

theorem escTokOK_generated : EscTokOK Consts.nameEscaped := by decide

theorem identOK_escOctet (esc : List Nat) (h : EscTokOK esc) (c : Nat) (hc : c < 256) (rest : List Nat) :
    identOK (escOctet esc c ++ rest) = identOK rest := by
  obtain ⟨h34, h40, h41, h59, h92, _, h10⟩ := h
  rcases escOctet_forms esc c with ⟨hm, e⟩ | ⟨hm, hp, e⟩ | ⟨hm, hp, e⟩ <;> rw [e]
  · have : c ≠ 10 := h10 c hm
    simp [identOK_esc, this]
  · have hne : c ≠ 92 := fun e => hm (e ▸ h92)
    have hd : isDelim false c = false := by
      have e34 : c ≠ 34 := fun e => hm (e ▸ h34)
      have e40 : c ≠ 40 := fun e => hm (e ▸ h40)
      have e41 : c ≠ 41 := fun e => hm (e ▸ h41)
      have e59 : c ≠ 59 := fun e => hm (e ▸ h59)
      simp [isDelim, delimiters]; omega
    simp [identOK_plain c _ hne, hd]
  · simp only [dec3, List.cons_append, List.nil_append]
    rw [identOK_esc]
    have : (48 + c / 100 != 10) = true := by simp; omega
    rw [this, Bool.true_and, identOK_digit _ _ (by omega), identOK_digit _ _ (by omega)]

theorem identOK_escapify (esc : List Nat) (h : EscTokOK esc) (l : Label) (hl : ∀ c ∈ l, c < 256) (rest : List Nat) :
    identOK (escapifyWith esc l ++ rest) = identOK rest := by
  induction l with
  | nil => simp [escapifyWith]
  | cons c cs ih =>
    have : escapifyWith esc (c :: cs) ++ rest = escOctet esc c ++ (escapifyWith esc cs ++ rest) := by
      simp [escapifyWith]
    rw [this, identOK_escOctet esc h c (hl c (by simp)), ih (fun x hx => hl x (by simp [hx]))]

theorem identOK_joinDot (esc : List Nat) (h : EscTokOK esc) (ls : List Label) (hl : OctetsOk ls) (rest : List Nat) :
    identOK (joinDot (ls.map (escapifyWith esc)) ++ rest) = identOK rest := by
  induction ls with
  | nil => simp [joinDot]
  | cons x r ih =>
    cases r with
    | nil => simpa [joinDot] using identOK_escapify esc h x (hl x (by simp)) rest
    | cons y ys =>
      have hl' : OctetsOk (y :: ys) := fun l hm => hl l (by simp [hm])
      simp only [List.map, joinDot, List.append_assoc, List.cons_append]
      rw [identOK_escapify esc h x (hl x (by simp))]
      rw [identOK_plain 46 _ (by decide)]
      have : isDelim false 46 = false := by decide
      simp only [this, Bool.not_false, Bool.true_and]
      exact ih hl'

theorem toText_token (n : Name) (hwf : WfName n) (ho : OctetsOk n) :
    identOK (toText n) = true ∧ toText n ≠ [] ∧ (toText n).head? ≠ some 36 := by
  have hesc := escTokOK_generated
  rcases toText_cases n hwf with rfl | rfl | ⟨h0, hfirst, htt⟩
  · decide
  · decide
  -- the first label is not empty, so the text starts with a backslash or an octet that is not escaped, and `$` is
  obtain ⟨a, t, ht, ha⟩ := joinDot_first Consts.nameEscaped n h0 hfirst
  refine ⟨?_, ?_, ?_⟩
  · simpa [htt, identOK] using identOK_joinDot Consts.nameEscaped hesc n ho []
  · rw [htt, ht]; exact List.cons_ne_nil _ _
  · rw [htt, ht, List.head?_cons]
    rcases ha with rfl | ha
    · decide
    · exact fun e => ha (Option.some.inj e ▸ hesc.2.2.2.2.2.1)

theorem classText_token :
    identOK (classToText 1) = true ∧ classToText 1 ≠ [] ∧ classFromText (classToText 1) = some 1 := by decide

/-- a type whose mnemonic the writer prints and the reader maps back to it (and that is neither a TTL nor a class) -/
def TypeTextOK (ty : Nat) : Prop :=
  identOK (typeToText ty) = true ∧ typeToText ty ≠ [] ∧ typeFromText (typeToText ty) = some ty

instance (ty : Nat) : Decidable (TypeTextOK ty) := by unfold TypeTextOK; exact inferInstance

theorem typeText_table_ok : ∀ p ∈ ConstsC09.typeText, TypeTextOK p.1 := by decide +kernel

end Model
