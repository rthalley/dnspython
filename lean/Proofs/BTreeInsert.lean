import Proofs.BTreeRebalance
/-!
Layer L2 (and L4): `insert_nonfull` with pre-emptive split/adopt, the re-search loop and
`optimize_in_order_insertion` refine insertion into a sorted association list and preserve the shape
invariant, for every `t ≥ 2`, in-order optimisation on or off.
-/
namespace Model.BTree

theorem tryRightSteal_preserves {t h : Nat} {es es' : List Elt} {cs cs' : List Node} {li : Nat}
    (hk : Kids t h es cs) (hleft : (kidAt cs li).elts.length < maxKeys t)
    (hst : tryRightSteal t es cs li = some (es', cs')) :
    Kids t h es' cs' ∧ es'.length = es.length ∧ flat (.node es' cs') = flat (.node es cs) ∧
      (kidAt cs' li).elts.length = (kidAt cs li).elts.length + 1 := by
  by_cases hlt : li + 1 < cs.length
  · obtain ⟨cl, s, rest, rfl, hcl⟩ := split_at_lt cs li (by omega)
    cases rest with
    | nil => simp at hlt; omega
    | cons r cr =>
      have hlen := hk.1
      obtain ⟨el, p, er, rfl, hel⟩ := split_at_lt es li (by simp at hlen; omega)
      have hcl' : cl.length = el.length := by omega
      subst hel
      rw [tryRightSteal_eq t el er p cl s r cr hcl'] at hst
      cases hmin : isMinimal t r with
      | true => simp [hmin] at hst
      | false =>
        simp only [hmin, Bool.false_eq_true, if_false, Option.some.injEq, Prod.mk.injEq] at hst
        obtain ⟨rfl, rfl⟩ := hst
        have hs := kids_at hk
        have hr := kids_at_succ hk
        rw [kidAt_at hcl'] at hleft
        have hrmin : r.elts.length ≠ minKeys t := by simpa [isMinimal] using hmin
        obtain ⟨h1, h2, h3, h4, h5, _⟩ := stealFromRight_spec p hs.1 hr.1 (occ_pos hr.2 hrmin)
        obtain ⟨hor', hos', _⟩ := occ_steal hr.2 hs.2 hrmin hleft h4 h3
        obtain ⟨hk', hflat, _⟩ := steal_in_place hk hcl' ⟨h1, hos'⟩ ⟨h2, hor'⟩ h5
        exact ⟨hk', by simp, hflat, by rw [kidAt_at hcl', kidAt_at hcl', h3]⟩
  · rw [tryRightSteal_none_of_short t es cs li hlt] at hst
    simp at hst

theorem optLoop_spec {t h : Nat} (li : Nat) : ∀ (k : Nat) (es : List Elt) (cs : List Node), Kids t h es cs →
    Kids t h (optLoop t k es cs li).1 (optLoop t k es cs li).2 ∧
    (optLoop t k es cs li).1.length = es.length ∧
    flat (.node (optLoop t k es cs li).1 (optLoop t k es cs li).2) = flat (.node es cs) := by
  intro k
  induction k with
  | zero => intro es cs hk; simp [optLoop, hk]
  | succ k ih =>
    intro es cs hk
    unfold optLoop
    by_cases hl : (kidAt cs li).elts.length < maxKeys t
    · simp only [hl, if_true]
      cases hst : tryRightSteal t es cs li with
      | none => simp [hk]
      | some r =>
        obtain ⟨es', cs'⟩ := r
        obtain ⟨hk', hlen', hflat', _⟩ := tryRightSteal_preserves hk hl hst
        obtain ⟨a, b, c⟩ := ih es' cs' hk'
        exact ⟨a, by simp only []; omega, by simp only []; rw [c, hflat']⟩
    · simp [hl, hk]

theorem optimize_spec {t h : Nat} (es : List Elt) (cs : List Node) (i : Nat) (hk : Kids t h es cs) :
    Kids t h (optimizeInOrder t es cs i).1 (optimizeInOrder t es cs i).2 ∧
    (optimizeInOrder t es cs i).1.length = es.length ∧
    flat (.node (optimizeInOrder t es cs i).1 (optimizeInOrder t es cs i).2) = flat (.node es cs) := by
  unfold optimizeInOrder
  by_cases h0 : i = 0
  · simp [h0, hk]
  · simp only [h0, if_false]
    by_cases h1 : (kidAt cs (i - 1)).elts.length = maxKeys t
    · simp [h1, hk]
    · simp only [h1, if_false]
      exact optLoop_spec (i - 1) _ es cs hk

abbrev InsSpec (t h : Nat) (n : Node) (e : Elt) (r : Node × Option Elt) : Prop :=
  Refines t h n 0 1 (insSorted e (flat n)) (lookup (flat n) e.1) r

theorem ins_leaf_spec (t : Nat) (io : Bool) (f : Nat) (es : List Elt) (e : Elt) (hs : Sorted es) :
    InsSpec t 0 (.leaf es) e (insertNonfull t io f (.leaf es) e) := by
  unfold insertNonfull
  rcases search_cases e.1 hs with ⟨el, er, rfl, hl, hr, hres⟩ | ⟨el, e0, er, rfl, h0, hl, hr, hres⟩
  · simp only [hres, Bool.false_eq_true, if_false, insAt_at rfl]
    exact ⟨by simp, by simp [insSorted_gap hl hr], by simp [lookup_none_of_gap hl hr], by simp [Node.elts],
      by simp [Node.elts] <;> omega⟩
  · simp only [hres, if_true, setAt_at rfl, eltAt_at rfl]
    refine ⟨by simp, by simp [insSorted_found hl h0], ?_, by simp [Node.elts], by simp [Node.elts]⟩
    simp only [flat_leaf]
    rw [lookup_found h0 hl]

/-- `adopt(*child.split())` for the maximal child at which the node is cut: the search for the middle key finds that
child's index, so the separator goes there and the right half right after the left half; the parent's flattening is
unchanged. -/
theorem adopt_after_split {t h key : Nat} {el er : List Elt} {cl cr : List Node} {c : Node} (ht : 1 ≤ t)
    (w : Cut t h key el er cl c cr) (hmax : c.elts.length = maxKeys t) :
    adopt (el ++ er) (setAt (cl ++ c :: cr) el.length (split t c).1) (split t c).1 (split t c).2.1 (split t c).2.2
      = (el ++ (split t c).2.1 :: er, cl ++ (split t c).1 :: (split t c).2.2 :: cr) ∧
    Kids t h (el ++ (split t c).2.1 :: er) (cl ++ (split t c).1 :: (split t c).2.2 :: cr) ∧
    flat (.node (el ++ (split t c).2.1 :: er) (cl ++ (split t c).1 :: (split t c).2.2 :: cr))
      = flat (.node (el ++ er) (cl ++ c :: cr)) ∧
    (split t c).1.elts.length = minKeys t ∧ (split t c).2.2.elts.length = minKeys t ∧
    searchInNode (el ++ er) (split t c).2.1.1 = (el.length, false) := by
  obtain ⟨hk, hcl, hs, _, _⟩ := w
  obtain ⟨hl, hr, hll, hrl, hflat⟩ := split_spec ht (kids_at hk).1 hmax
  generalize split t c = sp at *
  obtain ⟨l, m, r⟩ := sp
  simp only at hl hr hll hrl hflat ⊢
  obtain ⟨hel, her⟩ := mem_child_window (x := m) hcl hs (by rw [hflat]; simp)
  have hsearch := search_unique_lt (sorted_elts hs) hel her
  refine ⟨?_, kids_split2 hk ⟨hl, occ_of_minimal ht hll⟩ ⟨hr, occ_of_minimal ht hrl⟩, ?_, hll, hrl, hsearch⟩
  · simp only [adopt, hsearch, insAt_at rfl, setAt_at hcl]
    have : (cl ++ l :: cr).isEmpty = false := by simp
    simp [this, insAt_at_succ hcl]
  · rw [flat_node_split2 _ _ _ _ _ _ _ hcl, flat_node_split el er cl c cr hcl, hflat]

/-- one pass of the loop that does not split (found and replaced, or descended): the node keeps its number of
elements -/
theorem insLoop_pass {t h : Nat} {io : Bool} {rec : Node → Node × Option Elt} {e : Elt} {es : List Elt}
    {cs : List Node} (k : Nat) (hk : Kids t h es cs) (hs : Sorted (flat (.node es cs)))
    (hrec : ∀ c, Shape t h c → Sorted (flat c) → InsSpec t h c e (rec c))
    (hgood : ∀ i, searchInNode es e.1 = (i, false) → (kidAt cs i).elts.length < maxKeys t) :
    Refines t (h + 1) (.node es cs) 0 0 (insSorted e (flat (.node es cs))) (lookup (flat (.node es cs)) e.1)
      (insLoop t io rec e (k + 1) es cs) := by
  unfold insLoop
  rcases node_cases e.1 hk hs with ⟨el, er, cl, c, cr, rfl, rfl, hres, w⟩ |
    ⟨el, e0, er, cl, c, c', cr, rfl, rfl, hcl, h0, hres, _, _, hA, _⟩
  · obtain ⟨hsc, hA, hB⟩ := w.window
    have hcl := w.len
    have hnm := hgood _ hres
    rw [kidAt_at hcl] at hnm
    have hnotmax : isMaximal t c = false := by simp [isMaximal]; omega
    simp only [hres, Bool.false_eq_true, if_false, kidAt_at hcl, hnotmax, setAt_at hcl]
    rw [flat_node_split el er cl c cr hcl, insSorted_window hA hB, lookup_window hA hB]
    have hd := (hrec c (kids_at hk).1 hsc).descend hk hcl (kids_at hk).2.1 hnm
    cases io with
    | false => exact hd
    | true =>
      -- the optimisation rearranges the node without changing its listing or its number of elements
      obtain ⟨o1, o2, o3⟩ := optimize_spec (el ++ er) (cl ++ (rec c).1 :: cr) el.length (shape_node_iff.mp hd.shape)
      exact ⟨shape_node_iff.mpr o1, o3.trans hd.flat_eq, hd.ret, Nat.le_of_eq o2.symm, Nat.le_of_eq o2⟩
  · -- found in this node: the element is replaced where it stands
    simp only [hres, if_true, setAt_at rfl, eltAt_at rfl]
    rw [flat_node_elt el er e0 cl c c' cr hcl, insSorted_found hA h0, lookup_found h0 hA]
    exact ⟨shape_node_iff.mpr ⟨by simpa using hk.1, hk.2⟩, flat_node_elt el er e cl c c' cr hcl, rfl, by simp [Node.elts],
      by simp [Node.elts]⟩

theorem insLoop_spec {t h : Nat} {io : Bool} {rec : Node → Node × Option Elt} {e : Elt} {es : List Elt}
    {cs : List Node} (ht : 2 ≤ t) (hk : Kids t h es cs) (hs : Sorted (flat (.node es cs)))
    (hrec : ∀ c, Shape t h c → Sorted (flat c) → InsSpec t h c e (rec c)) :
    InsSpec t (h + 1) (.node es cs) e (insLoop t io rec e 2 es cs) := by
  rcases node_cases e.1 hk hs with ⟨el, er, cl, c, cr, rfl, rfl, hres, w⟩ |
    ⟨el, _, er, _, _, _, _, rfl, _, _, _, hres, _⟩
  · have hcl := w.len
    by_cases hmax : c.elts.length = maxKeys t
    · -- the child at the search index is maximal: split, adopt, search again; both halves are minimal
      obtain ⟨had, hk', hflat', hll, hrl, _⟩ := adopt_after_split (by omega) w hmax
      have hismax : isMaximal t c = true := by simp [isMaximal, hmax]
      unfold insLoop
      simp only [hres, Bool.false_eq_true, if_false, kidAt_at hcl, hismax, if_true]
      generalize split t c = sp at *
      obtain ⟨l, m, r⟩ := sp
      simp only at had hk' hflat' hll hrl ⊢
      rw [had]
      simp only []
      have hs2 : Sorted (flat (.node (el ++ m :: er) (cl ++ l :: r :: cr))) := hflat' ▸ hs
      have hp := insLoop_pass (io := io) 0 hk' hs2 hrec fun i hi => by
        have hlt := minKeys_lt_maxKeys (t := t) (by omega)
        rcases search_sep (sorted_elts hs2) w.lo w.hi hi with rfl | rfl
        · rw [kidAt_at hcl, hll]; exact hlt
        · rw [kidAt_at_succ hcl, hrl]; exact hlt
      exact ⟨hp.shape, hflat' ▸ hp.flat_eq, hflat' ▸ hp.ret, Nat.le_trans (by simp [Node.elts]) hp.len_lo,
        Nat.le_trans hp.len_hi (by simp [Node.elts]; omega)⟩
    · exact (insLoop_pass (io := io) 1 hk hs hrec fun i hi => by
        obtain ⟨rfl, _⟩ := Prod.mk.inj (hres.symm.trans hi)
        rw [kidAt_at hcl]
        exact Nat.lt_of_le_of_ne (kids_at hk).2.2 hmax).mono (Nat.le_refl _) (Nat.le_succ _)
  · exact (insLoop_pass (io := io) 1 hk hs hrec fun i hi => by rw [hres] at hi; simp at hi).mono (Nat.le_refl _)
      (Nat.le_succ _)

/-- `insert_nonfull` refines sorted insertion on every well-shaped sorted subtree; that the node is not full is
needed only by the caller, for the occupancy of the result. -/
theorem insertNonfull_refines {t : Nat} (ht : 2 ≤ t) (io : Bool) (e : Elt) : ∀ (h : Nat) (n : Node),
    Shape t h n → Sorted (flat n) → InsSpec t h n e (insertNonfull t io h n e) := by
  intro h
  induction h with
  | zero =>
    intro n hn hs
    obtain ⟨es, rfl⟩ := shape_zero hn
    exact ins_leaf_spec t io 0 es e (by simpa using hs)
  | succ h ih =>
    intro n hn hs
    obtain ⟨es, cs, rfl, hk⟩ := shape_succ hn
    unfold insertNonfull
    exact insLoop_spec ht hk hs ih

theorem growRoot_eq (t : Nat) (n : Node) :
    growRoot t n = if isMaximal t n then .node [(split t n).2.1] [(split t n).1, (split t n).2.2] else n := by
  unfold growRoot
  split
  · rcases split t n with ⟨l, m, r⟩
    simp [adopt, searchInNode_nil, insAt]
  · rfl

theorem growRoot_spec {t h : Nat} {n : Node} (ht : 2 ≤ t) (hn : Shape t h n) (htop : n.elts.length ≤ maxKeys t) :
    Shape t (if isMaximal t n then h + 1 else h) (growRoot t n) ∧ (growRoot t n).elts.length < maxKeys t ∧
    flat (growRoot t n) = flat n := by
  rw [growRoot_eq]
  by_cases hmax : n.elts.length = maxKeys t
  · have : isMaximal t n = true := by simp [isMaximal, hmax]
    simp only [this, if_true]
    obtain ⟨hl, hr, hll, hrl, hflat⟩ := split_spec (by omega) hn hmax
    refine ⟨shape_node_iff.mpr ⟨by simp, fun c hc => ?_⟩, by simp [Node.elts, maxKeys]; omega, by simp [inter, hflat]⟩
    simp at hc
    rcases hc with rfl | rfl
    · exact ⟨hl, occ_of_minimal (by omega) hll⟩
    · exact ⟨hr, occ_of_minimal (by omega) hrl⟩
  · have : isMaximal t n = false := by simp [isMaximal, hmax]
    simp only [this, Bool.false_eq_true, if_false]
    exact ⟨hn, by omega, trivial⟩

/-- `insert_element` is `insert_nonfull` on the root after the optional growth, which keeps the listing -/
theorem insertRoot_refines {t : Nat} (ht : 2 ≤ t) (io : Bool) (e : Elt) {n : Node} (hw : Wf t n) :
    ∃ h, Shape t h (growRoot t n) ∧ (growRoot t n).elts.length < maxKeys t ∧ flat (growRoot t n) = flat n ∧
      InsSpec t h (growRoot t n) e (insertRoot t io n e) := by
  obtain ⟨h, hn⟩ := hw.shape
  obtain ⟨hg, hlt, hfl⟩ := growRoot_spec ht hn hw.top
  refine ⟨_, hg, hlt, hfl, ?_⟩
  unfold insertRoot
  simp only []
  rw [height_of_shape hg]
  exact insertNonfull_refines ht io e _ _ hg (hfl ▸ hw.sorted)

/-- `insert_element` -/
theorem insertRoot_spec {t : Nat} (ht : 2 ≤ t) (io : Bool) (e : Elt) {n : Node} (hw : Wf t n) :
    Wf t (insertRoot t io n e).1 ∧
    flat (insertRoot t io n e).1 = insSorted e (flat n) ∧
    (insertRoot t io n e).2 = lookup (flat n) e.1 := by
  obtain ⟨h, _, hlt, hfl, hsp⟩ := insertRoot_refines ht io e hw
  rw [← hfl]
  exact ⟨⟨⟨_, hsp.shape⟩, by have := hsp.len_hi; omega, hsp.flat_eq ▸ insSorted_sorted (hfl ▸ hw.sorted)⟩, hsp.flat_eq,
    hsp.ret⟩

end Model.BTree
