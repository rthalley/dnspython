import Model.ZoneTxn
/-! Node-level lemmas for C10: `Node.find/delete/append/replace` against a per-(type, covers) reading. -/
namespace Model.ZT
open Model

/-- every rdataset of a node has the zone's class, and (type, covers) identifies it -/
def NodeInv (cls : Nat) (nd : Node) : Prop :=
  (∀ r ∈ nd, r.rdclass = cls) ∧ nd.Pairwise (fun a b => ¬(a.rdtype = b.rdtype ∧ a.covers = b.covers))

theorem isMatch_iff (r : Rdataset) (cls t c : Nat) :
    r.isMatch cls t c = true ↔ r.rdclass = cls ∧ r.rdtype = t ∧ r.covers = c := by
  simp [Rdataset.isMatch, and_assoc]

theorem NodeInv.nil (cls : Nat) : NodeInv cls [] := ⟨nofun, List.Pairwise.nil⟩

theorem find?_eraseP_self {α : Type} {p : α → Bool} {l : List α}
    (h : l.Pairwise fun a b => ¬(p a = true ∧ p b = true)) : (l.eraseP p).find? p = none := by
  induction l with
  | nil => rfl
  | cons x xs ih =>
    obtain ⟨hx, hxs⟩ := List.pairwise_cons.mp h
    by_cases hp : p x = true
    · rw [List.eraseP_cons_of_pos hp, List.find?_eq_none]
      exact fun y hy hpy => hx y hy ⟨hp, hpy⟩
    · rw [List.eraseP_cons_of_neg hp, List.find?_cons_of_neg hp]
      exact ih hxs

theorem find?_eraseP_of_disjoint {α : Type} {p q : α → Bool} (h : ∀ x, p x = true → ¬q x = true) (l : List α) :
    (l.eraseP p).find? q = l.find? q := by
  induction l with
  | nil => rfl
  | cons x xs ih =>
    by_cases hp : p x = true
    · rw [List.eraseP_cons_of_pos hp, List.find?_cons_of_neg (h x hp)]
    · rw [List.eraseP_cons_of_neg hp, List.find?_cons, List.find?_cons, ih]

theorem find_delete_same (cls t c : Nat) (nd : Node) (h : NodeInv cls nd) :
    (nd.delete cls t c).find cls t c = none :=
  find?_eraseP_self <| h.2.imp fun hab hm => by
    rw [isMatch_iff, isMatch_iff] at hm
    exact hab ⟨hm.1.2.1.trans hm.2.2.1.symm, hm.1.2.2.trans hm.2.2.2.symm⟩

theorem find_delete_other (cls t c t' c' : Nat) (nd : Node) (hne : ¬(t' = t ∧ c' = c)) :
    (nd.delete cls t c).find cls t' c' = nd.find cls t' c' :=
  find?_eraseP_of_disjoint (fun x hx hx' => by
    rw [isMatch_iff] at hx hx'
    exact hne ⟨hx'.2.1.symm.trans hx.2.1, hx'.2.2.symm.trans hx.2.2⟩) nd

theorem delete_sublist (cls t c : Nat) (nd : Node) : List.Sublist (nd.delete cls t c) nd := List.eraseP_sublist

theorem NodeInv.sublist {cls : Nat} {a b : Node} (hs : List.Sublist a b) (h : NodeInv cls b) : NodeInv cls a :=
  ⟨fun r hr => h.1 r (hs.subset hr), h.2.sublist hs⟩

theorem NodeInv.delete {cls : Nat} {nd : Node} (h : NodeInv cls nd) (t c : Nat) : NodeInv cls (nd.delete cls t c) :=
  h.sublist (delete_sublist cls t c nd)

theorem find_cons_pos (cls t c : Nat) (x : Rdataset) (xs : Node) (h : x.isMatch cls t c = true) :
    Node.find (x :: xs) cls t c = some x := List.find?_cons_of_pos h
theorem find_cons_neg (cls t c : Nat) (x : Rdataset) (xs : Node) (h : ¬ x.isMatch cls t c = true) :
    Node.find (x :: xs) cls t c = Node.find xs cls t c := List.find?_cons_of_neg h

theorem find_none_iff (cls t c : Nat) (nd : Node) :
    nd.find cls t c = none ↔ ∀ x ∈ nd, x.isMatch cls t c = false := by
  unfold Node.find; rw [List.find?_eq_none]; simp

theorem find_mem {cls t c : Nat} {nd : Node} {x : Rdataset} (h : nd.find cls t c = some x) :
    x ∈ nd ∧ x.rdclass = cls ∧ x.rdtype = t ∧ x.covers = c :=
  ⟨List.mem_of_find?_eq_some h,
    (isMatch_iff x cls t c).mp (List.find?_some (p := fun r : Rdataset => r.isMatch cls t c) h)⟩

theorem find_isSome_of_mem {cls : Nat} {nd : Node} {x : Rdataset} (hx : x ∈ nd) (hc : x.rdclass = cls) :
    (nd.find cls x.rdtype x.covers).isSome = true := by
  rw [Option.isSome_iff_ne_none, Ne, find_none_iff]
  intro h
  have := h x hx
  rw [(isMatch_iff x cls _ _).mpr ⟨hc, rfl, rfl⟩] at this
  cases this

/-- `_append_rdataset` drops what CNAME exclusivity forbids next to the new rdataset, then appends it -/
theorem append_eq (nd : Node) (r : Rdataset) :
    nd.append r = nd.filter (fun x => !SZone.excluded r.kind x.kind) ++ [r] := by
  unfold Node.append
  cases nd with
  | nil => cases r.kind <;> rfl
  | cons x xs =>
    cases r.kind
    · exact congrArg (· ++ [r]) (List.filter_congr fun y _ => by cases y.kind <;> rfl)
    · exact congrArg (· ++ [r]) (List.filter_eq_self.mpr fun _ _ => rfl).symm
    · exact congrArg (· ++ [r]) (List.filter_congr fun y _ => by cases y.kind <;> rfl)

theorem find_filter_excluded (cls t c : Nat) (K : Kind) (nd : Node) :
    Node.find (nd.filter fun x => !SZone.excluded K x.kind) cls t c =
      if SZone.excluded K (classify t c) then none else nd.find cls t c := by
  unfold Node.find
  -- a match has the kind of (t, c), so the filter's test is the same for every candidate
  have hk : ∀ x : Rdataset, decide ((!SZone.excluded K x.kind) = true ∧ x.isMatch cls t c = true) =
      ((!SZone.excluded K (classify t c)) && x.isMatch cls t c) := by
    intro x
    cases hx : x.isMatch cls t c
    · simp
    · obtain ⟨_, ht, hc⟩ := (isMatch_iff x cls t c).mp hx
      rw [Rdataset.kind, ht, hc]
      simp
  rw [List.find?_filter, funext hk]
  cases SZone.excluded K (classify t c)
  · simp
  · simp

/-- `_append_rdataset` read per (type, covers) -/
theorem find_append (cls t c : Nat) (nd : Node) (r : Rdataset) :
    (nd.append r).find cls t c =
      match (if SZone.excluded r.kind (classify t c) then none else nd.find cls t c) with
      | some x => some x
      | none => if r.isMatch cls t c then some r else none := by
  rw [append_eq, Node.find, List.find?_append, ← Node.find, find_filter_excluded]
  cases (if SZone.excluded r.kind (classify t c) = true then none else nd.find cls t c) with
  | some x => rfl
  | none => by_cases hm : r.isMatch cls t c = true <;> simp [hm]

/-- `replace_rdataset` read per (type, covers): the reference model's `put` at one owner -/
theorem find_replace (cls t c : Nat) (nd : Node) (r : Rdataset) (h : NodeInv cls nd) (hr : r.rdclass = cls) :
    (nd.replace r).find cls t c =
      if t = r.rdtype ∧ c = r.covers then some r
      else if SZone.excluded r.kind (classify t c) then none
      else nd.find cls t c := by
  unfold Node.replace
  rw [find_append, hr]
  by_cases hk : t = r.rdtype ∧ c = r.covers
  · obtain ⟨rfl, rfl⟩ := hk
    rw [find_delete_same cls _ _ nd h, ite_self, (isMatch_iff r cls _ _).mpr ⟨hr, rfl, rfl⟩]
    exact (if_pos ⟨rfl, rfl⟩).symm
  · have hm : r.isMatch cls t c = false :=
      Bool.eq_false_iff.mpr fun hm => hk ⟨((isMatch_iff ..).mp hm).2.1.symm, ((isMatch_iff ..).mp hm).2.2.symm⟩
    rw [find_delete_other cls r.rdtype r.covers t c nd hk, if_neg hk, hm]
    generalize (if SZone.excluded r.kind (classify t c) = true then none else nd.find cls t c) = o
    cases o <;> rfl

theorem append_sub (nd : Node) (r x : Rdataset) (hx : x ∈ nd.append r) : x ∈ nd ∨ x = r := by
  rw [append_eq, List.mem_append, List.mem_singleton] at hx
  exact hx.imp_left fun h => (List.mem_filter.mp h).1

theorem replace_ne_nil (nd : Node) (r : Rdataset) : nd.replace r ≠ [] := by
  unfold Node.replace
  rw [append_eq]
  exact List.append_ne_nil_of_right_ne_nil _ (List.cons_ne_nil _ _)

theorem NodeInv.replace {cls : Nat} {nd : Node} (h : NodeInv cls nd) (r : Rdataset) (hr : r.rdclass = cls) :
    NodeInv cls (nd.replace r) := by
  unfold Node.replace
  have hd := h.delete r.rdtype r.covers
  have hnone := (find_none_iff ..).mp (find_delete_same cls r.rdtype r.covers nd h)
  rw [hr, append_eq]
  generalize nd.delete cls r.rdtype r.covers = nd1 at hd hnone
  have hsub : List.Sublist (nd1.filter fun x => !SZone.excluded r.kind x.kind) nd1 := List.filter_sublist
  refine ⟨fun x hx => ?_, List.pairwise_append.mpr ⟨(hd.sublist hsub).2, List.pairwise_singleton .., fun a ha b hb hab => ?_⟩⟩
  · rcases List.mem_append.mp hx with hx | hx
    · exact hd.1 x (hsub.subset hx)
    · rw [List.mem_singleton.mp hx]; exact hr
  · -- the old rdataset of that (type, covers) was deleted first
    rw [List.mem_singleton.mp hb] at hab
    have := hnone a (hsub.subset ha)
    rw [(isMatch_iff ..).mpr ⟨hd.1 a (hsub.subset ha), hab.1, hab.2⟩] at this
    cases this

end Model.ZT
