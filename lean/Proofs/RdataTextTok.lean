import Proofs.RdataTextBlob
import Proofs.RdataTextEsc
import Proofs.RdataTextB64
/-! What the record proofs of C05 share below the field kinds: a value printed as one token and read back from it
(`TokRT`), sequences of such values (each of the model's item loops is shown to be `List.mapM` of its step, so that the list
lemmas of RdataTextReturns apply), and a blob in the alphabet of a codec chunked over several tokens (`blob_chunks`). -/
namespace Model

/-- the first token of a record must not be mistaken for the generic-syntax marker `\#` -/
def NotHash (t : Tok) : Prop := t.kind = .quoted ∨ ∀ x r, t.val = 92 :: x :: r → x ≠ 35

theorem notHash_plain (s : List Nat) (h : Plain s) : NotHash ⟨.ident, s⟩ := by
  right
  intro x r e
  have e' : s = 92 :: x :: r := e
  have := (h 92 (by rw [e']; simp)).2
  exact absurd rfl this

/-- the token that starts the rdata, if any, is not `\#` -/
def HeadNotHash (toks : List Tok) : Prop := ∀ t, toks.head? = some t → NotHash t

theorem headNotHash_nil : HeadNotHash [] := nofun

theorem headNotHash_cons (t : Tok) (ts : List Tok) (h : NotHash t) : HeadNotHash (t :: ts) := by
  intro t' ht; cases ht; exact h

theorem headNotHash_identToks (chunks : List (List Nat)) (h : ∀ ch ∈ chunks, Plain ch) : HeadNotHash (identToks chunks) := by
  cases chunks with
  | nil => exact headNotHash_nil
  | cons c cs => exact headNotHash_cons _ _ (notHash_plain c (h c (by simp)))

/-- one value, one token: `pr` prints `x` as `text`, the tokenizer reads `text` as the single token `tok`, and `pa` reads
`x` back from it -/
def TokRT {α : Type} (pr : α → Option Text) (pa : Tok → Option α) (x : α) (text : Text) (tok : Tok) : Prop :=
  pr x = some text ∧ Lexes text [tok] ∧ pa tok = some x ∧ NotHash tok

theorem tokRT_plain {α : Type} {pr : α → Option Text} {pa : Tok → Option α} {x : α} {t : Text} (hne : t ≠ []) (hp : Plain t)
    (hprint : pr x = some t) (hparse : pa ⟨.ident, t⟩ = some x) : TokRT pr pa x t ⟨.ident, t⟩ :=
  ⟨hprint, lexes_plain t hne hp, hparse, notHash_plain t hp⟩

/-- a character-string through `_escapify` in quotes: one QUOTED_STRING token whose value `Token.unescape_to_bytes` turns
back into the octets -/
theorem charstring_tok (s : Bytes) (hs : ∀ c ∈ s, c < 256) :
    Lexes (quote (escapifyR s)) [⟨.quoted, escapifyR s⟩] ∧ unescapeBytes (escapifyR s) = some s :=
  ⟨(escapifyR_text escROk_generated s hs).read.1, unescapeBytes_escapify _ escROk_generated s hs⟩

/-- the printer's half when all items sit in one piece of text, each lexed as one token -/
theorem lexes_joinSep_toks {α : Type} (xs : List α) (f : α → Text) (g : α → Tok) (h : ∀ x ∈ xs, Lexes (f x) [g x]) :
    Lexes (joinSep [32] (xs.map f)) (xs.map g) := by
  rw [List.map_eq_flatMap (f := g)]
  exact lexes_joinSep_map blanks_space (by simp) f (fun x => [g x]) xs h

/-- every tail but the type bitmap is printed after the fields, all pieces joined by single spaces -/
theorem printRec_of_tail {sch : Schema} {st : Style} {vals : List FV} {tail : Option FV} {fs ts : List Text}
    (hb : sch.tail ≠ .bitmap) (hf : printFields st sch.fields vals = some fs) (ht : printTail st sch.tail tail = some ts) :
    printRec sch st vals tail = some (joinSep [32] (fs ++ ts)) := by
  unfold printRec
  cases hk : sch.tail with
  | bitmap => exact absurd hk hb
  | _ => simp only [hk] at ht ⊢; simp [hf, ht]

/-- a list printed and parsed item by item, one token each -/
theorem seq_rt {α : Type} (pr : α → Option Text) (pa : Tok → Option α) (xs : List α)
    (h : ∀ x ∈ xs, ∃ t tok, TokRT pr pa x t tok) :
    ∃ items : List (Text × List Tok), xs.mapM pr = some (items.map (·.1)) ∧ (∀ p ∈ items, Lexes p.1 p.2) ∧
      (items.flatMap (·.2)).mapM pa = some xs ∧ HeadNotHash (items.flatMap (·.2)) := by
  induction xs with
  | nil => exact ⟨[], rfl, nofun, rfl, headNotHash_nil⟩
  | cons x xs ih =>
    obtain ⟨t, tok, hp, hl, hpa, hnh⟩ := h x (by simp)
    obtain ⟨items, ip, il, ipa, -⟩ := ih fun y hy => h y (by simp [hy])
    refine ⟨(t, [tok]) :: items, ?_, List.forall_mem_cons.mpr ⟨hl, il⟩, ?_, headNotHash_cons _ _ hnh⟩
    · rw [List.mapM_cons, hp, ip]; rfl
    · rw [List.flatMap_cons, List.singleton_append, List.mapM_cons, hpa, ipa]; rfl

theorem parseNames_eq_mapM (env : PEnv) :
    parseNames env = List.mapM fun t => asName t env.origin env.relativize env.relTo := by
  funext toks
  induction toks with
  | nil => rfl
  | cons t ts ih =>
    rw [List.mapM_cons, ← ih, parseNames]
    cases asName t env.origin env.relativize env.relTo <;> cases parseNames env ts <;> rfl

theorem printNames_eq_mapM (st : Style) :
    printNames st = List.mapM fun n => (nameToStyled n st.origin st.relativize).toOption := by
  funext ns
  induction ns with
  | nil => rfl
  | cons n r ih =>
    rw [List.mapM_cons, ← ih, printNames]
    cases nameToStyled n st.origin st.relativize <;> cases printNames st r <;> rfl

theorem parseApl_eq_mapM : parseApl = List.mapM parseAplItem := by
  funext toks
  induction toks with
  | nil => rfl
  | cons t ts ih => rw [List.mapM_cons, ← ih, parseApl]; cases parseAplItem t <;> cases parseApl ts <;> rfl

theorem printAplItems_eq_mapM : printAplItems = List.mapM printAplItem := by
  funext items
  induction items with
  | nil => rfl
  | cons it r ih => rw [List.mapM_cons, ← ih, printAplItems]; cases printAplItem it <;> cases printAplItems r <;> rfl

/-- one character-string of a TXT-like record -/
def parseTxtTok (t : Tok) : Option Bytes := (unescapeBytes t.val).bind fun b => if b.length > 255 then none else some b

theorem parseTxt_eq_mapM : parseTxt = List.mapM parseTxtTok := by
  funext toks
  induction toks with
  | nil => rfl
  | cons t ts ih =>
    rw [List.mapM_cons, ← ih, parseTxt, parseTxtTok]
    cases unescapeBytes t.val with
    | none => rfl
    | some b => cases parseTxt ts <;> by_cases h : b.length > 255 <;> simp [h]

theorem parseTxt_le (toks : List Tok) : Returns (fun ss => ∀ s ∈ ss, s.length ≤ 255) (parseTxt toks) :=
  parseTxt_eq_mapM ▸ .mapM fun _ _ => .bind fun _ _ => .ite_none fun hb => .some (by omega)

/-- one mnemonic of a type bitmap: the bit of type 0 cannot be written -/
def parseTypeTok (t : Tok) : Option Nat :=
  (unescapeCP t.val).bind fun v => (rdtypeFromText v).bind fun ty => if ty = 0 then none else some ty

theorem bitmapTypes_eq_mapM : parseTail.types = List.mapM parseTypeTok := by
  funext toks
  induction toks with
  | nil => rfl
  | cons t ts ih =>
    rw [List.mapM_cons, ← ih, parseTail.types, parseTypeTok]
    cases unescapeCP t.val with
    | none => rfl
    | some v =>
      dsimp only [Option.bind_some]
      cases rdtypeFromText v with
      | none => rfl
      | some ty => cases parseTail.types ts <;> by_cases h : ty = 0 <;> simp [h]

/-- a blob under `_wordbreak` chunking is read back by `concatenate_remaining_identifiers` and the decoder -/
theorem blob_chunks {enc dec} (c : BlobOk ⟨enc, dec⟩) (d : Bytes) (hd : ∀ x ∈ d, x < 256) (allowEmpty : Bool)
    (hne : allowEmpty = true ∨ d ≠ []) (chunk : Nat) (sep : List Nat) (hc : ChunkOk chunk sep) :
    Lexes (wordbreak (enc d) chunk sep) (identToks (chunksOf chunk (enc d))) ∧
    concatIdents allowEmpty (identToks (chunksOf chunk (enc d))) = some (enc d) ∧ dec (enc d) = some d ∧
    HeadNotHash (identToks (chunksOf chunk (enc d))) :=
  have hpl := c.plain d hd
  ⟨lexes_wordbreak _ hpl chunk sep hc, concatIdents_chunks allowEmpty _ hpl chunk (hne.imp_right c.ne_nil), c.rt d hd,
    headNotHash_identToks _ fun ch hch x hx => hpl x ((chunksOf_mem chunk _ ch hch).2 x hx)⟩

end Model
