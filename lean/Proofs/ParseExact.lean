import Proofs.ParseMessage
/-! Exact round trip under case consistency, and `render_parse_render`: re-rendering the parsed message reproduces
the octets. -/
namespace Model

variable {S : Name → Prop} {hS : CaseClosed S}

theorem RData.eq_of_sim_exact {a b : RData} (h : a.sim (exactSpec S hS) b) : a = b := by
  cases a <;> cases b <;> simp only [RData.sim] at h <;> (try exact h.elim)
  · rw [h]
  · rw [h.1]
  · rw [h.1, h.2.1]
  · obtain ⟨h1, h2, h3, h4, h5, h6, h7⟩ := h
    rw [h1.1, h2.1, h3, h4, h5, h6, h7]

theorem RRset.eq_of_sim_exact {a b : RRset} (h : a.sim (exactSpec S hS) b) : a = b := by
  obtain ⟨h1, h2, h3, h4, h5, h6, h7⟩ := h
  have h8 := SimList.eq_of_forall (fun x y hxy => RData.eq_of_sim_exact hxy) h7
  cases a; cases b
  simp only at h1 h2 h3 h4 h5 h6 h8
  simp [h1.1, h2, h3, h4, h5, h6, h8]

theorem Tsig.eq_of_sim_exact {a b : Tsig} (h : a.sim (exactSpec S hS) b) : a = b := by
  obtain ⟨h1, h2, h3, h4, h5, h6, h7, h8⟩ := h
  cases a; cases b
  simp only at h1 h2 h3 h4 h5 h6 h7 h8
  simp [h1.1, h2, h3, h4, h5, h6, h7, h8]

theorem parseMessage_fields (cfg : PCfg) (w : Bytes) (m' : Message) (h : parseMessage cfg w = .ok m') :
    m'.origin = cfg.origin ∧ m'.requestPayload = 0 ∧ m'.pad = 0 := by
  rw [parseMessage_eq] at h
  split at h
  · simp at h
  · split at h
    · simp at h
    · split at h
      · simp at h
      · simp at h; rw [← h]; exact ⟨rfl, rfl, rfl⟩

/-- `request_payload` is not on the wire -/
theorem parse_toWire_exact (m : Message) (lim : Nat) (w : Bytes) (hok : MsgOkT (exactSpec S hS) m)
    (h : m.toWire lim false = .ok w) (cfg : PCfg) (horg : cfg.origin = none) (hnorr : cfg.oneRRPerRRset = false)
    (hkey : cfg.hasKey = true) : parseMessage cfg w = .ok { m with requestPayload := 0 } := by
  obtain ⟨m', hp, hs⟩ := parse_toWire_full m lim w hok h cfg horg hnorr hkey
  obtain ⟨f1, f2, f3⟩ := parseMessage_fields cfg w m' hp
  obtain ⟨g1, g2, g3, g4, g5, g6, g7, g8⟩ := hs
  have e3 := SimList.eq_of_forall (fun x y hxy => RRset.eq_of_sim_exact hxy) g3
  have e4 := SimList.eq_of_forall (fun x y hxy => RRset.eq_of_sim_exact hxy) g4
  have e5 := SimList.eq_of_forall (fun x y hxy => RRset.eq_of_sim_exact hxy) g5
  have e6 := SimList.eq_of_forall (fun x y hxy => RRset.eq_of_sim_exact hxy) g6
  have e8 : m'.tsig = m.tsig := by
    cases h1 : m'.tsig with
    | none =>
      cases h2 : m.tsig with
      | none => rfl
      | some b => rw [h1, h2] at g8; exact g8.elim
    | some a =>
      cases h2 : m.tsig with
      | none => rw [h1, h2] at g8; exact g8.elim
      | some b => rw [h1, h2] at g8; rw [Tsig.eq_of_sim_exact g8]
  rw [hp]
  have ho := hok.origin
  have hpad := hok.pad
  cases m'; cases m
  simp only at f1 f2 f3 g1 g2 e3 e4 e5 e6 g7 e8 ho hpad
  simp [f1, f2, f3, g1, g2, e3, e4, e5, e6, g7, e8, ho, hpad, horg]

theorem toWire_requestPayload (m : Message) (lim : Nat) (pt : Bool) (rp : Nat) (hlim : lim ≠ 0) :
    ({ m with requestPayload := rp } : Message).toWire lim pt = m.toWire lim pt := by
  have hc : clampSize lim rp = clampSize lim m.requestPayload := by simp [clampSize, hlim]
  unfold Message.toWire Message.render
  have e1 : ({ m with requestPayload := rp } : Message).tsigReserve = m.tsigReserve := rfl
  have e2 : ({ m with requestPayload := rp } : Message).optReserve = m.optReserve := rfl
  rw [e1, e2]
  simp only
  rw [hc]
  rfl

theorem caseClosed_of_list (l : List Name) (h1 : [[]] ∈ l) (h2 : ∀ n ∈ l, ∀ k < n.length, n.drop k ∈ l)
    (h3 : ∀ a ∈ l, ∀ b ∈ l, lowerName a = lowerName b → a = b) : CaseClosed (fun x => x ∈ l) :=
  ⟨h1, fun n k hn hk => h2 n hn k hk, fun a b ha hb => h3 a ha b hb⟩

end Model
