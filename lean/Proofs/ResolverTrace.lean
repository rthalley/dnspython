import Proofs.ResolverRun
/-!
A monitor over the event trace of a resolution (a broken server is never asked again for the same candidate; a truncated
UDP reply is followed at once by one TCP query to the same server; TCP is used only when asked for, forced by the
nameserver, or as that retry), the proof that every run of the model is accepted by it, and — read off the same
invariant — that `NoNameservers` is raised exactly when every configured nameserver has proved broken for the candidate
in progress.
-/
namespace Model.Resolver
open Model

structure MonSt where
  broken : List Server        -- servers that proved broken for the current candidate
  pending : Option Server     -- its UDP reply was truncated: the TCP retry is due now
  deriving Repr

/-- TCP is used for the retry after a truncated UDP reply (to that very server), and otherwise exactly when the
caller asked for it or the nameserver always uses maximum-size transport -/
def tcpGuard (env : Env) (pending : Option Server) (s : Server) (tcp : Bool) : Bool :=
  match pending with
  | some p => s == p && tcp
  | none => tcp == (env.tcp || s.alwaysMax)

def monStep (env : Env) (m : MonSt) : Event → Option MonSt
  | .candidate _ => if m.pending.isSome then none else some { broken := [], pending := none }
  | .sleep _ => if m.pending.isSome then none else some m
  | .query q s tcp _ out =>
    if s ∈ m.broken then none
    else if tcpGuard env m.pending s tcp then
      some { broken := if provesBroken env q tcp out then s :: m.broken else m.broken,
             pending := if out = .exc .truncated ∧ tcp = false then some s else none }
    else none

def monAll (env : Env) : MonSt → List Event → Option MonSt
  | m, [] => some m
  | m, e :: es =>
    match monStep env m e with
    | none => none
    | some m' => monAll env m' es

theorem monAll_append (env : Env) : ∀ (m : MonSt) (a b : List Event),
    monAll env m (a ++ b) = (monAll env m a).bind (fun m' => monAll env m' b)
  | m, [], b => by simp [monAll]
  | m, e :: es, b => by
    simp only [List.cons_append, monAll]
    cases monStep env m e with
    | none => simp
    | some m' => simp [monAll_append env m' es b]

theorem monAll_cons_some {env : Env} {m m' : MonSt} {e : Event} {es : List Event}
    (h : monAll env m (e :: es) = some m') : ∃ m1, monStep env m e = some m1 ∧ monAll env m1 es = some m' := by
  simp only [monAll] at h
  split at h
  · cases h
  · rename_i m1 h1; exact ⟨m1, h1, h⟩

theorem monStep_query {env : Env} {m m' : MonSt} {q : Name} {s : Server} {tcp : Bool} {t : Nat} {out : Outcome}
    (h : monStep env m (.query q s tcp t out) = some m') :
    s ∉ m.broken ∧ tcpGuard env m.pending s tcp = true ∧
    m' = { broken := if provesBroken env q tcp out then s :: m.broken else m.broken,
           pending := if out = .exc .truncated ∧ tcp = false then some s else none } := by
  simp only [monStep] at h
  split at h
  · cases h
  · split at h <;> cases h
    exact ⟨‹_›, ‹_›, rfl⟩

/-- the monitor's step on a query, verdict by verdict (as `leaves` is the resolution's) -/
def MonSt.after (m : MonSt) (s : Server) : Verdict → MonSt
  | .broken => { broken := s :: m.broken, pending := none }
  | .truncatedUdp => { broken := m.broken, pending := some s }
  | _ => { broken := m.broken, pending := none }

theorem monStep_verdict {env : Env} {m : MonSt} {s : Server} {tcp : Bool} (hnb : s ∉ m.broken)
    (hg : tcpGuard env m.pending s tcp = true) (q : Name) (t now : Nat) (out : Outcome) :
    monStep env m (.query q s tcp t out) = some (m.after s (verdict env q s tcp now out)) := by
  obtain ⟨h1, h2, _⟩ := verdict_cases env q s tcp now out
  generalize verdict env q s tcp now out = v at h1 h2
  cases v <;> simp [monStep, hnb, hg, h1, h2, MonSt.after]

/-- the servers that proved broken for the candidate in progress, read off an event list (`B` = those known before) -/
def brokenAfter (env : Env) : List Server → List Event → List Server
  | B, [] => B
  | _, .candidate _ :: es => brokenAfter env [] es
  | B, .sleep _ :: es => brokenAfter env B es
  | B, .query q s tcp _ out :: es => brokenAfter env (if provesBroken env q tcp out then s :: B else B) es

theorem brokenAfter_append (env : Env) : ∀ (a b : List Event) (B : List Server),
    brokenAfter env B (a ++ b) = brokenAfter env (brokenAfter env B a) b
  | [], b, B => rfl
  | .candidate _ :: es, b, B => by simp [brokenAfter, brokenAfter_append env es b]
  | .sleep _ :: es, b, B => by simp [brokenAfter, brokenAfter_append env es b]
  | .query .. :: es, b, B => by simp [brokenAfter, brokenAfter_append env es b]

theorem monAll_broken (env : Env) : ∀ (es : List Event) (m m' : MonSt), monAll env m es = some m' →
    m'.broken = brokenAfter env m.broken es
  | [], m, m', h => by simp [monAll] at h; subst h; rfl
  | e :: es, m, m', h => by
    obtain ⟨m1, h1, h2⟩ := monAll_cons_some h
    have ih := monAll_broken env es m1 m' h2
    rw [ih]
    cases e with
    | candidate _ | sleep _ =>
      simp only [monStep] at h1
      split at h1 <;> cases h1
      rfl
    | query q s tcp t out =>
      obtain ⟨_, _, rfl⟩ := monStep_query h1
      rfl

/-- how the monitor state mirrors the resolution state, over distinct configured servers: the servers still in the mix
are the configured ones not known broken (so each is still usable or has proved broken for this candidate), the rest of
the round is among them, and the TCP retry the monitor expects is the one the resolution has pending -/
def Mirrors (env : Env) (m : MonSt) (st : St) : Prop :=
  match st.phase with
  | .needRequest => m.pending = none ∧ (env.cfg.servers ≠ [] → ∃ s ∈ env.cfg.servers, s ∉ m.broken)
  | .querying =>
    st.nameservers = env.cfg.servers.filter (· ∉ m.broken) ∧ st.current.Sublist st.nameservers ∧
    m.pending = (if st.retryWithTcp then st.nameserver else none) ∧
    (st.retryWithTcp = true → ∃ p, st.nameserver = some p ∧ p ∈ st.nameservers ∧ p ∉ st.current)

/-- what the result says about `NoNameservers`, given the servers `B` known broken for the candidate in progress -/
def NoNsIff (env : Env) (B : List Server) (r : Result) : Prop :=
  (r = .noNameservers → ∀ s ∈ env.cfg.servers, s ∈ B) ∧
  (env.cfg.servers ≠ [] → (∀ s ∈ env.cfg.servers, s ∈ B) → r = .noNameservers)

theorem NoNsIff_of_alive {env : Env} {B : List Server} {r : Result}
    (halive : env.cfg.servers ≠ [] → ∃ s ∈ env.cfg.servers, s ∉ B) (hr : r ≠ .noNameservers) : NoNsIff env B r :=
  ⟨fun h => absurd h hr, fun hne hall => (halive hne).elim fun s hs => absurd (hall s hs.1) hs.2⟩

/-- taking a server out of the mix is recording it as broken -/
theorem filter_erase {l : List Server} (hl : l.Nodup) (B : List Server) (a : Server) :
    (l.filter (· ∉ B)).erase a = l.filter (· ∉ a :: B) := by
  rw [(List.filter_sublist.nodup hl).erase_eq_filter, List.filter_filter]
  congr 1
  funext s
  by_cases hs : s = a <;> simp [hs]

/-- what the monitor needs of the server `next_nameserver` picks: it is in the mix and not in the rest of the round,
its transport passes the guard, and no sleep comes before a pending retry -/
theorem pick_mon {env : Env} {st : St} {m : MonSt} {c : Choice} (hnodup : env.cfg.servers.Nodup)
    (hph : st.phase = .querying) (hmir : Mirrors env m st) (hp : Picks env st c) :
    c.ns ∈ st.nameservers ∧ c.ns ∉ c.rest ∧ c.rest.Sublist st.nameservers ∧
    tcpGuard env m.pending c.ns c.tcp = true ∧ (c.sleep ≠ 0 → m.pending = none) := by
  simp only [Mirrors, hph] at hmir
  obtain ⟨hns, hsub, hpend, hretry⟩ := hmir
  have hnd : st.nameservers.Nodup := hns ▸ List.filter_sublist.nodup hnodup
  cases hp with
  | retry hr hn =>
    obtain ⟨p, q1, q2, q3⟩ := hretry hr
    obtain rfl : p = _ := Option.some.inj (q1.symm.trans hn)
    exact ⟨q2, q3, hsub, by simp [tcpGuard, hpend, hr, hn], nofun⟩
  | next hr hc =>
    rw [hc] at hsub
    exact ⟨hsub.subset (List.mem_cons_self ..), (List.nodup_cons.mp (hsub.nodup hnd)).1,
      List.sublist_of_cons_sublist hsub, by simp [tcpGuard, hpend, hr], nofun⟩
  | rearm hr hc hn =>
    rw [hn] at hnd ⊢
    exact ⟨List.mem_cons_self .., (List.nodup_cons.mp hnd).1, List.sublist_cons_self .., by simp [tcpGuard, hpend, hr],
      fun _ => by simp [hpend, hr]⟩

theorem step_mon (env : Env) (hnodup : env.cfg.servers.Nodup) (st : St) (m : MonSt) (hmir : Mirrors env m st) :
    ∃ m', monAll env m (step env st).evs = some m' ∧
      (step env st).sat (fun _ st' => Mirrors env m' st') (fun _ r _ => NoNsIff env m'.broken r) := by
  have h := step_iter env st
  generalize step env st = res at h
  -- `next_request` ends the resolution: some configured server is not known broken
  have hdone : ∀ r, st.phase = .needRequest → r ≠ .noNameservers → NoNsIff env m.broken r := by
    intro r hph hr
    simp only [Mirrors, hph] at hmir
    exact NoNsIff_of_alive hmir.2 hr
  -- the back-off sleep of a pass is accepted
  have hsleep : ∀ {c}, st.phase = .querying → Picks env st c → monAll env m (sleepEvs env c.sleep st.now) = some m := by
    intro c hph hp
    unfold sleepEvs
    split
    · rename_i hb
      simp [monAll, monStep, (pick_mon hnodup hph hmir hp).2.2.2.2 hb]
    · rfl
  cases h with
  | nxdomain hph | noAnswer hph | hit hph => exact ⟨m, rfl, hdone _ hph nofun⟩
  | request hph =>
    simp only [Mirrors, hph] at hmir
    -- a fresh candidate: all configured servers in the mix, none known broken
    exact ⟨{ broken := [], pending := none }, by simp [StepR.evs, monAll, monStep, hmir.1],
      by simpa [Mirrors, armed] using (List.filter_eq_self.mpr fun _ _ => rfl).symm⟩
  | noNs hph h2 =>
    simp only [Mirrors, hph] at hmir
    refine ⟨m, rfl, fun _ s hs => ?_, fun _ _ => rfl⟩
    rcases h2 with ⟨_, _, c3⟩ | ⟨c1, c2⟩
    · simpa using List.filter_eq_nil_iff.mp (hmir.1.symm.trans c3) s hs
    · obtain ⟨p, hp, _⟩ := hmir.2.2.2 c1
      rw [c2] at hp; cases hp
  | @expired c w hph hp =>
    obtain ⟨k1, _⟩ := pick_mon hnodup hph hmir hp
    simp only [Mirrors, hph] at hmir
    rw [hmir.1, List.mem_filter] at k1
    exact ⟨m, hsleep hph hp, NoNsIff_of_alive (fun _ => ⟨c.ns, k1.1, by simpa using k1.2⟩) (by simp)⟩
  | @reply c w t d hph hp =>
    obtain ⟨k1, k2, k3, k4, _⟩ := pick_mon hnodup hph hmir hp
    simp only [Mirrors, hph] at hmir
    obtain ⟨hns, _, _, _⟩ := hmir
    have hmem := k1
    rw [hns, List.mem_filter] at hmem
    have hnb : c.ns ∉ m.broken := by simpa using hmem.2
    -- the monitor accepts the query
    refine ⟨m.after c.ns (verdict env st.qname c.ns c.tcp (w + d.2.1) d.1), ?_, ?_⟩
    · rw [judge_evs, monAll_append, hsleep hph hp]
      simp [monAll, monStep_verdict hnb k4 st.qname t (w + d.2.1)]
    have halive : ∀ r, r ≠ .noNameservers → NoNsIff env m.broken r :=
      fun r => NoNsIff_of_alive fun _ => ⟨c.ns, hmem.1, hnb⟩
    cases verdict env st.qname c.ns c.tcp (w + d.2.1) d.1 <;> simp only [judge, leaves, StepR.sat, MonSt.after]
    case accept a => split <;> exact halive _ (by simp)
    case yxdomain => exact halive _ (by simp)
    case nxdomain a => exact ⟨rfl, fun _ => ⟨c.ns, hmem.1, hnb⟩⟩
    case broken =>
      simp only [Mirrors, St.asked, hph]
      exact ⟨hns ▸ filter_erase hnodup .., List.erase_of_not_mem k2 ▸ k3.erase c.ns, rfl, nofun⟩
    case truncatedUdp =>
      simp only [Mirrors, St.asked, hph]
      exact ⟨hns, k3, rfl, fun _ => ⟨c.ns, rfl, k1, k2⟩⟩
    case soft =>
      simp only [Mirrors, St.asked, hph]
      exact ⟨hns, k3, rfl, nofun⟩

def m0 : MonSt := { broken := [], pending := none }

/-- the invariant behind the trace theorems: the monitor has accepted the events so far, mirrors the state, and every
configured server is still usable or known broken -/
def InvMon (env : Env) (pre : List Event) (st : St) : Prop :=
  ∃ m, monAll env m0 pre = some m ∧ Mirrors env m st

theorem run_mon (env : Env) (hnodup : env.cfg.servers.Nodup) {cache : Cache} {script : List ScriptStep} {fuel : Nat}
    {res : List Event × Result × St} (hres : run env fuel (initOf env cache script) = res) :
    ∃ m', monAll env m0 res.1 = some m' ∧ (res.2.1 ≠ .outOfFuel → NoNsIff env m'.broken res.2.1) := by
  subst hres
  refine run_induct env (fun _ => InvMon env)
    (fun evs r _ => ∃ m', monAll env m0 evs = some m' ∧ (r ≠ .outOfFuel → NoNsIff env m'.broken r))
    ?_ (fun _ _ _ ⟨m, hm, _⟩ => ⟨m, hm, fun h => absurd rfl h⟩) fuel _ [] (Wf.init env cache script) ?_
  · intro _ pre st _ ⟨m, hm, hmir⟩
    obtain ⟨m', hm', hsat⟩ := step_mon env hnodup st m hmir
    have hacc : monAll env m0 (pre ++ (step env st).evs) = some m' := by rw [monAll_append, hm]; exact hm'
    generalize step env st = res at hsat hacc
    cases res with
    | cont evs st' => exact ⟨m', hacc, hsat⟩
    | done evs r st' => exact ⟨m', hacc, fun _ => hsat⟩
  · -- at the start nothing is known broken
    refine ⟨m0, rfl, rfl, fun hne => ?_⟩
    cases hsv : env.cfg.servers with
    | nil => exact absurd hsv hne
    | cons s rest => exact ⟨s, by simp, by simp [m0]⟩


def isCandidate : Event → Bool
  | .candidate _ => true
  | _ => false

theorem mem_brokenAfter_of_mem (env : Env) : ∀ (es : List Event) (B : List Server) (x : Server),
    (∀ e ∈ es, isCandidate e = false) → x ∈ B → x ∈ brokenAfter env B es
  | [], _, _, _, h => h
  | .candidate _ :: _, _, _, hc, _ => by simpa [isCandidate] using hc _ (List.mem_cons_self ..)
  | .sleep _ :: es, B, x, hc, h => mem_brokenAfter_of_mem env es B x (fun e he => hc e (List.mem_cons_of_mem _ he)) h
  | .query q s tcp _ out :: es, B, x, hc, h =>
    mem_brokenAfter_of_mem env es _ x (fun e he => hc e (List.mem_cons_of_mem _ he))
      (by split; exact List.mem_cons_of_mem _ h; exact h)

/-- an accepted trace is accepted event by event -/
theorem monAll_split {env : Env} {m m' : MonSt} {pre post : List Event} {e : Event}
    (h : monAll env m (pre ++ e :: post) = some m') :
    ∃ m1 m2, monAll env m pre = some m1 ∧ monStep env m1 e = some m2 ∧ monAll env m2 post = some m' := by
  rw [monAll_append] at h
  cases h1 : monAll env m pre with
  | none => simp [h1] at h
  | some m1 =>
    obtain ⟨m2, h2, h3⟩ := monAll_cons_some (by simpa [h1] using h)
    exact ⟨m1, m2, rfl, h2, h3⟩

theorem mon_broken_not_reasked {env : Env} {m m' : MonSt} {pre mid post : List Event}
    {q q' : Name} {s s' : Server} {tcp tcp' : Bool} {t t' : Nat} {out out' : Outcome}
    (h : monAll env m (pre ++ .query q s tcp t out :: (mid ++ .query q' s' tcp' t' out' :: post)) = some m')
    (hb : provesBroken env q tcp out = true) (hmid : ∀ e ∈ mid, isCandidate e = false) : s' ≠ s := by
  obtain ⟨m1, m2, _, h2, h3⟩ := monAll_split h
  obtain ⟨m3, m4, h4, h5, _⟩ := monAll_split h3
  obtain ⟨_, _, rfl⟩ := monStep_query h2
  -- `s` is recorded broken by the first query and still is when the second is checked
  have hs3 : s ∈ m3.broken := by
    rw [monAll_broken env mid _ m3 h4]
    exact mem_brokenAfter_of_mem env mid _ s hmid (by simp [hb])
  exact fun heq => (monStep_query h5).1 (heq ▸ hs3)

theorem mon_trunc_retry {env : Env} {m m' : MonSt} {pre post : List Event} {q : Name} {s : Server} {t : Nat}
    {e : Event} (h : monAll env m (pre ++ .query q s false t (.exc .truncated) :: e :: post) = some m') :
    ∃ q' t' out', e = .query q' s true t' out' := by
  obtain ⟨m1, m2, _, h2, h3⟩ := monAll_split h
  obtain ⟨m3, h4, _⟩ := monAll_cons_some h3
  obtain ⟨_, _, rfl⟩ := monStep_query h2
  cases e with
  | candidate _ => simp [monStep] at h4
  | sleep _ => simp [monStep] at h4
  | query q' s' tcp' t' out' =>
    have hg := (monStep_query h4).2.1
    simp only [tcpGuard, and_self, if_true, Bool.and_eq_true, beq_iff_eq] at hg
    obtain ⟨rfl, rfl⟩ := hg
    exact ⟨q', t', out', rfl⟩

theorem mem_brokenAfter (env : Env) : ∀ (evs : List Event) (B : List Server) (s : Server),
    s ∈ brokenAfter env B evs →
      (s ∈ B ∧ ∀ e ∈ evs, isCandidate e = false) ∨
      (∃ pre q tcp t out post, evs = pre ++ .query q s tcp t out :: post ∧ provesBroken env q tcp out = true ∧
        ∀ e ∈ post, isCandidate e = false)
  | [], B, s, h => Or.inl ⟨h, by simp⟩
  | e0 :: es, B, s, h => by
    -- the induction hypothesis, a witness in the tail being a witness in the whole list
    have ih : ∀ B', s ∈ brokenAfter env B' es →
        (s ∈ B' ∧ ∀ e ∈ es, isCandidate e = false) ∨
        ∃ pre q tcp t out post, e0 :: es = pre ++ .query q s tcp t out :: post ∧
          provesBroken env q tcp out = true ∧ ∀ e ∈ post, isCandidate e = false :=
      fun B' h' => (mem_brokenAfter env es B' s h').imp_right
        fun ⟨pre, q, tcp, t, out, post, e1, e2, e3⟩ => ⟨e0 :: pre, q, tcp, t, out, post, by simp [e1], e2, e3⟩
    cases e0 with
    | candidate c =>
      rcases ih [] h with ⟨h1, _⟩ | h'
      · cases h1
      · exact Or.inr h'
    | sleep ms => exact (ih B h).imp_left fun ⟨h1, h2⟩ => ⟨h1, List.forall_mem_cons.mpr ⟨rfl, h2⟩⟩
    | query q' s' tcp' t' out' =>
      rcases ih _ h with ⟨h1, h2⟩ | h'
      · split at h1
        · rename_i hpb
          rcases List.mem_cons.mp h1 with rfl | h1
          · exact Or.inr ⟨[], q', tcp', t', out', es, rfl, hpb, h2⟩
          · exact Or.inl ⟨h1, List.forall_mem_cons.mpr ⟨rfl, h2⟩⟩
        · exact Or.inl ⟨h1, List.forall_mem_cons.mpr ⟨rfl, h2⟩⟩
      · exact Or.inr h'

end Model.Resolver
