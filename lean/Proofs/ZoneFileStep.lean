import Model.ZoneFile
import Proofs.TokenizerTTL
import Proofs.ZoneFileHeader
/-!
One turn of the loop of `Reader.read`.  The model's `lineStep` is restated once as a dispatch on the first token of the
line and, for a `$` word, on the directive, with one function per directive that reads on (`lineStep_eq`); the lemmas
for each kind of first token, the `$TTL` and `$ORIGIN` lines and the end of the text rest on that.  Before it: what the
tokenizer returns on words behind runs of blanks, which is all the layout the writer produces.
-/
namespace Model

/-- a run of spaces -/
def Blank (l : List Nat) : Prop := ∀ c ∈ l, c = 32

theorem blank_nil : Blank [] := by simp [Blank]
theorem blank_append {a b : List Nat} (ha : Blank a) (hb : Blank b) : Blank (a ++ b) := by
  intro c hc; rcases List.mem_append.mp hc with h | h
  · exact ha c h
  · exact hb c h
theorem blank_cons {b : List Nat} (hb : Blank b) : Blank (32 :: b) := by
  intro c hc; rcases List.mem_cons.mp hc with h | h
  · exact h
  · exact hb c h
theorem sp_blank : Blank [32] := blank_cons blank_nil

theorem sp_startsDelim (T : List Nat) : startsDelim (32 :: T) := ⟨32, T, rfl, by decide⟩

theorem blank_replicate (n : Nat) : Blank (List.replicate n 32) := by
  intro c hc; exact (List.mem_replicate.mp hc).2

/-- a run of blanks is a separator of the tokenizer that stays at its parenthesis depth -/
theorem blank_sep (b : List Nat) (hb : Blank b) : ∃ sp, renderSep sp = b ∧ ∀ d, sepDepth d sp = some d := by
  induction b with
  | nil => exact ⟨[], rfl, fun _ => rfl⟩
  | cons c r ih =>
    obtain ⟨sp, rfl, hd⟩ := ih fun x hx => hb x (List.mem_cons_of_mem _ hx)
    exact ⟨.sp :: sp, by rw [hb c (by simp)]; rfl, hd⟩

theorem blank_startsDelim (b T : List Nat) (hb : Blank b) (hne : b ≠ []) : startsDelim (b ++ T) := by
  cases b with
  | nil => exact absurd rfl hne
  | cons c r => exact ⟨c, r ++ T, rfl, by rw [hb c (by simp)]; decide⟩

/-- `_get_identifier` after any run of blanks -/
theorem getIdent_blank (b w T : List Nat) (hb : Blank b) (hw : identOK w = true) (hne : w ≠ []) (hT : startsDelim T) :
    getIdent (after 0 false (b ++ (w ++ T))) = .ok (identToken w, after 0 false T) := by
  obtain ⟨sp, rfl, hd⟩ := blank_sep b hb
  exact getIdent_word sp w T 0 0 false (hd 0) hw hne hT

theorem get_blank_word (b : List Nat) (w : Word) (T : List Nat) (pq : Bool) (hb : Blank b) (hw : w.ok = true)
    (hT : startsDelim T) :
    (after 0 pq (b ++ (w.text ++ T))).get = .ok (w.token, after 0 w.isQuoted T) := by
  obtain ⟨sp, rfl, hd⟩ := blank_sep b hb
  exact get_word sp w T 0 0 pq (hd 0) hw hT

/-- the end of a line behind any run of blanks (`get_end` for the layout the writer produces) -/
theorem get_blank_end (b : List Nat) (hb : Blank b) (trailing : Option (List Nat)) (ht : ∀ t ∈ trailing, 10 ∉ t) (pq : Bool)
    (rest : List Nat) :
    (after 0 pq (b ++ (trailingText trailing ++ 10 :: rest))).get = .ok (eolToken trailing, after 0 false rest) := by
  obtain ⟨sp, rfl, hd⟩ := blank_sep b hb
  exact get_end sp trailing rest 0 pq (hd 0) ht

theorem get_blank_ident (b w T : List Nat) (hb : Blank b) (hw : identOK w = true) (hne : w ≠ []) (hT : startsDelim T) :
    (after 0 false (b ++ (w ++ T))).get = .ok (identToken w, after 0 false T) :=
  get_blank_word b (.ident w) T false hb (by simp [Word.ok, hw, hne]) hT

theorem get_sp (w T : List Nat) (hw : identOK w = true) (hne : w ≠ []) (hT : startsDelim T) :
    (after 0 false (32 :: (w ++ T))).get = .ok (identToken w, after 0 false T) :=
  get_blank_ident [32] w T sp_blank hw hne hT

/-- `skip_whitespace` at depth 0 stops at the first character of a word -/
theorem skipWs_blank (b w X : List Nat) (hb : Blank b) (hw : identOK w = true) (hwn : w ≠ []) :
    skipWs false (b ++ (w ++ X)) = (b.length, w ++ X) := by
  cases w with
  | nil => exact absurd rfl hwn
  | cons c r =>
    have hc : ¬ (c = 32 ∨ c = 9) := by
      have := identOK_head_not_ws c r hw 0
      omega
    induction b with
    | nil => simp [skipWs, hc]
    | cons a t ih =>
      have ha : a = 32 := hb a (by simp)
      have ih' := ih (fun x hx => hb x (by simp [hx]))
      simp only [List.cons_append] at ih' ⊢
      simp only [skipWs, ha, true_or, if_true, ih', List.length_cons]

/-- the first `get(want_leading=True, want_comment=True)` of a line that starts with an identifier -/
theorem get_first_ident (w T : List Nat) (hw : identOK w = true) (hne : w ≠ []) (hT : startsDelim T) :
    (after 0 false (w ++ T)).get true true = .ok (identToken w, after 0 false T) := by
  obtain ⟨dch, rest, rfl, hd⟩ := hT
  obtain ⟨c, r, rfl⟩ := List.exists_cons_of_ne_nil hne
  rw [get_first true _ (by simpa [isWs] using identOK_head_not_ws c r hw 0), runSkip_ident true _ 0 dch rest hw hne hd]
  rfl

/-- `get(want_leading=True)` hands back an ungotten identifier -/
theorem get_leading_ungotten (d : Nat) (pq : Bool) (T w : List Nat) :
    ({ after d pq T with ungotten := some (identToken w) } : TState).get (wantLeading := true) =
      .ok (identToken w, after d pq T) := by
  simp [TState.get, identToken, after]

def wsToken : Token := { ttype := .whitespace, value := [32] }

/-- a line that starts with blanks: the first `get(want_leading=True, want_comment=True)` is a WHITESPACE token -/
theorem get_leading_blank (b w T : List Nat) (hb : Blank b) (hne : b ≠ []) (hw : identOK w = true) (hwn : w ≠ []) :
    (after 0 false (b ++ (w ++ T))).get true true = .ok (wsToken, after 0 false (w ++ T)) := by
  have hs := skipWs_blank b w T hb hw hwn
  have hlen : b.length > 0 := List.length_pos_iff.mpr hne
  unfold TState.get
  simp only [after, Bool.false_eq_true, if_false, gt_iff_lt, Nat.lt_irrefl, decide_false, hs, hlen, and_self, if_true,
    wsToken]

/-- the first `get` of a line at the end of the text, and on an empty line -/
theorem get_first_eof : (after 0 false []).get true true = .ok ({ ttype := .eof }, after 0 false []) :=
  (get_first true [] nofun).trans (congrArg liftOut (runSkip_nil true))

theorem get_first_eol (rest : List Nat) :
    (after 0 false (10 :: rest)).get true true = .ok ({ ttype := .eol, value := [10] }, after 0 false rest) :=
  (get_first true (10 :: rest) (by simp [isWs])).trans (congrArg liftOut (runSkip_eol true rest))

theorem nl_startsDelim (T : List Nat) : startsDelim (10 :: T) := ⟨10, T, rfl, by decide⟩

theorem get_eol_after' (rest : List Nat) :
    (after 0 false (10 :: rest)).get = .ok ({ ttype := .eol, value := [10] }, after 0 false rest) := by
  rw [get_after, runSkip_eol]
  rfl

theorem getEol_nl (rest : List Nat) :
    (after 0 false (10 :: rest)).getEol = .ok ({ ttype := .eol, value := [10] }, after 0 false rest) := by
  simp only [TState.getEol, bind, Except.bind, get_eol_after']
  rfl

/-! ### `Reader.read`: what the loop does with a line, by the line's first token

The model's `lineStep` restated in pieces (`lineStep_eq`): the dispatch on the first token (`lineOf`), the dispatch on the
directive word (`directive`) and one function per directive that reads on (`s` is the tokenizer behind the directive
word), so that a statement about one kind of line does not carry the others. -/

/-- `$TTL <ttl>` -/
def ttlDirective (r : PState) (s : TState) : RM (LineEv × PState) := do
  let (t, s) ← liftT s.get
  if !t.isIdentifier then .error .syntaxError
  else match ttlOf t.value with
    | none => .error .syntaxError
    | some v =>
      let (_, s) ← liftT s.getEol
      pure (.nothing, { r with tok := s, defaultTTL := v, defaultTTLKnown := true })

/-- the zone origin after a `$ORIGIN` directive: set only when none was known -/
def originAfter (z : Option Name) (o : Name) : Option Name :=
  match z with
  | none => some o
  | some z => some z

/-- `$ORIGIN <name>` -/
def originDirective (r : PState) (s : TState) : RM (LineEv × PState) := do
  let (n, s) ← liftT (s.getName r.currentOrigin false none)
  if !isAbs n then .error .syntaxError else
  let (_, s) ← liftT s.getEol
  pure (.nothing, { r with tok := s, currentOrigin := some n, zoneOrigin := originAfter r.zoneOrigin n })

/-- `$INCLUDE file [origin]` -/
def includeDirective (r : PState) (s : TState) : RM (LineEv × PState) :=
  if !r.allowInclude then .error .syntaxError
  else do
    let (t1, s) ← liftT s.get
    let filename := t1.value
    let (t2, s) ← liftT s.get
    let (newOrigin, s) ←
      if t2.isIdentifier then
        match fromText t2.value r.currentOrigin with
        | .error e => (.error (.ofName e) : RM (Option Name × TState))
        | .ok n => do
          let (_, s) ← liftT s.getEol
          pure (some n, s)
      else if !t2.isEolOrEof then .error .syntaxError
      else pure (r.currentOrigin, s)
    match lookupFile r.files filename with
    | none => .error (.other "OSError")
    | some content =>
      pure (.nothing, { r with tok := TState.init content, currentOrigin := newOrigin,
                               saved := ⟨s, r.currentOrigin, r.lastName, r.lastTTL, r.lastTTLKnown, r.defaultTTL,
                                         r.defaultTTLKnown⟩ :: r.saved })

/-- the dispatch on the upper-cased directive word `c`; for a given word the tests are closed facts (`lineStep_ttl_word`) -/
def directive (r : PState) (c : List Nat) (s : TState) : RM (LineEv × PState) :=
  if c = s2l "$TTL" then ttlDirective r s
  else if c = s2l "$ORIGIN" then originDirective r s
  else if c = s2l "$GENERATE" then pure (.generate, { r with tok := s })
  else if c = s2l "$UNICODE" then .error .unmodelled
  else if c = s2l "$INCLUDE" then includeDirective r s
  else .error .syntaxError

/-- the line whose first token is `t` -/
def lineOf (r : PState) (t : Token) (s : TState) : RM (LineEv × PState) :=
  if t.ttype = .eof then
    match r.saved with
    | [] => pure (.eof, r)
    | sv :: rest => pure (.nothing, r.restore sv rest)
  else if t.ttype = .eol then pure (.nothing, { r with tok := s })
  else if t.ttype = .comment then do
    let (_, s) ← liftT s.getEol
    pure (.nothing, { r with tok := s })
  else if t.value.head? = some 36 then directive r (directiveOf t.value) s
  else do
    let s ← liftT (s.unget t)
    let (e, r) ← rrParse { r with tok := s }
    match e with
    | none => pure (.nothing, r)
    | some e => pure (.entry e, r)

theorem lineStep_eq (r : PState) : lineStep r = (do
    let (t, s) ← liftT (r.tok.get (wantLeading := true) (wantComment := true))
    lineOf r t s) := rfl

theorem lineStep_of_first (r : PState) (t : Token) (s : TState) (hA : r.tok.get true true = .ok (t, s)) :
    lineStep r = lineOf r t s := by
  rw [lineStep_eq, hA]
  rfl

theorem lineStep_eof_tok (r : PState) (t : Token) (s : TState) (hA : r.tok.get true true = .ok (t, s))
    (ht : t.ttype = .eof) :
    lineStep r = match r.saved with
      | [] => .ok (.eof, r)
      | sv :: rest => .ok (.nothing, r.restore sv rest) := by
  rw [lineStep_of_first r t s hA, lineOf, if_pos ht]
  rfl

theorem lineStep_eol_tok (r : PState) (t : Token) (s : TState) (hA : r.tok.get true true = .ok (t, s))
    (ht : t.ttype = .eol) : lineStep r = .ok (.nothing, { r with tok := s }) := by
  rw [lineStep_of_first r t s hA, lineOf, if_neg (by rw [ht]; nofun), if_pos ht]
  rfl

theorem lineStep_directive (r : PState) (t : Token) (s : TState) (hA : r.tok.get true true = .ok (t, s))
    (ht : t.ttype = .identifier) (hd : t.value.head? = some 36) :
    lineStep r = directive r (directiveOf t.value) s := by
  rw [lineStep_of_first r t s hA, lineOf, if_neg (by rw [ht]; nofun), if_neg (by rw [ht]; nofun),
    if_neg (by rw [ht]; nofun), if_pos hd]

/-- a line that starts with the word `w`, a `$` word -/
theorem lineStep_dollar (r : PState) (w T : List Nat) (hw : identOK w = true) (hne : w ≠ []) (hd : w.head? = some 36)
    (hT : startsDelim T) (htok : r.tok = after 0 false (w ++ T)) :
    lineStep r = directive r (directiveOf w) (after 0 false T) :=
  lineStep_directive r (identToken w) _ (htok ▸ get_first_ident w T hw hne hT) rfl hd

/-- `Reader.read` up to `_rr_line` -/
theorem lineStep_to_rrParse (r : PState) (t : Token) (s : TState)
    (hA : r.tok.get true true = .ok (t, s))
    (ht1 : t.ttype ≠ .eof) (ht2 : t.ttype ≠ .eol) (ht3 : t.ttype ≠ .comment) (hd : t.value.head? ≠ some 36) :
    lineStep r = (rrParse { r with tok := { s with ungotten := some t } }).map fun x =>
      match x.1 with
      | none => (LineEv.nothing, x.2)
      | some e => (LineEv.entry e, x.2) := by
  rw [lineStep_of_first r t s hA, lineOf, if_neg ht1, if_neg ht2, if_neg ht3, if_neg hd]
  simp only [bind, Except.bind, liftT, unget_ok s t (get_ungotten_none r.tok s t true true hA)]
  cases rrParse { r with tok := { s with ungotten := some t } } with
  | error e => rfl
  | ok v =>
    obtain ⟨e, r'⟩ := v
    cases e <;> rfl

theorem lineStep_eof (r : PState) (h : r.tok = after 0 false []) (hsv : r.saved = []) : lineStep r = .ok (.eof, r) := by
  rw [lineStep_eof_tok r _ _ (h ▸ get_first_eof) rfl, hsv]

/-- a line that starts with the word `$TTL`.  What the dispatch asks of the word is closed and evaluated in one go, the
literal first expanded by the unifier (`s2l_ofList`). -/
theorem lineStep_ttl_word (r : PState) (T : List Nat) (hT : startsDelim T) (htok : r.tok = after 0 false (s2l "$TTL" ++ T)) :
    lineStep r = ttlDirective r (after 0 false T) := by
  obtain ⟨w1, w2, w3, c⟩ : identOK (s2l "$TTL") = true ∧ s2l "$TTL" ≠ [] ∧ (s2l "$TTL").head? = some 36 ∧
      directiveOf (s2l "$TTL") = s2l "$TTL" := by rw [s2l_ofList]; decide
  rw [lineStep_dollar r _ T w1 w2 w3 hT htok, directive, if_pos c]

theorem lineStep_origin_word (r : PState) (T : List Nat) (hT : startsDelim T)
    (htok : r.tok = after 0 false (s2l "$ORIGIN" ++ T)) : lineStep r = originDirective r (after 0 false T) := by
  obtain ⟨w1, w2, w3, c1, c2⟩ : identOK (s2l "$ORIGIN") = true ∧ s2l "$ORIGIN" ≠ [] ∧ (s2l "$ORIGIN").head? = some 36 ∧
      directiveOf (s2l "$ORIGIN") ≠ s2l "$TTL" ∧ directiveOf (s2l "$ORIGIN") = s2l "$ORIGIN" := by
    rw [s2l_ofList, s2l_ofList]; decide
  rw [lineStep_dollar r _ T w1 w2 w3 hT htok, directive, if_neg c1, if_pos c2]

theorem lineStep_ttl_dir (r : PState) (d : Nat) (rest : List Nat) (hd : d ≤ Consts.maxTTL)
    (htok : r.tok = after 0 false (s2l "$TTL " ++ (natToDec d ++ 10 :: rest))) :
    lineStep r = .ok (.nothing, { r with tok := after 0 false rest, defaultTTL := d, defaultTTLKnown := true }) := by
  have hdec := natToDec_token d
  rw [show s2l "$TTL " = s2l "$TTL" ++ [32] by rw [s2l_ofList, s2l_ofList]; rfl, List.append_assoc] at htok
  rw [lineStep_ttl_word r (32 :: (natToDec d ++ 10 :: rest)) (sp_startsDelim _) htok]
  simp only [ttlDirective, bind, Except.bind, liftT, get_sp _ _ hdec.1 hdec.2 (nl_startsDelim rest), identToken,
    Token.isIdentifier, beq_self_eq_true, Bool.not_true, Bool.false_eq_true, if_false, ttlOf_natToDec d hd, getEol_nl,
    pure, Except.pure]

/-- `$ORIGIN <name>`: the name is completed with the current origin (commit c444c98) and must then be absolute -/
theorem lineStep_origin_dir (r : PState) (ot : List Nat) (o : Name) (rest : List Nat)
    (hot : identOK ot = true) (hne : ot ≠ []) (hn : (identToken ot).asName r.currentOrigin false none = .ok o)
    (habs : isAbs o = true)
    (htok : r.tok = after 0 false (s2l "$ORIGIN " ++ (ot ++ 10 :: rest))) :
    lineStep r = .ok (.nothing, { r with tok := after 0 false rest, currentOrigin := some o,
                                         zoneOrigin := originAfter r.zoneOrigin o }) := by
  rw [show s2l "$ORIGIN " = s2l "$ORIGIN" ++ [32] by rw [s2l_ofList, s2l_ofList]; rfl, List.append_assoc] at htok
  rw [lineStep_origin_word r (32 :: (ot ++ 10 :: rest)) (sp_startsDelim _) htok]
  simp only [originDirective, TState.getName, bind, Except.bind, liftT, get_sp _ _ hot hne (nl_startsDelim rest), hn, habs,
    Bool.not_true, Bool.false_eq_true, if_false, getEol_nl, pure, Except.pure]

end Model
