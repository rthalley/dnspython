import Proofs.BTreeCowHeap
/-!
Mechanism level: an owned internal node and its children.  `upd_mid` is the one local rewriting step behind
`maybe_cow_child`, `split` + `adopt`, the two steals and `merge`: a section of adjacent children of an owned parent
is replaced by new top cells (rewritten in place or fresh) that share out the same grandchildren; nothing below is
touched.  `Own` (below) is the hypothesis of every step on the heap (`cowChild_own`, `upd_kid`, `upd_elts_*` here, the
rebalancing steps in BTreeCowSplit and BTreeCowSteal); `Sim` states the same for an operation that also returns a
value.
-/
namespace Model.BTreeCow
open Model.BTree

/-- the tree with token `c` owns the top cell of the well-formed, unshared subtree of height `h` at `a`, and that
subtree represents `n`.  A step on the heap takes `Own … p (.node es cs)` to an `Upd … p (.node es' cs')` with `es' cs'`
the persistent step applied to `es cs`, so that `Own.upd` is the hypothesis of the next step: what the new heap
represents is never read back from it (only where a child pointer now points, since `Upd` does not speak of addresses). -/
structure Own (c : Nat) (H : Heap) (h a : Nat) (n : Node) : Prop where
  ht : HT H h a
  nodup : (reach H h a).Nodup
  own : (rd H a).creator = c
  abs : absN H h a = n

theorem Own.upd {c : Nat} {H H' : Heap} {h a : Nat} {n n' : Node} (o : Own c H h a n) (u : Upd c H H' h a n') :
    Own c H' h a n' :=
  ⟨u.ht, u.nodup, by rw [u.creator a (HT_lt o.ht)]; exact o.own, u.abs⟩

/-- the persistent node of a cell of height `h` whose children are read in heap `H` -/
def cabs (H : Heap) (h : Nat) (X : Cell) : Node :=
  match h with
  | 0 => .leaf X.elts
  | h' + 1 => .node X.elts (X.kids.map (absN H h'))

theorem absN_eq_cabs (H : Heap) (h a : Nat) : absN H h a = cabs H h (rd H a) := by
  cases h <;> rfl

theorem cabs_leaf (H : Heap) (X : Cell) : cabs H 0 X = .leaf X.elts := rfl
theorem cabs_node (H : Heap) (h : Nat) (X : Cell) : cabs H (h + 1) X = .node X.elts (X.kids.map (absN H h)) := rfl

theorem cabs_congr (H : Heap) (h : Nat) {X Y : Cell} (he : X.elts = Y.elts) (hk : X.kids = Y.kids) :
    cabs H h X = cabs H h Y := by
  cases h <;> simp [cabs, he, hk]

theorem reach_split {H : Heap} {h p : Nat} {kl mid kr : List Nat} (nd : (reach H (h + 1) p).Nodup)
    (hk : (rd H p).kids = kl ++ mid ++ kr) :
    reach H (h + 1) p = p :: (kl.flatMap (reach H h) ++ mid.flatMap (reach H h) ++ kr.flatMap (reach H h)) ∧
    ∀ x, (if p = x then 1 else 0) + List.count x (kl.flatMap (reach H h)) + List.count x (mid.flatMap (reach H h)) +
      List.count x (kr.flatMap (reach H h)) ≤ 1 := by
  have e : reach H (h + 1) p =
      p :: (kl.flatMap (reach H h) ++ mid.flatMap (reach H h) ++ kr.flatMap (reach H h)) := by
    rw [reach_succ, hk, List.flatMap_append, List.flatMap_append]
  refine ⟨e, fun x => ?_⟩
  have := List.nodup_iff_count.mp nd x
  rw [e] at this
  simp only [List.count_cons, List.count_append, beq_iff_eq] at this
  omega

theorem self_notin_kid {H : Heap} {h a k : Nat} (nd : (reach H (h + 1) a).Nodup) (hk : k ∈ (rd H a).kids) :
    a ∉ reach H h k := by
  rw [reach_succ, List.nodup_cons] at nd
  intro hx
  exact nd.1 (List.mem_flatMap.mpr ⟨k, hk, hx⟩)

theorem nodup_kid {H : Heap} {h a : Nat} {kl kr : List Nat} {k : Nat}
    (nd : (reach H (h + 1) a).Nodup) (hk : (rd H a).kids = kl ++ k :: kr) : (reach H h k).Nodup := by
  obtain ⟨_, hc⟩ := reach_split (mid := [k]) nd (by simpa using hk)
  refine List.nodup_iff_count.mpr fun x => ?_
  have := hc x
  simp only [List.flatMap_cons, List.flatMap_nil, List.append_nil] at this
  omega

theorem kids_ne {H : Heap} {h p a b : Nat} {kl kr : List Nat} (nd : (reach H (h + 1) p).Nodup)
    (hk : (rd H p).kids = kl ++ a :: b :: kr) : p ≠ a ∧ p ≠ b ∧ a ≠ b := by
  obtain ⟨_, hc⟩ := reach_split (mid := [a, b]) nd (by simpa using hk)
  have ha := count_pos_of_mem (self_mem_reach H h a)
  have hb := count_pos_of_mem (self_mem_reach H h b)
  have hca := hc a
  have hcb := hc b
  simp only [List.flatMap_cons, List.flatMap_nil, List.append_nil, List.count_append] at hca hcb
  refine ⟨fun e => ?_, fun e => ?_, fun e => ?_⟩
  · rw [if_pos e] at hca; omega
  · rw [if_pos e] at hcb; omega
  · rw [e] at hca ha; omega

theorem forest_frame {H H' : Heap} {h : Nat} {W mid mid' : List Nat} (so : SameOff W H H')
    (htm : ∀ m ∈ mid, HT H h m) (nd : (mid.flatMap (reach H h)).Nodup)
    (hW : ∀ x ∈ W, x ∈ mid ∨ x ∉ mid.flatMap (reach H h))
    (hlt : ∀ m ∈ mid', m < H'.size) (hleaf : ∀ m ∈ mid', (rd H' m).leaf = decide (h = 0))
    (hlen : h ≠ 0 → ∀ m ∈ mid', (rd H' m).kids.length = (rd H' m).elts.length + 1)
    (hcat : h ≠ 0 → (mid'.flatMap fun m => (rd H' m).kids) = mid.flatMap fun m => (rd H m).kids) :
    (∀ m ∈ mid', HT H' h m ∧ absN H' h m = cabs H h (rd H' m)) ∧
    ∀ x, List.count x (mid'.flatMap (reach H' h)) + List.count x mid =
      List.count x (mid.flatMap (reach H h)) + List.count x mid' := by
  cases h with
  | zero =>
    refine ⟨fun m hm => ⟨⟨hlt m hm, by simpa using hleaf m hm⟩, rfl⟩, fun x => ?_⟩
    rw [count_reach_zero, count_reach_zero, Nat.add_comm]
  | succ h =>
    have hcat := hcat (by omega)
    -- the children of the forest avoid `W`: a top cell below a child would occur twice in the forest
    have hgs : ∀ g ∈ mid.flatMap (fun m => (rd H m).kids), Kept H H' h g := by
      intro g hg
      obtain ⟨m, hm, hgm⟩ := List.mem_flatMap.mp hg
      refine frame_off so (HT_kid (htm m hm) hgm) fun x hx hxW => ?_
      have hc := count_reach_succ H h x mid
      have h1 := count_pos_of_mem (List.mem_flatMap.mpr ⟨g, hg, hx⟩)
      have h2 := List.nodup_iff_count.mp nd x
      rcases hW x hxW with hxm | hxn
      · have := count_pos_of_mem hxm; omega
      · rw [← List.count_eq_zero] at hxn; omega
    have hsub : ∀ m ∈ mid', ∀ k ∈ (rd H' m).kids, k ∈ mid.flatMap (fun m => (rd H m).kids) := fun m hm k hk => by
      rw [← hcat]; exact List.mem_flatMap.mpr ⟨m, hm, hk⟩
    refine ⟨fun m hm => ⟨⟨hlt m hm, by simpa using hleaf m hm, hlen (by omega) m hm, fun k hk => ?_⟩, ?_⟩,
      fun x => ?_⟩
    · exact (hgs k (hsub m hm k hk)).ht
    · rw [absN_succ, cabs_node]
      exact congrArg _ (List.map_congr_left fun k hk => (hgs k (hsub m hm k hk)).abs)
    · rw [count_reach_succ, count_reach_succ, hcat, (frame_kids hgs).2]; omega

theorem upd_section {c : Nat} {H H' : Heap} {h p : Nat} {kl mid mid' kr : List Nat}
    {n : Node} (g : Own c H (h + 1) p n) (hk : (rd H p).kids = kl ++ mid ++ kr) (hsize : H.size ≤ H'.size)
    (same : ∀ x, x < H.size → x ≠ p → (x ∉ mid.flatMap (reach H h) ∨ (rd H x).creator ≠ c) →
      rd H' x = rd H x)
    (creator : ∀ x, x < H.size → (rd H' x).creator = (rd H x).creator)
    (fresh : ∀ x, H.size ≤ x → x < H'.size → (rd H' x).creator = c)
    (hmid : ∀ m ∈ mid', HT H' h m)
    (hcount : Grown H.size (mid.flatMap (reach H h)) (mid'.flatMap (reach H' h)))
    (hP2 : (rd H' p).leaf = false) (hP3 : (rd H' p).kids = kl ++ mid' ++ kr)
    (hP4 : (rd H' p).kids.length = (rd H' p).elts.length + 1) :
    Upd c H H' (h + 1) p
      (.node (rd H' p).elts (kl.map (absN H h) ++ mid'.map (absN H' h) ++ kr.map (absN H h))) := by
  obtain ⟨hreach0, hc⟩ := reach_split g.nodup hk
  have hmem : ∀ k, k ∈ kl ∨ k ∈ kr → k ∈ (rd H p).kids := fun k hk' => by
    rw [hk]; simp only [List.mem_append]; rcases hk' with h | h <;> simp [h]
  -- the siblings outside the section: their cells are neither `p` nor below the section
  have hside : ∀ k, k ∈ kl ∨ k ∈ kr → Kept H H' h k := by
    intro k hk'
    have htk := HT_kid g.ht (hmem k hk')
    refine frame hsize h k htk fun x hx => ?_
    have h1 : 1 ≤ List.count x (kl.flatMap (reach H h)) + List.count x (kr.flatMap (reach H h)) := by
      rcases hk' with hk' | hk'
      · have := count_pos_of_mem (List.mem_flatMap.mpr ⟨k, hk', hx⟩); omega
      · have := count_pos_of_mem (List.mem_flatMap.mpr ⟨k, hk', hx⟩); omega
    have h2 := hc x
    refine same x (reach_lt htk x hx) (fun e => ?_) (Or.inl ?_)
    · rw [if_pos e.symm] at h2; omega
    · rw [← List.count_eq_zero]; omega
  obtain ⟨el, fl⟩ := frame_kids (ks := kl) fun k hk' => hside k (Or.inl hk')
  obtain ⟨er, fr⟩ := frame_kids (ks := kr) fun k hk' => hside k (Or.inr hk')
  have hreach' : reach H' (h + 1) p =
      p :: (kl.flatMap (reach H h) ++ mid'.flatMap (reach H' h) ++ kr.flatMap (reach H h)) := by
    rw [reach_succ, hP3, List.flatMap_append, List.flatMap_append, fl, fr]
  refine (RUpd.of_grown g.ht g.nodup hsize (fun x hx hcond => ?_) creator fresh ?_ (fun x => ?_) ?_).toUpd
  · by_cases hxp : x = p
    · subst hxp
      exact absurd g.own (hcond.resolve_left fun hn => hn (self_mem_reach H (h + 1) x))
    · refine same x hx hxp (hcond.imp_left fun hn hm => hn ?_)
      rw [hreach0]
      simp only [List.mem_cons, List.mem_append]
      exact Or.inr (Or.inl (Or.inr hm))
  · refine ⟨by have := HT_lt g.ht; omega, hP2, hP4, ?_⟩
    rw [hP3]
    intro k hk'
    simp only [List.mem_append] at hk'
    rcases hk' with (hk' | hk') | hk'
    · exact (hside k (Or.inl hk')).ht
    · exact hmid k hk'
    · exact (hside k (Or.inr hk')).ht
  · rw [hreach', hreach0]
    have := hcount x
    simp only [List.count_cons, List.count_append]
    omega
  · rw [absN_succ, hP3, List.map_append, List.map_append, el, er]

theorem upd_mid {c : Nat} {H H' : Heap} {h p : Nat} {kl mid mid' kr W : List Nat}
    {n : Node} (g : Own c H (h + 1) p n) (hk : (rd H p).kids = kl ++ mid ++ kr) (so : SameOff W H H')
    (hW : ∀ x ∈ W, (x = p ∨ x ∈ mid) ∧ (rd H x).creator = c ∧ (rd H' x).creator = c)
    (hfresh : ∀ x, H.size ≤ x → x < H'.size → (rd H' x).creator = c)
    (hmid' : Grown H.size mid mid')
    (hlt : ∀ m ∈ mid', m < H'.size) (hleaf : ∀ m ∈ mid', (rd H' m).leaf = decide (h = 0))
    (hlen : h ≠ 0 → ∀ m ∈ mid', (rd H' m).kids.length = (rd H' m).elts.length + 1)
    (hcat : h ≠ 0 → (mid'.flatMap fun m => (rd H' m).kids) = mid.flatMap fun m => (rd H m).kids)
    (hP2 : (rd H' p).leaf = false) (hP3 : (rd H' p).kids = kl ++ mid' ++ kr)
    (hP4 : (rd H' p).kids.length = (rd H' p).elts.length + 1) :
    Upd c H H' (h + 1) p
      (.node (rd H' p).elts (kl.map (absN H h) ++ mid'.map (fun m => cabs H h (rd H' m)) ++ kr.map (absN H h))) := by
  obtain ⟨_, hc⟩ := reach_split g.nodup hk
  have hself : ∀ x ∈ mid, x ∈ mid.flatMap (reach H h) := fun x hx =>
    List.mem_flatMap.mpr ⟨x, hx, self_mem_reach H h x⟩
  obtain ⟨fa, fc⟩ := forest_frame (mid' := mid') so
    (fun m hm => HT_kid g.ht (by rw [hk]; simp [hm]))
    (List.nodup_iff_count.mpr fun x => by have := hc x; omega)
    (fun x hx => by
      rcases (hW x hx).1 with rfl | hx
      · right
        rw [← List.count_eq_zero]
        have := hc x; rw [if_pos rfl] at this; omega
      · exact Or.inl hx)
    hlt hleaf hlen hcat
  have u := upd_section g hk so.size
    (fun x hx hxp hcond => so.same x hx fun hxW => by
      rcases (hW x hxW).1 with rfl | hxm
      · exact hxp rfl
      · exact hcond.elim (fun hn => hn (hself x hxm)) (fun hn => hn (hW x hxW).2.1))
    (fun x hx => by
      by_cases hxW : x ∈ W
      · rw [(hW x hxW).2.2, (hW x hxW).2.1]
      · rw [so.same x hx hxW])
    hfresh (fun m hm => (fa m hm).1) (fun x => by have := fc x; have := hmid' x; omega) hP2 hP3 hP4
  exact u.congr_abs (congrArg (fun l => Node.node _ (_ ++ l ++ _)) (List.map_congr_left fun m hm => (fa m hm).2))

/-! ## reading an owned node -/

theorem Own.refl {c : Nat} {H : Heap} {h a : Nat} {n : Node} (o : Own c H h a n) : Upd c H H h a n :=
  (Upd.refl o.ht o.nodup).congr_abs o.abs

theorem Own.elts {c : Nat} {H : Heap} {h a : Nat} {n : Node} (o : Own c H h a n) : (rd H a).elts = n.elts := by
  rw [← o.abs, absN_elts]

theorem Own.kids {c : Nat} {H : Heap} {h p : Nat} {es : List Elt} {cs : List Node}
    (o : Own c H (h + 1) p (.node es cs)) : (rd H p).kids.map (absN H h) = cs :=
  (Node.node.inj ((absN_succ H h p).symm.trans o.abs)).2

theorem Own.len {c : Nat} {H : Heap} {h p : Nat} {es : List Elt} {cs : List Node}
    (o : Own c H (h + 1) p (.node es cs)) : (rd H p).kids.length = cs.length ∧ cs.length = es.length + 1 := by
  have h1 := congrArg List.length o.kids
  have h2 := o.ht.2.2.1
  rw [o.elts, List.length_map] at *
  exact ⟨h1, h1 ▸ h2⟩

/-- the heap computation `hop`, run from `H` by the tree with token `c` on the subtree of height `h` at `a`, returns
what the persistent computation `op` returns and leaves the subtree representing the node that `op` returns -/
def Sim (c : Nat) (H : Heap) (h a : Nat) {ρ : Type} (hop : Heap × ρ) (op : Node × ρ) : Prop :=
  ∃ H' n' r, hop = (H', r) ∧ op = (n', r) ∧ Upd c H H' h a n'

theorem Sim.intro {c : Nat} {H H' : Heap} {h a : Nat} {ρ : Type} {r : ρ} {n' : Node} (u : Upd c H H' h a n') :
    Sim c H h a (H', r) (n', r) :=
  ⟨_, _, _, rfl, rfl, u⟩

theorem Own.kid {c : Nat} {H : Heap} {h p i : Nat} {es : List Elt} {cs : List Node}
    (o : Own c H (h + 1) p (.node es cs)) (hi : i < cs.length) :
    ∃ kl k kr, (rd H p).kids = kl ++ k :: kr ∧ kl.length = i ∧ kidA (rd H p).kids i = k ∧
      absN H h k = kidAt cs i := by
  obtain ⟨kl, k, kr, hk, hkl⟩ := split_at_lt (rd H p).kids i (o.len.1 ▸ hi)
  refine ⟨kl, k, kr, hk, hkl, by rw [hk]; exact kidA_at hkl, ?_⟩
  rw [← o.kids, hk, List.map_append, List.map_cons]
  exact (kidAt_at (by simpa using hkl)).symm

theorem Own.kid_ht {c : Nat} {H : Heap} {h p i : Nat} {es : List Elt} {cs : List Node}
    (o : Own c H (h + 1) p (.node es cs)) (hi : i < cs.length) : HT H h (kidA (rd H p).kids i) := by
  obtain ⟨_, _, _, hk, _, hkid, _⟩ := o.kid hi
  rw [hkid]
  exact HT_kid o.ht (by rw [hk]; simp)

theorem Own.kid_elts {c : Nat} {H : Heap} {h p i : Nat} {es : List Elt} {cs : List Node}
    (o : Own c H (h + 1) p (.node es cs)) (hi : i < cs.length) :
    (rd H (kidA (rd H p).kids i)).elts = (kidAt cs i).elts := by
  obtain ⟨_, _, _, _, _, rfl, habs⟩ := o.kid hi
  rw [← habs, absN_elts]

theorem Own.kid_own {c : Nat} {H : Heap} {h p i k : Nat} {es : List Elt} {cs : List Node}
    (o : Own c H (h + 1) p (.node es cs)) (hi : i < cs.length) (hk : kidA (rd H p).kids i = k)
    (hown : (rd H k).creator = c) : Own c H h k (kidAt cs i) := by
  obtain ⟨kl, k', kr, hkk, _, hkid, habs⟩ := o.kid hi
  obtain rfl : k' = k := hkid.symm.trans hk
  exact ⟨HT_kid o.ht (by rw [hkk]; simp), nodup_kid o.nodup hkk, hown, habs⟩

/-! ## the steps on an owned node, at the model's index -/

/-- `parent.maybe_cow_child(i)`: the abstraction is unchanged, the child at `i` is now owned -/
theorem cowChild_own {c : Nat} {H : Heap} {h p i : Nat} {es : List Elt} {cs : List Node}
    (o : Own c H (h + 1) p (.node es cs)) (hi : i < cs.length) :
    ∃ H1 k1, cowChild H p i = (H1, k1) ∧ Upd c H H1 (h + 1) p (.node es cs) ∧ kidA (rd H1 p).kids i = k1 ∧
      Own c H1 h k1 (kidAt cs i) ∧ (rd H1 p).kids = setAt (rd H p).kids i k1 := by
  obtain ⟨kl, k, kr, hk, rfl, hkid, _⟩ := o.kid hi
  have htk := HT_kid o.ht (show k ∈ (rd H p).kids by rw [hk]; simp)
  have hplt := HT_lt o.ht
  by_cases hown : (rd H k).creator = c
  · -- already owned: nothing happens
    exact ⟨H, k, by simp [cowChild, hkid, o.own, cow, hown], o.refl, hkid, o.kid_own hi hkid hown,
      by rw [hk, setAt_at rfl]⟩
  · -- copy the child into a fresh cell and store the copy in the parent
    generalize hHa : (alloc H { rd H k with creator := c }).1 = Ha
    have hrdp : rd Ha p = rd H p := by rw [← hHa]; exact rd_alloc_old _ hplt
    generalize hH1 : wr Ha p { creator := c, leaf := (rd H p).leaf, elts := (rd H p).elts,
                               kids := kl ++ H.size :: kr } = H1
    have hcw : cowChild H p kl.length = (H1, H.size) := by
      have hne : H.size ≠ k := by have := HT_lt htk; omega
      simp only [cowChild, hkid, o.own, cow, hown, if_false, alloc_snd, hne, hHa, hrdp]
      rw [hk, setAt_at rfl, hH1]
    have hsz : H1.size = H.size + 1 := by rw [← hH1, ← hHa]; simp
    have so : SameOff [p] H H1 := by rw [← hH1, ← hHa]; exact (SameOff.alloc (SameOff.refl H) _).wr p _
    have hrd1p : rd H1 p = { creator := c, leaf := (rd H p).leaf, elts := (rd H p).elts,
                             kids := kl ++ H.size :: kr } := by
      rw [← hH1]; exact rd_wr_same _ (by rw [← hHa]; simp; omega)
    have hrd1n : rd H1 H.size = { rd H k with creator := c } := by
      rw [← hH1, rd_wr_other _ (show p ≠ H.size by omega), ← hHa]; exact rd_alloc_new _ _
    have u0 := upd_mid (mid := [k]) (mid' := [H.size]) o (by simpa using hk) so (by simp [hrd1p, o.own])
      (fun x h1 h2 => by rw [show x = H.size by omega, hrd1n])
      (fun x => Nat.le_trans (Grown.fresh (Nat.le_refl H.size) [] x) (by simp))
      (by simp [hsz]) (by simpa [hrd1n] using HT_leaf htk)
      (fun h0 => by simpa [hrd1n] using HT_len htk h0)
      (fun _ => by simp [hrd1n]) (by rw [hrd1p]; exact o.ht.2.1)
      (by rw [hrd1p]; simp) (by rw [hrd1p]; have := o.ht.2.2.1; rw [hk] at this; simpa using this)
    have hcell : cabs H h (rd H1 H.size) = absN H h k := by
      rw [absN_eq_cabs, hrd1n]; exact cabs_congr H h rfl rfl
    have u : Upd c H H1 (h + 1) p (.node es cs) := by
      refine u0.congr_abs ?_
      rw [← o.abs, hrd1p, absN_succ, hk]
      simp [hcell]
    have hk1 : (rd H1 p).kids = kl ++ H.size :: kr := by rw [hrd1p]
    have hkid1 : kidA (rd H1 p).kids kl.length = H.size := by rw [hk1]; exact kidA_at rfl
    exact ⟨H1, H.size, hcw, u, hkid1, (o.upd u).kid_own hi hkid1 (by rw [hrd1n]), by rw [hk1, hk, setAt_at rfl]⟩

theorem upd_kid {c : Nat} {H H2 : Heap} {h p i : Nat} {es : List Elt} {cs : List Node} {n' : Node}
    (o : Own c H (h + 1) p (.node es cs)) (hi : i < cs.length) (u : Upd c H H2 h (kidA (rd H p).kids i) n') :
    Upd c H H2 (h + 1) p (.node es (setAt cs i n')) := by
  obtain ⟨kl, k, kr, hk, hkl, hkid, _⟩ := o.kid hi
  rw [hkid] at u
  have hrdp : rd H2 p = rd H p :=
    u.same p (HT_lt o.ht) (Or.inl (self_notin_kid o.nodup (by rw [hk]; simp)))
  have := upd_section (mid := [k]) (mid' := [k]) o (by simpa using hk) u.size
    (fun x hx _ hcond => u.same x hx (by simpa using hcond)) u.creator u.fresh (by simpa using u.ht)
    (fun x => by simpa using u.toRUpd.grown x) (by rw [hrdp]; exact o.ht.2.1) (by rw [hrdp]; simpa using hk)
    (by rw [hrdp]; exact o.ht.2.2.1)
  refine this.congr_abs ?_
  rw [hrdp, o.elts, ← o.kids, hk, List.map_append, List.map_cons, setAt_at (by simpa using hkl)]
  simp [u.abs, Node.elts]

theorem upd_elts {c : Nat} {H : Heap} {h a : Nat} {n : Node} (g : Own c H h a n) (es : List Elt)
    (hlen : h ≠ 0 → es.length = (rd H a).elts.length) :
    Upd c H (wr H a { rd H a with elts := es }) h a (cabs H h { rd H a with elts := es }) := by
  have halt := HT_lt g.ht
  generalize hH' : wr H a { rd H a with elts := es } = H'
  have so : SameOff [a] H H' := by rw [← hH']; exact (SameOff.refl H).wr a _
  have hrda : rd H' a = { rd H a with elts := es } := by rw [← hH']; exact rd_wr_same _ halt
  have hsz : H'.size = H.size := by rw [← hH']; simp
  obtain ⟨fa, fc⟩ := forest_frame (mid := [a]) (mid' := [a]) so (by simpa using g.ht) (by simpa using g.nodup)
    (by simp) (by simpa [hsz] using halt) (by simpa [hrda] using HT_leaf g.ht)
    (fun h0 => by simpa [hrda, hlen h0] using HT_len g.ht h0)
    (fun _ => by simp [hrda])
  simp only [List.flatMap_cons, List.flatMap_nil, List.append_nil, List.mem_singleton, forall_eq] at fa fc
  refine (RUpd.of_writes (W := [a]) g.ht g.nodup so (by simpa [hrda] using ⟨self_mem_reach H h a, g.own⟩)
    (fun x h1 h2 => by omega) fa.1 (fun x => by have := fc x; omega) ?_).toUpd
  rw [fa.2, hrda]

theorem upd_elts_leaf {c : Nat} {H : Heap} {a : Nat} {es : List Elt} (o : Own c H 0 a (.leaf es)) (es' : List Elt) :
    Upd c H (wr H a { rd H a with elts := es' }) 0 a (.leaf es') :=
  upd_elts o es' fun h0 => absurd rfl h0

theorem upd_elts_node {c : Nat} {H : Heap} {h a : Nat} {es es' : List Elt} {cs : List Node}
    (o : Own c H (h + 1) a (.node es cs)) (hlen : es'.length = es.length) :
    Upd c H (wr H a { rd H a with elts := es' }) (h + 1) a (.node es' cs) :=
  (upd_elts o es' fun _ => by rw [hlen, o.elts]; rfl).congr_abs (by rw [cabs_node, o.kids])

theorem Own.of_rupd {c : Nat} {H H' : Heap} {h r h' r' : Nat} {n' : Node} (u : RUpd c H H' h r h' r' n')
    (hown : (rd H' r').creator = c) : Own c H' h' r' n' :=
  ⟨u.ht, u.nodup, hown, u.abs⟩

/-- `root.maybe_cow(creator)` -/
theorem cow_root_own {c : Nat} {H : Heap} {h root : Nat} (ht : HT H h root) (nd : (reach H h root).Nodup) :
    ∃ H1 r1, cow H c root = (H1, r1) ∧ RUpd c H H1 h root h r1 (absN H h root) ∧ Own c H1 h r1 (absN H h root) := by
  unfold cow
  by_cases hown : (rd H root).creator = c
  · exact ⟨H, root, if_pos hown, (Upd.refl ht nd).toRUpd, ht, nd, hown, rfl⟩
  · rw [if_neg hown]
    generalize hH1 : (alloc H { rd H root with creator := c }).1 = H1
    have so : SameOff [] H H1 := by rw [← hH1]; exact (SameOff.refl H).alloc _
    have hnew : rd H1 H.size = { rd H root with creator := c } := by rw [← hH1]; exact rd_alloc_new _ _
    have hsz : H1.size = H.size + 1 := by rw [← hH1]; simp
    obtain ⟨fa, fc⟩ := forest_frame (mid := [root]) (mid' := [H.size]) so (by simpa using ht) (by simpa using nd)
      (by simp) (by simp [hsz]) (by simpa [hnew] using HT_leaf ht)
      (fun h0 => by simpa [hnew] using HT_len ht h0)
      (fun _ => by simp [hnew])
    simp only [List.flatMap_cons, List.flatMap_nil, List.append_nil, List.mem_singleton, forall_eq] at fa fc
    have u : RUpd c H H1 h root h H.size (absN H h root) :=
      RUpd.of_writes (W := []) ht nd so (by simp) (fun x h1 h2 => by rw [show x = H.size by omega, hnew]) fa.1
        (fun x => by
          have := fc x
          have := Grown.fresh (Nat.le_refl H.size) [] x
          simp only [List.nil_append, List.count_nil] at this
          omega)
        (by rw [fa.2, hnew, absN_eq_cabs]; exact cabs_congr H h rfl rfl)
    exact ⟨H1, H.size, by rw [← hH1]; rfl, u, Own.of_rupd u (by rw [hnew])⟩

end Model.BTreeCow
