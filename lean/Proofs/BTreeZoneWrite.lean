import Proofs.BTreeZoneStore
import Proofs.BTreeZoneNode
/-!
The writes of the C20 model.  An operation of the transaction layer validates its owner name and then does at most
one of three writes at the validated key (`Write`; `stepOp_eq` in `BTreeZoneHist`), so what is proved of operations
is proved of writes.  `update_glue_flag` on a sorted store is a map over the nodes strictly below the name
(`updateGlue_eq`: the cursor walk "elements after `name` while they are subdomains of it" visits exactly the proper
subdomains, because subtrees are convex in canonical order).  Each write is the copy-on-write step followed by `settle`:
store the node, and when the code takes the delegation status of the name to have changed, enter it in or drop it
from the index and walk the subtree (`put_eq_settle`, `del_eq_settle`; `Write.run` is written in that form).  So every
write keeps the node store and the delegation index strictly sorted in canonical order with lower-case keys — for
every variant, with no guard (`Write.run_VerWF`).
-/
namespace Model
namespace BTZ

/-- what every write does once the node at `name` is made: when the delegation status of `name` changes from
`d0` to `d1`, enter it in or drop it from the index and walk the subtree; then store the node (`none`: remove it) -/
def settle (v : Variant) (ver1 : Ver) (name : Name) (d0 d1 : Bool) (r : Option Node) : Ver :=
  if d0 = d1 then { ver1 with nodes := nset ver1.nodes name r }
  else
    { updateGlue v { ver1 with delegs := bif d1 then dins ver1.delegs name else ddel ver1.delegs name } name d1 with
      nodes := nset (updateGlue v
        { ver1 with delegs := bif d1 then dins ver1.delegs name else ddel ver1.delegs name } name d1).nodes name r }

/-! Each write is the copy-on-write step followed by `settle`, for the status before and after that the code reads
off the node the copy-on-write step returned (`nd`) and the index.  No hypothesis: whether the code reads the status
right is another matter (`BTreeZoneOps`). -/

/-- what `put_rdataset` takes the delegation status of the name to be, before and after: an NS rdataset put at a name
that is neither the apex nor glue makes it a delegation point, and the index says whether it was one; otherwise the
flag of the node says what it was, and it stays that unless the NS rdataset was displaced (the CNAME repair) -/
def putStatus (v : Variant) (D : List Name) (name : Name) (nd : Node) (k : RdKey) : Bool × Bool :=
  if isNS k && !(nd.flags.origin || nd.flags.glue) then (dmem D name, true)
  else (nd.flags.deleg, nd.flags.deleg && !(v.fixCname && !hasNS (replaceRds nd.rds k)))

theorem put_eq_settle (v : Variant) (ver1 : Ver) (nd : Node) (name : Name) (k : RdKey) :
    putFinish v (putNS v ver1 nd name k).1 (putNS v ver1 nd name k).2 name k =
      settle v ver1 name (putStatus v ver1.delegs name nd k).1 (putStatus v ver1.delegs name nd k).2
        (some ⟨replaceRds nd.rds k, { nd.flags with deleg := (putStatus v ver1.delegs name nd k).2 }⟩) := by
  obtain ⟨rds, o, d, g⟩ := nd
  simp only [putNS, putStatus]
  cases hA : isNS k && !(o || g)
  · cases d <;> cases hB : v.fixCname && !hasNS (replaceRds rds k) <;> simp [putFinish, settle, nset, hB]
  · -- the branch that sets DELEGATION: the un-delegation test of `putFinish` fails, the node owns NS now
    have hns : isNS k = true := by simp at hA; exact hA.1
    cases hm : dmem ver1.delegs name <;> simp [putFinish, settle, nset, hasNS_replace_self _ hns]

/-- what `delete_rdataset` takes the delegation status of the name to be, before and after: deleting the NS rdataset
of an indexed name ends its being a delegation point; otherwise the flag of the node says what it is, and it stays that -/
def delStatus (D : List Name) (name : Name) (nd : Node) (k : RdKey) : Bool × Bool :=
  if isNS k && dmem D name then (true, false) else (nd.flags.deleg, nd.flags.deleg)

/-- what `delete_rdataset` leaves at the name: the node without the rdataset, or nothing when that was the last -/
def delKept (nd : Node) (k : RdKey) : Option Node :=
  if (nd.rds.erase k).isEmpty then none else some { nd with rds := nd.rds.erase k }

theorem delFinish_eq (ver2 : Ver) (node1 : Node) (name : Name) (k : RdKey) :
    delFinish ver2 node1 name k = { ver2 with nodes := nset ver2.nodes name (delKept node1 k) } := by
  unfold delFinish deleteRds delKept; split <;> rfl

theorem delKept_ns (nd : Node) (k : RdKey) : ((delKept nd k).any fun x => hasNS x.rds) = hasNS (nd.rds.erase k) := by
  unfold delKept; split
  · rename_i h; rw [List.isEmpty_iff.mp h]; rfl
  · rfl

theorem delKept_some {nd nd' : Node} {k : RdKey} (h : delKept nd k = some nd') : nd' = { nd with rds := nd.rds.erase k } := by
  unfold delKept at h; split at h
  · cases h
  · exact (Option.some.inj h).symm

theorem del_eq_settle (v : Variant) (ver1 : Ver) (nd : Node) (name : Name) (k : RdKey) :
    delFinish (delNS v ver1 nd name k).1 (delNS v ver1 nd name k).2 name k =
      settle v ver1 name (delStatus ver1.delegs name nd k).1 (delStatus ver1.delegs name nd k).2
        (delKept ⟨nd.rds, { nd.flags with deleg := (delStatus ver1.delegs name nd k).2 }⟩ k) := by
  obtain ⟨rds, o, d, g⟩ := nd
  rw [delFinish_eq, delNS, delStatus]
  cases isNS k && dmem ver1.delegs name <;> cases d <;> rfl

/-- the writes of the model, at an owner name that is already validated -/
inductive Write where
  | put (k : RdKey)
  | delRds (k : RdKey)
  | delNode

/-- what `putRdataset`, `deleteRdataset`, `deleteNode` do once the name is validated (`putRdataset_eq`,
`deleteRdataset_eq`, `deleteNode_eq`); `delete_node` copies nothing and takes the status from the flag of the stored node -/
def Write.run (v : Variant) (cfg : Cfg) (ver : Ver) (name : Name) : Write → Ver
  | .put k =>
    let c := maybeCow v cfg ver name
    let s := putStatus v c.1.delegs name c.2 k
    settle v c.1 name s.1 s.2 (some ⟨replaceRds c.2.rds k, { c.2.flags with deleg := s.2 }⟩)
  | .delRds k =>
    let c := maybeCow v cfg ver name
    let s := delStatus c.1.delegs name c.2 k
    settle v c.1 name s.1 s.2 (delKept ⟨c.2.rds, { c.2.flags with deleg := s.2 }⟩ k)
  | .delNode =>
    match nget ver.nodes name with
    | none => ver
    | some node =>
      { settle v ver name node.flags.deleg false none with
        changed := cadd (settle v ver name node.flags.deleg false none).changed name }

def Write.guard (v : Variant) (cfg : Cfg) (ver : Ver) (name : Name) : Write → Bool
  | .put k => putGuard v cfg ver name k
  | .delRds k => delRdsGuard v ver name k
  | .delNode => delNodeGuard v ver name

def Write.Wf : Write → Prop
  | .put k => KeyWf k
  | .delRds k => KeyWf k
  | .delNode => True

theorem putRdataset_eq (v : Variant) (cfg : Cfg) (ver : Ver) (n : Name) (k : RdKey) :
    putRdataset v cfg ver n k = (vname cfg n).map fun name => (Write.put k).run v cfg ver name := by
  unfold putRdataset
  cases vname cfg n with
  | error e => rfl
  | ok name => exact congrArg Except.ok (put_eq_settle ..)

theorem deleteRdataset_eq (v : Variant) (cfg : Cfg) (ver : Ver) (n : Name) (k : RdKey) :
    deleteRdataset v cfg ver n k = (vname cfg n).map fun name => (Write.delRds k).run v cfg ver name := by
  unfold deleteRdataset
  cases vname cfg n with
  | error e => rfl
  | ok name => exact congrArg Except.ok (del_eq_settle ..)

theorem deleteNode_eq (v : Variant) (cfg : Cfg) (ver : Ver) (n : Name) :
    deleteNode v cfg ver n = (vname cfg n).map fun name => Write.delNode.run v cfg ver name := by
  unfold deleteNode
  cases vname cfg n with
  | error e => rfl
  | ok name =>
    simp only [Except.map, Write.run]
    cases nget ver.nodes name with
    | none => rfl
    | some node => cases hd : node.flags.deleg <;> simp [settle, nset, hd]

structure VerWF (ver : Ver) : Prop where
  nodes : NWF ver.nodes
  delegs : DWF ver.delegs

theorem glueStep_fst (c : List Name) (b : Bool) (e : Name × Node) : (glueStep c b e).1 = e.1 := rfl

theorem glueStepFixed_fst (s : Nodes) (b : Bool) (e : Name × Node) : (glueStepFixed s b e).1 = e.1 := by
  unfold glueStepFixed; split <;> rfl

/-- the walk of `update_glue_flag` -/
theorem walk_segments {N : Nodes} (h : NWF N) {name : Name} (hn : LC name) :
    let rest := N.dropWhile (fun e => decide (cmpOrder e.1 name ≤ 0))
    rest.takeWhile (fun e => isSubdomain e.1 name) = N.filter (fun e => properSub e.1 name) ∧
    (∀ e ∈ N.takeWhile (fun e => decide (cmpOrder e.1 name ≤ 0)), properSub e.1 name = false) ∧
    (∀ e ∈ rest.dropWhile (fun e => isSubdomain e.1 name), properSub e.1 name = false) := by
  intro rest
  have hle := takeWhile_le Prod.fst h.1 name
  have hrest : rest = N.filter (fun e => !decide (cmpOrder e.1 name ≤ 0)) := hle.2
  -- after `name`, "subdomain of `name`" is downward closed, because subtrees are convex ...
  have hsub := takeWhile_eq_filter (l := rest) (p := fun e : Name × Node => isSubdomain e.1 name)
    (by rw [hrest]; exact List.Pairwise.filter _ h.1) (by
      intro a ha b _ hab hpb
      rw [hrest] at ha
      have hna : ¬ cmpOrder a.1 name ≤ 0 := by simpa using (List.mem_filter.mp ha).2
      exact NameOrder.isSubdomain_convex hpb (Int.le_of_lt (cmpOrder_gt_iff.mp (by omega))) (Int.le_of_lt hab))
  -- ... and means "proper subdomain of `name`"
  have hps : ∀ e ∈ N, (properSub e.1 name = true ↔ (¬ cmpOrder e.1 name ≤ 0) ∧ isSubdomain e.1 name = true) := by
    intro e he
    constructor
    · intro hp
      refine ⟨fun hle' => ?_, properSub_sub hp⟩
      have := NameOrder.cmpOrder_lt_of_lt_of_le (properSub_lt hp) hle'
      simp [NameOrder.cmpOrder_self] at this
    · rintro ⟨h1, h2⟩
      exact (properSub_iff_sub_ne (h.2 e he) hn).mpr
        ⟨h2, fun e' => h1 (by rw [e', NameOrder.cmpOrder_self]; exact Int.le_refl 0)⟩
  refine ⟨?_, ?_, ?_⟩
  · rw [hsub.1, hrest, List.filter_filter]
    apply List.filter_congr
    intro e he
    rw [Bool.eq_iff_iff, hps e he]
    simp [and_comm]
  · intro e he
    rw [hle.1] at he
    obtain ⟨hm, hp⟩ := List.mem_filter.mp he
    exact Bool.eq_false_iff.mpr fun hh => ((hps e hm).mp hh).1 (by simpa using hp)
  · intro e he
    rw [hsub.2, hrest] at he
    obtain ⟨he', hp⟩ := List.mem_filter.mp he
    refine Bool.eq_false_iff.mpr fun hh => ?_
    rw [((hps e (List.mem_filter.mp he').1).mp hh).2] at hp
    cases hp

theorem walk_map {N : Nodes} (h : NWF N) {name : Name} (hn : LC name) (step : Name × Node → Name × Node)
    (hstep : ∀ e, (step e).1 = e.1) :
    N.takeWhile (fun e => decide (cmpOrder e.1 name ≤ 0)) ++
      ((N.dropWhile (fun e => decide (cmpOrder e.1 name ≤ 0))).takeWhile (fun e => isSubdomain e.1 name)).map step ++
      (N.dropWhile (fun e => decide (cmpOrder e.1 name ≤ 0))).dropWhile (fun e => isSubdomain e.1 name)
    = N.map (fun e => (e.1, if properSub e.1 name then (step e).2 else e.2)) := by
  obtain ⟨hseg, h1, h3⟩ := walk_segments h hn
  have hN : N = N.takeWhile (fun e => decide (cmpOrder e.1 name ≤ 0)) ++
      ((N.dropWhile (fun e => decide (cmpOrder e.1 name ≤ 0))).takeWhile (fun e => isSubdomain e.1 name)) ++
      (N.dropWhile (fun e => decide (cmpOrder e.1 name ≤ 0))).dropWhile (fun e => isSubdomain e.1 name) := by
    rw [List.append_assoc, List.takeWhile_append_dropWhile, List.takeWhile_append_dropWhile]
  -- the map is the identity off the subtree
  have hid : ∀ l : Nodes, (∀ e ∈ l, properSub e.1 name = false) →
      l.map (fun e => (e.1, if properSub e.1 name then (step e).2 else e.2)) = l := by
    intro l hl
    refine (List.map_congr_left fun e he => ?_).trans (List.map_id _)
    simp [hl e he]
  conv => rhs; rw [hN]
  rw [List.map_append, List.map_append, hid _ h1, hid _ h3]
  congr 2
  apply List.map_congr_left
  intro e he
  rw [hseg] at he
  simp only [(List.mem_filter.mp he).2, if_true]
  exact Prod.ext (hstep e) rfl

/-- the nodes strictly below `name`: the subtree that `update_glue_flag` walks -/
def below (N : Nodes) (name : Name) : Nodes := N.filter (fun e => properSub e.1 name)

/-- `update_glue_flag` on a sorted store: a map over the nodes strictly below `name`; the repaired variant
also re-derives the index there -/
theorem updateGlue_eq (v : Variant) {ver : Ver} (hN : NWF ver.nodes) {name : Name} (hn : LC name) (b : Bool) :
    updateGlue v ver name b =
      if v.fixNested then
        { nodes := ver.nodes.map fun e =>
            (e.1, if properSub e.1 name then (glueStepFixed (below ver.nodes name) b e).2 else e.2),
          delegs :=
            if b then ver.delegs.filter (fun d => !properSub d name)
            else (((below ver.nodes name).map (glueStepFixed (below ver.nodes name) b)).filter
              (fun e => e.2.flags.deleg)).foldl (fun d e => dins d e.1) ver.delegs,
          changed := (below ver.nodes name).foldl (fun c e => cadd c e.1) ver.changed }
      else
        { ver with
          nodes := ver.nodes.map fun e => (e.1, if properSub e.1 name then (glueStep ver.changed b e).2 else e.2),
          changed := (below ver.nodes name).foldl (fun c e => cadd c e.1) ver.changed } := by
  obtain ⟨hseg, _, _⟩ := walk_segments hN hn
  have hfix := walk_map hN hn
    (glueStepFixed ((ver.nodes.dropWhile (fun e => decide (cmpOrder e.1 name ≤ 0))).takeWhile
      (fun e => isSubdomain e.1 name)) b) (glueStepFixed_fst _ _)
  have hship := walk_map hN hn (glueStep ver.changed b) (glueStep_fst _ _)
  unfold updateGlue below
  simp only
  rw [hfix, hship, hseg]

theorem updateGlue_VerWF {v : Variant} {ver : Ver} {name : Name} {b : Bool} (h : VerWF ver) (hk : LC name) :
    VerWF (updateGlue v ver name b) := by
  rw [updateGlue_eq v h.nodes hk b]
  split
  · refine ⟨NWF_map _ h.nodes, ?_⟩
    split
    · exact DWF_sublist List.filter_sublist h.delegs
    · refine (foldl_dins h.delegs fun e he => ?_).1
      obtain ⟨e0, he0, rfl⟩ := List.mem_map.mp (List.mem_filter.mp he).1
      rw [glueStepFixed_fst]
      exact h.nodes.2 e0 (List.mem_filter.mp he0).1
  · exact ⟨NWF_map _ h.nodes, h.delegs⟩

theorem settle_VerWF {v : Variant} {ver1 : Ver} {name : Name} {d0 d1 : Bool} {r : Option Node} (h : VerWF ver1)
    (hn : LC name) : VerWF (settle v ver1 name d0 d1 r) := by
  unfold settle
  split
  · exact ⟨NWF_nset h.nodes hn, h.delegs⟩
  · have h3 := updateGlue_VerWF (v := v) (b := d1)
      (ver := { ver1 with delegs := bif d1 then dins ver1.delegs name else ddel ver1.delegs name })
      ⟨h.nodes, by cases d1; exact DWF_ddel h.delegs; exact DWF_dins h.delegs hn⟩ hn
    exact ⟨NWF_nset h3.nodes hn, h3.delegs⟩

theorem maybeCow_VerWF {v : Variant} {cfg : Cfg} {ver : Ver} {name : Name} (h : VerWF ver) (hk : LC name) :
    VerWF (maybeCow v cfg ver name).1 := by
  unfold maybeCow
  exact ⟨NWF_nins h.nodes hk, h.delegs⟩

theorem Write.run_VerWF {v : Variant} {cfg : Cfg} {ver : Ver} {name : Name} (w : Write) (h : VerWF ver)
    (hk : LC name) : VerWF (w.run v cfg ver name) := by
  cases w with
  | put k => exact settle_VerWF (maybeCow_VerWF h hk) hk
  | delRds k => exact settle_VerWF (maybeCow_VerWF h hk) hk
  | delNode =>
    simp only [Write.run]
    split
    · exact h
    · exact ⟨(settle_VerWF h hk).nodes, (settle_VerWF h hk).delegs⟩

end BTZ
end Model
