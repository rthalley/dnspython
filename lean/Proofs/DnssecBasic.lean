import Model.Dnssec
import Proofs.NameOrder
/-! C15, the small computations: absolute names on the wire, `sorted` as insertion sort, the RFC 4034 §6.3 octet
order, the key tag loop. -/
namespace Model
namespace Dnssec

instance instDecEqExcept {ε α} [DecidableEq ε] [DecidableEq α] : DecidableEq (Except ε α) := fun a b =>
  match a, b with
  | .ok x, .ok y => if h : x = y then isTrue (by rw [h]) else isFalse (by intro e; cases e; exact h rfl)
  | .error x, .error y => if h : x = y then isTrue (by rw [h]) else isFalse (by intro e; cases e; exact h rfl)
  | .ok _, .error _ => isFalse (by intro e; cases e)
  | .error _, .ok _ => isFalse (by intro e; cases e)

theorem nameWireNoFile_abs (n : Name) (origin : Option Name) (canon : Bool) (h : isAbs n = true) :
    nameWireNoFile n origin canon = .ok (toWire (if canon then lowerName n else n)) := by
  simp [nameWireNoFile, h]

theorem nameWireFile_abs (n : Name) (origin : Option Name) (canon : Bool) (h : isAbs n = true) :
    nameWireFile n origin canon = .ok (toWire (if canon then lowerName n else n)) := by
  simp [nameWireFile, h]

theorem nameDigestable_abs (n : Name) (origin : Option Name) (h : isAbs n = true) :
    nameDigestable n origin = .ok (toWire (lowerName n)) :=
  nameWireNoFile_abs n origin true h

/-- `name.canonicalize().to_wire()` -/
theorem canonicalWire_abs (n : Name) (h : isAbs n = true) :
    nameWireNoFile (lowerName n) none false = .ok (toWire (lowerName n)) :=
  nameWireNoFile_abs _ none false ((NameOrder.isAbs_lowerName n).trans h)

theorem derelativizeD_abs (n : Name) (origin : Option Name) (h : isAbs n = true) : derelativizeD n origin = .ok n := by
  simp [derelativizeD, h]

theorem insertBy_perm {α} (le : α → α → Bool) (x : α) (l : List α) : (insertBy le x l).Perm (x :: l) := by
  induction l with
  | nil => simp [insertBy]
  | cons y ys ih =>
    unfold insertBy
    split
    · exact List.Perm.refl _
    · exact (List.Perm.cons y ih).trans (List.Perm.swap x y ys)

theorem insSort_perm {α} (le : α → α → Bool) (l : List α) : (insSort le l).Perm l := by
  induction l with
  | nil => simp [insSort]
  | cons x xs ih =>
    unfold insSort
    exact (insertBy_perm le x _).trans (List.Perm.cons x ih)

/-! `sorted` with a Boolean comparison that decides a total preorder `r` returns a list ascending in `r`. -/

theorem insertBy_pairwise {α} {le : α → α → Bool} {r : α → α → Prop} (hle : ∀ a b, le a b = true ↔ r a b)
    (htot : ∀ a b, r a b ∨ r b a) (htr : ∀ a b c, r a b → r b c → r a c)
    (x : α) (l : List α) (hl : l.Pairwise r) : (insertBy le x l).Pairwise r := by
  induction l with
  | nil => exact List.pairwise_singleton _ _
  | cons y ys ih =>
    obtain ⟨hy, hys⟩ := List.pairwise_cons.mp hl
    unfold insertBy
    split
    · rename_i hxy
      refine List.pairwise_cons.mpr ⟨fun z hz => ?_, hl⟩
      rcases List.mem_cons.mp hz with rfl | hz
      · exact (hle x _).mp hxy
      · exact htr x y z ((hle x y).mp hxy) (hy z hz)
    · rename_i hxy
      refine List.pairwise_cons.mpr ⟨fun z hz => ?_, ih hys⟩
      rcases List.mem_cons.mp ((insertBy_perm le x ys).mem_iff.mp hz) with rfl | hz
      · exact (htot z y).resolve_left (mt (hle z y).mpr hxy)
      · exact hy z hz

theorem insSort_pairwise {α} {le : α → α → Bool} {r : α → α → Prop} (hle : ∀ a b, le a b = true ↔ r a b)
    (htot : ∀ a b, r a b ∨ r b a) (htr : ∀ a b c, r a b → r b c → r a c) (l : List α) :
    (insSort le l).Pairwise r := by
  induction l with
  | nil => exact List.Pairwise.nil
  | cons x xs ih => exact insertBy_pairwise hle htot htr x _ ih

/-- RFC 4034 §6.3: "left-justified unsigned octet sequence in which the absence of an octet sorts before a zero octet" -/
def octetLe : Bytes → Bytes → Prop
  | [], _ => True
  | _ :: _, [] => False
  | a :: as, b :: bs => a < b ∨ (a = b ∧ octetLe as bs)

theorem octetLe_iff_le (a b : Bytes) : octetLe a b ↔ a ≤ b := by
  induction a generalizing b with
  | nil => simp [octetLe]
  | cons x xs ih =>
    cases b with
    | nil => simp [octetLe]
    | cons y ys => rw [octetLe, List.cons_le_cons_iff, ih]

/-- `bytes.__le__` is the lexicographic order of the octet lists -/
theorem bytesLe_iff_le (a b : Bytes) : bytesLe a b = true ↔ a ≤ b := by
  rw [bytesLe, decide_eq_true_eq, Int.le_iff_lt_or_eq, NameOrder.cmpBytes_lt, NameOrder.cmpBytes_eq,
    List.le_iff_lt_or_eq]

theorem bytesLe_iff (a b : Bytes) : bytesLe a b = true ↔ octetLe a b :=
  (bytesLe_iff_le a b).trans (octetLe_iff_le a b).symm

/-- RFC 4034 Appendix B, the loop `for (ac = 0, i = 0; i < keysize; ++i) ac += (i & 1) ? key[i] : key[i] << 8;`
as a recursion on the index `i` and the octets from `i` on. -/
def rfcKeyTagAcc : Nat → Bytes → Nat
  | _, [] => 0
  | i, b :: rest => (if i % 2 = 1 then b else b * 256) + rfcKeyTagAcc (i + 1) rest

theorem keyIdSum_eq_acc (l : Bytes) (i : Nat) (hi : i % 2 = 0) : keyIdSum l = rfcKeyTagAcc i l := by
  induction l using keyIdSum.induct generalizing i with
  | case1 a b rest ih =>
    have h1 : (i + 1) % 2 = 1 := by omega
    have h2 : (i + 1 + 1) % 2 = 0 := by omega
    simp only [keyIdSum, rfcKeyTagAcc, hi, h1]
    rw [ih (i + 1 + 1) h2]
    simp; omega
  | case2 a => simp [keyIdSum, rfcKeyTagAcc, hi]
  | case3 => simp [keyIdSum, rfcKeyTagAcc]

end Dnssec
end Model
