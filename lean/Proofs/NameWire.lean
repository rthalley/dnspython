import Model.Name
import Proofs.NameOps
/-! Wire decoding of names (`from_wire_parser`, C01) against a relational description `Dec`: the decoder computes
exactly the `Dec` derivations, which are stable under extending the buffer and contain the plain encoding. -/
namespace Model

/-- `furthest` only accumulates: a position recorded on the way is absorbed by a later, larger one. -/
theorem max_absorb (f a b g : Nat) (h : a ≤ b) : max (max (max f a) b) g = max f (max b g) := by
  rw [Nat.max_assoc, Nat.max_assoc, ← Nat.max_assoc a, Nat.max_eq_right h]

theorem label_fits {endp cur c : Nat} (h : cur < endp) (hc : ¬ c > endp - (cur + 1)) : cur + 1 + c ≤ endp :=
  Nat.add_comm _ _ ▸ Nat.add_le_of_le_sub h (Nat.not_lt.mp hc)

/-- `Dec w cur bp ls fwd`: reading a name at `cur` with pointer bound `bp` yields the labels `ls`
(without the root label) and reads forward up to `fwd`.  Pointers must target offsets `< bp`. -/
inductive Dec (w : Bytes) : Nat → Nat → List Label → Nat → Prop
  | root (cur bp : Nat) : w[cur]? = some 0 → Dec w cur bp [] (cur + 1)
  | label (cur bp c : Nat) (ls : List Label) (fwd : Nat) :
      w[cur]? = some c → 0 < c → c < Consts.ptrLabelMin → cur + 1 + c ≤ w.length →
      Dec w (cur + 1 + c) bp ls fwd →
      Dec w cur bp ((w.drop (cur + 1)).take c :: ls) (max (cur + 1 + c) fwd)
  | ptr (cur bp c lo : Nat) (ls : List Label) (fwd : Nat) :
      w[cur]? = some c → Consts.ptrTagMin ≤ c → w[cur + 1]? = some lo →
      (c % 64) * 256 + lo < bp →
      Dec w ((c % 64) * 256 + lo) ((c % 64) * 256 + lo) ls fwd →
      Dec w cur bp ls (max (cur + 2) fwd)

theorem labelMin_le_tagMin : Consts.ptrLabelMin ≤ Consts.ptrTagMin := by decide
theorem labelMin_pos : 0 < Consts.ptrLabelMin := by decide

theorem Dec.fwd_le {w : Bytes} {cur bp : Nat} {ls : List Label} {fwd : Nat} (h : Dec w cur bp ls fwd) :
    cur < fwd ∧ fwd ≤ w.length := by
  induction h with
  | root cur bp h0 => exact ⟨Nat.lt_succ_self _, (List.getElem?_eq_some_iff.mp h0).1⟩
  | label cur bp c ls fwd h0 hc hc' hlen _ ih =>
    exact ⟨Nat.lt_of_lt_of_le (Nat.lt_add_right c (Nat.lt_succ_self cur)) (Nat.le_max_left ..),
      Nat.max_le.mpr ⟨hlen, ih.2⟩⟩
  | ptr cur bp c lo ls fwd h0 hc h1 ht _ ih =>
    exact ⟨Nat.lt_of_lt_of_le (Nat.lt_add_of_pos_right (Nat.zero_lt_two)) (Nat.le_max_left ..),
      Nat.max_le.mpr ⟨(List.getElem?_eq_some_iff.mp h1).1, ih.2⟩⟩

/-! The three successful steps of the decoder, for a parser restricted to any end `endp` (`restrict_to`). -/

theorem fromWireAux_root {w : Bytes} {endp cur : Nat} (he : endp ≤ w.length) (hlt : cur < endp)
    (h0 : w[cur]? = some 0) (bp f : Nat) (acc : List Label) :
    fromWireAux w endp cur bp f acc = .ok (acc ++ [[]], max f (cur + 1)) := by
  rw [fromWireAux, dif_pos ⟨hlt, he⟩, if_pos (List.getElem?_eq_some_iff.mp h0).2]

theorem fromWireAux_label {w : Bytes} {endp cur c : Nat} (he : endp ≤ w.length) (h0 : w[cur]? = some c) (hc : 0 < c)
    (hc' : c < Consts.ptrLabelMin) (hlen : cur + 1 + c ≤ endp) (bp f : Nat) (acc : List Label) :
    fromWireAux w endp cur bp f acc =
      fromWireAux w endp (cur + 1 + c) bp (max (max f (cur + 1)) (cur + 1 + c))
        (acc ++ [(w.drop (cur + 1)).take c]) := by
  obtain ⟨_, rfl⟩ := List.getElem?_eq_some_iff.mp h0
  rw [fromWireAux, dif_pos ⟨Nat.lt_of_lt_of_le (Nat.lt_add_right _ (Nat.lt_succ_self cur)) hlen, he⟩,
    if_neg (Nat.ne_of_gt hc), if_pos hc', if_neg (Nat.not_lt.mpr (Nat.le_sub_of_add_le' hlen))]

theorem fromWireAux_ptr {w : Bytes} {endp cur c lo bp : Nat} (he : endp ≤ w.length) (hlt : cur + 1 < endp)
    (h0 : w[cur]? = some c) (hc : Consts.ptrTagMin ≤ c)
    (h1 : w[cur + 1]? = some lo) (ht : (c % 64) * 256 + lo < bp) (f : Nat) (acc : List Label) :
    fromWireAux w endp cur bp f acc =
      fromWireAux w endp ((c % 64) * 256 + lo) ((c % 64) * 256 + lo) (max (max f (cur + 1)) (cur + 2)) acc := by
  obtain ⟨_, rfl⟩ := List.getElem?_eq_some_iff.mp h0
  obtain ⟨_, rfl⟩ := List.getElem?_eq_some_iff.mp h1
  have hmin := Nat.lt_of_lt_of_le (Nat.lt_of_lt_of_le labelMin_pos labelMin_le_tagMin) hc
  rw [fromWireAux, dif_pos ⟨Nat.lt_of_succ_lt hlt, he⟩, if_neg (Nat.ne_of_gt hmin),
    if_neg (Nat.not_lt.mpr (Nat.le_trans labelMin_le_tagMin hc)), if_pos hc, dif_pos hlt,
    dif_neg (Nat.not_le.mpr ht)]

theorem fromWireAux_of_Dec_upto {w : Bytes} {cur bp : Nat} {ls : List Label} {fwd : Nat}
    (h : Dec w cur bp ls fwd) {endp : Nat} (hf : fwd ≤ endp) (he : endp ≤ w.length) (f : Nat) (acc : List Label) :
    fromWireAux w endp cur bp f acc = .ok (acc ++ ls ++ [[]], max f fwd) := by
  induction h generalizing f acc with
  | root cur bp h0 => rw [fromWireAux_root he hf h0, List.append_nil]
  | label cur bp c ls fwd h0 hc hc' hlen _ ih =>
    rw [fromWireAux_label he h0 hc hc' (Nat.le_trans (Nat.le_max_left ..) hf), ih (Nat.le_trans (Nat.le_max_right ..) hf),
      max_absorb _ _ _ _ (Nat.le_add_right ..), ← List.append_cons]
  | ptr cur bp c lo ls fwd h0 hc h1 ht _ ih =>
    rw [fromWireAux_ptr he (Nat.le_trans (Nat.le_max_left ..) hf) h0 hc h1 ht, ih (Nat.le_trans (Nat.le_max_right ..) hf),
      max_absorb _ _ _ _ (Nat.le_succ _)]

theorem fromWireAux_of_Dec {w : Bytes} {cur bp : Nat} {ls : List Label} {fwd : Nat}
    (h : Dec w cur bp ls fwd) (f : Nat) (acc : List Label) :
    fromWireAux w w.length cur bp f acc = .ok (acc ++ ls ++ [[]], max f fwd) :=
  fromWireAux_of_Dec_upto h h.fwd_le.2 (Nat.le_refl _) f acc

theorem getElem?_append_left' {α} (a b : List α) (i : Nat) (x : α) (h : a[i]? = some x) :
    (a ++ b)[i]? = some x := by
  rw [List.getElem?_append_left (List.getElem?_eq_some_iff.mp h).1]; exact h

theorem take_drop_append_left {α} (a b : List α) (i c : Nat) (h : i + c ≤ a.length) :
    ((a ++ b).drop i).take c = (a.drop i).take c := by
  rw [List.drop_append_of_le_length (Nat.le_trans (Nat.le_add_right ..) h),
    List.take_append_of_le_length (List.length_drop ▸ Nat.le_sub_of_add_le' h)]

theorem Dec.mono {w : Bytes} {cur bp : Nat} {ls : List Label} {fwd : Nat} (h : Dec w cur bp ls fwd)
    (ext : Bytes) : Dec (w ++ ext) cur bp ls fwd := by
  induction h with
  | root cur bp h0 => exact Dec.root cur bp (getElem?_append_left' _ _ _ _ h0)
  | label cur bp c ls fwd h0 hc hc' hlen _ ih =>
    rw [← take_drop_append_left w ext (cur + 1) c hlen]
    exact Dec.label cur bp c ls fwd (getElem?_append_left' _ _ _ _ h0) hc hc'
      (List.length_append ▸ Nat.le_trans hlen (Nat.le_add_right ..)) ih
  | ptr cur bp c lo ls fwd h0 hc h1 ht _ ih =>
    exact Dec.ptr cur bp c lo ls fwd (getElem?_append_left' _ _ _ _ h0) hc
      (getElem?_append_left' _ _ _ _ h1) ht ih

theorem Dec.bp_mono {w : Bytes} {cur bp : Nat} {ls : List Label} {fwd : Nat} (h : Dec w cur bp ls fwd)
    (bp' : Nat) (hb : bp ≤ bp') : Dec w cur bp' ls fwd := by
  induction h generalizing bp' with
  | root cur bp h0 => exact Dec.root cur bp' h0
  | label cur bp c ls fwd h0 hc hc' hlen _ ih => exact Dec.label cur bp' c ls fwd h0 hc hc' hlen (ih bp' hb)
  | ptr cur bp c lo ls fwd h0 hc h1 ht hd _ => exact Dec.ptr cur bp' c lo ls fwd h0 hc h1 (Nat.lt_of_lt_of_le ht hb) hd

theorem Dec.written {A l rest : Bytes} {bp fwd : Nat} {ls : List Label}
    (hl : 0 < l.length) (hl' : l.length < Consts.ptrLabelMin)
    (h : Dec (A ++ l.length :: l ++ rest) (A ++ l.length :: l).length bp ls fwd) :
    Dec (A ++ l.length :: l ++ rest) A.length bp (l :: ls) fwd := by
  have hget : (A ++ l.length :: l ++ rest)[A.length]? = some l.length := by
    rw [List.append_assoc, List.getElem?_append_right (Nat.le_refl _), Nat.sub_self]; rfl
  have htake : ((A ++ l.length :: l ++ rest).drop (A.length + 1)).take l.length = l := by
    rw [List.append_cons, List.append_assoc, List.drop_left' (by simp), List.take_left' rfl]
  have hpos : (A ++ l.length :: l).length = A.length + 1 + l.length := by
    rw [List.length_append, List.length_cons, Nat.add_comm l.length, Nat.add_assoc]
  rw [hpos] at h
  have := Dec.label A.length bp l.length ls fwd hget hl hl' (Nat.le_trans (Nat.le_of_lt h.fwd_le.1) h.fwd_le.2) h
  rwa [htake, Nat.max_eq_right (Nat.le_of_lt h.fwd_le.1)] at this

/-- labels of an uncompressed name: all non-empty and shorter than 64 -/
def PlainLabels (ls : List Label) : Prop := ∀ l ∈ ls, 0 < l.length ∧ l.length < Consts.ptrLabelMin

theorem toWire_append (a b : Name) : toWire (a ++ b) = toWire a ++ toWire b := by
  simp [toWire]

theorem toWire_root : toWire [[]] = [0] := by simp [toWire]

theorem length_toWire (n : Name) : (toWire n).length = wireLen n := by
  simp [toWire, wireLen, List.length_flatMap]

theorem toWire_cons (l : Label) (n : Name) : toWire (l :: n) = l.length :: l ++ toWire n := rfl

/-- plain labels in front of whatever decodes after them -/
theorem Dec.plain {ls : List Label} (hp : PlainLabels ls) {A rest : Bytes} {bp fwd : Nat} {tl : List Label}
    (h : Dec (A ++ toWire ls ++ rest) (A ++ toWire ls).length bp tl fwd) :
    Dec (A ++ toWire ls ++ rest) A.length bp (ls ++ tl) fwd := by
  induction ls generalizing A with
  | nil => rwa [show A ++ toWire [] = A from List.append_nil A] at h ⊢
  | cons l ls ih =>
    have hl := hp l List.mem_cons_self
    have e : A ++ toWire (l :: ls) = A ++ l.length :: l ++ toWire ls := by rw [toWire_cons, List.append_assoc]
    rw [e] at h ⊢
    rw [List.append_assoc _ (toWire ls)]
    refine Dec.written hl.1 hl.2 ?_
    rw [← List.append_assoc _ (toWire ls)]
    exact ih (fun x hx => hp x (List.mem_cons_of_mem _ hx)) h

theorem Dec_plain (ls : List Label) (hp : PlainLabels ls) (A post : Bytes) (bp : Nat) :
    Dec (A ++ toWire (ls ++ [[]]) ++ post) A.length bp ls (A.length + (toWire (ls ++ [[]])).length) := by
  have := Dec.plain hp (Dec.root (w := A ++ toWire ls ++ ([0] ++ post)) _ bp
    (by rw [List.getElem?_append_right (Nat.le_refl _), Nat.sub_self]; rfl))
  rw [toWire_append, toWire_root, ← List.append_assoc A, List.append_assoc _ [0], List.length_append (as := toWire ls),
    ← Nat.add_assoc, ← List.length_append]
  rwa [List.append_nil] at this

theorem abs_split (n : Name) (h : WfName n) (ha : isAbs n = true) :
    ∃ ls, n = ls ++ [[]] ∧ PlainLabels ls :=
  ⟨n.dropLast, (dropLast_append_root ha).symm, fun l hl =>
    ⟨List.length_pos_iff.mpr (h.2.2 l hl), Nat.lt_succ_of_le (h.1 l (List.dropLast_subset n hl))⟩⟩

/-- completeness, whatever end of buffer `endp` the parser was restricted to: the decoder only followed pointers to
offsets strictly below the running bound (which starts at the name's own offset and is lowered to each pointer target) -/
theorem Dec_of_fromWireAux_end (w : Bytes) (endp cur bp f : Nat) (acc : List Label) :
    ∀ n f', fromWireAux w endp cur bp f acc = .ok (n, f') →
      endp ≤ w.length ∧ ∃ ls fwd, Dec w cur bp ls fwd ∧ fwd ≤ endp ∧ n = acc ++ ls ++ [[]] ∧ f' = max f fwd := by
  fun_induction fromWireAux w endp cur bp f acc with
  | case1 cur bp f acc h h0 =>
    intro n f' e
    cases e
    exact ⟨h.2, [], cur + 1, .root cur bp (h0 ▸ List.getElem?_eq_getElem (Nat.lt_of_lt_of_le h.1 h.2)), h.1,
      by rw [List.append_nil], rfl⟩
  | case3 cur bp f acc h h0 h1 h2 ih =>
    intro n f' e
    obtain ⟨_, ls, fwd, hd, hle, hn, hf⟩ := ih n f' e
    have hfit := label_fits h.1 h2
    exact ⟨h.2, _ :: ls, _,
      .label cur bp _ ls fwd (List.getElem?_eq_getElem (Nat.lt_of_lt_of_le h.1 h.2)) (Nat.pos_of_ne_zero h0) h1
        (Nat.le_trans hfit h.2) hd,
      Nat.max_le.mpr ⟨hfit, hle⟩, by rw [hn, ← List.append_cons acc],
      by rw [hf, max_absorb _ _ _ _ (Nat.le_add_right ..)]⟩
  | case5 cur bp f acc h h0 h1 h2 h3 h4 ih =>
    intro n f' e
    obtain ⟨_, ls, fwd, hd, hle, hn, hf⟩ := ih n f' e
    exact ⟨h.2, ls, _,
      .ptr cur bp _ _ ls fwd (List.getElem?_eq_getElem (Nat.lt_of_lt_of_le h.1 h.2)) h2
        (List.getElem?_eq_getElem (Nat.lt_of_lt_of_le h3 h.2)) (Nat.not_le.mp h4) hd,
      Nat.max_le.mpr ⟨h3, hle⟩, hn, by rw [hf, max_absorb _ _ _ _ (Nat.le_succ _)]⟩
  | case2 | case4 | case6 | case7 | case8 => nofun

theorem fromWireAux_ok_iff {w : Bytes} {endp cur bp f : Nat} {acc : List Label} {n : Name} {f' : Nat} :
    fromWireAux w endp cur bp f acc = .ok (n, f') ↔
      endp ≤ w.length ∧ ∃ ls fwd, Dec w cur bp ls fwd ∧ fwd ≤ endp ∧ n = acc ++ ls ++ [[]] ∧ f' = max f fwd :=
  ⟨Dec_of_fromWireAux_end w endp cur bp f acc n f', fun ⟨he, _, _, hd, hf, hn, hf'⟩ =>
    hn ▸ hf' ▸ fromWireAux_of_Dec_upto hd hf he f acc⟩

theorem Dec_of_fromWireAux (w : Bytes) (cur bp f : Nat) (acc : List Label) :
    ∀ n f', fromWireAux w w.length cur bp f acc = .ok (n, f') →
      ∃ ls fwd, Dec w cur bp ls fwd ∧ n = acc ++ ls ++ [[]] ∧ f' = max f fwd := fun n f' e =>
  let ⟨_, ls, fwd, hd, _, hn, hf⟩ := Dec_of_fromWireAux_end w w.length cur bp f acc n f' e
  ⟨ls, fwd, hd, hn, hf⟩

theorem fwAux_shape (w : Bytes) (endp cur bp f : Nat) (acc : List Label) :
    ∀ n f', fromWireAux w endp cur bp f acc = .ok (n, f') →
      (∃ m, n = acc ++ m ++ [[]]) ∧ f' ≤ max f endp := fun n f' e =>
  let ⟨_, ls, _, _, hle, hn, hf⟩ := Dec_of_fromWireAux_end w endp cur bp f acc n f' e
  ⟨⟨ls, hn⟩, hf ▸ Nat.max_le.mpr ⟨Nat.le_max_left .., Nat.le_trans hle (Nat.le_max_right ..)⟩⟩

theorem fromWire_ok_iff {b : Bytes} {off : Nat} {n : Name} {k : Nat} :
    fromWire b off = .ok (n, k) ↔ ∃ ls fwd, Dec b off off ls fwd ∧ n = ls ++ [[]] ∧ k = fwd - off ∧ WfName n := by
  constructor
  · intro h
    unfold fromWire at h
    split at h
    · cases h
    · split at h
      · cases h
      · rename_i n' f' hrun
        split at h
        · cases h
        · rename_i n'' hv
          cases h
          obtain ⟨rfl, hw⟩ := wf_of_validate n' _ hv
          obtain ⟨ls, fwd, hd, hn, hf'⟩ := Dec_of_fromWireAux b off off off [] _ f' hrun
          exact ⟨ls, fwd, hd, hn, by rw [hf', Nat.max_eq_right (Nat.le_of_lt hd.fwd_le.1)], hw⟩
  · rintro ⟨ls, fwd, hd, rfl, rfl, hw⟩
    have hlt := Nat.le_of_lt hd.fwd_le.1
    unfold fromWire
    rw [if_neg (Nat.not_lt.mpr (Nat.le_trans hlt hd.fwd_le.2)), fromWireAux_of_Dec hd off []]
    dsimp only
    rw [List.nil_append, validate_of_wf _ hw, Nat.max_eq_right hlt]

end Model
