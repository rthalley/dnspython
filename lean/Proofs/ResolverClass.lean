import Proofs.ResolverRun
/-!
Classification of the result of a resolution by its last step: no reply before the last one was acceptable.
-/
namespace Model.Resolver
open Model

/-- a query whose outcome is an acceptable answer: a NOERROR response that survives `resolve_chaining` -/
def evAcceptable (env : Env) : Event → Bool
  | .query q _ _ _ (.resp r) =>
    r.rcode == rcNOERROR &&
      (match resolveChaining env.maxChain r q env.rdclass env.rdtype with
       | .ok _ => true
       | .error _ => false)
  | _ => false

/-- an acceptable reply is judged `accept`, whatever the transport and the clock -/
theorem accept_of_evAcceptable {env : Env} {q : Name} {ns : Server} {tcp tcp' : Bool} {t now : Nat} {out : Outcome}
    (h : evAcceptable env (.query q ns tcp t out) = true) : ∃ a, verdict env q ns tcp' now out = .accept a := by
  cases out with
  | exc k => simp [evAcceptable] at h
  | resp r =>
    simp only [evAcceptable, Bool.and_eq_true, beq_iff_eq] at h
    cases hc : resolveChaining env.maxChain r q env.rdclass env.rdtype with
    | error e => simp [hc] at h
    | ok c => simp [verdict, h.1, mkAnswer, hc]

/-- the documented outcomes, each with the condition under which it is the result; `evs` is the whole event list of
the resolution and `st'` the final state -/
def Classified (env : Env) (evs : List Event) (r : Result) (st' : St) : Prop :=
  (∀ ev ∈ evs.dropLast, evAcceptable env ev = false) ∧
  match r with
  | .answer a =>
    (a.hasRRset = true ∨ env.raiseOnNoAnswer = false) ∧
    ((∃ pre q ns tcp t r0, evs = pre ++ [.query q ns tcp t (.resp r0)] ∧ r0.rcode = rcNOERROR ∧
        mkAnswer env.maxChain q env.rdtype env.rdclass env.rdclass env.rdtype r0 (some ns.id) st'.now = .ok a) ∨
     (env.cfg.cacheOn = true ∧
        ∃ q ∈ env.qnamesToTry, cacheGet st'.cache (mkKey q env.rdtype env.rdclass) st'.now = some a))
  | .noAnswer =>
    env.raiseOnNoAnswer = true ∧
    ((∃ pre q ns tcp t r0 a, evs = pre ++ [.query q ns tcp t (.resp r0)] ∧ r0.rcode = rcNOERROR ∧
        mkAnswer env.maxChain q env.rdtype env.rdclass env.rdclass env.rdtype r0 (some ns.id) st'.now = .ok a ∧
        a.hasRRset = false) ∨
     (env.cfg.cacheOn = true ∧
        ∃ q ∈ env.qnamesToTry, ∃ a, cacheGet st'.cache (mkKey q env.rdtype env.rdclass) st'.now = some a ∧
          a.hasRRset = false))
  | .yxdomain => ∃ pre q ns tcp t r0, evs = pre ++ [.query q ns tcp t (.resp r0)] ∧ r0.rcode = rcYXDOMAIN
  | .noNameservers => st'.phase = .querying ∧ st'.nameservers = [] ∧ st'.current = []
  | .lifetimeTimeout => env.lifetime ≤ st'.now - env.start
  | .nxdomain qs _ => qs = env.qnamesToTry
  | .nameError _ => False
  | .noMetaqueries => False
  | .outOfFuel => False

theorem sleepEvs_not_acceptable (env : Env) (b now : Nat) : ∀ ev ∈ sleepEvs env b now, evAcceptable env ev = false := by
  intro ev hev
  unfold sleepEvs at hev
  split at hev
  · rw [List.mem_singleton.mp hev]; rfl
  · cases hev

theorem step_class (env : Env) (pre : List Event) (st : St) (hwf : Wf env st)
    (hpre : ∀ ev ∈ pre, evAcceptable env ev = false) :
    (step env st).sat (fun evs _ => ∀ ev ∈ pre ++ evs, evAcceptable env ev = false)
      (fun evs r st' => Classified env (pre ++ evs) r st') := by
  refine step_sat fun res h => ?_
  have hdl0 : ∀ ev ∈ (pre ++ ([] : List Event)).dropLast, evAcceptable env ev = false := by
    intro ev hev
    rw [List.append_nil] at hev
    exact hpre ev (List.dropLast_subset _ hev)
  cases h with
  | nxdomain => exact ⟨hdl0, rfl⟩
  | @noAnswer _ q _ hph hqs _ hq | @hit _ q _ _ hph hqs _ hq =>
    have hp := probe_cases env st.cache st.now q
    rw [hq] at hp
    exact ⟨hdl0, hp.2.1, Or.inr ⟨hp.1, q, hwf.qnames_mem hph q (by simp [hqs]), hp.2.2⟩⟩
  | request =>
    exact List.forall_mem_append.mpr ⟨hpre, fun ev hev => by rw [List.mem_singleton.mp hev]; rfl⟩
  | noNs hph h2 =>
    refine ⟨hdl0, ?_⟩
    rcases h2 with ⟨_, c2, c3⟩ | ⟨c1, c2⟩
    · exact ⟨hph, c3, c2⟩
    · obtain ⟨p, hp⟩ := hwf.retry hph c1
      rw [c2] at hp; cases hp
  | @expired c w _ _ _ ht =>
    exact ⟨fun ev hev => List.forall_mem_append.mpr ⟨hpre, sleepEvs_not_acceptable env _ _⟩ ev
      (List.dropLast_subset _ hev), computeTimeout_none ht⟩
  | @reply c w t d =>
    have hsl : ∀ ev ∈ pre ++ sleepEvs env c.sleep st.now, evAcceptable env ev = false :=
      List.forall_mem_append.mpr ⟨hpre, sleepEvs_not_acceptable env _ _⟩
    have hv := (verdict_cases env st.qname c.ns c.tcp (w + d.2.1) d.1).2.2
    have hdl : ∀ ev ∈ (pre ++ (sleepEvs env c.sleep st.now ++ [Event.query st.qname c.ns c.tcp t d.1])).dropLast,
        evAcceptable env ev = false := by
      rw [← List.append_assoc, List.dropLast_concat]; exact hsl
    -- a reply that is not judged `accept` is not acceptable
    have hna : (∀ a, verdict env st.qname c.ns c.tcp (w + d.2.1) d.1 ≠ .accept a) →
        ∀ ev ∈ pre ++ (sleepEvs env c.sleep st.now ++ [Event.query st.qname c.ns c.tcp t d.1]),
          evAcceptable env ev = false := by
      intro hne
      rw [← List.append_assoc]
      refine List.forall_mem_append.mpr ⟨hsl, fun ev hev => ?_⟩
      rw [List.mem_singleton.mp hev, Bool.eq_false_iff]
      exact fun hacc => (accept_of_evAcceptable hacc).elim hne
    generalize verdict env st.qname c.ns c.tcp (w + d.2.1) d.1 = v at hv hna
    cases v <;> simp only [judge, leaves, StepR.sat]
    case accept a =>
      obtain ⟨r0, hd, h0, hm⟩ := hv
      have hlast : pre ++ (sleepEvs env c.sleep st.now ++ [Event.query st.qname c.ns c.tcp t d.1]) =
          (pre ++ sleepEvs env c.sleep st.now) ++ [.query st.qname c.ns c.tcp t (.resp r0)] := by
        rw [hd, List.append_assoc]
      split
      · rename_i hc
        simp only [Bool.and_eq_true, Bool.not_eq_true'] at hc
        exact ⟨hdl, hc.2, Or.inl ⟨_, _, c.ns, c.tcp, t, r0, a, hlast, h0, hm, hc.1⟩⟩
      · rename_i hc
        refine ⟨hdl, ?_, Or.inl ⟨_, _, c.ns, c.tcp, t, r0, hlast, h0, hm⟩⟩
        cases h1 : a.hasRRset <;> simp_all
    case yxdomain =>
      obtain ⟨r0, hd, h6⟩ := hv
      exact ⟨hdl, _, _, c.ns, c.tcp, t, r0, by rw [hd, List.append_assoc], h6⟩
    all_goals exact hna nofun

theorem run_class (env : Env) {cache : Cache} {script : List ScriptStep} {fuel : Nat} {res : List Event × Result × St}
    (hres : run env fuel (initOf env cache script) = res) :
    res.2.1 = .outOfFuel ∨ Classified env res.1 res.2.1 res.2.2 :=
  run_post env hres (fun pre _ => ∀ ev ∈ pre, evAcceptable env ev = false) (Classified env) (step_class env) nofun

end Model.Resolver
