import Model.WireParser
import Proofs.ParseOffsets
/-! C04: bounds discipline of `dns.wirebase.Parser` as one relation `Keeps` between the parser before and after a call
or routine (`end` restored, every slice handed out inside it; in the library's fragment of the API also
`furthest ≤ current ≤ end` and no failed assertion), closed under sequencing and under leaving a `restrict_to` block;
every primitive and hence every routine satisfies it. -/
namespace Model.WP
open Model

/-- every byte string handed out lies inside the window `[.., bound]` -/
def OutsWithin (bound : Nat) (outs : List Out) : Prop :=
  ∀ a n, Out.bytes a n ∈ outs → a + n ≤ bound

theorem OutsWithin.nil (b : Nat) : OutsWithin b [] := by intro a n h; simp at h

theorem OutsWithin.append {b : Nat} {x y : List Out} (hx : OutsWithin b x) (hy : OutsWithin b y) :
    OutsWithin b (x ++ y) := by
  intro a n h
  rcases List.mem_append.mp h with h | h
  · exact hx a n h
  · exact hy a n h

theorem OutsWithin.mono {b c : Nat} {x : List Out} (hx : OutsWithin b x) (h : b ≤ c) : OutsWithin c x := by
  intro a n hm; have := hx a n hm; omega

/-- the discipline the library keeps outside `get_name`: nothing has been read beyond the current position,
and the current position is inside the window -/
def Disc (p : P) : Prop := p.fur ≤ p.cur ∧ p.cur ≤ p.endp

/-- What a call or routine started at `p` guarantees of its result: `end` is as it was and bounds every slice handed
out; and, if it is in the library's fragment (`lib`) and `p` has the discipline, the result has it and the outcome is
not the failed assertion. -/
def Keeps (lib : Prop) (p p' : P) (o : Outcome) (outs : List Out) : Prop :=
  p'.endp = p.endp ∧ OutsWithin p.endp outs ∧ (lib → Disc p → Disc p' ∧ o ≠ .assertion)

theorem Keeps.refl (lib : Prop) (p : P) {o : Outcome} (ho : o ≠ .assertion) : Keeps lib p p o [] :=
  ⟨rfl, OutsWithin.nil _, fun _ hd => ⟨hd, ho⟩⟩

theorem Keeps.imp {l l' : Prop} {p p' : P} {o : Outcome} {outs : List Out} (h : Keeps l p p' o outs) (hl : l' → l) :
    Keeps l' p p' o outs :=
  ⟨h.1, h.2.1, fun x => h.2.2 (hl x)⟩

/-- one call or block after another -/
theorem Keeps.trans {l : Prop} {p p1 p2 : P} {o1 o : Outcome} {x y : List Out} (h1 : Keeps l p p1 o1 x)
    (h2 : Keeps l p1 p2 o y) : Keeps l p p2 o (x ++ y) :=
  ⟨h2.1.trans h1.1, h1.2.1.append (h1.1 ▸ h2.2.1), fun hl hd => h2.2.2 hl (h1.2.2 hl hd).1⟩

/-- leaving a `restrict_to(n)` block, by exception too: `end` is put back, and what held inside the narrower window
holds outside -/
theorem Keeps.restrict {l : Prop} {p p' : P} {o : Outcome} {x : List Out} {n : Nat} (hn : p.cur + n ≤ p.endp)
    (h : Keeps l { p with endp := p.cur + n } p' o x) : Keeps l p { p' with endp := p.endp } o x := by
  refine ⟨rfl, h.2.1.mono hn, fun hl hd => ?_⟩
  have := h.2.2 hl (by unfold Disc at *; simp only; omega)
  have he := h.1
  exact ⟨by unfold Disc at *; simp only at *; omega, this.2⟩

theorem Keeps.raise {l : Prop} {p p' : P} {o : Outcome} {x : List Out} (h : Keeps l p p' o x) :
    Keeps l p p' .formError x :=
  ⟨h.1, h.2.1, fun hl hd => ⟨(h.2.2 hl hd).1, by simp⟩⟩

theorem getBytes_keeps (lib : Prop) (p : P) (n : Nat) :
    Keeps lib p (getBytes p n).1 (getBytes p n).2.1 (getBytes p n).2.2 := by
  unfold getBytes remaining
  split
  · exact Keeps.refl lib p (by simp)
  · refine ⟨rfl, fun a m hm => ?_, fun _ hd => ⟨?_, by simp⟩⟩
    · simp at hm
      obtain ⟨rfl, rfl⟩ := hm
      omega
    · unfold Disc at *; simp only; omega

theorem step_keeps (w : Bytes) (p : P) (op : Prim) :
    Keeps (∀ wh, op ≠ .seek wh) p (step w p op).1 (step w p op).2.1 (step w p op).2.2 := by
  cases op with
  | getBytes n => exact getBytes_keeps _ p n
  | getCounted lsz =>
    simp only [step]
    have h1 := getBytes_keeps (∀ wh, Prim.getCounted lsz ≠ .seek wh) p lsz
    split
    · rename_i p1 _ heq
      rw [heq] at h1
      have h2 := getBytes_keeps (∀ wh, Prim.getCounted lsz ≠ .seek wh) p1 (be ((w.drop p.cur).take lsz))
      exact ⟨h2.1.trans h1.1, h1.1 ▸ h2.2.1, fun hl hd => h2.2.2 hl (h1.2.2 hl hd).1⟩
    · exact h1
  | getRemaining =>
    simp only [step]
    split
    · rename_i h
      exact ⟨rfl, OutsWithin.nil _, fun _ hd => by unfold remaining Disc at *; omega⟩
    · exact getBytes_keeps _ p _
  | seek wh =>
    simp only [step]
    split <;> exact ⟨rfl, OutsWithin.nil _, fun hl => absurd rfl (hl wh)⟩
  | seekFwd d =>
    simp only [step]
    split
    · exact Keeps.refl _ p (by simp)
    · exact ⟨rfl, OutsWithin.nil _, fun _ hd => ⟨by unfold Disc at *; simp only; omega, by simp⟩⟩
  | getName =>
    -- a name is handed out as a value, not as a slice
    simp only [step]
    have hp := pGetName_pos w p.endp p.cur p.fur
    split
    · rename_i n f heq
      have := posOf_ok hp heq
      exact ⟨rfl, fun a n h => by simp at h, fun _ hd => ⟨by unfold Disc at *; simp only; omega, by simp⟩⟩
    · rename_i e f heq
      have := posOf_error hp heq
      exact ⟨rfl, OutsWithin.nil _, fun _ hd => ⟨by unfold Disc at *; simp only; omega, by simp⟩⟩

theorem lib_prim {op : Prim} {k : Prog} (h : Lib (.prim op k)) : (∀ wh, op ≠ .seek wh) ∧ Lib k := by
  cases op <;> simp_all [Lib]

/-- every `restrict_to` restores `end`, on exceptions too; routines in the library's fragment keep the discipline -/
theorem exec_keeps (w : Bytes) (prog : Prog) : ∀ p : P,
    Keeps (Lib prog) p (exec w p prog).p (exec w p prog).o (exec w p prog).outs := by
  induction prog with
  | done => intro p; exact Keeps.refl _ p (by simp [exec])
  | prim op k ih =>
    intro p
    have hs := (step_keeps w p op).imp fun h : Lib (.prim op k) => (lib_prim h).1
    simp only [exec]
    split
    · rename_i p' outs heq
      rw [heq] at hs
      exact hs.trans ((ih p').imp fun h : Lib (.prim op k) => (lib_prim h).2)
    · rename_i p' o outs _ heq
      rw [heq] at hs
      exact hs
  | restrict n body k ihb ihk =>
    intro p
    simp only [exec]
    split
    · exact Keeps.refl _ p (by simp)
    · rename_i hn
      have hb := ((ihb { p with endp := p.cur + n }).imp fun h : Lib (.restrict n body k) => h.1).restrict
        (by unfold remaining at hn; omega)
      split
      · split
        · exact hb.raise
        · exact hb.trans ((ihk _).imp fun h : Lib (.restrict n body k) => h.2)
      · exact hb
  | restoreFurthest body k ihb ihk =>
    intro p
    simp only [exec]
    -- not in the library's fragment: only the window is claimed
    have hb : Keeps (Lib (.restoreFurthest body k)) p { (exec w p body).p with cur := (exec w p body).p.fur }
        (exec w p body).o (exec w p body).outs := ⟨(ihb p).1, (ihb p).2.1, fun hl => nomatch hl⟩
    split
    · exact hb.trans ((ihk _).imp fun hl => nomatch hl)
    · exact hb
  | try_ body k ihb ihk =>
    intro p
    simp only [exec]
    have hb := (ihb p).imp fun h : Lib (.try_ body k) => h.1
    split
    · exact hb
    · exact hb.trans ((ihk _).imp fun h : Lib (.try_ body k) => h.2)

theorem mk_eq_some {w : Bytes} {current : Nat} {p : P} (h : mk w current = some p) :
    p = ⟨current, w.length, current⟩ ∧ current ≤ w.length := by
  unfold mk at h
  split at h
  · cases h
  · cases h; exact ⟨rfl, by omega⟩

end Model.WP
