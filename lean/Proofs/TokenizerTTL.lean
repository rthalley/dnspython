import Model.Tokenizer
import Model.ZoneFile
import Proofs.TokenizerLayout
/-! `dns.ttl.from_text` inverts the decimal rendering of a TTL and evaluates the BIND 8 unit form. -/
namespace Model

/-- a string literal is its list of characters.  `rw [s2l_ofList]` makes the unifier expand the literal (`String.ofList ?l
=?= "abc"`), which is far cheaper than evaluating `String.toList` on it by `decide`. -/
theorem s2l_ofList (l : List Char) : s2l (String.ofList l) = l.map Char.toNat := by simp [s2l]

theorem digitsVal_decAux (f n : Nat) (acc : List Nat) (h : n < 10 ^ f) :
    digitsVal (decAux f n acc) 0 = digitsVal acc n := by
  induction f generalizing n acc with
  | zero =>
    have : n = 0 := by simpa using h
    subst this; simp [decAux]
  | succ f ih =>
    unfold decAux
    split
    · simp [digitsVal]
    · rename_i hn
      have : n / 10 < 10 ^ f := by
        have : n < 10 ^ f * 10 := by simpa [Nat.pow_succ] using h
        omega
      rw [ih (n / 10) _ this]
      simp only [digitsVal]
      congr 1
      omega

theorem digitsVal_natToDec (n : Nat) : digitsVal (natToDec n) 0 = n := by
  unfold natToDec
  rw [digitsVal_decAux (n + 1) n [] (Nat.lt_of_lt_of_le (Nat.lt_pow_self (by decide : 1 < 10)) (Nat.pow_le_pow_right (by decide) (Nat.le_succ n)))]
  rfl

theorem decAux_all (f n : Nat) (acc : List Nat) (h : acc.all isDecimal = true) :
    (decAux f n acc).all isDecimal = true := by
  induction f generalizing n acc with
  | zero => simpa [decAux] using h
  | succ f ih =>
    unfold decAux
    split
    · rename_i hn
      simp only [List.all_cons, h, Bool.and_true]
      simp [isDecimal]; omega
    · apply ih
      simp only [List.all_cons, h, Bool.and_true]
      simp [isDecimal]; omega

theorem decAux_ne_nil (f n : Nat) (acc : List Nat) (h : acc ≠ []) : decAux f n acc ≠ [] := by
  induction f generalizing n acc with
  | zero => simpa [decAux] using h
  | succ f ih =>
    unfold decAux
    split
    · simp
    · exact ih _ _ (by simp)

theorem natToDec_all (n : Nat) : (natToDec n).all isDecimal = true := decAux_all _ _ _ rfl

theorem natToDec_digit {n c : Nat} (h : c ∈ natToDec n) : 48 ≤ c ∧ c ≤ 57 := by
  simpa [isDecimal] using List.all_eq_true.mp (natToDec_all n) c h

theorem natToDec_ne_nil (n : Nat) : natToDec n ≠ [] := by
  unfold natToDec decAux
  split
  · simp
  · exact decAux_ne_nil _ _ _ (by simp)

theorem natToDec_token (n : Nat) : identOK (natToDec n) = true ∧ natToDec n ≠ [] :=
  ⟨identOK_decimal _ (natToDec_all n), natToDec_ne_nil n⟩

theorem ttlFromText_natToDec (n : Nat) (h : n ≤ Consts.maxTTL) : ttlFromText (natToDec n) = .ok n := by
  unfold ttlFromText
  simp only [natToDec_ne_nil, ne_eq, not_false_eq_true, natToDec_all, and_self, if_true, digitsVal_natToDec]
  have : ¬ n > Consts.maxTTL := by omega
  simp [this]

theorem ttlOf_natToDec (n : Nat) (h : n ≤ Consts.maxTTL) : ttlOf (natToDec n) = some n := by
  rw [ttlOf, ttlFromText_natToDec n h]

theorem ttlLoop_digits (ds rest : List Nat) (total cur : Nat) (nd : Bool) (h : ds.all isDecimal = true) (hne : ds ≠ []) :
    ttlLoop (ds ++ rest) total cur nd = ttlLoop rest total (digitsVal ds cur) false := by
  induction ds generalizing cur nd with
  | nil => exact absurd rfl hne
  | cons d ds ih =>
    simp only [List.all_cons, Bool.and_eq_true] at h
    simp only [List.cons_append, ttlLoop, h.1, if_true, digitsVal]
    cases ds with
    | nil => simp [digitsVal]
    | cons d' ds' => exact ih _ _ h.2 (by simp)

/-- a TTL unit letter and its multiplier -/
def unitMult (u : Nat) : Option Nat :=
  if lowerAscii u = 119 then some 604800 else if lowerAscii u = 100 then some 86400
  else if lowerAscii u = 104 then some 3600 else if lowerAscii u = 109 then some 60
  else if lowerAscii u = 115 then some 1 else none

/-- the BIND 8 rendering of a list of `(count, unit letter)` groups, and its value -/
def unitsText : List (Nat × Nat) → List Nat
  | [] => []
  | (v, u) :: rest => natToDec v ++ u :: unitsText rest

def unitsValue : List (Nat × Nat) → Nat
  | [] => 0
  | (v, u) :: rest => v * (unitMult u).getD 0 + unitsValue rest

theorem unitMult_not_decimal (u : Nat) (h : (unitMult u).isSome) : isDecimal u = false := by
  cases hd : isDecimal u with
  | false => rfl
  | true =>
    have hu : 48 ≤ u ∧ u ≤ 57 := by simpa [isDecimal] using hd
    have hl : lowerAscii u = u := if_neg (by omega)
    obtain ⟨h1, h2, h3, h4, h5⟩ : u ≠ 119 ∧ u ≠ 100 ∧ u ≠ 104 ∧ u ≠ 109 ∧ u ≠ 115 := by omega
    simp [unitMult, hl, h1, h2, h3, h4, h5] at h

/-- the loop and `unitMult` test the same letters in the same order -/
theorem ttlLoop_unit (u m : Nat) (cs : List Nat) (total cur : Nat) (h : unitMult u = some m) :
    ttlLoop (u :: cs) total cur false = ttlLoop cs (total + cur * m) 0 true := by
  have hnd := unitMult_not_decimal u (h ▸ rfl)
  simp only [ttlLoop, hnd, Bool.false_eq_true, if_false]
  unfold unitMult at h
  repeat' split at h
  all_goals simp_all
  rw [← h, Nat.mul_one]

theorem ttlLoop_units (gs : List (Nat × Nat)) (total : Nat) (hu : ∀ g ∈ gs, (unitMult g.2).isSome) :
    ttlLoop (unitsText gs) total 0 true = .ok (total + unitsValue gs) := by
  induction gs generalizing total with
  | nil => simp [unitsText, ttlLoop, unitsValue]
  | cons g rest ih =>
    obtain ⟨v, u⟩ := g
    obtain ⟨m, hm⟩ := Option.isSome_iff_exists.mp (hu (v, u) (by simp))
    simp only [unitsText]
    rw [ttlLoop_digits (natToDec v) _ total 0 true (natToDec_all v) (natToDec_ne_nil v), digitsVal_natToDec,
      ttlLoop_unit u m _ total v hm, ih (total + v * m) (fun g hg => hu g (by simp [hg]))]
    simp only [unitsValue, hm, Option.getD_some, Nat.add_assoc]

theorem unitsText_not_all_decimal (g : Nat × Nat) (rest : List (Nat × Nat)) (h : (unitMult g.2).isSome) :
    (unitsText (g :: rest)).all isDecimal = false := by
  obtain ⟨v, u⟩ := g
  simp only [unitsText, List.all_append, List.all_cons, unitMult_not_decimal u h, Bool.false_and, Bool.and_false]

end Model
