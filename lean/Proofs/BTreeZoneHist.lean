import Proofs.BTreeZoneOps
/-!
From writes to histories: validated names are in the zone; an operation that succeeds is at most one write at the
validated name (`stepOp_eq`); along any history the stores stay sorted (`runHist_ZWF`: every variant, no guard —
clause "names iterate in canonical order") and the invariant `Good` holds under the decidable guard `histGuard`
(identically `true` for the repaired variant).
-/
namespace Model
namespace BTZ
open NameOrder (revLower)

theorem vname_LC {cfg : Cfg} {n k : Name} (h : vname cfg n = .ok k) : LC k := by
  unfold vname at h
  split at h
  · injection h with h; rw [← h]; exact LC_lowerName _
  · cases h

/-- what `dns.name.Name` guarantees about its labels: only the last one may be empty -/
def NoInnerEmpty (n : Name) : Prop := ∀ l ∈ n.dropLast, l ≠ []

def WfCfg (cfg : Cfg) : Prop := isAbs cfg.origin = true

theorem isAbs_nil : isAbs [] = false := rfl

theorem sub_nil_of_rel {n : Name} (h : isAbs n = false) : isSubdomain n [] = true :=
  (NameOrder.isSubdomain_iff_revLower _ _).mpr ⟨by rw [h, isAbs_nil], by simp [revLower, lowerName]⟩

/-- `_validate_name` where it succeeds: an absolute name lies below the origin and, in a relativized zone, has the origin
cut off; a relative name is kept in a relativized zone and gets the origin appended otherwise -/
theorem validateName_ok {cfg : Cfg} {n m : Name} (h : validateName cfg n = .ok m) :
    if isAbs n then
      isSubdomain n cfg.origin = true ∧ m = if cfg.relativize then n.take (n.length - cfg.origin.length) else n
    else m = if cfg.relativize then n else n ++ cfg.origin := by
  unfold validateName at h
  split at h
  · rename_i ha
    rw [if_pos ha]
    split at h
    · cases h
    · rename_i hs
      rw [Bool.not_eq_true', Bool.not_eq_false] at hs
      refine ⟨hs, ?_⟩
      split at h
      · rename_i hr
        rw [relativize_eq, if_pos hs] at h
        split at h
        · rename_i hv; cases h; rw [if_pos hr]; exact (wf_of_validate _ _ hv).1
        · cases h
      · rename_i hr; cases h; rw [if_neg hr]
  · rename_i ha
    rw [if_neg ha, derelativize_of_rel (Bool.eq_false_iff.2 ha)] at *
    split at h
    · cases h
    · rename_i hv
      cases (wf_of_validate _ _ hv).1
      cases hr : cfg.relativize <;> simp [hr] at h ⊢ <;> exact h.symm

theorem vname_inzone {cfg : Cfg} (hc : WfCfg cfg) {n name : Name} (hn : NoInnerEmpty n)
    (h : vname cfg n = .ok name) : isSubdomain name (apex cfg) = true := by
  unfold vname at h
  split at h
  · rename_i m hv
    injection h with h; subst h
    have hm := validateName_ok hv
    unfold apex
    cases hr : cfg.relativize <;> cases ha : isAbs n <;>
      simp only [hr, ha, if_true, Bool.false_eq_true, if_false] at hm ⊢
    · -- absolute zone, relative name: the key is `n ++ origin`
      rw [hm, NameOrder.isSubdomain_congr (lowerName_idem _) (lowerName_idem _)]
      exact (NameOrder.below_of_append n cfg.origin hc).2.1
    · -- absolute zone, absolute name: accepted only below the origin
      rw [hm.2, NameOrder.isSubdomain_congr (lowerName_idem _) (lowerName_idem _)]
      exact hm.1
    · -- relativized zone, relative name: kept as it is
      exact sub_nil_of_rel (by rw [hm, NameOrder.isAbs_lowerName]; exact ha)
    · -- relativized zone, absolute name: the origin is cut off, and what is left has no empty label
      exact sub_nil_of_rel (by rw [hm.2, NameOrder.isAbs_lowerName]; exact NameOrder.isAbs_take_of_sub hn hc hm.1)
  · cases h

/-- well-formed operation: a legal owner name, an rdataset key as dnspython builds it -/
def OpWf : Op → Prop
  | .put n k => NoInnerEmpty n ∧ KeyWf k
  | .delName n => NoInnerEmpty n
  | .delRds n k => NoInnerEmpty n ∧ KeyWf k
  | .delRdata n k _ => NoInnerEmpty n ∧ KeyWf k

/-- a step of a transaction leaves the version as it is (the operation failed, or had nothing to do) or is one write at
the validated owner name -/
theorem stepOp_eq (v : Variant) (cfg : Cfg) (ver : Ver) (op : Op) :
    stepOp v cfg ver op = ver ∨ ∃ n name w, vname cfg n = .ok name ∧ stepOp v cfg ver op = Write.run v cfg ver name w ∧
      (OpWf op → NoInnerEmpty n ∧ w.Wf) ∧ (opGuard v cfg ver op = true → w.guard v cfg ver name = true) := by
  unfold stepOp
  split
  case h_2 => exact .inl rfl
  rename_i ver' hr
  have key : ∀ {n : Name} {w : Write}, (vname cfg n).map (fun name => w.run v cfg ver name) = .ok ver' →
      ∃ name, vname cfg n = .ok name ∧ ver' = w.run v cfg ver name := by
    intro n w h
    cases hv : vname cfg n with
    | error e => rw [hv] at h; cases h
    | ok name => rw [hv] at h; exact ⟨name, rfl, (Except.ok.inj h).symm⟩
  cases op with
  | put n k =>
    simp only [applyOp] at hr
    split at hr
    · cases hr
    · split at hr
      · cases hr
      · obtain ⟨name, hv, e⟩ := key (putRdataset_eq .. ▸ hr)
        exact Or.inr ⟨n, name, .put k, hv, e, id, by simp only [opGuard, hv]; exact id⟩
  | delName n =>
    obtain ⟨name, hv, e⟩ := key (w := .delNode) ((deleteNode_eq ..).symm.trans hr)
    exact Or.inr ⟨n, name, .delNode, hv, e, fun h => ⟨h, trivial⟩, by simp only [opGuard, hv]; exact id⟩
  | delRds n k =>
    simp only [applyOp] at hr
    split at hr
    · cases hr
    · exact Or.inl (Except.ok.inj hr).symm
    · rename_i hex
      obtain ⟨name, hv, e⟩ := key (deleteRdataset_eq .. ▸ hr)
      exact Or.inr ⟨n, name, .delRds k, hv, e, id, by simp only [opGuard, hex, hv]; exact id⟩
  | delRdata n k hit =>
    simp only [applyOp] at hr
    split at hr
    · cases hr
    · exact Or.inl (Except.ok.inj hr).symm
    · rename_i hex
      cases hit with
      | true =>
        obtain ⟨name, hv, e⟩ := key (deleteRdataset_eq .. ▸ hr)
        exact Or.inr ⟨n, name, .delRds k, hv, e, id, by simp only [opGuard, hex, hv]; exact id⟩
      | false =>
        obtain ⟨name, hv, e⟩ := key (putRdataset_eq .. ▸ hr)
        exact Or.inr ⟨n, name, .put k, hv, e, id, by simp only [opGuard, hex, hv]; exact id⟩

theorem stepOp_VerWF {v : Variant} {cfg : Cfg} {ver : Ver} {op : Op} (h : VerWF ver) :
    VerWF (stepOp v cfg ver op) := by
  obtain e | ⟨n, name, w, hv, e, -⟩ := stepOp_eq v cfg ver op <;> rw [e]
  · exact h
  · exact w.run_VerWF h (vname_LC hv)

theorem foldl_stepOp_VerWF {v : Variant} {cfg : Cfg} {ver : Ver} {ops : List Op} (h : VerWF ver) :
    VerWF (ops.foldl (stepOp v cfg) ver) := by
  induction ops generalizing ver with
  | nil => exact h
  | cons op r ih => exact ih (stepOp_VerWF h)

/-- a property of versions, as a property of the committed state of the zone -/
def ZInv (P : Ver → Prop) : ZState → Prop
  | none => True
  | some (N, D) => P ⟨N, D, []⟩

/-- a transaction keeps what the run of its operations keeps, provided the empty version has it and `changed`
plays no part in it -/
theorem runTxn_inv {P : Ver → Prop} (h0 : P ⟨[], [], []⟩) (hc : ∀ {ver : Ver} c, P ver → P { ver with changed := c })
    {v : Variant} {cfg : Cfg} {z : ZState} {t : Txn} (hz : ZInv P z)
    (hops : ∀ ver, beginTxn z t.replacement = .ok ver → P ver → P (t.ops.foldl (stepOp v cfg) ver)) :
    ZInv P (runTxn v cfg z t) := by
  unfold runTxn
  cases hb : beginTxn z t.replacement with
  | error e => exact hz
  | ok ver =>
    have hv : P ver := by
      unfold beginTxn at hb
      split at hb
      · injection hb with hb; rw [← hb]; exact h0
      · split at hb
        · injection hb with hb; rw [← hb]; exact hz
        · cases hb
    have := hops ver hb hv
    simp only [endTxn]
    split
    · exact hc [] this
    · exact hz

/-- sortedness of a committed zone state -/
abbrev ZWF : ZState → Prop := ZInv VerWF

theorem runTxn_ZWF {v : Variant} {cfg : Cfg} {z : ZState} {t : Txn} (h : ZWF z) : ZWF (runTxn v cfg z t) :=
  runTxn_inv ⟨NWF_nil, DWF_nil⟩ (fun _ h => ⟨h.nodes, h.delegs⟩) h fun _ _ => foldl_stepOp_VerWF

theorem runHist_ZWF {v : Variant} {cfg : Cfg} {z : ZState} {h : List Txn} (hz : ZWF z) :
    ZWF (runHist v cfg z h) := by
  unfold runHist
  induction h generalizing z with
  | nil => exact hz
  | cons t r ih => exact ih (runTxn_ZWF hz)

theorem stepOp_good {v : Variant} {cfg : Cfg} (hc : WfCfg cfg) {ver : Ver} {op : Op} (hg : Good cfg ver)
    (hw : OpWf op) (hgd : opGuard v cfg ver op = true) : Good cfg (stepOp v cfg ver op) := by
  obtain e | ⟨n, name, w, hv, e, hwf, hwg⟩ := stepOp_eq v cfg ver op <;> rw [e]
  · exact hg
  · exact w.run_good hg (hwf hw).2 (vname_LC hv) (vname_inzone hc (hwf hw).1 hv) (hwg hgd)

theorem foldl_stepOp_good {v : Variant} {cfg : Cfg} (hc : WfCfg cfg) {ver : Ver} {ops : List Op} (hg : Good cfg ver)
    (hw : ∀ op ∈ ops, OpWf op) (hgd : opsGuard v cfg ver ops = true) :
    Good cfg (ops.foldl (stepOp v cfg) ver) := by
  induction ops generalizing ver with
  | nil => exact hg
  | cons op r ih =>
    simp only [opsGuard, Bool.and_eq_true] at hgd
    simp only [List.foldl_cons]
    exact ih (stepOp_good hc hg (hw op List.mem_cons_self) hgd.1)
      (fun o ho => hw o (List.mem_cons_of_mem _ ho)) hgd.2

/-- the committed state satisfies the invariant -/
abbrev ZGood (cfg : Cfg) : ZState → Prop := ZInv (Good cfg)

theorem Good_empty (cfg : Cfg) : Good cfg ⟨[], [], []⟩ := by
  refine ⟨NWF_nil, DWF_nil, by simp, by simp, by simp, ?_⟩
  intro n _
  simp [isDelegSpec, nsAt, nget]

def TxnWf (t : Txn) : Prop := ∀ op ∈ t.ops, OpWf op

theorem runTxn_good {v : Variant} {cfg : Cfg} (hc : WfCfg cfg) {z : ZState} {t : Txn} (hz : ZGood cfg z)
    (hw : TxnWf t) (hgd : txnGuard v cfg z t = true) : ZGood cfg (runTxn v cfg z t) :=
  runTxn_inv (Good_empty cfg) (fun c h => h.changed c) hz fun ver hb hv =>
    foldl_stepOp_good hc hv hw (by unfold txnGuard at hgd; rwa [hb] at hgd)

theorem runHist_good {v : Variant} {cfg : Cfg} (hc : WfCfg cfg) {z : ZState} {h : List Txn} (hz : ZGood cfg z)
    (hw : ∀ t ∈ h, TxnWf t) (hgd : histGuard v cfg z h = true) : ZGood cfg (runHist v cfg z h) := by
  unfold runHist
  induction h generalizing z with
  | nil => exact hz
  | cons t r ih =>
    simp only [histGuard, Bool.and_eq_true] at hgd
    simp only [List.foldl_cons]
    exact ih (runTxn_good hc hz (hw t List.mem_cons_self) hgd.1)
      (fun t' ht' => hw t' (List.mem_cons_of_mem _ ht')) hgd.2

theorem opGuard_intended (cfg : Cfg) (ver : Ver) (op : Op) : opGuard intended cfg ver op = true := by
  cases op with
  | put n k => simp only [opGuard]; split <;> simp [putGuard, intended]
  | delName n => simp only [opGuard]; split <;> simp [delNodeGuard, intended]
  | delRds n k => simp only [opGuard]; split <;> simp [delRdsGuard, intended]
  | delRdata n k hit =>
    simp only [opGuard]; split
    · split <;> simp [delRdsGuard, putGuard, intended]
    · rfl

theorem opsGuard_intended (cfg : Cfg) (ver : Ver) (ops : List Op) : opsGuard intended cfg ver ops = true := by
  induction ops generalizing ver with
  | nil => rfl
  | cons op r ih => simp [opsGuard, opGuard_intended, ih]

theorem histGuard_intended (cfg : Cfg) (z : ZState) (h : List Txn) : histGuard intended cfg z h = true := by
  induction h generalizing z with
  | nil => rfl
  | cons t r ih =>
    simp only [histGuard, Bool.and_eq_true]
    refine ⟨?_, ih _⟩
    unfold txnGuard; split
    · exact opsGuard_intended _ _ _
    · rfl

end BTZ
end Model
