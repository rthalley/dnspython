import Proofs.BTreeZoneGood
/-!
`ImmutableVersion.bounds` against its specification, in a `Good` version with an apex node.  The code walks the
node store from the cut (or from the name) and skips glue; the specification speaks of the sorted list of visible
names.  On a sorted store the walk is a filter, so its two neighbours are the specification's (`model_neighbours`),
and the closest encloser of a name among sorted zone names is read off its two neighbours (`ceLen_neighbours`).
-/
namespace Model
namespace BTZ
open NameOrder (revLower sortKey)

theorem find?_congr_mem {α} {l : List α} {p q : α → Bool} (h : ∀ a ∈ l, p a = q a) : l.find? p = l.find? q := by
  induction l with
  | nil => rfl
  | cons a t ih =>
    rw [List.find?_cons, List.find?_cons, h a List.mem_cons_self,
      ih (fun b hb => h b (List.mem_cons_of_mem _ hb))]

theorem filter_getLast?_of_last {α} {l : List α} {p : α → Bool} {x : α} (h : l.getLast? = some x) (hp : p x = true) :
    (l.filter p).getLast? = some x := by
  obtain ⟨ys, rfl⟩ := List.getLast?_eq_some_iff.mp h
  simp [List.filter_append, hp]

theorem find?_range_rev {p : Nat → Bool} {n K : Nat} (hK : K ≤ n) (hp : p K = true)
    (hno : ∀ k, K < k → k ≤ n → p k = false) : (List.range (n + 1)).reverse.find? p = some K := by
  induction n with
  | zero =>
    have : K = 0 := by omega
    subst this
    simp [List.range_succ, hp]
  | succ n ih =>
    rw [List.range_succ, List.reverse_append]
    simp only [List.reverse_cons, List.reverse_nil, List.nil_append, List.singleton_append, List.find?_cons]
    by_cases e : K = n + 1
    · subst e; simp [hp]
    · have : p (n + 1) = false := hno (n + 1) (by omega) (Nat.le_refl _)
      rw [this]
      exact ih (by omega) (fun k h1 h2 => hno k h1 (by omega))

theorem Good.glue_flag {cfg : Cfg} {N : Nodes} {D c : List Name} (hg : Good cfg ⟨N, D, c⟩) :
    ∀ e ∈ N, e.2.flags.glue = isGlueSpec cfg N e.1 := by
  intro e he; rw [hg.flags e he]; rfl

theorem visible_eq {cfg : Cfg} {N : Nodes} {D c : List Name} (hg : Good cfg ⟨N, D, c⟩) :
    visible cfg N = (N.filter (fun e => !e.2.flags.glue)).map (·.1) := by
  unfold visible
  congr 1
  exact List.filter_congr fun e he => by rw [hg.glue_flag e he]

/-- the walk of `bounds` started at `t` finds the neighbours of `name` among the visible names, provided no
non-glue node lies after `t` and not after `name`, and — for the left neighbour as shipped (D19) — the greatest
node not after `t` is not glue -/
theorem model_neighbours {cfg : Cfg} {N : Nodes} {D c : List Name} (hg : Good cfg ⟨N, D, c⟩) (t name : Name)
    (fixLeft : Bool)
    (hvis : ∀ a ∈ N, a.2.flags.glue = false → (cmpOrder a.1 t ≤ 0 ↔ cmpOrder a.1 name ≤ 0))
    (hguard : fixLeft = true ∨
      (match (N.takeWhile (fun e => decide (cmpOrder e.1 t ≤ 0))).getLast? with
       | some x => !x.2.flags.glue | none => true) = true) :
    (if fixLeft then ((N.takeWhile (fun e => decide (cmpOrder e.1 t ≤ 0))).filter (fun e => !e.2.flags.glue)).getLast?
      else (N.takeWhile (fun e => decide (cmpOrder e.1 t ≤ 0))).getLast?).map (·.1) =
      ((visible cfg N).filter (fun w => decide (cmpOrder w name ≤ 0))).getLast? ∧
    ((N.dropWhile (fun e => decide (cmpOrder e.1 t ≤ 0))).find? (fun e => !e.2.flags.glue)).map (·.1) =
      (visible cfg N).find? (fun w => decide (cmpOrder w name > 0)) := by
  have hle := takeWhile_le Prod.fst hg.wf.1 t
  rw [visible_eq hg, List.filter_map, List.getLast?_map, List.find?_map, List.find?_filter, hle.1, hle.2,
    List.find?_filter]
  constructor
  · congr 1
    have key : ((N.filter (fun e => !e.2.flags.glue)).filter ((fun w => decide (cmpOrder w name ≤ 0)) ∘ (·.1))).getLast? =
        ((N.filter (fun e => decide (cmpOrder e.1 t ≤ 0))).filter (fun e => !e.2.flags.glue)).getLast? := by
      rw [List.filter_filter, List.filter_filter]
      congr 1
      apply List.filter_congr
      intro a ha
      cases hag : a.2.flags.glue with
      | true => simp
      | false => simp [hvis a ha hag]
    rw [key]
    cases fixLeft with
    | true => rfl
    | false =>
      simp only [Bool.false_eq_true, if_false]
      rcases hguard with hg' | hg'
      · cases hg'
      · rw [hle.1] at hg'
        cases hl : (N.filter (fun e => decide (cmpOrder e.1 t ≤ 0))).getLast? with
        | none => rw [List.getLast?_eq_none_iff.mp hl]; rfl
        | some x =>
          rw [hl] at hg'
          exact (filter_getLast?_of_last hl hg').symm
  · congr 1
    apply find?_congr_mem
    intro a ha
    cases hag : a.2.flags.glue with
    | true => simp
    | false => simp [hvis a ha hag, Int.not_le]

theorem cut_neighbours {cfg : Cfg} {N : Nodes} {D c : List Name} (hg : Good cfg ⟨N, D, c⟩) {name cut : Name}
    (hc : cut ∈ D) (hsub : isSubdomain name cut = true) :
    (∀ a ∈ N, a.2.flags.glue = false → (cmpOrder a.1 cut ≤ 0 ↔ cmpOrder a.1 name ≤ 0)) ∧
    ∃ nd, nd.flags.glue = false ∧
      (N.takeWhile (fun e => decide (cmpOrder e.1 cut ≤ 0))).getLast? = some (cut, nd) := by
  have h := hg.wf
  have hcl := hg.dwf.2 cut hc
  obtain ⟨nd, hm, hd⟩ := hg.mem_delegs.mp hc
  obtain ⟨ho, hns, hna⟩ := (isDelegSpec_iff h).mp hd
  constructor
  · intro a ha hag
    refine ⟨fun hle => cmpOrder_le_trans hle (NameOrder.isSubdomain_le hsub), fun hle => ?_⟩
    -- a node after the cut and not after `name` is below the cut (convexity), hence glue
    apply Classical.byContradiction
    intro hnot
    have hlt : cmpOrder cut a.1 < 0 := cmpOrder_gt_iff.mp (by omega)
    have hsa : isSubdomain a.1 cut = true := NameOrder.isSubdomain_convex hsub (Int.le_of_lt hlt) hle
    have hne : a.1 ≠ cut := fun e => by rw [e, NameOrder.cmpOrder_self] at hlt; cases hlt
    have := (isGlueSpec_iff h).mpr ⟨cut, hcl, hns, (properSub_iff_sub_ne (h.2 a ha) hcl).mpr ⟨hsa, hne⟩, ho⟩
    rw [← hg.glue_flag a ha, hag] at this; cases this
  · refine ⟨nd, ?_, ?_⟩
    · rw [hg.glue_flag _ hm]
      exact Bool.eq_false_iff.mpr fun hh => hna ((isGlueSpec_iff h).mp hh)
    · rw [(takeWhile_le Prod.fst h.1 cut).1]
      exact (last_le_iff Prod.fst h.1 cut).mpr
        ⟨hm, by rw [NameOrder.cmpOrder_self]; exact Int.le_refl 0, fun _ _ hy => hy⟩

theorem sub_suffix_iff {w name : Name} {k : Nat} (hk : k ≤ name.length) (h0 : 1 ≤ k ∨ isAbs name = false) :
    isSubdomain w (name.drop (name.length - k)) = true ↔ k + 1 ≤ lcp (sortKey name) (sortKey w) := by
  rw [NameOrder.isSubdomain_iff_sortKey, NameOrder.sortKey_drop name hk h0, take_prefix_iff_le_lcp]
  rw [sortKey, List.length_cons, NameOrder.revLower_length]; omega

theorem apex_length (cfg : Cfg) : (apex cfg).length = if cfg.relativize then 0 else cfg.origin.length := by
  unfold apex; split
  · rfl
  · simp [lowerName]

theorem sameAbs_of_inzone {cfg : Cfg} {a : Name} (h : isSubdomain a (apex cfg) = true) : isAbs a = isAbs (apex cfg) :=
  ((NameOrder.isSubdomain_iff_revLower _ _).mp h).1

/-- two names of the zone share the key of the apex: its relativity and its labels -/
theorem common_ge_apex {cfg : Cfg} {a b : Name} (ha : isSubdomain a (apex cfg) = true)
    (hb : isSubdomain b (apex cfg) = true) : (apex cfg).length + 1 ≤ lcp (sortKey a) (sortKey b) := by
  have := lcp_ge_of_prefix ((NameOrder.isSubdomain_iff_sortKey _ _).mp ha) ((NameOrder.isSubdomain_iff_sortKey _ _).mp hb)
  rwa [sortKey, List.length_cons, NameOrder.revLower_length] at this

/-- the closest encloser of `name` counts the most labels that `name` shares with a name of the list (on the key the
relativity is one more shared element) -/
theorem ceLen_eq_max {cfg : Cfg} {vis : List Name} (hin : ∀ w ∈ vis, isSubdomain w (apex cfg) = true) {name : Name}
    (hz : isSubdomain name (apex cfg) = true) {K : Nat}
    (hub : ∀ w ∈ vis, lcp (sortKey w) (sortKey name) ≤ K + 1)
    (hatt : ∃ w ∈ vis, lcp (sortKey w) (sortKey name) = K + 1) : ceLen vis name = K := by
  obtain ⟨w0, hw0, hw0K⟩ := hatt
  have hKlen : K ≤ name.length := by
    have := lcp_le_left (sortKey name) (sortKey w0)
    rw [lcp_comm, hw0K, sortKey, List.length_cons, NameOrder.revLower_length] at this
    omega
  -- in an absolute zone the common part is never empty
  have hK0 : 1 ≤ K ∨ isAbs name = false := by
    cases habs : isAbs name with
    | false => exact Or.inr rfl
    | true =>
      left
      have h1 := common_ge_apex (hin w0 hw0) hz
      have := List.length_pos_iff.mpr (NameOrder.ne_nil_of_isAbs ((sameAbs_of_inzone hz).symm.trans habs))
      omega
  unfold ceLen
  have hfind : (List.range (name.length + 1)).reverse.find?
      (fun k => vis.any (fun w => isSubdomain w (name.drop (name.length - k)))) = some K := by
    apply find?_range_rev hKlen
    · rw [List.any_eq_true]
      exact ⟨w0, hw0, (sub_suffix_iff hKlen hK0).2 (by rw [lcp_comm, hw0K]; exact Nat.le_refl _)⟩
    · intro k hk1 hk2
      rw [List.any_eq_false]
      intro w hw hsub
      have := hub w hw
      rw [sub_suffix_iff hk2 (Or.inl (by omega)), lcp_comm] at hsub
      omega
  rw [hfind]

/-- among a sorted list of zone names, the most labels shared with `name` are shared with one of its two neighbours:
of two names on the same side of `name` the nearer shares at least as many labels with it, and with no name after
`name` the apex bounds the count from below -/
theorem ceLen_neighbours {cfg : Cfg} {vis : List Name} (hs : DWF vis)
    (hin : ∀ w ∈ vis, isSubdomain w (apex cfg) = true) {name : Name} (hz : isSubdomain name (apex cfg) = true)
    {l : Name} (hl : (vis.filter (fun w => decide (cmpOrder w name ≤ 0))).getLast? = some l) :
    ceLen vis name =
      max (fullcompare l name).2.2
        (match vis.find? (fun w => decide (cmpOrder w name > 0)) with
         | some r => (fullcompare r name).2.2
         | none => if cfg.relativize then 0 else cfg.origin.length) := by
  have hapex : ∀ w ∈ vis, (apex cfg).length + 1 ≤ lcp (sortKey w) (sortKey name) := fun w hw =>
    common_ge_apex (hin w hw) hz
  obtain ⟨hlv, hlle', hlmax⟩ := (last_le_iff (fun e => e) hs.1 name).mp hl
  have hleft : ∀ w ∈ vis, cmpOrder w name ≤ 0 →
      lcp (sortKey w) (sortKey name) ≤ lcp (sortKey l) (sortKey name) := fun w hw hle =>
    lcp_key_mono (Or.inl ⟨hlmax w hw hle, hlle'⟩)
  have hal := hapex l hlv
  -- the right-hand side bounds the labels shared with any name of the list, and some name attains it
  generalize hK : max (fullcompare l name).2.2
        (match vis.find? (fun w => decide (cmpOrder w name > 0)) with
         | some r => (fullcompare r name).2.2
         | none => if cfg.relativize then 0 else cfg.origin.length) = K
  suffices hbound : (∀ w ∈ vis, lcp (sortKey w) (sortKey name) ≤ K + 1) ∧
      (∃ w ∈ vis, lcp (sortKey w) (sortKey name) = K + 1) from ceLen_eq_max hin hz hbound.1 hbound.2
  rw [common_key l name] at hK
  cases hR : vis.find? (fun w => decide (cmpOrder w name > 0)) with
  | none =>
    rw [hR] at hK
    simp only [← apex_length] at hK
    have hK' : K + 1 = lcp (sortKey l) (sortKey name) := by omega
    refine ⟨fun w hw => ?_, l, hlv, hK'.symm⟩
    have hle : cmpOrder w name ≤ 0 := by
      have := List.find?_eq_none.mp hR w hw
      simp only [decide_eq_true_eq] at this
      omega
    rw [hK']; exact hleft w hw hle
  | some r =>
    rw [hR] at hK
    simp only [common_key r name] at hK
    obtain ⟨hrv, hrp, hrmin⟩ := find?_min hs.1 hR
    have hrp' : cmpOrder r name > 0 := by simpa using hrp
    have har := hapex r hrv
    have hnr : cmpOrder name r ≤ 0 := Int.le_of_lt (cmpOrder_gt_iff.mp hrp')
    constructor
    · intro w hw
      by_cases hle : cmpOrder w name ≤ 0
      · have := hleft w hw hle
        omega
      · have := lcp_key_mono (q := name) (Or.inr ⟨hnr, hrmin w hw (by simp; omega)⟩)
        omega
    · by_cases hcmp : lcp (sortKey r) (sortKey name) ≤ lcp (sortKey l) (sortKey name)
      · exact ⟨l, hlv, by omega⟩
      · exact ⟨r, hrv, by omega⟩

theorem visible_DWF {cfg : Cfg} {N : Nodes} (h : NWF N) : DWF (visible cfg N) :=
  NWF_iff_keys.mp (NWF_sublist List.filter_sublist h)

theorem isDelegation_eq {cfg : Cfg} {N : Nodes} {D c : List Name} (hg : Good cfg ⟨N, D, c⟩) (name : Name) :
    (getDelegation D name).1.isSome = N.any (fun e => isDelegSpec cfg N e.1 && isSubdomain name e.1) := by
  rw [Bool.eq_iff_iff]
  rw [List.any_eq_true]
  constructor
  · intro h
    cases hc : (getDelegation D name).1 with
    | none => rw [hc] at h; cases h
    | some cut =>
      obtain ⟨hm, hs⟩ := getDelegation_some hg.dwf hc
      obtain ⟨nd, hmN, hd⟩ := hg.mem_delegs.mp hm
      exact ⟨(cut, nd), hmN, by simp [hd, hs]⟩
  · rintro ⟨e, he, hp⟩
    simp only [Bool.and_eq_true] at hp
    rw [getDelegation_hit hg.dwf hg.antichain (hg.mem_delegs.mpr ⟨e.2, he, hp.1⟩) hp.2]
    rfl

theorem isEqual_eq (a b : Name) : ((fullcompare a b).1 == 3) = nameEq a b := by
  rw [Bool.eq_iff_iff, beq_iff_eq, NameOrder.relation_eq_three_iff, NameOrder.nameEq_iff]

theorem boundsAt_eq_spec {v : Variant} {cfg : Cfg} {N : Nodes} {D c : List Name} (hg : Good cfg ⟨N, D, c⟩)
    {name : Name} (hz : isSubdomain name (apex cfg) = true)
    (hgd : boundsGuard v cfg N D name = true) :
    boundsAt v cfg N D name =
      match boundsSpec cfg N name with
      | some b => .ok b
      | none => .error .assertion := by
  unfold boundsGuard at hgd
  simp only [Bool.and_eq_true, Bool.or_eq_true, bne_iff_ne, ne_eq] at hgd
  obtain ⟨g1, g2⟩ := hgd
  simp only [boundsAt]
  generalize ht : boundsAt.match_1 (fun _ => Name) (getDelegation D name).1 (fun cut => cut) (fun _ => name) = t
  obtain ⟨hvis, hguard⟩ : (∀ a ∈ N, a.2.flags.glue = false → (cmpOrder a.1 t ≤ 0 ↔ cmpOrder a.1 name ≤ 0)) ∧
      (v.fixLeft = true ∨ (match (N.takeWhile (fun e => decide (cmpOrder e.1 t ≤ 0))).getLast? with
        | some x => !x.2.flags.glue | none => true) = true) := by
    cases hcut : (getDelegation D name).1 with
    | none =>
      rw [hcut] at ht g1
      subst ht
      exact ⟨fun _ _ _ => Iff.rfl, g1.elim (fun h => h.elim Or.inl (by simp)) Or.inr⟩
    | some cut =>
      rw [hcut] at ht
      subst ht
      obtain ⟨hm, hs⟩ := getDelegation_some hg.dwf hcut
      obtain ⟨hvis, nd, hng, hlast⟩ := cut_neighbours hg hm hs
      exact ⟨hvis, Or.inr (by rw [hlast]; simp [hng])⟩
  obtain ⟨e1, e2⟩ := model_neighbours hg t name v.fixLeft hvis hguard
  have hin : ∀ w ∈ visible cfg N, isSubdomain w (apex cfg) = true := by
    intro w hw
    obtain ⟨e, he, rfl⟩ := List.mem_map.mp hw
    exact hg.inzone e (List.mem_filter.mp he).1
  unfold boundsSpec
  simp only [← e1, ← e2]
  generalize (if v.fixLeft = true then _ else _ : Option (Name × Node)) = L at e1 ⊢
  cases L with
  | none => rfl
  | some L =>
    simp only [Option.map_some]
    congr 2
    · refine (congrArg (lastLabels v name) (a₂ := ceLen (visible cfg N) name) ?_).trans ?_
      · rw [ceLen_neighbours (visible_DWF hg.wf) hin hz e1.symm, ← e2]
        cases List.find? _ _ <;> rfl
      · unfold lastLabels
        rcases g2 with h | h <;> simp [h]
    · exact isEqual_eq L.1 name
    · exact isDelegation_eq hg name

end BTZ
end Model
