import Proofs.RenderSpec
/-! Truncation: with `prefer_truncation` the rendering is exactly the untruncated rendering of the message cut
to its first `k` record sets (TC added iff the first dropped set lies before ADDITIONAL): the three runs of the one
(`render_ok`) are three runs of the other, which is all an ordinary rendering takes (`Rendered.toWire`). -/
namespace Model

def Step.withFlags (f : Nat) : Step → Step
  | .ok s => .ok { s with flags := f }
  | .tooBig s => .tooBig { s with flags := f }
  | .err e => .err e

theorem addItems_append (a b : List Item) : ∀ (s : RState),
    s.addItems (a ++ b) =
      match s.addItems a with
      | .ok (s1, false) => s1.addItems b
      | .ok (s1, true) => .ok (s1, true)
      | .error e => .error e := by
  induction a with
  | nil => intro s; simp [RState.addItems]
  | cons it rest ih =>
    intro s
    simp only [List.cons_append, RState.addItems]
    cases s.addItem it with
    | err e => rfl
    | tooBig s1 => rfl
    | ok s1 => exact ih s1

def Message.cut (m : Message) (k : Nat) (tc : Bool) : Message :=
  { m with
    q := m.q.take k
    an := m.an.take (k - m.q.length)
    au := m.au.take (k - m.q.length - m.an.length)
    ad := m.ad.take (k - m.q.length - m.an.length - m.au.length)
    flags := if tc then m.flags ||| ConstsC03.tcFlag else m.flags }

theorem items_cut (m : Message) (k : Nat) (tc : Bool) : (m.cut k tc).items = m.items.take k := by
  simp only [Message.items, Message.cut, List.take_append, List.map_take, List.length_append, List.length_map]
  simp [Nat.sub_sub]

/-- TC is set iff the first dropped record set lies before ADDITIONAL -/
def Message.tcAt (m : Message) (k : Nat) : Bool :=
  match m.items[k]? with
  | some it => decide (it.sec < ConstsC03.secADDITIONAL)
  | none => false

theorem addItem_flags_pres (s : RState) (it : Item) (hb : TblBelow s) :
    match s.addItem it with
    | .ok s' => s'.flags = s.flags
    | .tooBig s' => s'.flags = s.flags
    | .err _ => True := by
  have hspec := addItem_spec s it
  generalize s.addItem it = st at hspec
  cases st with
  | ok s' => cases hspec; rfl
  | tooBig s' => rw [(hspec.tooBig_eq hb).1]
  | err e => trivial

theorem addItems_sec_le (items : List Item) : ∀ (s s' : RState) (big : Bool), TblBelow s →
    (∀ it ∈ items, it.sec ≤ 3) → s.sec ≤ 3 → s.addItems items = .ok (s', big) → s'.sec ≤ 3 := by
  intro s s' big hb hall hs h
  cases big with
  | false =>
    obtain ⟨-, _, _, rfl⟩ := (addItems_false_iff items).mp h
    exact lastSec_le hs hall
  | true =>
    obtain ⟨k, _, hk, _, rfl, _⟩ := addItems_big items s s' hb h
    exact hall _ (List.getElem_mem hk)

theorem tcAt_of_lt (m : Message) (k : Nat) (hk : k < m.items.length) :
    m.tcAt k = decide (m.items[k].sec < ConstsC03.secADDITIONAL) := by
  unfold Message.tcAt
  rw [List.getElem?_eq_getElem hk]

/-- the cut message keeps id, OPT, padding, TSIG, origin and payload, and its items are the first `k`: a rendering of `m`
that kept `k` items is a rendering of the cut message that kept them all -/
theorem Rendered.cut {m : Message} {lim : Nat} {r : RState} {k fl b : Nat} {opt' : Option EOpt} {q qo qt : Bytes × CTable}
    (hR : Rendered m lim r k fl b opt' q qo qt) (tc : Bool) (hfl : fl = (m.cut k tc).flags) :
    Rendered (m.cut k tc) lim r (m.cut k tc).items.length (m.cut k tc).flags b opt' q qo qt := by
  have hi : (m.cut k tc).items.take (m.cut k tc).items.length = m.items.take k := by rw [List.take_length, items_cut]
  exact ⟨hR.res, hR.room, by rw [hi]; exact hR.items, hR.pad, hR.opt, hR.tsig, by rw [hi]; exact hR.counts, hfl ▸ hR.out,
    hR.tbl⟩

theorem toWire_truncation (m : Message) (lim : Nat) (w : Bytes) (h : m.toWire lim true = .ok w) :
    m.toWire lim false = .ok w ∨
    ∃ k, k < m.items.length ∧ (m.cut k (m.tcAt k)).toWire lim false = .ok w := by
  obtain ⟨r, hr, rfl⟩ := toWire_ok_iff.mp h
  obtain ⟨k, fl, b, opt', q, qo, qt, hR, ⟨rfl, rfl⟩ | ⟨-, hk, rfl⟩⟩ := render_ok hr
  · exact .inl hR.toWire
  · refine .inr ⟨k, hk, (hR.cut (m.tcAt k) ?_).toWire⟩
    rw [Message.cut, tcAt_of_lt m k hk]
    by_cases hc : m.items[k].sec < ConstsC03.secADDITIONAL <;> simp [hc]

end Model
