import Proofs.ResolverRun
/-!
Where NXDOMAIN evidence comes from.  (That the result is NXDOMAIN only when every candidate has evidence recorded in
`nxdomain_responses` is what `Wf` gives at the end, `WfEnd.nx`.)  Every recorded name was either answered with a
validated NXDOMAIN response during this resolution, or has a live NXDOMAIN entry under `(name, ANY, class)` in the cache
*the resolution started with* (`InvE`: entries put during the resolution are themselves traced to such a response).
-/
namespace Model.Resolver
open Model


/-- a query of this resolution for (a spelling of) `n` got a validated NXDOMAIN response -/
def EvNx (env : Env) (evs : List Event) (n : Name) : Prop :=
  ∃ q' ns tcp t r c, Event.query q' ns tcp t (.resp r) ∈ evs ∧ r.rcode = rcNXDOMAIN ∧
    resolveChaining env.maxChain r q' env.rdclass env.rdtype = .ok c ∧ sameName q' n = true

/-- the initial cache holds an NXDOMAIN entry for `n`, alive at some instant -/
def CachedNx0 (env : Env) (c0 : Cache) (n : Name) : Prop :=
  ∃ a t, cacheGet c0 (mkKey n tyANY env.rdclass) t = some a ∧ a.rcode = rcNXDOMAIN

def Evid (env : Env) (c0 : Cache) (evs : List Event) (n : Name) : Prop := EvNx env evs n ∨ CachedNx0 env c0 n

/-- provenance of the NXDOMAIN entries of a cache: initial, or put by this resolution after a validated response -/
def Prov (env : Env) (c0 : Cache) (evs : List Event) (c : Cache) : Prop :=
  ∀ n t a, cacheGet c (mkKey n tyANY env.rdclass) t = some a → a.rcode = rcNXDOMAIN →
    cacheGet c0 (mkKey n tyANY env.rdclass) t = some a ∨ EvNx env evs n

theorem EvNx_mono {env : Env} {a b : List Event} {n : Name} (h : EvNx env a n) : EvNx env (a ++ b) n := by
  obtain ⟨q', ns, tcp, t, r, c, h1, h2⟩ := h
  exact ⟨q', ns, tcp, t, r, c, List.mem_append_left _ h1, h2⟩

theorem Evid_mono {env : Env} {c0 : Cache} {a b : List Event} {n : Name} (h : Evid env c0 a n) :
    Evid env c0 (a ++ b) n := by
  rcases h with h | h
  · exact Or.inl (EvNx_mono h)
  · exact Or.inr h

theorem Prov_mono {env : Env} {c0 : Cache} {a b : List Event} {c : Cache} (h : Prov env c0 a c) :
    Prov env c0 (a ++ b) c := by
  intro n t x h1 h2
  rcases h n t x h1 h2 with h | h
  · exact Or.inl h
  · exact Or.inr (EvNx_mono h)


theorem EvNx_sameName {env : Env} {evs : List Event} {n q : Name} (h : EvNx env evs n) (hs : sameName n q = true) :
    EvNx env evs q := by
  obtain ⟨q', ns, tcp, t, r, c, e1, e2, e3, e4⟩ := h
  exact ⟨q', ns, tcp, t, r, c, e1, e2, e3, sameName_trans e4 hs⟩

theorem Prov_put {env : Env} {c0 : Cache} {evs : List Event} {c : Cache} {q : Name} {A : Answer}
    (h : Prov env c0 evs c) (hq : EvNx env evs q) : Prov env c0 evs (cachePut c (mkKey q tyANY env.rdclass) A) := by
  intro n t a h1 h2
  rw [cacheGet_put] at h1
  split at h1
  · rename_i hk
    exact Or.inr (EvNx_sameName hq (sameName_of_mkKey hk.symm))
  · exact h n t a h1 h2

theorem Evid_sameName {env : Env} {c0 : Cache} {evs : List Event} {n q : Name} (h : Evid env c0 evs n)
    (hs : sameName n q = true) : Evid env c0 evs q := by
  rcases h with h | ⟨a, t, h1, h2⟩
  · exact Or.inl (EvNx_sameName h hs)
  · exact Or.inr ⟨a, t, by rw [← mkKey_of_sameName tyANY env.rdclass hs]; exact h1, h2⟩

def InvE (env : Env) (c0 : Cache) (pre : List Event) (st : St) : Prop :=
  (∀ n ∈ st.nxNames, Evid env c0 pre n) ∧ Prov env c0 pre st.cache

/-- the names an NXDOMAIN result carries all have evidence -/
def PostE (env : Env) (c0 : Cache) (evs : List Event) (r : Result) : Prop :=
  ∀ qs rs, r = .nxdomain qs rs → ∀ n ∈ rs, Evid env c0 evs n

theorem step_evid (env : Env) (c0 : Cache) (pre : List Event) (st : St) (hinv : InvE env c0 pre st) :
    (step env st).sat (fun evs st' => InvE env c0 (pre ++ evs) st') (fun evs r _ => PostE env c0 (pre ++ evs) r) := by
  refine step_sat fun res h => ?_
  obtain ⟨hnx, hprov⟩ := hinv
  -- a name recorded while candidates are passed over has a live cached NXDOMAIN entry: an initial one, or one put
  -- after a validated response
  have hev : ∀ {l : List Name}, (∀ p ∈ l, probe env st.cache st.now p = .skip) →
      ∀ n ∈ l.foldl recordNx st.nxNames, Evid env c0 pre n := by
    intro l hl n hn
    rcases mem_foldl_recordNx hn with hn | hn
    · exact hnx n hn
    · have hp := probe_cases env st.cache st.now n
      rw [hl n hn] at hp
      obtain ⟨a, ha, hr⟩ := hp
      exact (hprov n st.now a ha hr).elim (fun h => Or.inr ⟨a, st.now, h, hr⟩) Or.inl
  cases h with
  | nxdomain _ hsk =>
    rintro _ _ ⟨⟩ n hn
    simpa using hev hsk n hn
  | request _ _ hsk => exact ⟨fun n hn => Evid_mono (hev hsk n hn), Prov_mono hprov⟩
  | @reply c w t d =>
    have hv := (verdict_cases env st.qname c.ns c.tcp (w + d.2.1) d.1).2.2
    generalize verdict env st.qname c.ns c.tcp (w + d.2.1) d.1 = v at hv
    cases v <;> simp only [judge, leaves, StepR.sat]
    case accept => split <;> exact nofun
    case yxdomain => exact nofun
    case nxdomain a =>
      -- the reply just seen is the evidence for the candidate in progress, and for the entry put under its key
      obtain ⟨r, hd, h3, hm⟩ := hv
      obtain ⟨⟨x, hx⟩, _⟩ := mkAnswer_ok hm
      have hq : EvNx env (pre ++ (sleepEvs env c.sleep st.now ++ [.query st.qname c.ns c.tcp t d.1])) st.qname :=
        ⟨st.qname, c.ns, c.tcp, t, r, x, by simp [hd], h3, hx, sameName_refl _⟩
      refine ⟨fun n hn => ?_, ?_⟩
      · rcases mem_recordNx hn with h | rfl
        · exact Evid_mono (hnx n h)
        · exact Or.inl hq
      · show Prov env c0 _ (if env.cfg.cacheOn then _ else _)
        split
        · exact Prov_put (Prov_mono hprov) hq
        · exact Prov_mono hprov
    all_goals exact ⟨fun n hn => Evid_mono (hnx n hn), Prov_mono hprov⟩
  | _ => exact nofun

/-- when the loop raises NXDOMAIN, every candidate has evidence: it is covered by a recorded name (`run_wf`), and recorded
names have evidence -/
theorem run_evid (env : Env) {cache : Cache} {script : List ScriptStep} {fuel : Nat} {res : List Event × Result × St}
    (hres : run env fuel (initOf env cache script) = res) (qs rs : List Name) (h : res.2.1 = .nxdomain qs rs) :
    ∀ q ∈ env.qnamesToTry, Evid env cache res.1 q := by
  have hp : PostE env cache res.1 res.2.1 :=
    hres ▸ run_induct env (fun _ => InvE env cache) (fun evs r _ => PostE env cache evs r)
      (fun _ pre st _ => step_evid env cache pre st) (fun _ _ _ _ => nofun) fuel _ [] (Wf.init env cache script)
      ⟨nofun, fun n t a h1 _ => Or.inl h1⟩
  intro q hq
  obtain ⟨m, hm, hmq⟩ := List.any_eq_true.mp (((run_wf env hres).nx qs rs h).2 q hq)
  exact Evid_sameName (hp qs rs h m hm) hmq

end Model.Resolver
