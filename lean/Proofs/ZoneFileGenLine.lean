import Model.ZoneFile
import Proofs.ZoneFileFileG
import Proofs.ZoneFileGenerate
/-!
The `$GENERATE` line at character level: the directive and its header are tokenised and the loop feeds `txn.add` the
records of the substituted texts; the file of explicit lines for the same records does the same, so the two spellings
load alike.  A header that states no TTL hands the loop the TTL a record line would inherit
(`_generate_line` and `_rr_line` take the same default), so this holds with the TTL left out on both sides as well.
-/
namespace Model

theorem lineStep_generate_dir (r : PState) (T : List Nat) (hT : startsDelim T)
    (htok : r.tok = after 0 false (s2l "$GENERATE" ++ T)) :
    lineStep r = .ok (.generate, { r with tok := after 0 false T }) := by
  -- what the dispatch asks of the word is closed: one evaluation by the kernel, the literals first converted by unification
  obtain ⟨⟨w1, w2, w3⟩, c1, c2, c3⟩ :
      (identOK (s2l "$GENERATE") = true ∧ s2l "$GENERATE" ≠ [] ∧ (s2l "$GENERATE").head? = some 36) ∧
      directiveOf (s2l "$GENERATE") ≠ s2l "$TTL" ∧ directiveOf (s2l "$GENERATE") ≠ s2l "$ORIGIN" ∧
      directiveOf (s2l "$GENERATE") = s2l "$GENERATE" := by
    repeat rw [s2l_ofList]
    decide +kernel
  rw [lineStep_dollar r _ T w1 w2 w3 hT htok, directive, if_neg c1, if_neg c2, if_pos c3]
  rfl

/-- the text of a `$GENERATE` header after the directive token: ` range lhs ttl class type rhs` -/
def genHeaderText (rangeT lhs ttlT clsT tyT rhs : List Nat) (T : List Nat) : List Nat :=
  32 :: (rangeT ++ (32 :: (lhs ++ (32 :: (ttlT ++ (32 :: (clsT ++ (32 :: (tyT ++ (32 :: (rhs ++ T)))))))))))

theorem get_tok {w T : List Nat} (k : TokOK w) (hT : startsDelim T) :
    (after 0 false (32 :: (w ++ T))).get = .ok (identToken w, after 0 false T) :=
  get_sp w T k.ok k.ne hT

theorem genNextIdent_tok {w T : List Nat} (k : TokOK w) (hT : startsDelim T) :
    genNextIdent (after 0 false (32 :: (w ++ T))) = .ok (identToken w, after 0 false T) := by
  simp [genNextIdent, bind, Except.bind, liftT, wrapSyntax, get_tok k hT, identToken, Token.isIdentifier, pure, Except.pure]

/-- the `except dns.ttl.BadTTL:` fallback of `_generate_line`, as the model spells it -/
def genFallbackTTL (r : PState) : Option Nat :=
  if !(r.lastTTLKnown ∨ r.defaultTTLKnown) then none
  else if r.defaultTTLKnown then some r.defaultTTL else some r.lastTTL

theorem inheritedTTL_cases (r : PState) (ttl : Nat) (h : r.inheritedTTL = some ttl) :
    (r.defaultTTLKnown = true ∧ r.defaultTTL = ttl) ∨
    (r.defaultTTLKnown = false ∧ r.lastTTLKnown = true ∧ r.lastTTL = ttl) := by
  unfold PState.inheritedTTL at h
  cases hd : r.defaultTTLKnown <;> cases hl : r.lastTTLKnown <;> simp [hd, hl] at h <;> simp [h]

/-- the fallback goes on with the TTL `_rr_line` would inherit -/
theorem genFallback_eq {β : Type} (r : PState) (ttl : Nat) (f : Nat → RM β) (h : r.inheritedTTL = some ttl) :
    (if !(r.lastTTLKnown ∨ r.defaultTTLKnown) then .error .syntaxError
      else if r.defaultTTLKnown then f r.defaultTTL else f r.lastTTL) = f ttl := by
  rcases inheritedTTL_cases r ttl h with ⟨hd, rfl⟩ | ⟨hd, hl, rfl⟩
  · simp [hd]
  · simp [hd, hl]

/-- ` range lhs class type rhs` -/
def genHeaderTextC (rangeT lhs clsT tyT rhs : List Nat) (T : List Nat) : List Nat :=
  32 :: (rangeT ++ (32 :: (lhs ++ (32 :: (clsT ++ (32 :: (tyT ++ (32 :: (rhs ++ T)))))))))

/-- ` range lhs type rhs` -/
def genHeaderTextY (rangeT lhs tyT rhs : List Nat) (T : List Nat) : List Nat :=
  32 :: (rangeT ++ (32 :: (lhs ++ (32 :: (tyT ++ (32 :: (rhs ++ T)))))))

/-- an optional field of the header: one blank and the word, or nothing -/
def optField : Option (List Nat) → List Nat → List Nat
  | some w, X => 32 :: (w ++ X)
  | none, X => X

/-- ` range lhs [ttl] [class] type rhs`: `genHeaderText`, `genHeaderTextC`, `genHeaderTextY` are three of its four shapes -/
def genHeaderTextO (rangeT lhs : List Nat) (ttlT? clsT? : Option (List Nat)) (tyT rhs T : List Nat) : List Nat :=
  32 :: (rangeT ++ (32 :: (lhs ++ optField ttlT? (optField clsT? (32 :: (tyT ++ (32 :: (rhs ++ T))))))))

/-- `_generate_line` up to the loop.  The token after `lhs` is tried as a TTL, the next as a class, the next must be the
type: a field that is left out must not be mistaken for the one before it (`hnt`, `hnc`), and a missing TTL is the
inherited one. -/
theorem generateParse_header (r : PState) (rangeT lhs tyT rhs T : List Nat) (ttlT? clsT? : Option (List Nat))
    (a b st ttl ty : Nat) (lm rm : Modify)
    (hco : r.currentOrigin.isNone = false)
    (htok : r.tok = after 0 false (genHeaderTextO rangeT lhs ttlT? clsT? tyT rhs T)) (hT : startsDelim T)
    (k1 : TokOK rangeT) (k2 : TokOK lhs) (k5 : TokOK tyT) (k6 : TokOK rhs)
    (k3 : ∀ w ∈ ttlT?, TokOK w ∧ ttlOf w = some ttl)
    (k4 : ∀ w ∈ clsT?, TokOK w ∧ classFromText w = some 1)
    (hnt : ttlT? = none → ttlOf (clsT?.getD tyT) = none ∧ r.inheritedTTL = some ttl)
    (hnc : clsT? = none → classFromText tyT = none)
    (hrange : grangeFromText rangeT = .ok (a, b, st)) (hty : typeFromText tyT = some ty)
    (hlm : parseModify lhs = some lm) (hrm : parseModify rhs = some rm) :
    generateParse r = .ok (⟨ttl, ty, generateExpansion a b st lhs rhs lm rm⟩,
      { ttlStated ttlT?.isSome ttl r with tok := after 0 false T }) := by
  unfold generateParse
  -- in each of the four shapes every `get` finds its word after one blank; what is left when no TTL is written is the
  -- fallback
  rcases ttlT? with _ | ttlT <;> rcases clsT? with _ | clsT <;>
    simp only [Option.mem_def, Option.some.injEq, forall_eq', reduceCtorEq, false_imp_iff, implies_true,
      Option.getD_some, Option.getD_none, forall_const] at k3 k4 hnt hnc <;>
    simp only [htok, genHeaderTextO, optField, hco, Bool.false_eq_true, if_false, bind, Except.bind, liftT, hrange, pure,
      Except.pure, identToken, get_tok, genNextIdent_tok, sp_startsDelim, k1, k2, k3, k4, k5, k6, hT, hnt, hnc,
      Token.isIdentifier, beq_self_eq_true, Bool.not_true, wrapSyntax, ne_eq, not_true_eq_false, hty, hlm, hrm,
      Option.isSome_some, Option.isSome_none, ttlStated, if_true, Bool.true_or] <;>
    exact genFallback_eq r ttl
      (fun v => .ok ((⟨v, ty, generateExpansion a b st lhs rhs lm rm⟩ : GenHeader), { r with tok := after 0 false T })) hnt.2

theorem lineStep_eol (r : PState) (rest : List Nat) (htok : r.tok = after 0 false (10 :: rest)) :
    lineStep r = .ok (.nothing, { r with tok := after 0 false rest }) :=
  lineStep_eol_tok r _ _ (htok ▸ get_first_eol rest) rfl

/-- the turn of the `$GENERATE` line and the turn of the newline behind it -/
theorem run_generate (r r1 : PState) (H rest : List Nat) (ttl ty : Nat)
    (items : List (List Nat × List Nat)) (e : List Nat × List Nat → Option Entry) (nOf : List Nat × List Nat → Name)
    (hH : startsDelim H) (htok : r.tok = after 0 false (s2l "$GENERATE" ++ H))
    (hparse : generateParse { r with tok := after 0 false H } = .ok (⟨ttl, ty, items⟩, r1))
    (htok1 : r1.tok = after 0 false (10 :: rest))
    (hitems : ∀ item ∈ items, ∀ ln, genItem ttl ty item { r1 with lastName := ln } =
        .ok (e item, { r1 with lastName := some (nOf item) })) :
    Run 2 r r1.effOrigin (items.filterMap e)
      { r1 with tok := after 0 false rest, lastName := lastNameAfter nOf r1.lastName items } := fun f => by
  have heol := lineStep_eol { r1 with lastName := lastNameAfter nOf r1.lastName items } rest htok1
  simp only [parseTrace, lineStep_generate_dir r H hH htok, hparse, genTrace_records ttl ty items r1 e nOf _ hitems, heol]

/-- lines that all write the same TTL explicitly and are not SOAs -/
def UniformLines (ttl : Nat) (ls : List GLine) : Prop := ∀ l ∈ ls, l.hdr.hasTTL = true ∧ l.ttl = ttl ∧ l.ty ≠ tSOA

def lastN : Option Name → List GLine → Option Name
  | ln, [] => ln
  | _, l :: ls => lastN (some l.n) ls

/-- after lines that all state the TTL `ttl`, or all state none (and are no SOAs) -/
theorem finalStateR_sameTTL (stated : Bool) (ls : List GLine) (rest : List Nat) (r : PState) (ttl : Nat)
    (htok : r.tok = after 0 false (glinesText ls ++ rest)) (hne : stated = true → ls ≠ [])
    (hu : ∀ l ∈ ls, l.hdr.hasTTL = stated ∧ l.ttl = ttl ∧ l.ty ≠ tSOA) :
    finalStateR ls rest r =
      { ttlStated stated ttl r with tok := after 0 false rest, lastName := lastN r.lastName ls } := by
  induction ls generalizing r with
  | nil =>
    cases stated
    · cases r
      simp only [glinesText, List.nil_append] at htok
      subst htok
      rfl
    · exact absurd rfl (hne rfl)
  | cons l ls ih =>
    obtain ⟨u1, u2, u3⟩ := hu l (by simp)
    have hafter : afterG r l (glinesText ls ++ rest) =
        { ttlStated stated ttl r with tok := after 0 false (glinesText ls ++ rest), lastName := some l.n } := by
      rw [afterG, soaDefault_other _ _ _ u3, u1, u2]
    simp only [finalStateR, hafter, lastN]
    cases ls with
    | nil => rfl
    | cons l2 ls2 =>
      rw [ih _ rfl (fun _ => by simp) (fun x hx => hu x (by simp [hx]))]
      cases stated <;> rfl

/-- **the `$GENERATE` line against the file of its lines**, whatever the header spells (`hparse`): the TTL stated on the
`$GENERATE` line and on every line, or on none of them — then it is the TTL the reader inherits at that point -/
theorem generate_eq_lines (stated : Bool) (f : Nat) (r : PState) (z : ZoneMap) (co zo : Name) (H rest : List Nat)
    (ttl ty : Nat) (items : List (List Nat × List Nat)) (e : List Nat × List Nat → Option Entry)
    (nOf : List Nat × List Nat → Name) (ls : List GLine)
    (hco : r.currentOrigin = some co) (hzo : r.zoneOrigin = some zo) (hH : startsDelim H)
    (hparse : generateParse { r with tok := after 0 false H } =
      .ok (⟨ttl, ty, items⟩, { ttlStated stated ttl r with tok := after 0 false (10 :: rest) }))
    (hinh : stated = false → r.inheritedTTL = some ttl)
    (hitems : ∀ item ∈ items, ∀ ln,
      genItem ttl ty item { ttlStated stated ttl r with tok := after 0 false (10 :: rest), lastName := ln } =
        .ok (e item, { ttlStated stated ttl r with tok := after 0 false (10 :: rest), lastName := some (nOf item) }))
    (hls : ls.map GLine.entry = items.filterMap e) (hne : stated = true → ls ≠ [])
    (hok : LinesOK co zo r.relativize r.gfix r.lastName (if stated then none else some ttl) ls)
    (hu : ∀ l ∈ ls, l.hdr.hasTTL = stated ∧ l.ttl = ttl ∧ l.ty ≠ tSOA)
    (hlast : lastN r.lastName ls = lastNameAfter nOf r.lastName items) :
    readLoop (f + 2) { r with tok := after 0 false (s2l "$GENERATE" ++ H) } z =
    readLoop (f + ls.length) { r with tok := after 0 false (glinesText ls ++ rest) } z := by
  have hL := run_lines ls rest { r with tok := after 0 false (glinesText ls ++ rest) } co zo hco hzo rfl _
    (fun d' h => by
      cases stated
      · cases h; exact ⟨hinh rfl, Or.inr fun l hl => ⟨(hu l hl).1, (hu l hl).2.2⟩⟩
      · cases h) hok
  rw [finalStateR_sameTTL stated ls rest _ ttl rfl hne hu, hls, hlast] at hL
  refine (run_generate { r with tok := after 0 false (s2l "$GENERATE" ++ H) } _ H rest ttl ty items e nOf hH rfl hparse
    rfl hitems).congr ?_ f z
  cases stated <;> exact hL

/-- lines that state no TTL, are not SOAs, and all denote the TTL `ttl` -/
def InheritLines (ttl : Nat) (ls : List GLine) : Prop := ∀ l ∈ ls, l.hdr.hasTTL = false ∧ l.ttl = ttl ∧ l.ty ≠ tSOA

/-- `$ORIGIN t₁⏎ … $ORIGIN tₙ⏎` -/
def originsText : List (List Nat × Name) → List Nat
  | [] => []
  | d :: ds => s2l "$ORIGIN " ++ (d.1 ++ 10 :: originsText ds)

/-- the current origin after the run: the name of the last directive -/
def lastOrigin : Option Name → List (List Nat × Name) → Option Name
  | co, [] => co
  | _, d :: ds => lastOrigin (some d.2) ds

/-- each directive names its origin with an identifier token that — completed with the origin current at that point
(commit c444c98) — reads as an absolute name -/
def OriginsOK : Option Name → List (List Nat × Name) → Prop
  | _, [] => True
  | co, d :: ds => identOK d.1 = true ∧ d.1 ≠ [] ∧ (identToken d.1).asName co false none = .ok d.2 ∧ isAbs d.2 = true ∧
      OriginsOK (some d.2) ds

theorem run_origins (ds : List (List Nat × Name)) (rest : List Nat) (r : PState) (zo : Name)
    (hzo : r.zoneOrigin = some zo) (htok : r.tok = after 0 false (originsText ds ++ rest))
    (hok : OriginsOK r.currentOrigin ds) (e : Option Name) :
    Run ds.length r e [] { r with tok := after 0 false rest, currentOrigin := lastOrigin r.currentOrigin ds } := by
  induction ds generalizing r with
  | nil =>
    cases r
    simp only [originsText, List.nil_append] at htok
    subst htok
    exact Run.refl _ e
  | cons d ds ih =>
    obtain ⟨o1, o2, o3, o4, o5⟩ := hok
    have hstep := lineStep_origin_dir r d.1 d.2 (originsText ds ++ rest) o1 o2 o3 o4
      (by simpa [originsText, List.append_assoc] using htok)
    have := (Run.nothing hstep e).trans
      (ih { r with tok := after 0 false (originsText ds ++ rest), currentOrigin := some d.2,
                   zoneOrigin := originAfter r.zoneOrigin d.2 } (by simp [hzo, originAfter]) rfl o5)
    simpa only [List.length_cons, Nat.add_comm, List.append_nil, lastOrigin, hzo, originAfter] using this

end Model
