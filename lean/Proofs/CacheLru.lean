import Model.Cache
import Proofs.Cache
/-! C17: `LRUCache` with the ring as a list — the state invariant, the bound, and the refinement to a timed map plus a
recency list.  Every operation changes the ring by `removeKey`, by a `take`, or by a new first node; each invariant has
one lemma for shrinking to a sublist and one for the new first node. -/
namespace Model.Cache

def RingNodup (r : List Node) : Prop := r.Pairwise (fun a b => a.key ≠ b.key)

/-- ghost: recency stamps strictly decrease from `sentinel.next` to `sentinel.prev` and are bounded by the tick -/
def StampsSorted (r : List Node) (tick : Nat) : Prop :=
  r.Pairwise (fun a b => b.stamp < a.stamp) ∧ ∀ n ∈ r, n.stamp ≤ tick

theorem removeKey_sublist (r : List Node) (k : Key) : (removeKey r k).Sublist r := List.filter_sublist

theorem mem_removeKey {r : List Node} {k : Key} {n : Node} : n ∈ removeKey r k ↔ n ∈ r ∧ n.key ≠ k := by
  simp [removeKey]

theorem removeKey_eq_self {r : List Node} {k : Key} (h : ∀ n ∈ r, n.key ≠ k) : removeKey r k = r :=
  List.filter_eq_self.mpr fun y hy => by simpa using h y hy

theorem findNode_some {r : List Node} {k : Key} {n : Node} (h : findNode r k = some n) : n ∈ r ∧ n.key = k :=
  ⟨List.mem_of_find?_eq_some h, by simpa using List.find?_some h⟩

theorem findNode_none {r : List Node} {k : Key} (h : findNode r k = none) : ∀ n ∈ r, n.key ≠ k := by
  simpa [findNode] using h

theorem findNode_of_mem {r : List Node} {k : Key} (hnd : RingNodup r) {n : Node} (hn : n ∈ r) (hk : n.key = k) :
    findNode r k = some n := by
  induction r with
  | nil => cases hn
  | cons x rest ih =>
    unfold findNode
    rcases List.mem_cons.mp hn with e | hm
    · subst e; simp [List.find?, hk]
    · have hx : x.key ≠ k := fun e => (List.pairwise_cons.mp hnd).1 n hm (e.trans hk.symm)
      simp only [List.find?, hx, decide_false]
      exact ih (List.pairwise_cons.mp hnd).2 hm

theorem length_removeKey_lt {r : List Node} {k : Key} {n : Node} (hn : n ∈ r) (hk : n.key = k) :
    (removeKey r k).length + 1 ≤ r.length :=
  List.length_filter_lt_length_iff_exists.mpr ⟨n, hn, by simp [hk]⟩

theorem evictLoop_eq_take (limit : Nat) (hl : 1 ≤ limit) (fuel : Nat) (r : List Node) (hf : r.length ≤ fuel) :
    evictLoop limit fuel r = r.take (limit - 1) := by
  induction fuel generalizing r with
  | zero => rw [List.length_eq_zero_iff.mp (Nat.le_zero.mp hf)]; simp [evictLoop]
  | succ f ih =>
    unfold evictLoop
    split
    · next hge =>
      rw [ih r.dropLast (by simp; omega), List.dropLast_eq_take, List.take_take]
      congr 1; omega
    · rw [List.take_of_length_le (by omega)]

theorem evictTo_eq_take (limit : Nat) (hl : 1 ≤ limit) (r : List Node) : evictTo limit r = r.take (limit - 1) :=
  evictLoop_eq_take limit hl r.length r (Nat.le_refl _)

theorem clampMax_pos (n : Int) : 1 ≤ clampMax n := by
  unfold clampMax
  split
  · exact Nat.le_refl 1
  · omega

theorem stepL_put (s : LState) (k : Key) (a : Ans) (hm : 1 ≤ s.maxSize) :
    (stepL s (.put k a)).1.ring =
      { key := k, ans := a, hits := 0, stamp := s.tick + 1 } :: (removeKey s.ring k).take (s.maxSize - 1) := by
  simp only [stepL]
  rw [evictTo_eq_take _ hm]

theorem stepL_setMax (s : LState) (n : Int) : (stepL s (.setMax n)).1.ring = s.ring.take (clampMax n) := by
  simp only [stepL]
  rw [evictTo_eq_take _ (Nat.le_add_left 1 _), Nat.add_sub_cancel]

theorem stepL_hitsFor (s : LState) (k : Key) : (stepL s (.hitsFor k)).1 = { s with tick := s.tick + 1 } := by
  simp only [stepL]
  split
  · rfl
  · split <;> rfl

/-- `LRUCache.get` answers from the node the dict has for the key -/
theorem stepL_get (s : LState) (k : Key) :
    (stepL s (.get k)).2 = specGet (fun k => (findNode s.ring k).map (·.ans)) s.now k := by
  simp only [stepL, specGet]
  cases findNode s.ring k with
  | none => rfl
  | some n => dsimp only [Option.map]; split <;> rfl

/-- whatever `LRUCache.get` returns is held by a node of that key and has not expired -/
theorem stepL_get_val {s : LState} {k : Key} {v : Nat} (h : (stepL s (.get k)).2 = .val v) :
    ∃ n ∈ s.ring, n.key = k ∧ n.ans.val = v ∧ s.now < n.ans.exp := by
  rw [stepL_get] at h
  obtain ⟨a, ha, hv, he⟩ := specGet_val h
  obtain ⟨n, hf, rfl⟩ := Option.map_eq_some_iff.mp ha
  exact ⟨n, (findNode_some hf).1, (findNode_some hf).2, hv, he⟩

/-- the state invariant of `LRUCache` -/
structure InvL (s : LState) : Prop where
  nodup : RingNodup s.ring
  maxPos : 1 ≤ s.maxSize
  stamps : StampsSorted s.ring s.tick

theorem stampsSorted_sublist {r r' : List Node} {t t' : Nat} (h : StampsSorted r t) (hs : r'.Sublist r) (ht : t ≤ t') :
    StampsSorted r' t' :=
  ⟨h.1.sublist hs, fun n hn => Nat.le_trans (h.2 n (hs.subset hn)) ht⟩

theorem stampsSorted_cons {r : List Node} {t : Nat} (h : StampsSorted r t) (n : Node) (hn : n.stamp = t + 1) :
    StampsSorted (n :: r) (t + 1) := by
  refine ⟨List.pairwise_cons.mpr ⟨fun b hb => ?_, h.1⟩, fun b hb => ?_⟩
  · have := h.2 b hb; omega
  · rcases List.mem_cons.mp hb with e | hm
    · subst e; omega
    · have := h.2 b hm; omega

theorem ringNodup_cons_removeKey {r r' : List Node} {k : Key} (h : RingNodup r) (hs : r'.Sublist (removeKey r k))
    (n : Node) (hn : n.key = k) : RingNodup (n :: r') := by
  refine List.pairwise_cons.mpr ⟨fun b hb => ?_, (h.sublist (hs.trans (removeKey_sublist r k)))⟩
  have := (mem_removeKey.mp (hs.subset hb)).2
  rw [hn]; exact fun e => this e.symm

/-- cutting a list sorted by `R` to its first `n` elements drops only elements that come after all that stay
(the eviction loops of `put` and `set_max_size` are `take`) -/
theorem pairwise_take_of_not_mem {α : Type} {R : α → α → Prop} {l : List α} (h : l.Pairwise R) (n : Nat) {a b : α}
    (ha : a ∈ l.take n) (hb : b ∈ l) (hnb : b ∉ l.take n) : R a b := by
  rw [← List.take_append_drop n l] at h hb
  exact (List.pairwise_append.mp h).2.2 a ha b ((List.mem_append.mp hb).resolve_left hnb)

/-- the ring shrinks (everything but a `put` or a hit) -/
theorem InvL.of_sublist {s s' : LState} (h : InvL s) (hr : s'.ring.Sublist s.ring) (hm : 1 ≤ s'.maxSize)
    (ht : s.tick ≤ s'.tick) : InvL s' :=
  ⟨h.nodup.sublist hr, hm, stampsSorted_sublist h.stamps hr ht⟩

/-- a node stamped with the next tick is linked first, in front of what is left of the ring without its key
(`put`, hit) -/
theorem InvL.of_cons {s s' : LState} (h : InvL s) (n : Node) (r' : List Node) (hr : s'.ring = n :: r')
    (hs : r'.Sublist (removeKey s.ring n.key)) (hn : n.stamp = s.tick + 1) (ht : s'.tick = s.tick + 1)
    (hm : 1 ≤ s'.maxSize) : InvL s' :=
  ⟨hr ▸ ringNodup_cons_removeKey h.nodup hs n rfl, hm, hr ▸ ht ▸
    stampsSorted_cons (stampsSorted_sublist h.stamps (hs.trans (removeKey_sublist _ _)) (Nat.le_refl _)) n hn⟩

theorem invL_step (s : LState) (op : Op) (h : InvL s) : InvL (stepL s op).1 := by
  have hsub := removeKey_sublist s.ring
  cases op
  case get k =>
    simp only [stepL]
    split
    · exact h.of_sublist (.refl _) h.maxPos (Nat.le_succ _)
    · next n hf =>
      split
      · exact h.of_sublist (hsub k) h.maxPos (Nat.le_succ _)
      · exact h.of_cons _ _ rfl ((findNode_some hf).2 ▸ .refl _) rfl rfl h.maxPos
  case put k a => exact h.of_cons _ _ (stepL_put s k a h.maxPos) (List.take_sublist _ _) rfl rfl h.maxPos
  case flush k => exact h.of_sublist (hsub k) h.maxPos (Nat.le_succ _)
  case flushAll => exact h.of_sublist (List.nil_sublist _) h.maxPos (Nat.le_succ _)
  case setMax n => exact h.of_sublist (stepL_setMax s n ▸ List.take_sublist _ _) (clampMax_pos n) (Nat.le_succ _)
  case hitsFor k => rw [stepL_hitsFor]; exact h.of_sublist (.refl _) h.maxPos (Nat.le_succ _)
  all_goals exact h.of_sublist (.refl _) h.maxPos (Nat.le_succ _)

theorem invL_init (n : Int) (t0 : Nat) : InvL (initL n t0) :=
  ⟨List.Pairwise.nil, clampMax_pos n, List.Pairwise.nil, by simp [initL]⟩

theorem invL_run (s : LState) (ops : List Op) (h : InvL s) : InvL (runL s ops).1 := by
  induction ops generalizing s with
  | nil => exact h
  | cons op rest ih => simp only [runL]; exact ih _ (invL_step s op h)

theorem invL_reach (n : Int) (t0 : Nat) (ops : List Op) : InvL (runL (initL n t0) ops).1 :=
  invL_run _ ops (invL_init n t0)

theorem length_after_put (s : LState) (k : Key) (a : Ans) (hm : 1 ≤ s.maxSize) :
    (stepL s (.put k a)).1.ring.length ≤ (stepL s (.put k a)).1.maxSize := by
  rw [stepL_put s k a hm]
  show _ ≤ s.maxSize
  simp only [List.length_cons, List.length_take]
  omega

theorem length_after_setMax (s : LState) (n : Int) :
    (stepL s (.setMax n)).1.ring.length ≤ (stepL s (.setMax n)).1.maxSize := by
  rw [stepL_setMax]
  exact List.length_take_le _ _

theorem bound_step (s : LState) (op : Op) (hm : 1 ≤ s.maxSize) (hb : s.ring.length ≤ s.maxSize) :
    (stepL s op).1.ring.length ≤ (stepL s op).1.maxSize := by
  have hlen : ∀ k, (removeKey s.ring k).length ≤ s.maxSize := fun k =>
    Nat.le_trans (removeKey_sublist s.ring k).length_le hb
  cases op
  case get k =>
    simp only [stepL]
    split
    · exact hb
    · next n hf =>
      have := length_removeKey_lt (findNode_some hf).1 (findNode_some hf).2
      split
      · exact hlen k
      · exact Nat.le_trans this hb
  case put k a => exact length_after_put s k a hm
  case flush k => exact hlen k
  case flushAll => exact Nat.zero_le _
  case setMax n => exact length_after_setMax s n
  case hitsFor k => rw [stepL_hitsFor]; exact hb
  all_goals exact hb

theorem bound_run (s : LState) (ops : List Op) (hi : InvL s) (hb : s.ring.length ≤ s.maxSize) :
    (runL s ops).1.ring.length ≤ (runL s ops).1.maxSize := by
  induction ops generalizing s with
  | nil => exact hb
  | cons op rest ih =>
    simp only [runL]
    exact ih _ (invL_step s op hi) (bound_step s op hi.maxPos hb)

/-- `set_max_size` as it was before the repair (no eviction, DESIGN §6 D14): kept only to show that the bound
theorem depends on the eviction -/
def stepLOld (s : LState) (op : Op) : LState × Out :=
  match op with
  | .setMax n => ({ s with tick := s.tick + 1, maxSize := clampMax n }, .unit)
  | _ => stepL s op

def runLOld (s : LState) : List Op → LState
  | [] => s
  | op :: rest => runLOld (stepLOld s op).1 rest

/-- completeness of the lookup: an unexpired entry that the ring holds is returned -/
theorem stepL_get_of_mem {s : LState} (hnd : RingNodup s.ring) {k : Key} {nd : Node} (hmem : nd ∈ s.ring)
    (hk : nd.key = k) (he : s.now < nd.ans.exp) : (stepL s (.get k)).2 = .val nd.ans.val := by
  simp [stepL_get, specGet, findNode_of_mem hnd hmem hk, Nat.not_le.mpr he]

/-- whatever a `put` evicts was used strictly earlier than whatever it keeps -/
theorem put_evicts_older {s : LState} (hi : InvL s) (k : Key) (a : Ans) {e r : Node} (he : e ∈ s.ring) (hek : e.key ≠ k)
    (hev : e ∉ (stepL s (.put k a)).1.ring) (hr : r ∈ (stepL s (.put k a)).1.ring) (hrk : r.key ≠ k) :
    e.stamp < r.stamp := by
  rw [stepL_put s k a hi.maxPos] at hev hr
  exact pairwise_take_of_not_mem (hi.stamps.1.sublist (removeKey_sublist s.ring k)) _
    ((List.mem_cons.mp hr).resolve_left fun e' => hrk (e' ▸ rfl)) (mem_removeKey.mpr ⟨he, hek⟩)
    fun hm => hev (List.mem_cons_of_mem _ hm)

/-- … and it evicts nothing while there is room -/
theorem put_keeps_when_room {s : LState} (hm : 1 ≤ s.maxSize) (k : Key) (a : Ans)
    (hroom : (removeKey s.ring k).length < s.maxSize) {e : Node} (he : e ∈ s.ring) (hek : e.key ≠ k) :
    e ∈ (stepL s (.put k a)).1.ring := by
  rw [stepL_put s k a hm, List.take_of_length_le (by omega)]
  exact List.mem_cons_of_mem _ (mem_removeKey.mpr ⟨he, hek⟩)

/-- The specification of the LRU cache: the timed map of `Proofs.Cache` (most recent `put` of each key that was not
flushed — it knows nothing of eviction, expiry or the ring) and, next to it, the list of keys currently held,
most recently used first.  Eviction is `take`: only the tail of the recency list is ever dropped. -/
structure SpecL where
  m : TMap
  recency : List Key
  max : Nat
  now : Nat

def specInitL (n : Int) (t0 : Nat) : SpecL := { m := fun _ => none, recency := [], max := clampMax n, now := t0 }

def without (l : List Key) (k : Key) : List Key := l.filter (fun x => x ≠ k)

def specStepL (p : SpecL) (op : Op) : SpecL :=
  match op with
  | .get k =>
    if k ∈ p.recency then
      match p.m k with
      | some a => if a.exp ≤ p.now then { p with recency := without p.recency k }       -- found expired: dropped
                  else { p with recency := k :: without p.recency k }                    -- hit: most recently used
      | none => { p with recency := without p.recency k }
    else p
  | .put k a => { p with m := specStep p.m (.put k a), recency := k :: (without p.recency k).take (p.max - 1) }
  | .flush k => { p with m := specStep p.m (.flush k), recency := without p.recency k }
  | .flushAll => { p with m := specStep p.m .flushAll, recency := [] }
  | .setMax n => { p with max := clampMax n, recency := p.recency.take (clampMax n) }
  | .adv dt => { p with now := p.now + dt }
  | _ => p

def specRunL (p : SpecL) (ops : List Op) : SpecL := ops.foldl specStepL p

/-- what a lookup must return: the most recent stored answer of the key if the key is still held and the answer
has not expired -/
def specGetL (p : SpecL) (k : Key) : Out := if k ∈ p.recency then specGet p.m p.now k else .none

theorem specStepL_m (p : SpecL) (op : Op) : (specStepL p op).m = specStep p.m op := by
  cases op <;> simp only [specStepL, specStep]
  case get k =>
    split
    · split
      · split <;> rfl
      · rfl
    · rfl

theorem specRunL_m (p : SpecL) (ops : List Op) : (specRunL p ops).m = specRun p.m ops := by
  induction ops generalizing p with
  | nil => rfl
  | cons op rest ih => exact (ih _).trans (congrArg (specRun · rest) (specStepL_m p op))

/-! ### per-key hit counts (`LRUCacheNode.hits`, `get_hits_for_key`) -/

/-- what the per-key counter must be: hits of that key since it was last stored -/
def hitsStep (h : Key → Nat) (op : Op) (out : Out) : Key → Nat :=
  match op, out with
  | .put k _, _ => fun k' => if k' = k then 0 else h k'
  | .get k, .val _ => fun k' => if k' = k then h k + 1 else h k'
  | _, _ => h

def hitsSpec (h : Key → Nat) : List (Op × Out) → Key → Nat
  | [] => h
  | (op, out) :: rest => hitsSpec (hitsStep h op out) rest

/-- the function `f` of keys describes the attribute `g` of every node of the ring -/
def Tracks {α : Type} (g : Node → α) (f : Key → α) (r : List Node) : Prop := ∀ n ∈ r, g n = f n.key

theorem Tracks.subset {α : Type} {g : Node → α} {f : Key → α} {r r' : List Node} (h : Tracks g f r)
    (hs : ∀ n ∈ r', n ∈ r) : Tracks g f r' :=
  fun n hn => h n (hs n hn)

theorem Tracks.update {α : Type} {g : Node → α} {f : Key → α} {r r' : List Node} (h : Tracks g f r) (k : Key) (v : α)
    (hs : ∀ n ∈ r', n ∈ removeKey r k) : Tracks g (fun k' => if k' = k then v else f k') r' := by
  intro n hn
  have := mem_removeKey.mp (hs n hn)
  exact (h n this.1).trans (if_neg this.2).symm

theorem Tracks.cons {α : Type} {g : Node → α} {f : Key → α} {r : List Node} (h : Tracks g f r) (n : Node)
    (hn : g n = f n.key) : Tracks g f (n :: r) := by
  intro x hx
  rcases List.mem_cons.mp hx with e | hx
  · rw [e]; exact hn
  · exact h x hx

theorem keys_removeKey (r : List Node) (k : Key) : (removeKey r k).map (·.key) = without (r.map (·.key)) k := by
  rw [without, List.filter_map]; rfl

/-- the ring holds the keys of the recency list in that order, each node with the answer the timed map has for its key
and with the hit count `hc` prescribes -/
structure SimL (s : LState) (p : SpecL) (hc : Key → Nat) : Prop where
  keys : s.ring.map (·.key) = p.recency
  vals : Tracks (fun n => some n.ans) p.m s.ring
  hits : Tracks (·.hits) hc s.ring
  max : s.maxSize = p.max
  now : s.now = p.now

theorem SimL.absent {s : LState} {p : SpecL} {hc : Key → Nat} (h : SimL s p hc) {k : Key}
    (hf : findNode s.ring k = none) : k ∉ p.recency := by
  rw [← h.keys]
  intro hm
  obtain ⟨n, hn, hk⟩ := List.mem_map.mp hm
  exact findNode_none hf n hn hk

theorem SimL.present {s : LState} {p : SpecL} {hc : Key → Nat} (h : SimL s p hc) {k : Key} {n : Node}
    (hf : findNode s.ring k = some n) : k ∈ p.recency ∧ p.m k = some n.ans := by
  have hn := findNode_some hf
  exact ⟨h.keys ▸ List.mem_map.mpr ⟨n, hn⟩, hn.2 ▸ (h.vals n hn.1).symm⟩

/-- soundness of the lookup against the timed map -/
theorem SimL.get_sound {s : LState} {p : SpecL} {hc : Key → Nat} (h : SimL s p hc) {k : Key} {v : Nat}
    (hg : (stepL s (.get k)).2 = .val v) : ∃ a, p.m k = some a ∧ a.val = v ∧ s.now < a.exp := by
  obtain ⟨nd, hmem, hk, hv, he⟩ := stepL_get_val hg
  exact ⟨nd.ans, hk ▸ (h.vals nd hmem).symm, hv, he⟩

theorem simL_step (s : LState) (p : SpecL) (hc : Key → Nat) (op : Op) (hm : 1 ≤ s.maxSize) (h : SimL s p hc) :
    SimL (stepL s op).1 (specStepL p op) (hitsStep hc op (stepL s op).2) := by
  have hrem : ∀ k, ∀ n ∈ removeKey s.ring k, n ∈ s.ring := fun k n hn => (mem_removeKey.mp hn).1
  cases op
  case get k =>
    cases hf : findNode s.ring k with
    | none =>
      simp only [stepL, hf, specStepL, h.absent hf, if_false, hitsStep]
      exact ⟨h.keys, h.vals, h.hits, h.max, h.now⟩
    | some n =>
      have hn := findNode_some hf
      by_cases he : n.ans.exp ≤ s.now
      · simp only [stepL, hf, he, specStepL, (h.present hf).1, (h.present hf).2, ← h.now, if_true, hitsStep]
        exact ⟨by simp only [keys_removeKey, h.keys], h.vals.subset (hrem k), h.hits.subset (hrem k), h.max, rfl⟩
      · simp only [stepL, hf, he, specStepL, (h.present hf).1, (h.present hf).2, ← h.now, if_true, if_false, hitsStep]
        refine ⟨by simp only [List.map_cons, keys_removeKey, h.keys, hn.2], ?_, ?_, h.max, rfl⟩
        · exact (h.vals.subset (hrem k)).cons _ (h.vals n hn.1)
        · refine (h.hits.update k _ fun _ hx => hx).cons _ ?_
          simp only [hn.2, if_true, h.hits n hn.1]
  case put k a =>
    have hsub : ∀ n ∈ (removeKey s.ring k).take (s.maxSize - 1), n ∈ removeKey s.ring k := fun n => List.mem_of_mem_take
    refine ⟨?_, ?_, ?_, h.max, h.now⟩ <;> rw [stepL_put s k a hm]
    · simp only [specStepL, List.map_cons, List.map_take, keys_removeKey, h.keys, h.max]
    · exact (h.vals.update k _ hsub).cons _ (if_pos rfl).symm
    · exact (h.hits.update k _ hsub).cons _ (if_pos rfl).symm
  case flush k =>
    exact ⟨by simp only [stepL, specStepL, keys_removeKey, h.keys], h.vals.update k _ fun _ hx => hx,
      h.hits.subset (hrem k), h.max, h.now⟩
  case flushAll => exact ⟨rfl, nofun, nofun, h.max, h.now⟩
  case setMax n =>
    refine ⟨?_, ?_, ?_, rfl, h.now⟩ <;> rw [stepL_setMax]
    · simp only [specStepL, List.map_take, h.keys]
    · exact h.vals.subset fun n => List.mem_of_mem_take
    · exact h.hits.subset fun n => List.mem_of_mem_take
  case adv dt => exact ⟨h.keys, h.vals, h.hits, h.max, congrArg (· + dt) h.now⟩
  case hitsFor k => rw [stepL_hitsFor]; exact ⟨h.keys, h.vals, h.hits, h.max, h.now⟩
  all_goals exact ⟨h.keys, h.vals, h.hits, h.max, h.now⟩

theorem simL_run (s : LState) (p : SpecL) (hc : Key → Nat) (ops : List Op) (hi : InvL s) (h : SimL s p hc) :
    SimL (runL s ops).1 (specRunL p ops) (hitsSpec hc (ops.zip (runL s ops).2)) := by
  induction ops generalizing s p hc with
  | nil => exact h
  | cons op rest ih =>
    simp only [runL, specRunL, List.foldl_cons, List.zip_cons_cons, hitsSpec]
    exact ih _ _ _ (invL_step s op hi) (simL_step s p hc op hi.maxPos h)

theorem simL_init (n : Int) (t0 : Nat) : SimL (initL n t0) (specInitL n t0) (fun _ => 0) :=
  ⟨rfl, nofun, nofun, rfl, rfl⟩

theorem simL_reach (n : Int) (t0 : Nat) (ops : List Op) :
    SimL (runL (initL n t0) ops).1 (specRunL (specInitL n t0) ops)
      (hitsSpec (fun _ => 0) (ops.zip (runL (initL n t0) ops).2)) :=
  simL_run _ _ _ ops (invL_init n t0) (simL_init n t0)

theorem get_of_simL (s : LState) (p : SpecL) (hc : Key → Nat) (k : Key) (h : SimL s p hc) :
    (stepL s (.get k)).2 = specGetL p k := by
  rw [stepL_get, specGetL]
  cases hf : findNode s.ring k with
  | none => simp [if_neg (h.absent hf), specGet, hf]
  | some n => simp [if_pos (h.present hf).1, ← h.now, specGet, hf, (h.present hf).2]

theorem runL_eq_runG (s : LState) (ops : List Op) : runL s ops = runG (stepL) s ops := by
  induction ops generalizing s with
  | nil => rfl
  | cons o rest ih => simp [runL, runG, ih]

theorem stepL_counters (s : LState) (op : Op) :
    ((stepL s op).1.hits, (stepL s op).1.misses) = countStep (s.hits, s.misses) op (stepL s op).2 := by
  cases op <;> simp only [stepL, countStep]
  case get k | hitsFor k =>
    split
    · rfl
    · split <;> rfl

end Model.Cache
