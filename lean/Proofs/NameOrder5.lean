import Proofs.NameOrder3
/-!
RFC 4471 successor / predecessor.  Both change one label and keep what follows it, so the order of argument and result
is the order of the old and the new label (`lt_core`), or the result has the argument as a proper suffix (`lt_sub`).
Of an absolute name (`_absolute_successor`, `_absolute_predecessor`): the result is the wrap-around value or a legal
name below the origin on the right side of the argument.  Of a *relative* name (`_handle_relativity_and_call`:
derelativize, call, relativize): the order is transported through `derelativize … relativize` (`canonLt_cancel`).
-/
namespace Model
namespace NameOrder

/-! ## names that share a suffix compare by what stands in front of it -/

theorem lt_append_of_ne_nil {α} [LT α] (l m : List α) (hm : m ≠ []) : l < l ++ m := by
  induction l with
  | nil =>
    cases m with
    | nil => exact absurd rfl hm
    | cons a t => exact List.nil_lt_cons a t
  | cons a l ih => exact List.cons_lt_cons_iff.2 (Or.inr ⟨rfl, ih⟩)

theorem lt_core (P Q s : Name) (x y : Label) (hs : s ≠ []) (hxy : lowerLabel x < lowerLabel y) :
    canonLt (P ++ x :: s) (Q ++ y :: s) := by
  rw [← sortKey_lt_iff, List.append_cons P, List.append_cons Q, sortKey_append _ hs, sortKey_append _ hs,
    revLower_append, revLower_append]
  exact List.append_left_lt (List.cons_lt_cons_iff.2 (Or.inl hxy))

theorem lt_sub (P s : Name) (hs : s ≠ []) (hP : P ≠ []) : canonLt s (P ++ s) := by
  rw [← sortKey_lt_iff, sortKey_append P hs]
  exact lt_append_of_ne_nil _ _ (by simpa [revLower, lowerName] using hP)

theorem append_left_lt_cancel (l a b : List Label) (h : l ++ a < l ++ b) : a < b := by
  induction l with
  | nil => simpa using h
  | cons x l ih =>
    simp only [List.cons_append] at h
    rcases List.cons_lt_cons_iff.1 h with h' | ⟨_, h'⟩
    · exact absurd h' (List.lt_irrefl x)
    · exact ih h'

theorem canonLt_cancel (a b o : Name) (ho : o ≠ []) (ha : isAbs a = false) (hb : isAbs b = false)
    (h : canonLt (a ++ o) (b ++ o)) : canonLt a b := by
  rw [← sortKey_lt_iff, sortKey_append a ho, sortKey_append b ho] at h
  exact Or.inr ⟨ha.trans hb.symm, append_left_lt_cancel _ _ _ h⟩

/-! ## octet bumps: the `@`→`[`, `Z`→`{` and `[`→`@` special cases are what makes these hold -/

theorem bump_lt (o : Nat) :
    lowerOctet o < lowerOctet (if o = 64 then 91 else if o = 90 then 123 else o + 1) := by
  by_cases h64 : o = 64
  · subst h64; decide
  · by_cases h90 : o = 90
    · subst h90; decide
    · rw [if_neg h64, if_neg h90]
      unfold lowerOctet
      split <;> split <;> omega

theorem debump_lt (o : Nat) (h : o ≠ 0) :
    lowerOctet (if o = 91 then 64 else o - 1) < lowerOctet o := by
  by_cases h91 : o = 91
  · subst h91; decide
  · rw [if_neg h91]
    unfold lowerOctet
    split <;> split <;> omega

theorem label_lt_append (x : Label) (c : Nat) (t : Label) : lowerLabel x < lowerLabel (x ++ c :: t) := by
  simp only [lowerLabel, List.map_append, List.map_cons]
  exact lt_append_of_ne_nil _ _ (by simp)

theorem label_lt_bump (init : Label) (a b : Nat) (t u : Label) (h : lowerOctet a < lowerOctet b) :
    lowerLabel (init ++ a :: t) < lowerLabel (init ++ b :: u) := by
  simp only [lowerLabel, List.map_append, List.map_cons]
  exact List.append_left_lt (List.cons_lt_cons_iff.2 (Or.inl h))

theorem incrLabel_spec (l l' : Label) (h : incrLabel l = some l') : lowerLabel l < lowerLabel l' := by
  unfold incrLabel at h
  split at h
  · cases h
  · rename_i o restRev hd
    cases h
    -- `l` is `restRev.reverse ++ o :: t` where `t` are the trailing 0xFF octets that were skipped
    have hl := congrArg List.reverse (List.takeWhile_append_dropWhile (p := (· == 255)) (l := l.reverse))
    rw [hd, List.reverse_append, List.reverse_cons, List.append_assoc, List.reverse_reverse] at hl
    rw [← hl]
    exact label_lt_bump restRev.reverse o _ _ [] (bump_lt o)

/-- a result of successor/predecessor other than the wrap-around: a legal name below the origin -/
def Below (o r : Name) : Prop := WfName r ∧ lowerName o <:+ lowerName r

theorem below_cons (o : Name) (y : Label) (s : Name) (hw : WfName (y :: s)) (hs : lowerName o <:+ lowerName s) :
    Below o (y :: s) :=
  ⟨hw, List.suffix_cons_iff.2 (Or.inr hs)⟩

theorem suffix_tail {o s : Name} {x : Label} (h : lowerName o <:+ lowerName (x :: s))
    (hne : ¬ nameEq (x :: s) o = true) : lowerName o <:+ lowerName s :=
  (List.suffix_cons_iff.1 h).resolve_left fun e => hne ((nameEq_iff _ _).2 e.symm)

/-- the loop of `_absolute_successor`, started on a suffix `cur` of the name: the result sorts after every name ending in `cur` -/
theorem absSuccLoop_gt (o : Name) (ho : isAbs o = true) (cur : Name) :
    ∀ (pre r : Name), lowerName o <:+ lowerName cur → absSuccLoop o cur = .ok r →
      r = o ∨ (canonLt (pre ++ cur) r ∧ Below o r) := by
  induction cur with
  | nil =>
    intro pre r _ h
    exact Or.inl (Except.ok.inj h).symm
  | cons x s ih =>
    intro pre r hsub h
    rcases absSuccLoop_ok h with e | ⟨hne, hstep⟩
    · exact Or.inl e
    · have hs := suffix_tail hsub hne
      have hsne : s ≠ [] := by
        rintro rfl
        exact ne_nil_of_isAbs ho (List.map_eq_nil_iff.1 (List.suffix_nil.1 hs))
      rcases hstep with ⟨y, hy, rfl, hw⟩ | h'
      · have hlt : lowerLabel x < lowerLabel y := by
          rcases hy with rfl | hy
          · exact label_lt_append x 0 []
          · exact incrLabel_spec x y hy
        exact Or.inr ⟨lt_core pre [] s x y hsne hlt, below_cons o y s hw hs⟩
      · rcases ih (pre ++ [x]) r hs h' with e | e
        · exact Or.inl e
        · exact Or.inr ⟨by simpa using e.1, e.2⟩

/-- `_absolute_successor`, under its documented precondition (absolute name below the absolute origin) -/
theorem absoluteSuccessor_gt (n o r : Name) (p : Bool) (hn : isAbs n = true) (ho : isAbs o = true)
    (hsub : isSubdomain n o = true) (h : absoluteSuccessor n o p = .ok r) :
    r = o ∨ (canonLt n r ∧ Below o r) := by
  have hsuf := ((isSubdomain_iff n o).1 hsub).2
  rcases absoluteSuccessor_ok h with ⟨rfl, hw⟩ | h'
  · exact Or.inr ⟨lt_sub [[0]] n (ne_nil_of_isAbs hn) (by simp), below_cons o _ n hw hsuf⟩
  · simpa using absSuccLoop_gt o ho n [] r hsuf h'

theorem absolutePredecessor_lt (n o r : Name) (p : Bool) (hn : isAbs n = true)
    (hsuf : lowerName o <:+ lowerName n)
    (h : absolutePredecessor n o p = .ok r) : nameEq n o = true ∨ (canonLt r n ∧ Below o r) := by
  rcases absolutePredecessor_ok h with ⟨he, _⟩ | ⟨he, hw, x, s, rfl, hcase⟩
  · exact Or.inl he
  · right
    have hs' := suffix_tail hsuf he
    -- the name is absolute and its least label is not empty, so there is something after that label
    have hs : x ≠ [] → s ≠ [] := by
      rintro hx rfl
      exact hx ((isAbs_singleton x).1 hn)
    rcases hcase with ⟨rfl, rfl, _⟩ | ⟨init, lo, nl, P, rfl, rfl, hnl⟩
    · exact ⟨lt_sub [[0]] r (hs (by simp)) (by simp), hw, hs'⟩
    · -- the new least label is smaller than the old one
      have hlt : lowerLabel nl < lowerLabel (init ++ [lo]) := by
        rcases hnl with ⟨rfl, _⟩ | ⟨hlo, t, rfl⟩
        · exact label_lt_append nl lo []
        · exact label_lt_bump init _ lo t [] (debump_lt lo hlo)
      have hb : lowerName o <:+ lowerName (nl :: s) := List.suffix_cons_iff.2 (Or.inr hs')
      exact ⟨lt_core P [] s nl _ (hs (by simp)) hlt, hw, hb.trans ((List.suffix_append P _).map lowerLabel)⟩

theorem successor_abs {n o r : Name} {p : Bool} (hn : isAbs n = true) (h : successor n o p = .ok r) :
    isAbs o = true ∧ (r = o ∨ (canonLt n r ∧ Below o r)) :=
  let ⟨ho, hsub, hf⟩ := handleRelativity_abs absoluteSuccessor n o r p hn h
  ⟨ho, absoluteSuccessor_gt n o r p hn ho hsub hf⟩

theorem predecessor_abs {n o r : Name} {p : Bool} (hn : isAbs n = true) (h : predecessor n o p = .ok r) :
    isAbs o = true ∧ (nameEq n o = true ∨ (canonLt r n ∧ Below o r)) :=
  let ⟨ho, hsub, hf⟩ := handleRelativity_abs absolutePredecessor n o r p hn h
  ⟨ho, absolutePredecessor_lt n o r p hn ((isSubdomain_iff n o).1 hsub).2 hf⟩

theorem relativize_self (o r : Name) (ho : isAbs o = true) (h : relativize o o = .ok r) : r = [] := by
  rw [relativize_eq, isSubdomain_of_suffix (ne_nil_of_isAbs ho) (List.suffix_refl _), if_pos rfl, Nat.sub_self,
    List.take_zero] at h
  exact validate_eq _ _ h

theorem canonLt_relativize (n o r0 r : Name) (ho : isAbs o = true) (hn : isAbs n = false) (hb : Below o r0)
    (hr : relativize r0 o = .ok r) :
    (canonLt (n ++ o) r0 → canonLt n r) ∧ (canonLt r0 (n ++ o) → canonLt r n) := by
  have hone := ne_nil_of_isAbs ho
  -- the relativized name is relative and, put back under the origin, is `r0` up to case
  obtain ⟨hr', _, hrel, e⟩ := relativize_below hb.1 hone (isSubdomain_of_suffix hone hb.2)
  cases hr'.symm.trans hr
  exact ⟨fun hlt => canonLt_cancel n _ o hone hn hrel ((canonLt_congr _ _ r0 _ rfl e.symm).1 hlt),
    fun hlt => canonLt_cancel _ n o hone hrel hn ((canonLt_congr r0 _ _ _ e.symm rfl).1 hlt)⟩

/-- `[]` is the relativized origin: wrap-around -/
theorem successor_rel (n o r : Name) (p : Bool) (hn : isAbs n = false) (h : successor n o p = .ok r) :
    r = [] ∨ canonLt n r := by
  obtain ⟨ho, r0, hf, hr⟩ := handleRelativity_rel absoluteSuccessor n o r p hn h
  obtain ⟨habs, hsub, _⟩ := below_of_append n o ho
  rcases absoluteSuccessor_gt (n ++ o) o r0 p habs ho hsub hf with rfl | ⟨hlt, hb⟩
  · exact Or.inl (relativize_self _ r ho hr)
  · exact Or.inr ((canonLt_relativize n o r0 r ho hn hb hr).1 hlt)

/-- `[]` is the relativized origin -/
theorem predecessor_rel (n o r : Name) (p : Bool) (hn : isAbs n = false) (h : predecessor n o p = .ok r) :
    n = [] ∨ canonLt r n := by
  obtain ⟨ho, r0, hf, hr⟩ := handleRelativity_rel absolutePredecessor n o r p hn h
  obtain ⟨habs, _, hsuf⟩ := below_of_append n o ho
  rcases absolutePredecessor_lt (n ++ o) o r0 p habs hsuf hf with e | ⟨hlt, hb⟩
  · have := lowerName_length _ _ ((nameEq_iff _ _).1 e)
    rw [List.length_append] at this
    exact Or.inl (List.length_eq_zero_iff.1 (by omega))
  · exact Or.inr ((canonLt_relativize n o r0 r ho hn hb hr).2 hlt)

end NameOrder
end Model
