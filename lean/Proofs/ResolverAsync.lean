import Model.ResolverAsync
import Proofs.ResolverStep
/-!
The coroutine model of the asyncio resolver, driven by an event loop whose timers
fire on time, takes exactly the steps of the synchronous loop.
-/
namespace Model.Resolver
open Model

/-- a pass that has run to its end, as the coroutine reports it -/
def AOut.ofStep : StepR → AOut
  | .cont evs st => .next evs st
  | .done evs r st => .done evs r st

theorem AOut.toStep_ofStep (x : StepR) : (AOut.ofStep x).toStep = x := by
  cases x <;> rfl

theorem aService_ofStep (env : Env) (loop : EventLoop) (x : StepR) : aService env loop (.ofStep x) = .ofStep x := by
  cases x <;> rfl

theorem aResumeQuery_eq (env : Env) (ns : Server) (tcp : Bool) (t : Nat) (evs0 : List Event) (st2 : St)
    (out : Outcome) (n : Nat) (s : List ScriptStep) :
    aResumeQuery env ns tcp t evs0 st2 out n s =
      .ofStep (conclude (evs0 ++ [.query st2.qname ns tcp t out])
        (queryResult env { st2 with now := n, script := s } ns out)) := by
  unfold aResumeQuery conclude
  simp only
  generalize queryResult env { st2 with now := n, script := s } ns out = qr
  cases qr with
  | raise r st4 => rfl
  | ret a d st4 => cases a <;> rfl

theorem aAfterSleep_serviced (env : Env) (ns : Server) (tcp : Bool) (evs0 : List Event) (st2 : St) :
    aService env exactLoop (aAfterSleep env ns tcp evs0 st2) =
      .ofStep (match computeTimeout env st2.now with
      | none => .done evs0 .lifetimeTimeout st2
      | some t =>
        conclude (evs0 ++ [.query st2.qname ns tcp t (doQuery st2.script t).1])
          (queryResult env { st2 with now := st2.now + (doQuery st2.script t).2.1, script := (doQuery st2.script t).2.2 }
            ns (doQuery st2.script t).1)) := by
  unfold aAfterSleep
  cases computeTimeout env st2.now with
  | none => rfl
  | some t => exact aResumeQuery_eq ..

theorem aPass_eq_step (env : Env) (st : St) : aPass env exactLoop st = step env st := by
  unfold aPass aTop step
  cases st.phase with
  | needRequest =>
    simp only
    cases nextRequest env st.qnames st <;> rfl
  | querying =>
    simp only
    rcases nextNameserver_cases env st with ⟨hr, _⟩ | ⟨c, _, hr⟩ <;> rw [hr]
    · rfl
    · simp only
      rw [afterPick_eq]
      by_cases hb : c.sleep = 0
      · -- no sleep: the first service answers the query, the second finds nothing to do
        simp only [hb, ne_eq, not_true_eq_false, if_false, aAfterSleep_serviced, aService_ofStep, AOut.toStep_ofStep,
          sleepEvs, sleepFor_zero, Nat.add_zero]
        rfl
      · -- the first service is the sleep, the second the query
        simp only [ne_eq, hb, not_false_eq_true, if_true, sleepEvs]
        show (aService env exactLoop (aAfterSleep env c.ns c.tcp [.sleep (sleepFor env c.sleep st.now)]
          (st.asked c (st.now + sleepFor env c.sleep st.now) st.script))).toStep = _
        rw [aAfterSleep_serviced, AOut.toStep_ofStep]
        rfl

theorem arun_eq_run (env : Env) : ∀ (fuel : Nat) (st : St), arun env exactLoop fuel st = run env fuel st
  | 0, st => rfl
  | fuel + 1, st => by
    unfold arun run
    rw [aPass_eq_step]
    cases step env st with
    | done evs r st' => rfl
    | cont evs st' => simp only [arun_eq_run env fuel st']

end Model.Resolver
