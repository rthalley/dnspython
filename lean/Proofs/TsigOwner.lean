import Proofs.TsigRoundTrip
import Proofs.NameCompress
import Props.C01
/-! The owner-name encodings the renderer writes for the TSIG RR are owner encodings in the sense of `OwnerEncodes`: the
skeleton reader skips them as a whole and decodes them to a name equal to the key's.  Both the plain encoding `toWire n`
and the *compressed* one (`Name.to_wire(file, compress)`, C01's `toWireC`, whatever sound compression table the renderer
holds) are plain labels followed by the root octet or one pointer (`skipName_at`). -/
namespace Model.Tsig
open Model Model.NameOrder

/-- plain labels and then the root octet or a pointer, standing at `p`, are skipped as a whole -/
theorem skipName_at (w : Bytes) (e : Nat) (tail : Bytes) (ht : tail = [0] ∨ ∃ a b, 192 ≤ a ∧ tail = [a, b])
    (ls : List Label) (hp : PlainLabels ls) : ∀ (p f : Nat), At w p (toWire ls ++ tail) →
      p + (toWire ls ++ tail).length ≤ e → (toWire ls ++ tail).length ≤ f →
      skipName w e f p = some (p + (toWire ls ++ tail).length) := by
  induction ls with
  | nil =>
    intro p f hd he hf
    simp only [toWire, List.flatMap_nil, List.nil_append] at hd he hf ⊢
    have h1 : 1 ≤ tail.length := by rcases ht with rfl | ⟨a, b, _, rfl⟩ <;> simp
    obtain ⟨f, rfl⟩ : ∃ k, f = k + 1 := ⟨f - 1, by omega⟩
    rw [skipName_succ_iff]
    rcases ht with rfl | ⟨a, b, hab, rfl⟩
    · exact ⟨by omega, Or.inl ⟨getD_at hd, rfl⟩⟩
    · exact ⟨by omega, Or.inr (Or.inr ⟨getD_at hd ▸ hab, he, rfl⟩)⟩
  | cons l rest ih =>
    intro p f hd he hf
    have hl := hp l (by simp)
    have h64 : Consts.ptrLabelMin = 64 := by decide
    have hlen : (toWire (l :: rest) ++ tail).length = 1 + l.length + (toWire rest ++ tail).length := by
      simp [toWire]; omega
    have hd' : At w p ((l.length :: l) ++ (toWire rest ++ tail)) := by simpa [toWire] using hd
    obtain ⟨h1, h2⟩ := At.append.mp hd'
    rw [List.length_cons] at h2
    obtain ⟨f, rfl⟩ : ∃ k, f = k + 1 := ⟨f - 1, by omega⟩
    have := ih (fun x hx => hp x (by simp [hx])) _ f h2 (by omega) (by omega)
    rw [skipName_succ_iff, getD_at h1]
    exact ⟨by omega, Or.inr (Or.inl ⟨by omega, by omega, by omega,
      by rw [Nat.add_assoc, Nat.add_comm 1, this, hlen]; congr 1; omega⟩)⟩

theorem ownerEncodes_plain (pre : Bytes) (n : Name) (hw : WfName n) (ha : isAbs n = true) :
    OwnerEncodes pre (toWire n) n := by
  constructor
  · intro post
    obtain ⟨ls, rfl, hp⟩ := abs_split n hw ha
    have e : toWire (ls ++ [[]]) = toWire ls ++ [0] := by simp [toWire]
    rw [e]
    exact skipName_at _ _ [0] (Or.inl rfl) ls hp pre.length _ (At.mid ..) (by simp) (by simp; omega)
  · intro post
    exact decodeName_toWire n hw ha pre post

/-- `Name.to_wire(file, compress)`; `hs` is the invariant C01's `toWireC_sound` maintains while a message is rendered. -/
theorem ownerEncodes_compressed (pre : Bytes) (tbl : CTable) (n : Name) (hw : WfName n) (ha : isAbs n = true)
    (hs : TableSound C01.lowEq pre tbl) :
    ∃ o tbl' m, toWireC pre tbl n none = .ok (pre ++ o, tbl') ∧ OwnerEncodes pre o m ∧ nameEq n m = true := by
  obtain ⟨ext, new, htc, _, m, hfw, hlow⟩ := C01.toWireC_sound pre tbl n hw ha hs
  refine ⟨ext, tbl ++ new, m, htc, ?_, ?_⟩
  · obtain ⟨ls0, rfl, hp0⟩ := abs_split n hw ha
    obtain ⟨front, back, tail, _, hfp, hext, hback, _⟩ := cLoop_abs pre.length tbl hp0
    simp only [toWireC, ha, if_true, toWireCLoop_eq, Except.ok.injEq, Prod.mk.injEq] at htc
    have hte : ext = toWire front ++ tail := hext ▸ (List.append_cancel_left htc.1).symm
    have htl : tail = [0] ∨ ∃ a b, 192 ≤ a ∧ tail = [a, b] :=
      hback.imp And.right fun ⟨pos, _, h⟩ => ⟨_, _, by have := ptr_consts.1; omega, h⟩
    obtain ⟨ls, fwd, hd, hm, _⟩ := C01.fromWire_backward _ _ m _ hfw
    have hwf := (C01.fromWire_wf _ _ m _ hfw).1
    constructor
    · intro post
      rw [hte]
      exact skipName_at _ _ tail htl front hfp pre.length _ (At.mid ..) (by simp <;> omega) (by simp <;> omega)
    · intro post
      rw [hm] at hwf ⊢
      exact decodeName_of_Dec _ _ ls fwd (hd.mono post) hwf
  · rw [nameEq_iff]; exact hlow.symm

end Model.Tsig
