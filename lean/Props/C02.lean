import Proofs.RdataTable
import Proofs.RdataDispatch
/-!
# C02 — every record type's wire form round-trips and re-encodes byte-identically

Theorems of record.  `Model.RdataSchema` is the schema language (`enc`, `dec` inside the `restrict_to` discipline,
`valid` = what the constructors enforce plus names that survive the trip, `wf` = static tail-position /
length-prefix discipline of a schema); `Model.RdataTable.table` maps each implemented (class, type) to its schema.
`ConstsC02.*` / `Consts.*` are regenerated from the working tree on every run and are the table's actual parameters
(`implementedTypes`, DS/CDS/ZONEMD digest lengths, `Rcode` maximum, EUI lengths, LOC bounds, bitmap octet limit,
`MAX_TTL`, 63/255 name limits).
-/
namespace C02
open Model

/-- *"For every … well-formed value, encoding to wire and decoding yields an equal record"* — generic form:
for a statically well-formed schema and a valid value, decoding the encoding (behind any prefix, the slice being
exactly the encoding) returns the value, has consumed the whole slice, and leaves nothing.
*"with or without an origin for relative names"*: `o` is arbitrary; `valid` then asks relative names to fit with
the origin (see `valid_rel_example`). -/
theorem enc_dec (s : Schema) (o : Option Name) (v : Val) (hs : wf s = true) (hv : valid s o v = true) (pfx : Bytes) :
    dec s o pfx (enc s o v) = .ok (v, pfx ++ enc s o v, []) := by
  simpa using rt_all o s v hv pfx [] hs (.inl rfl)

/-- the same in front of an arbitrary continuation, for self-delimiting schemas (every non-final field) -/
theorem enc_dec_sd (s : Schema) (o : Option Name) (v : Val) (hs : sd s = true) (hv : valid s o v = true)
    (pfx tl : Bytes) :
    dec s o pfx (enc s o v ++ tl) = .ok (v, pfx ++ enc s o v, tl) :=
  rt_all o s v hv pfx tl (sd_wf s hs) (.inr hs)

/-- `dns.rdata.from_wire` level: the encoding, offered as an RDATA slice of exactly its length, decodes to the value -/
theorem decode_encode (s : Schema) (o : Option Name) (v : Val) (hs : wf s = true) (hv : valid s o v = true)
    (pfx : Bytes) : decodeWith s o pfx (enc s o v) = .ok v :=
  decodeWith_enc hs hv pfx

/-- *"… whose re-encoding is byte-identical"*: encoding what the decoder returned for an encoding gives the
same octets. -/
theorem reencode_identical (s : Schema) (o : Option Name) (v : Val) (hs : wf s = true) (hv : valid s o v = true)
    (pfx : Bytes) :
    ∃ v', decodeWith s o pfx (enc s o v) = .ok v' ∧ enc s o v' = enc s o v :=
  ⟨v, decode_encode s o v hs hv pfx, rfl⟩

/-- *"Decoding arbitrary octets … either reports a format error or yields a record that consumed exactly the
declared RDATA length"*: an accepted slice was read to its end (`restrict_to`), nothing is left, and the parser
position is the end of the slice. -/
theorem exact_consumption (s : Schema) (o : Option Name) (pfx rdata : Bytes) (v : Val) (hs : wf s = true)
    (hoct : OctetsOkB rdata) (hN : NameSound o) (h : decodeWith s o pfx rdata = .ok v) :
    dec s o pfx rdata = .ok (v, pfx ++ rdata, []) :=
  decodeWith_consumes h

/-- *"… and whose encoding is a fixed point of decode-then-encode"* — generic form: whatever octet string the
decoder accepts, the value it returns is valid, so its encoding decodes to the same value again (behind any
prefix) and re-encodes to itself. -/
theorem dec_fixpoint (s : Schema) (o : Option Name) (pfx rdata : Bytes) (v : Val) (hs : wf s = true)
    (hoct : OctetsOkB rdata) (hN : NameSound o) (h : decodeWith s o pfx rdata = .ok v) :
    valid s o v = true ∧ ∀ pfx', decodeWith s o pfx' (enc s o v) = .ok v :=
  have hv := decodeWith_sound hs hoct hN h
  ⟨hv, decode_encode s o v hs hv⟩

/-- the hypothesis `NameSound` of the two theorems above holds without an origin … -/
theorem nameSound_no_origin : NameSound none := nameSound_of_originOk trivial

/-- … and with any legal absolute origin (decoded names are relativized against it, re-encoding appends it) -/
theorem nameSound_origin (org : Name) (hw : WfName org) (ha : isAbs org = true) : NameSound (some org) :=
  nameSound_of_originOk ⟨hw, ha⟩

/-- every schema of the table is statically well formed (tail position of `rest`/`rep`, non-empty repeat items,
length prefixes that the re-encoded body fits) — by evaluation over the complete table, HIP by a lemma. -/
theorem table_wf : ∀ e ∈ table, wf e.schema = true := table_wf'

/-- *"For every implemented record type …"*: the generic theorems instantiated at every table entry.
`e.pre`/`e.post` are the identity for all but the types with an object-level view (LOC, APL, OPT, SVCB, HTTPS). -/
theorem all_types_roundtrip : ∀ e ∈ table, ∀ (o : Option Name) (v : Val) (pfx : Bytes),
    valid e.schema o (e.pre v) = true → e.post (e.pre v) = some v →
    e.decode o pfx (e.encode o v) = .ok v :=
  fun e he o _ pfx hv hp => e.roundtrip o (table_wf e he) hv hp pfx

/-- for the types whose object-level tree is the decoded tree itself, no side condition but `valid` -/
theorem regular_types_roundtrip : ∀ e ∈ table, e.custom = none → ∀ (o : Option Name) (v : Val) (pfx : Bytes),
    valid e.schema o v = true → e.decode o pfx (e.encode o v) = .ok v :=
  fun e he hc o _ pfx hv => e.roundtrip_regular o (table_wf e he) hc hv pfx

/-- decode–encode–decode fixed point at every regular table entry, any accepted octet string -/
theorem regular_types_fixpoint : ∀ e ∈ table, e.custom = none → ∀ (o : Option Name) (pfx rdata : Bytes) (v : Val),
    OctetsOkB rdata → NameSound o → e.decode o pfx rdata = .ok v →
    ∀ pfx', e.decode o pfx' (e.encode o v) = .ok v ∧
      (∀ v', e.decode o pfx' (e.encode o v) = .ok v' → e.encode o v' = e.encode o v) := by
  intro e he hc o pfx rdata v hoct hN h pfx'
  have h1 := e.exact_fixpoint o (table_wf e he) (Entry.viewExact_regular hc o) hoct hN h pfx'
  refine ⟨h1, fun v' h2 => ?_⟩
  rw [h1] at h2
  cases h2
  rfl

/-- decode–encode–decode fixed point through an object-level view: if the raw record rebuilt from the view of a
valid raw record is valid and its own view rebuilds the same raw record (`hpp`), then for every accepted octet
string the encoding of the decoded object decodes again, and what comes out encodes to the same octets. -/
theorem custom_fixpoint (e : Entry) (o : Option Name) (hwf : wf e.schema = true)
    (hpp : ∀ r w, valid e.schema o r = true → e.post r = some w →
      valid e.schema o (e.pre w) = true ∧ ∃ w', e.post (e.pre w) = some w' ∧ e.pre w' = e.pre w)
    (pfx rdata : Bytes) (v : Val) (hoct : OctetsOkB rdata) (hN : NameSound o)
    (h : e.decode o pfx rdata = .ok v) (pfx' : Bytes) :
    ∃ v', e.decode o pfx' (e.encode o v) = .ok v' ∧ e.encode o v' = e.encode o v := by
  obtain ⟨r, hr, hw⟩ := Entry.decoded_view hwf hoct hN h
  obtain ⟨hv', w', hp, he⟩ := hpp r v hr hw
  exact ⟨w', e.roundtrip o hwf hv' hp pfx', congrArg (enc e.schema o) he⟩

/-- LOC (sizes `base·10^exp`, coordinates as degrees/minutes/seconds/milliseconds/hemisphere): the decoded object
is reproduced exactly by decoding its own encoding -/
theorem loc_fixpoint (o : Option Name) (pfx rdata : Bytes) (v : Val) (hoct : OctetsOkB rdata) (hN : NameSound o)
    (h : (lookup 1 29).decode o pfx rdata = .ok v) (pfx' : Bytes) :
    (lookup 1 29).decode o pfx' ((lookup 1 29).encode o v) = .ok v :=
  lookup_exact_fixpoint 1 29 (by decide) hoct hN h pfx'

/-- SVCB and HTTPS (ascending keys, a repeated key keeps its last value, AliasMode without parameters, mandatory
keys present): the decoded object is reproduced exactly by decoding its own encoding -/
theorem svcb_fixpoint (t : Nat) (ht : t = 64 ∨ t = 65) (o : Option Name) (pfx rdata : Bytes) (v : Val)
    (hoct : OctetsOkB rdata) (hN : NameSound o)
    (h : (lookup 1 t).decode o pfx rdata = .ok v) (pfx' : Bytes) :
    (lookup 1 t).decode o pfx' ((lookup 1 t).encode o v) = .ok v :=
  lookup_exact_fixpoint 1 t (by omega) hoct hN h pfx'

/-- APL (IPv4/IPv6 prefixes kept padded, other families as they came, trailing zero octets not transmitted):
the encoding of a decoded object is a fixed point of decode-then-encode -/
theorem apl_fixpoint (o : Option Name) (pfx rdata : Bytes) (v : Val) (hoct : OctetsOkB rdata) (hN : NameSound o)
    (h : (lookup 1 42).decode o pfx rdata = .ok v) (pfx' : Bytes) :
    ∃ v', (lookup 1 42).decode o pfx' ((lookup 1 42).encode o v) = .ok v' ∧
      (lookup 1 42).encode o v' = (lookup 1 42).encode o v :=
  custom_fixpoint (lookup 1 42) o (lookup_wf 1 42) (fun r w hr hw => apl_pre_post o r w hr hw)
    pfx rdata v hoct hN h pfx'

theorem table_keys_unique :
    ∀ a ∈ table, ∀ b ∈ table, a.cls = b.cls → a.typ = b.typ → a.mnemonic = b.mnemonic :=
  fun _ ha _ hb hc ht => congrArg Entry.mnemonic (table_key_inj ha hb hc ht)

/-- dispatch (`dns.rdata.get_rdata_class`) is class independent for the modules under `dns/rdtypes/ANY`: for a
class that has no module of its own for the type, the lookup returns the ANY entry's codec — for every class,
not only IN.  (The keys of the table determine the entry: the key list has no duplicates, by evaluation.) -/
theorem dispatch_any_class : ∀ e ∈ table, e.cls = anyClass → ∀ c : Nat,
    (∀ e' ∈ table, ¬(e'.cls = c ∧ e'.typ = e.typ)) →
    (lookup c e.typ).cls = anyClass ∧ (lookup c e.typ).typ = e.typ ∧ (lookup c e.typ).mnemonic = e.mnemonic := by
  intro e he hcls c hno
  rcases lookup_cases c e.typ with ⟨x, hx, hk, _⟩ | ⟨_, ⟨x, hx, hk, hl⟩ | ⟨hno', _⟩⟩
  · exact absurd hk (hno x hx)
  · rw [hl, table_key_inj hx he (hk.1.trans hcls.symm) hk.2]
    exact ⟨hcls, rfl, rfl⟩
  · exact absurd ⟨hcls, rfl⟩ (hno' e he)

/-- … and a class-specific module wins over the ANY one, and only in its own class -/
theorem dispatch_own_class : ∀ e ∈ table, (lookup e.cls e.typ).mnemonic = e.mnemonic ∧ (lookup e.cls e.typ).cls = e.cls := by
  intro e he
  rw [lookup_of_mem he]
  exact ⟨rfl, rfl⟩

/-- *"(and unknown types in RFC 3597 generic form)"*: a (class, type) without a table entry is handled by the
generic entry, whose codec is the identity on the octets. -/
theorem generic_roundtrip (c t : Nat) (h : ∀ e ∈ table, ¬(e.typ = t ∧ (e.cls = c ∨ e.cls = anyClass)))
    (o : Option Name) (b pfx : Bytes) :
    (lookup c t).mnemonic = "GENERIC" ∧
    (lookup c t).encode o (.bytes b) = b ∧ (lookup c t).decode o pfx b = .ok (.bytes b) := by
  rcases lookup_cases c t with ⟨e, he, hk, _⟩ | ⟨_, ⟨e, he, hk, _⟩ | ⟨_, hl⟩⟩
  · exact absurd ⟨hk.2, .inl hk.1⟩ (h e he)
  · exact absurd ⟨hk.2, .inr hk.1⟩ (h e he)
  · rw [hl]
    exact ⟨rfl, rfl, (genericEntry c t).roundtrip_regular o rfl rfl (v := .bytes b) rfl pfx⟩

/-- every (class, type) with a module in the working tree has a schema in the model (or is declared oracle-only):
a type added to the code without a schema makes this obligation fail. -/
theorem implemented_covered :
    ∀ p ∈ ConstsC02.implementedTypes, p ∈ modelledTypes ∨ p ∈ declaredOracleOnly :=
  fun p hp => List.mem_append.1 (keysSubset_sound (b := modelledTypes ++ declaredOracleOnly) (by decide +kernel) p hp)

/-- the table's class column is the directory the module lives in (`dns/rdtypes/ANY` = 255, `IN` = 1, `CH` = 3):
a module moved to another class directory, added or removed breaks this obligation -/
theorem class_dirs_match :
    (∀ p ∈ ConstsC02.moduleFiles, p ∈ modelledTypes) ∧ (∀ p ∈ modelledTypes, p ∈ ConstsC02.moduleFiles) :=
  ⟨keysSubset_sound (by decide +kernel), keysSubset_sound (by decide +kernel)⟩

/-- … and the model has no entry for a type that the code does not implement -/
theorem modelled_implemented : ∀ p ∈ modelledTypes, p ∈ ConstsC02.implementedTypes :=
  keysSubset_sound (by decide +kernel)

/-! ## dispatch as a state machine (`_rdata_classes`, `_dynamic_load_allowed`)

*"for all (class, type) pairs with an implementation plus arbitrary unknown type codes"* — the codec that decodes a
pair must not depend on what was looked up before.  `Model.RdataDispatch` follows `get_rdata_class` and
`load_all_types` statement by statement over the dictionary and the flag; `ConstsC02.moduleFiles` (the module tree)
and `ConstsC02.enumTypes` (the members of `RdataType` that `load_all_types` walks) are regenerated from the code. -/

/-- the module tree allows history-independent dispatch: no type has both a class-specific and an ANY module, and
`load_all_types` reaches every module (a module in a new class directory, or for a type that is no `RdataType`
member, breaks this obligation) -/
theorem module_tree_ok : filesOk ConstsC02.moduleFiles ConstsC02.enumTypes = true := by decide +kernel

/-- after **any** history of `get_rdata_class` calls (any class, any type code, `use_generic` or not) and
`load_all_types` calls (dynamic loading disabled or not), `get_rdata_class(c, t)` returns the class the stateless rule
names: the class directory's module, else the one under ANY, else `GenericRdata` -/
theorem dispatch_history_independent (ops : List DOp) (c t : Nat) :
    (getClass ConstsC02.moduleFiles (ops.foldl (stepD ConstsC02.moduleFiles ConstsC02.enumTypes) DState.init) c t true).1
      = some (dispatchSpec ConstsC02.moduleFiles c t) :=
  dispatch_history _ _ module_tree_ok ops c t

/-- … and that rule is the table lookup the codec theorems (`type_codec`, `every_pair_fixpoint`) are stated for -/
theorem dispatch_spec_is_lookup (c t : Nat) :
    dispatchSpec ConstsC02.moduleFiles c t =
      if (lookup c t).mnemonic = "GENERIC" then Impl.generic else Impl.module (lookup c t).cls t := by
  -- the module tree and the table have the same keys (`class_dirs_match`)
  have hfiles : ∀ d, hasModule ConstsC02.moduleFiles d t = true ↔ ∃ e ∈ table, e.cls = d ∧ e.typ = t := by
    intro d
    rw [hasModule, List.contains_iff_mem]
    constructor
    · intro hm
      obtain ⟨e, he, hk⟩ := List.mem_map.1 (class_dirs_match.1 _ hm)
      exact ⟨e, he, (Prod.mk.inj hk).1, (Prod.mk.inj hk).2⟩
    · rintro ⟨e, he, rfl, rfl⟩
      exact class_dirs_match.2 _ (List.mem_map.2 ⟨e, he, rfl⟩)
  have hno : ∀ d, (∀ e ∈ table, ¬(e.cls = d ∧ e.typ = t)) → hasModule ConstsC02.moduleFiles d t = false :=
    fun d h => Bool.eq_false_iff.2 fun hm => let ⟨e, he, hk⟩ := (hfiles d).1 hm; h e he hk
  have hnog : ∀ e ∈ table, e.mnemonic ≠ "GENERIC" := by decide +kernel
  unfold dispatchSpec
  rcases lookup_cases c t with ⟨e, he, hk, hl⟩ | ⟨h1, ⟨e, he, hk, hl⟩ | ⟨h2, hl⟩⟩
  · simp [hl, (hfiles c).2 ⟨e, he, hk⟩, hnog e he, hk.1]
  · simp [hl, hno c h1, (hfiles 255).2 ⟨e, he, hk⟩, hnog e he, hk.1, anyClass]
  · simp [hl, hno c h1, hno 255 h2, genericEntry]

/-- non-vacuity, the C02-d scenario: after `load_all_types()` a lookup of CH NS still finds `dns.rdtypes.ANY.NS` -/
example : (getClass ConstsC02.moduleFiles
    (stepD ConstsC02.moduleFiles ConstsC02.enumTypes DState.init (.loadAll true)) 3 2 true).1 = some (.module 255 2) := by
  rw [show stepD ConstsC02.moduleFiles ConstsC02.enumTypes DState.init (.loadAll true)
      = [DOp.loadAll true].foldl (stepD ConstsC02.moduleFiles ConstsC02.enumTypes) DState.init from rfl,
    dispatch_history_independent]
  decide

/-- … and the class-ANY-first order (the defect repaired by `9586c66`): IN SRV stays `dns.rdtypes.IN.SRV` -/
example : (getClass ConstsC02.moduleFiles
    (getClass ConstsC02.moduleFiles DState.init 255 33 true).2 1 33 true).1 = some (.module 1 33) := by decide +kernel


/-- the constants and finite tables read from the code are the ones the schemas were written against
(RFC 3658/4509/5933/6605 DS digest lengths, RFC 8078 CDS delete, RFC 8976 ZONEMD, 12-bit extended rcode, EUI sizes,
RFC 1876 coordinate limits, 32-octet bitmap windows, the EDNS option / SVCB parameter codes with a dedicated codec,
32-bit TTLs).  A changed constant in the code breaks this obligation even where the codec stays self-consistent. -/
theorem consts_as_specified :
    ConstsC02.dsDigestLen = [(1, 20), (2, 32), (3, 32), (4, 48)] ∧
    ConstsC02.cdsDigestLen = [(0, 1), (1, 20), (2, 32), (3, 32), (4, 48)] ∧
    ConstsC02.zonemdDigestLen = [(1, 48), (2, 64)] ∧
    ConstsC02.rcodeMax = 4095 ∧ ConstsC02.eui48Len = 6 ∧ ConstsC02.eui64Len = 8 ∧
    ConstsC02.locMinLat = 2 ^ 31 - 90 * 3600000 ∧ ConstsC02.locMaxLat = 2 ^ 31 + 90 * 3600000 ∧
    ConstsC02.locMinLon = 2 ^ 31 - 180 * 3600000 ∧ ConstsC02.locMaxLon = 2 ^ 31 + 180 * 3600000 ∧
    ConstsC02.bitmapMaxLen = 32 ∧
    ConstsC02.ednsOptionClasses = [3, 8, 10, 15, 18, 22, 23, 24, 25] ∧
    ConstsC02.svcbParamClasses = [0, 1, 2, 3, 4, 5, 6, 8, 10] ∧
    Consts.maxTTL = 2 ^ 32 - 1 ∧ Consts.maxLabel = 63 ∧ Consts.maxName = 255 := by decide +kernel

/-! ## every type, every accepted octet string -/

/-- the object-level view of every table entry is stable: the raw record rebuilt from the view of a valid raw
record is valid, and its own view rebuilds the same raw record (identity for plain schemas; `loc_pre_post`,
`opt_post_post`, `apl_pre_post`, `svcb_post_post` for LOC, OPT, APL, SVCB/HTTPS) -/
theorem entry_view_stable (e : Entry) (hns : e.kind.isShipped = false) (o : Option Name) :
    ∀ r w, valid e.schema o r = true → e.post r = some w →
      valid e.schema o (e.pre w) = true ∧ ∃ w', e.post (e.pre w) = some w' ∧ e.pre w' = e.pre w := by
  obtain ⟨c, t, m, k⟩ := e
  cases k with
  | apl => exact fun r w hr hw => apl_pre_post o r w hr hw
  | optShipped => cases hns
  | _ =>
    intro r w hr hw
    obtain ⟨a, b⟩ := Entry.viewExact_of_kind _ rfl o r w hr hw
    exact ⟨a, w, b, rfl⟩

/-- *"Decoding arbitrary octets as any record type either reports a format error or yields a record … whose
encoding is a fixed point of decode-then-encode"* — for **every** entry of the table (all 69 implemented types):
whatever octet string is accepted, the encoding of the decoded object decodes again, and what comes out encodes to
the same octets. -/
theorem all_types_fixpoint : ∀ e ∈ table, ∀ (o : Option Name) (pfx rdata : Bytes) (v : Val),
    OctetsOkB rdata → NameSound o → e.decode o pfx rdata = .ok v →
    ∀ pfx', ∃ v', e.decode o pfx' (e.encode o v) = .ok v' ∧ e.encode o v' = e.encode o v := by
  intro e he o pfx rdata v hoct hN h pfx'
  exact custom_fixpoint e o (table_wf e he) (entry_view_stable e (table_not_shipped e he) o) pfx rdata v hoct hN h pfx'

/-- the same for whatever `dns.rdata.get_rdata_class` dispatches to: any class, any type code, implemented or not -/
theorem every_pair_fixpoint (c t : Nat) (o : Option Name) (pfx rdata : Bytes) (v : Val)
    (hoct : OctetsOkB rdata) (hN : NameSound o) (h : (lookup c t).decode o pfx rdata = .ok v) (pfx' : Bytes) :
    ∃ v', (lookup c t).decode o pfx' ((lookup c t).encode o v) = .ok v' ∧
      (lookup c t).encode o v' = (lookup c t).encode o v := by
  rcases lookup_mem_or_generic c t with hm | hg
  · exact all_types_fixpoint _ hm o pfx rdata v hoct hN h pfx'
  · rw [hg] at h ⊢
    exact custom_fixpoint _ o rfl (entry_view_stable _ rfl o) pfx rdata v hoct hN h pfx'

/-- OPT with the EDNS option codecs of `dns/edns.py` (ECS masked to its source prefix, EDE text without trailing
NULs, COOKIE, NSID, REPORTCHANNEL, the UTF-8 text options, generic): the decoded option list is reproduced exactly
by decoding its own encoding -/
theorem opt_fixpoint (c : Nat) (o : Option Name) (pfx rdata : Bytes) (v : Val) (hoct : OctetsOkB rdata)
    (hN : NameSound o) (h : (lookup c 41).decode o pfx rdata = .ok v) (pfx' : Bytes) :
    (lookup c 41).decode o pfx' ((lookup c 41).encode o v) = .ok v :=
  lookup_exact_fixpoint c 41 (by decide) hoct hN h pfx'

/-! ## per-type statements

`type_codec c t`: for the codec `dns.rdata.get_rdata_class(c, t)` dispatches to, when its object-level tree is
the decoded tree itself (all but LOC, OPT, APL, SVCB, HTTPS, which have `loc_fixpoint`, `opt_fixpoint`, `apl_fixpoint`,
`svcb_fixpoint`): (i) every valid value decodes from its encoding, behind any prefix, with or without an origin;
(ii) every accepted octet string decodes to a value that is reproduced exactly by decoding its own encoding.
The named instances below are the irregular codecs (length fields apart from their data, tag-dependent gateways,
optional tails, cross-field and text-syntax checks); each comes with a concrete valid value. -/

/-- round trip (i) and decode–encode–decode fixed point (ii) of the codec for class `c`, type `t` -/
def TypeCodec (c t : Nat) : Prop :=
    (∀ (o : Option Name) (v : Val) (pfx : Bytes), valid (lookup c t).schema o v = true →
      (lookup c t).decode o pfx ((lookup c t).encode o v) = .ok v) ∧
    (∀ (o : Option Name) (pfx rdata : Bytes) (v : Val), OctetsOkB rdata → NameSound o →
      (lookup c t).decode o pfx rdata = .ok v → ∀ pfx', (lookup c t).decode o pfx' ((lookup c t).encode o v) = .ok v)

theorem type_codec (c t : Nat) (hreg : (lookup c t).custom = none) : TypeCodec c t :=
  ⟨fun o _ pfx hv => (lookup c t).roundtrip_regular o (lookup_wf c t) hreg hv pfx, fun o _ _ _ hoct hN h pfx' =>
    (lookup c t).exact_fixpoint o (lookup_wf c t) (Entry.viewExact_regular hreg o) hoct hN h pfx'⟩

/-- `type_codec` for every type code but those of the five types with an object-level view (`custom_types`) -/
theorem type_codec_of (c t : Nat) (ht : ¬ (t = 29 ∨ t = 41 ∨ t = 42 ∨ t = 64 ∨ t = 65)) : TypeCodec c t :=
  type_codec c t (lookup_regular c t ht)

/-- HIP -/
theorem hip_codec : TypeCodec 1 55 := type_codec_of 1 55 (by decide)
example : valid (lookup 1 55).schema none (.pair (.pair (.nat 2) (.pair (.nat 1) (.nat 3))) (.pair (.bytes [1, 2]) (.pair (.bytes [3, 4, 5]) (.list [.name [[97], []]])))) = true := by decide +kernel

/-- CERT -/
theorem cert_codec : TypeCodec 1 37 := type_codec_of 1 37 (by decide)
example : valid (lookup 1 37).schema none (seqV [.nat 1, .nat 2, .nat 8, .bytes [0, 255]]) = true := by decide +kernel

/-- TKEY -/
theorem tkey_codec : TypeCodec 255 249 := type_codec_of 255 249 (by decide)
example : valid (lookup 255 249).schema none (seqV [.name [[97], []], .nat 1, .nat 2, .nat 3, .nat 0, .bytes [1], .bytes []]) = true := by decide +kernel

/-- TSIG -/
theorem tsig_codec : TypeCodec 255 250 := type_codec_of 255 250 (by decide)
example : valid (lookup 255 250).schema none (seqV [.name [[104], []], .nat (2 ^ 48 - 1), .nat 300, .bytes [9, 9], .nat 65535, .nat 16, .bytes []]) = true := by decide +kernel

/-- NAPTR -/
theorem naptr_codec : TypeCodec 1 35 := type_codec_of 1 35 (by decide)
example : valid (lookup 1 35).schema none (seqV [.nat 100, .nat 10, .bytes [83], .bytes [], .bytes [33, 94], .name [[]]]) = true := by decide +kernel

/-- GPOS -/
theorem gpos_codec : TypeCodec 1 27 := type_codec_of 1 27 (by decide)
example : valid (lookup 1 27).schema none (seqV [.bytes [45, 51, 50, 46, 54], .bytes [49, 49, 54, 46], .bytes [49, 48]]) = true := by decide +kernel

/-- WKS -/
theorem wks_codec : TypeCodec 1 11 := type_codec_of 1 11 (by decide)
example : valid (lookup 1 11).schema none (seqV [.bytes [10, 0, 0, 1], .nat 6, .bytes [0, 0, 64]]) = true := by decide +kernel

/-- NSAP -/
theorem nsap_codec : TypeCodec 1 22 := type_codec_of 1 22 (by decide)
example : valid (lookup 1 22).schema none (.bytes [71, 0, 5]) = true := by decide +kernel

/-- ISDN -/
theorem isdn_codec : TypeCodec 1 20 := type_codec_of 1 20 (by decide)
example : valid (lookup 1 20).schema none (.pair (.bytes [49, 53]) (.bytes [48])) = true := by decide +kernel

/-- X25 -/
theorem x25_codec : TypeCodec 1 19 := type_codec_of 1 19 (by decide)
example : valid (lookup 1 19).schema none (.bytes [51, 49]) = true := by decide +kernel

/-- HINFO -/
theorem hinfo_codec : TypeCodec 1 13 := type_codec_of 1 13 (by decide)
example : valid (lookup 1 13).schema none (.pair (.bytes [255, 0]) (.bytes [])) = true := by decide +kernel

/-- CAA -/
theorem caa_codec : TypeCodec 1 257 := type_codec_of 1 257 (by decide)
example : valid (lookup 1 257).schema none (seqV [.nat 128, .bytes [105, 115, 115, 117, 101], .bytes [0, 255]]) = true := by decide +kernel

/-- URI -/
theorem uri_codec : TypeCodec 1 256 := type_codec_of 1 256 (by decide)
example : valid (lookup 1 256).schema none (seqV [.nat 10, .nat 1, .bytes [104]]) = true := by decide +kernel

/-- DSYNC -/
theorem dsync_codec : TypeCodec 1 66 := type_codec_of 1 66 (by decide)
example : valid (lookup 1 66).schema none (seqV [.nat 59, .nat 1, .nat 5359, .name [[97], []]]) = true := by decide +kernel

/-- ZONEMD -/
theorem zonemd_codec : TypeCodec 1 63 := type_codec_of 1 63 (by decide)
example : valid (lookup 1 63).schema none (seqV [.nat 2018031900, .nat 1, .nat 1, .bytes (List.replicate 48 7)]) = true := by decide +kernel

/-- AMTRELAY -/
theorem amtrelay_codec : TypeCodec 1 260 := type_codec_of 1 260 (by decide)
example : valid (lookup 1 260).schema none (.pair (.pair (.nat 10) (.nat 131)) (.name [[97], []])) = true := by decide +kernel

/-- IPSECKEY -/
theorem ipseckey_codec : TypeCodec 1 45 := type_codec_of 1 45 (by decide)
example : valid (lookup 1 45).schema none (.pair (.pair (.pair (.nat 10) (.pair (.nat 1) (.nat 2))) (.bytes [192, 0, 2, 1])) (.bytes [1, 2])) = true := by decide +kernel

/-- L32 -/
theorem l32_codec : TypeCodec 1 105 := type_codec_of 1 105 (by decide)
example : valid (lookup 1 105).schema none (.pair (.nat 10) (.bytes [10, 1, 2, 0])) = true := by decide +kernel

/-- L64 -/
theorem l64_codec : TypeCodec 1 106 := type_codec_of 1 106 (by decide)
example : valid (lookup 1 106).schema none (.pair (.nat 10) (.bytes [32, 1, 13, 184, 18, 52, 86, 120])) = true := by decide +kernel

/-- NID -/
theorem nid_codec : TypeCodec 1 104 := type_codec_of 1 104 (by decide)
example : valid (lookup 1 104).schema none (.pair (.nat 10) (.bytes [0, 20, 79, 255, 255, 32, 238, 100])) = true := by decide +kernel

/-- A (class CH) -/
theorem chA_codec : TypeCodec 3 1 := type_codec_of 3 1 (by decide)
example : valid (lookup 3 1).schema none (.pair (.name [[97], []]) (.nat 668)) = true := by decide +kernel

/-- SOA -/
theorem soa_codec : TypeCodec 1 6 := type_codec_of 1 6 (by decide)
example : valid (lookup 1 6).schema none (seqV [.name [[110, 115], []], .name [[]], .nat 1, .nat 2, .nat 3, .nat 4, .nat (2 ^ 32 - 1)]) = true := by decide +kernel

/-- RRSIG -/
theorem rrsig_codec : TypeCodec 1 46 := type_codec_of 1 46 (by decide)
example : valid (lookup 1 46).schema none (seqV [.nat 1, .nat 13, .nat 2, .nat 3600, .nat 1, .nat 2, .nat 12345, .name [[101], []], .bytes [1, 2, 3]]) = true := by decide +kernel

/-- NSEC3 -/
theorem nsec3_codec : TypeCodec 1 50 := type_codec_of 1 50 (by decide)
example : valid (lookup 1 50).schema none (seqV [.nat 1, .nat 0, .nat 10, .bytes [171], .bytes [1, 2, 3], .list [.pair (.nat 0) (.bytes [64])]]) = true := by decide +kernel

/-- TXT -/
theorem txt_codec : TypeCodec 1 16 := type_codec_of 1 16 (by decide)
example : valid (lookup 1 16).schema none (.list [.bytes [], .bytes (List.replicate 40 34)]) = true := by decide +kernel

/-- DS -/
theorem ds_codec : TypeCodec 1 43 := type_codec_of 1 43 (by decide)
example : valid (lookup 1 43).schema none (seqV [.nat 60485, .nat 5, .nat 1, .bytes (List.replicate 20 9)]) = true := by decide +kernel

/-! ## the defect repaired by `9fad6cc` (was KNOWN_FINDINGS `C02/fixpoint/EDE-text-ends-with-NUL/ANY-41`)

Before the repair `EDEOption.from_wire_parser` dropped *one* trailing NUL of the EXTRA-TEXT.  That variant is retained
as `Kind.optShipped` (the driver uses it when the working tree still behaves that way); it is not a table entry
(`table_not_shipped`) and the fixed-point clause fails for it: -/

def optShippedEntry : Entry := { cls := anyClass, typ := 41, mnemonic := "OPT", kind := .optShipped }

/-- as shipped, an EDE option with text `61 00 00` decoded to text `61 00`, whose encoding decoded to text `61`
and re-encoded to different octets — not a fixed point -/
theorem ede_trailing_nul_not_fixpoint_as_shipped :
    ∃ v v', optShippedEntry.decode none [] [0, 15, 0, 5, 0, 3, 97, 0, 0] = .ok v ∧
      optShippedEntry.decode none [] (optShippedEntry.encode none v) = .ok v' ∧
      optShippedEntry.encode none v' ≠ optShippedEntry.encode none v := by
  refine ⟨.list [.pair (.nat 15) (.pair (.nat 3) (.bytes [97, 0]))],
          .list [.pair (.nat 15) (.pair (.nat 3) (.bytes [97]))], ?_, ?_, ?_⟩
  · rfl
  · rfl
  · decide

/-- … while the table's OPT entry (the repaired code) maps the same octets to a fixed point -/
theorem ede_trailing_nul_fixed :
    (lookup 4096 41).decode none [] [0, 15, 0, 5, 0, 3, 97, 0, 0] =
      .ok (.list [.pair (.nat 15) (.pair (.nat 3) (.bytes [97]))]) := by rfl

/-! ## LOC coordinates (defect `…/ANY-29/coordinate-beyond-limit-at-max-degrees`, repaired by `99177f3`)

Before the repair `_check_coordinate_list` bounded the degrees only, so `90 30 0 N` was constructed and encoded but
rejected by the decoder.  `locCoordCtorOk` models the repaired check; what it accepts encodes inside the range the
decoder accepts (`ConstsC02.locMin…/locMax…`): -/

theorem loc_ctor_within_wire_range (c : Val) (maxDeg : Nat) (h : locCoordCtorOk c maxDeg = true) :
    2 ^ 31 - maxDeg * 3600000 ≤ locCoordWire c ∧ locCoordWire c ≤ 2 ^ 31 + maxDeg * 3600000 := by
  simp only [locCoordCtorOk, Bool.and_eq_true, Bool.or_eq_true, decide_eq_true_eq] at h
  obtain ⟨⟨⟨⟨⟨h1, h2⟩, h3⟩, h4⟩, _⟩, h6⟩ := h
  have hmag := locCoord_mag_le h1 h2 h3 h4 h6
  unfold locCoordWire
  dsimp only
  split
  · exact ⟨Nat.le_trans (Nat.sub_le _ _) (Nat.le_add_right _ _), Nat.add_le_add_left hmag _⟩
  · exact ⟨Nat.sub_le_sub_left hmag _, Nat.le_trans (Nat.sub_le _ _) (Nat.le_add_right _ _)⟩

/-- the former witness `90 30 0 N` is now rejected where it is constructed -/
example : locCoordCtorOk (seqV [.nat 90, .nat 30, .nat 0, .nat 0, .nat 1]) 90 = false := by decide
example : locCoordCtorOk (seqV [.nat 90, .nat 0, .nat 0, .nat 0, .nat 0]) 90 = true := by decide
example : ConstsC02.locMaxLat = 2 ^ 31 + 90 * 3600000 ∧ ConstsC02.locMinLon = 2 ^ 31 - 180 * 3600000 := by decide

/-! ## non-vacuity -/

/-- MX 10 mail.example. (absolute, no origin) is valid -/
example : valid mxSchema none (.pair (.nat 10) (.name [[109, 97, 105, 108], [101, 120], []])) = true := by decide +kernel

/-- a relative name with an origin is valid (`valid_rel_example`) -/
theorem valid_rel_example :
    valid mxSchema (some [[101, 120], []]) (.pair (.nat 65535) (.name [[109, 0, 255]])) = true := by decide +kernel

/-- an NSEC3 with salt, hash and two bitmap windows is valid, all octet values allowed in opaque fields -/
example : valid (Schema.seq [u8, u8, u16, c8, c8, bitmap]) none
    (seqV [.nat 1, .nat 0, .nat 10, .bytes [0, 255, 34, 92], .bytes [1, 2, 3],
           .list [.pair (.nat 0) (.bytes [64, 1]), .pair (.nat 255) (.bytes [128])]]) = true := by decide +kernel

/-- an unknown type code takes the generic path -/
example : ∀ e ∈ table, ¬(e.typ = 65280 ∧ (e.cls = 1 ∨ e.cls = anyClass)) := by decide +kernel

/-- the root origin is a legal origin -/
example : WfName [[]] ∧ isAbs [[]] = true := by decide

end C02
