import Model.Parse
import Proofs.Parse
import Proofs.NameText
import Proofs.WireParser
import Props.C01
/-!
# C04 — untrusted wire or text input only ever raises the library's own errors

Every parser modelled here is a *total* Lean function into an error sum: termination is the
acceptance of the definitions by Lean (structural recursion for the text automata, the
lexicographic measure (pointer bound, bytes left) for compressed names).  The theorems below
state closure (what is returned is well formed and can be rendered again) and the
`continue_on_error` contract of the message reader.  The universal "no foreign exception type"
clause over every real entry point is carried by the outcome-class correspondence and oracle of
`harness/props/C04.py`.
-/
namespace C04
open Model

/-- a TTL accepted from text is in range -/
theorem ttl_closed (t : List Nat) (v : Nat) (h : ttlFromText t = .ok v) : v ≤ Consts.maxTTL := by
  unfold ttlFromText at h
  simp only at h
  split at h
  · simp at h
  · split at h
    · simp at h
    · simp at h; omega

/-- a name accepted from text is well formed, whatever the text and the origin -/
theorem fromText_closed (t : List Nat) (o : Option Name) (n : Name) (h : fromText t o = .ok n) : WfName n :=
  fromText_wf h

/-- a name accepted from wire is well formed and absolute, so it renders to wire, and the rendering
parses back to the same name: every value returned can be rendered again -/
theorem parsed_name_rerenders (b : Bytes) (off : Nat) (n : Name) (k : Nat) (h : fromWire b off = .ok (n, k)) :
    fromWire (toWire n) 0 = .ok (n, (toWire n).length) := by
  obtain ⟨hw, ha, _⟩ := C01.fromWire_wf b off n k h
  simpa using C01.fromWire_toWire n hw ha [] []

/-- `continue_on_error`: once the 12-octet header is there nothing is raised — every failure is
recorded and a message is returned (or the model declines the record type) -/
theorem read_cont_never_raises (w : Bytes) (it qo : Bool) (hlen : 12 ≤ w.length) (e : String) :
    readMsg w { cont := true, ignoreTrailing := it, questionOnly := qo } ≠ .exc e := by
  rw [readMsg_eq, if_neg (by omega)]
  split
  · nofun
  · exact readFinish_cont_ne_exc _ e

/-- strict mode raises nothing exactly when continue mode records nothing, and then both return the
same message: errors are recorded *instead of* raised, never in addition and never silently -/
theorem read_cont_clean_iff_strict (w : Bytes) (it qo : Bool) (c : List Nat) :
    readMsg w { cont := true, ignoreTrailing := it, questionOnly := qo } = .message c [] ↔
    readMsg w { cont := false, ignoreTrailing := it, questionOnly := qo } = .message c [] :=
  ⟨readMsg_clean_mode w true false it qo c, readMsg_clean_mode w false true it qo c⟩

/-- "failures after the header are recorded with their offset": whatever the octets and options, every
offset recorded in the returned message's `errors` lies inside the message (it is the parser position at
which the exception left the record, or the position a failed header read left behind). -/
theorem recorded_offsets_inside (w : Bytes) (o : ReadOpts) (c : List Nat) (errs : List (String × Nat))
    (h : readMsg w o = .message c errs) : ∀ p ∈ errs, p.2 ≤ w.length := by
  rw [readMsg_eq] at h
  split at h
  · cases h
  split at h
  · cases h
  exact readFinish_offsets (readAll_inv w o (by omega)) h

/-- non-vacuity: a 12-octet header with all counts zero is read cleanly in both modes -/
example : readMsg [0,1,0,0,0,0,0,0,0,0,0,0] { cont := true, ignoreTrailing := false, questionOnly := false }
    = .message [0,0,0,0] [] := by decide +kernel

/-- Whatever a type-specific RDATA parser raises — a library error of another family or any foreign
exception — what leaves `dns.rdata.from_wire_parser` / `dns.rdata.from_text` is an instance of the wrapper's
family (FormError for wire, SyntaxError for text), and an exception already in the family passes unchanged. -/
theorem wrapper_closed (f : Family) (raised : Option ExcKind) (e : ExcKind) (h : wrapExit f raised = some e) :
    isInstanceOf e f = true ∧ (∀ r, raised = some r → isInstanceOf r f = true → e = r) ∧
    (raised = none → False) := by
  cases raised with
  | none => simp [wrapExit] at h
  | some r =>
    simp only [wrapExit] at h
    by_cases hr : isInstanceOf r f = true
    · simp [hr] at h; subst h
      exact ⟨hr, fun r' h1 _ => by injection h1, fun h => by cases h⟩
    · simp [hr] at h; subst h
      refine ⟨by cases f <;> rfl, fun r' h1 h2 => ?_, fun h => by cases h⟩
      injection h1 with h1; subst h1; exact absurd h2 hr

/-- a block that completes is not turned into an error -/
theorem wrapper_transparent (f : Family) : wrapExit f none = none := rfl

/-! ## `dns.wirebase.Parser`: the bounds discipline under every wire parser -/

open Model.WP in
/-- **No out-of-bounds access, for every parsing routine.**  Whatever sequence of `get_bytes`,
`get_counted_bytes`, `get_remaining`, `seek`, `get_name` calls, nested `with restrict_to(..)` /
`with restore_furthest()` blocks and `try … except FormError` handlers a routine is made of, started on
`Parser(wire, current)`: every byte string handed out is a slice `wire[a : a+n]` with `a + n ≤ len(wire)`
(so it has the requested length — no short read, hence no `struct.error`/`IndexError` downstream), and when
the routine ends — normally or by exception — `end` is `len(wire)` again (every `restrict_to` restored it). -/
theorem parser_window (w : Bytes) (current : Nat) (p : P) (prog : Prog) (h : mk w current = some p) :
    (exec w p prog).p.endp = w.length ∧
    ∀ a n, Out.bytes a n ∈ (exec w p prog).outs → a + n ≤ w.length := by
  obtain ⟨rfl, _⟩ := mk_eq_some h
  exact ⟨(exec_keeps w prog _).1, (exec_keeps w prog _).2.1⟩

open Model.WP in
/-- **Only FormError.**  A routine written in the fragment of the API that the library uses outside
`get_name` (no raw `seek`, no `restore_furthest` of its own; forward seeks allowed) ends with a value or with
FormError, never with the `assert size >= 0` of `get_bytes` failing, and it leaves the parser with
`furthest ≤ current ≤ end`. -/
theorem parser_lib_only_form_error (w : Bytes) (current : Nat) (p : P) (prog : Prog)
    (h : mk w current = some p) (hl : Lib prog) :
    ((exec w p prog).o = .ok ∨ (exec w p prog).o = .formError) ∧ Disc (exec w p prog).p := by
  obtain ⟨rfl, hc⟩ := mk_eq_some h
  -- a fresh parser has the discipline: `furthest = current ≤ end`
  obtain ⟨hd, ho⟩ := (exec_keeps w prog ⟨current, w.length, current⟩).2.2 hl (show _ ∧ _ from ⟨Nat.le_refl _, hc⟩)
  refine ⟨?_, hd⟩
  cases hx : (exec w ⟨current, w.length, current⟩ prog).o with
  | ok => left; rfl
  | formError => right; rfl
  | assertion => exact absurd hx ho

open Model.WP in
/-- The `Lib` hypothesis is needed (and the model can exhibit why): through the raw API — read 6 octets, seek
back to 0, restrict to 2 octets, `restore_furthest` — `current` ends up beyond the restricted `end`,
`remaining()` is negative and `get_remaining()` trips the assertion.  (Replayed on the implementation by the
correspondence check; no library code path does this.) -/
example : (exec [1,2,3,4,5,6,7,8] ⟨0, 8, 0⟩
    (.prim (.getBytes 6) (.prim (.seek 0) (.restrict 2 (.restoreFurthest .done (.prim .getRemaining .done)) .done)))).o
    = .assertion := by decide +kernel

open Model.WP in
/-- non-vacuity: a record-like routine (name, fixed octets, a restricted body read to its end) is in the
fragment; a routine of the same shape with a counted string in place of the name succeeds on a real wire -/
example : Lib (.prim .getName (.prim (.getBytes 2) (.restrict 4 (.prim .getRemaining .done) .done))) ∧
    (exec [1,97,0, 0,1, 10,0,0,1] ⟨0, 9, 0⟩
      (.prim (.getCounted 1) (.prim (.getBytes 3) (.restrict 4 (.prim .getRemaining .done) .done)))).o = .ok := by
  constructor
  · simp [Lib]
  · decide +kernel

end C04
