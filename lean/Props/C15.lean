import Model.Dnssec
import Generated.C15
import Proofs.DnssecBasic
import Proofs.DnssecRrsig
import Proofs.DnssecBitmap
import Proofs.DnssecCanon
import Proofs.DnssecOrder
import Proofs.DnssecNsec3
import Proofs.DnssecSignSet
/-!
# C15 — key-free DNSSEC computations equal an independent RFC 4034/5155/6840/8976 reference

Theorems of record.  `Model.Dnssec` follows `dns/dnssec.py`, `dns/rdata.py` (`to_digestable`), `dns/rdtypes/util.py`
(`Bitmap`), `dns/rdtypes/dnskeybase.py` (`key_id`) and `dns/zone.py` (`_compute_digest`).  `ConstsC15.canonTable`
is regenerated from the working tree on every run (one row per embedded-name field of every implemented
(class, type)), so the `decide` proofs below are obligations about the code as it is now.  RFC-side
definitions (`rfc4034_6_2`, `Rfc.sigData`, `IH`, `rfcKeyTagAcc`, `octetLe`, `bitmapHas`, `secure`, `chain`) are
written from the RFC text, independently of the model functions they are compared with.
-/
namespace C15
open Model Model.Dnssec

/-- RFC 4034 §6.2 item 3, transcribed from the RFC text (type codes from the IANA registry):
NS, MD, MF, CNAME, SOA, MB, MG, MR, PTR, HINFO, MINFO, MX, HINFO, RP, AFSDB, RT, SIG, PX, NXT, NAPTR, KX, SRV,
DNAME, A6, RRSIG, NSEC. -/
def rfc4034_6_2 : List Nat :=
  [2, 3, 4, 5, 6, 7, 8, 9, 12, 13, 14, 15, 13, 17, 18, 21, 24, 26, 30, 35, 36, 33, 39, 38, 46, 47]

/-- RFC 6840 §5.1: names in the RDATA of NSEC are *not* lower-cased. -/
def rfc6840_5_1_removed : List Nat := [47]

def mustLower (ty : Nat) : Bool := rfc4034_6_2.contains ty && !rfc6840_5_1_removed.contains ty

/-- (class, type) pairs that deviate (recorded in KNOWN_FINDINGS.json, reported by the oracle while it exists):
Chaosnet A only.  LP was repaired in dnspython commit 2936f22 and is no longer excluded. -/
def knownDeviations : List (Nat × Nat) := [(3, 1)]

/-- "for all record sets of all types": every implemented (class, type) pair was probed; a type added to
dnspython without a specimen in `harness/extract_C15.py` makes this fail. -/
theorem canon_table_complete : ConstsC15.unprobed = [] := by decide +kernel

/- Full statement (fails today for Chaosnet A only, DESIGN D17; LP, DESIGN D12, is repaired):
   `∀ e ∈ ConstsC15.canonTable, e.2.2.2.1 = mustLower e.2.1`. -/
/-- "only names inside the RDATA of the types listed in RFC 4034 §6.2 (minus NSEC, per RFC 6840) are
lower-cased": for every embedded-name field of every implemented type, `to_digestable` lower-cases it iff the
type is in the list — decided over the whole regenerated table, except the recorded deviations. -/
theorem canon_table_is_rfc_partial :
    ∀ e ∈ ConstsC15.canonTable, (e.1, e.2.1) ∉ knownDeviations → e.2.2.2.1 = mustLower e.2.1 := by decide +kernel

/-- the same through the model's lookup (class-specific entry first, then the class-independent one) -/
theorem lowered_is_rfc_partial :
    ∀ e ∈ ConstsC15.canonTable, (e.1, e.2.1) ∉ knownDeviations →
      lowered ConstsC15.canonTable e.1 e.2.1 e.2.2.1 = mustLower e.2.1 := by decide +kernel

/-- "canonical forms never use compression", observed side: in the canonical form of every specimen every
embedded name occurs uncompressed (verbatim or lower-cased), never altered or shortened. -/
theorem canon_table_never_alters : ∀ e ∈ ConstsC15.canonTable, e.2.2.2.2.2 = false := by decide +kernel

/-- "canonical forms never use compression", model side: what is emitted for an embedded name (with or without
an origin, canonicalised or not) is the plain label sequence of a legal absolute name; a decoder that rejects
every length octet ≥ 64 — hence every compression pointer — reads it back exactly. -/
theorem canonical_form_no_compression (n : Name) (origin : Option Name) (canon : Bool) (w : Bytes)
    (hn : WfName n) (h : nameWireFile n origin canon = .ok w) :
    ∃ m : Name, w = toWire m ∧ isAbs m = true ∧ ∀ rest, decodeNoPtr m.length (w ++ rest) = some (m, rest) := by
  obtain ⟨m, hm, ha, rfl⟩ := nameWireFile_ok hn h
  have dec : ∀ m, WfName m → (ha : isAbs m = true) → ∀ rest, decodeNoPtr m.length (toWire m ++ rest) = some (m, rest) :=
    fun m hm => decodeNoPtr_toWire m (fun l hl => (show Consts.maxLabel = 63 by decide) ▸ hm.1 l hl) hm.2.2
  cases canon with
  | false => exact ⟨m, rfl, ha, dec m hm ha⟩
  | true =>
    have ha' : isAbs (lowerName m) = true := (NameOrder.isAbs_lowerName m).trans ha
    exact ⟨lowerName m, rfl, ha', dec _ (wf_congr m _ (lowerName_idem m).symm hm) ha'⟩

/-- the canonical form of an rdata whose names are absolute is the RFC 4034 §6.2 string: opaque octets verbatim,
names expanded, the `k`-th lower-cased iff the table says so -/
theorem canonical_form_is_flat (cls ty : Nat) (rd : Rdata) (origin : Option Name) (h : allAbs rd) :
    toDigestable ConstsC15.canonTable cls ty rd origin =
      .ok (canonFlat (lowered ConstsC15.canonTable cls ty) rd 0) :=
  fieldsWire_abs _ origin rd 0 h

/-- non-vacuity of `canonical_form_no_compression`: a relative mixed-case name completed by an origin -/
example : WfName [[77, 120]] ∧ nameWireFile [[77, 120]] (some [[69, 88], []]) true = .ok [2, 109, 120, 2, 101, 120, 0]
    ∧ decodeNoPtr 3 ([2, 109, 120, 2, 101, 120, 0] ++ [192, 12]) = some ([[109, 120], [101, 120], []], [192, 12]) := by
  refine ⟨⟨?_, ?_, ?_⟩, ?_, ?_⟩ <;> decide +kernel

example : allAbs [Field.raw [0, 10], Field.name [[77, 120], [69, 88], []]] := by
  intro n hn; simp at hn; subst hn; decide

/-- MX lower-cases; NSEC, SVCB and (since commit 2936f22) LP do not -/
example : toDigestable ConstsC15.canonTable 1 15 [Field.raw [0, 10], Field.name [[77, 88], []]] none = .ok [0, 10, 2, 109, 120, 0]
    ∧ toDigestable ConstsC15.canonTable 1 47 [Field.name [[77, 88], []], Field.raw [0, 1, 64]] none = .ok [2, 77, 88, 0, 0, 1, 64]
    ∧ toDigestable ConstsC15.canonTable 1 64 [Field.raw [0, 1], Field.name [[77, 88], []]] none = .ok [0, 1, 2, 77, 88, 0]
    ∧ toDigestable ConstsC15.canonTable 1 107 [Field.raw [0, 1], Field.name [[77, 88], []]] none = .ok [0, 1, 2, 77, 88, 0] := by
  decide +kernel

/-- RFC 4034 Appendix B: `ac += (ac >> 16) & 0xFFFF; return ac & 0xFFFF` over the accumulated sum -/
def rfcKeyTag (rdata : Bytes) : Nat :=
  let ac := rfcKeyTagAcc 0 rdata
  (ac + ac / 65536 % 65536) % 65536

/-- "key tags … equal an independent RFC reference": for every octet string (of any length, even or odd),
`key_id` is Appendix B's algorithm; for algorithm 1 (RSA/MD5, Appendix B.1) it is the most significant 16 of the
least significant 24 bits of the RDATA. -/
theorem key_tag_is_appendix_b (wire : Bytes) :
    keyId ConstsC15.algRSAMD5 wire =
      if wire.getD 3 0 = 1 then wire.getD (wire.length - 3) 0 * 256 + wire.getD (wire.length - 2) 0
      else rfcKeyTag wire := by
  have halg : ConstsC15.algRSAMD5 = 1 := by decide +kernel
  unfold keyId rfcKeyTag
  rw [halg, keyIdSum_eq_acc wire 0 (by decide)]

example : keyId ConstsC15.algRSAMD5 [1, 1, 3, 8, 3, 1, 0, 1] = 1803 := by decide +kernel

/-- "the canonical order of a record set": `sorted(rdatas)` is a permutation of the canonical RDATAs ordered as
left-justified unsigned octet strings, a missing octet sorting first (RFC 4034 §6.3). -/
theorem rrset_order_is_octet_order (ds : List Bytes) :
    (insSort bytesLe ds).Perm ds ∧ (insSort bytesLe ds).Pairwise octetLe := by
  refine ⟨insSort_perm _ _, insSort_pairwise bytesLe_iff ?_ ?_ ds⟩ <;> simp only [octetLe_iff_le]
  · exact List.le_total
  · exact fun _ _ _ => List.le_trans

example : insSort bytesLe [[1, 2], [1], [0, 255], []] = [[], [0, 255], [1], [1, 2]] := by decide +kernel

/-- "the RRSIG signing input including wildcard label reduction … equals an independent RFC reference": signer
and owner are completed by the origin when relative (`hs`, `hr`); for a label count not above the owner's and (for
a wildcard owner) equal to it, the data handed to the signature algorithm is RFC 4034 §3.1.8.1's
`RRSIG_RDATA | RR(1) | RR(2) …` with the owner of RFC 4035 §5.3.2, TTL = Original TTL, RRs in canonical order.
(Full form since commit b931905: relative signers included.  `hw`: `rrsig.to_wire(origin=signer)` must succeed.) -/
theorem rrsig_input_is_rfc (t : CanonTable) (sig : RRSig) (origin : Option Name) (rrname : Name)
    (rdtype rdclass : Nat) (rdatas : List Rdata) (ds : List Bytes) (signer owner : Name) (w : Bytes)
    (hs : derelativizeD sig.signer origin = .ok signer) (hsa : isAbs signer = true)
    (hw : nameWireFile sig.signer (some signer) false = .ok w)
    (hr : derelativizeD rrname origin = .ok owner) (hoa : isAbs owner = true)
    (hl : sig.labels ≤ Rfc.labelCount owner)
    (hwild : owner.head? = some wildLabel → sig.labels = Rfc.labelCount owner)
    (hd : mapExcept (fun rd => toDigestable t rdclass rdtype rd origin) rdatas = .ok ds) :
    rrsigData t sig origin rrname rdtype rdclass rdatas =
      .ok (Rfc.sigData sig signer owner rdtype rdclass (insSort bytesLe ds)) := by
  rw [rrsigData_resolved t sig origin rrname rdtype rdclass rdatas signer owner w hs hsa hw hr hoa, if_neg, hd]
  rintro (h | ⟨h1, h2⟩)
  · omega
  · exact h2 (hwild h1)

/-- the special case of absolute names (no origin needed) -/
theorem rrsig_input_is_rfc_absolute (t : CanonTable) (sig : RRSig) (origin : Option Name) (rrname : Name)
    (rdtype rdclass : Nat) (rdatas : List Rdata) (ds : List Bytes)
    (hs : isAbs sig.signer = true) (hr : isAbs rrname = true)
    (hl : sig.labels ≤ Rfc.labelCount rrname)
    (hw : rrname.head? = some wildLabel → sig.labels = Rfc.labelCount rrname)
    (hd : mapExcept (fun rd => toDigestable t rdclass rdtype rd origin) rdatas = .ok ds) :
    rrsigData t sig origin rrname rdtype rdclass rdatas =
      .ok (Rfc.sigData sig sig.signer rrname rdtype rdclass (insSort bytesLe ds)) :=
  rrsig_input_is_rfc t sig origin rrname rdtype rdclass rdatas ds sig.signer rrname (toWire sig.signer)
    (derelativizeD_abs _ origin hs) hs (nameWireFile_abs _ _ false hs) (derelativizeD_abs _ origin hr) hr hl hw hd

/-- wildcard label reduction: when the Labels field is smaller than the owner's label count the owner that is
digested is `*` followed by the rightmost `labels` labels (and the root). -/
theorem wildcard_reduction (rrname : Name) (labels : Nat) (h : labels ≠ Rfc.labelCount rrname) :
    Rfc.sigOwner rrname labels = [42] :: (rrname.dropLast.drop (rrname.dropLast.length - labels) ++ [[]]) := by
  simp [Rfc.sigOwner, h]

/-- error cases: a Labels field above the owner's label count (RFC 4035 §5.3.1), or a wildcard owner whose
Labels field is not its label count, raises ValidationFailure. -/
theorem rrsig_bad_labels_rejected (t : CanonTable) (sig : RRSig) (origin : Option Name)
    (rrname : Name) (rdtype rdclass : Nat) (rdatas : List Rdata)
    (hs : isAbs sig.signer = true) (hr : isAbs rrname = true)
    (hbad : sig.labels > Rfc.labelCount rrname ∨
            (rrname.head? = some wildLabel ∧ sig.labels ≠ Rfc.labelCount rrname)) :
    rrsigData t sig origin rrname rdtype rdclass rdatas = .error .validation := by
  rw [rrsigData_resolved t sig origin rrname rdtype rdclass rdatas sig.signer rrname (toWire sig.signer)
    (derelativizeD_abs _ origin hs) hs (nameWireFile_abs _ _ false hs) (derelativizeD_abs _ origin hr) hr, if_pos hbad]

/-- non-vacuity: `b.a.Example.` with Labels = 2 is digested as `*.a.example.`; A records in octet order -/
example :
    rrsigData ConstsC15.canonTable
      { typeCovered := 1, algorithm := 8, labels := 2, originalTtl := 300, expiration := 2, inception := 1, keyTag := 7,
        signer := [[69, 120], []] } none [[98], [97], [69, 120], []] 1 1
      [[Field.raw [10, 0, 0, 2]], [Field.raw [10, 0, 0, 1]]] =
    .ok (Rfc.sigData
      { typeCovered := 1, algorithm := 8, labels := 2, originalTtl := 300, expiration := 2, inception := 1, keyTag := 7,
        signer := [[69, 120], []] } [[69, 120], []] [[98], [97], [69, 120], []] 1 1 [[10, 0, 0, 1], [10, 0, 0, 2]])
    ∧ Rfc.sigOwner [[98], [97], [69, 120], []] 2 = [[42], [97], [69, 120], []] := by decide +kernel

/-- non-vacuity of the relative case (the input of the defect repaired in b931905): signer `s` and owner `w`
under origin `e.`: the hypotheses hold and the signer field is `s.e.`, once -/
example :
    let sig : RRSig := { typeCovered := 1, algorithm := 8, labels := 2, originalTtl := 0, expiration := 0, inception := 0,
                         keyTag := 0, signer := [[115]] }
    derelativizeD sig.signer (some [[101], []]) = .ok [[115], [101], []]
    ∧ nameWireFile sig.signer (some [[115], [101], []]) false = .ok [1, 115, 1, 115, 1, 101, 0]
    ∧ derelativizeD [[119]] (some [[101], []]) = .ok [[119], [101], []]
    ∧ (rrsigData [] sig (some [[101], []]) [[119]] 1 1 []).toOption.map (·.drop 18) = some [1, 115, 1, 101, 0] := by
  decide +kernel

/-- "DS/CDS digests": for an absolute owner and a supported, permitted digest type the DS RDATA is key tag,
algorithm, digest type, then the digest of `canonical owner name | DNSKEY RDATA` (RFC 4034 §5.1.4) — for any
hash function `H`. -/
theorem ds_input_is_rfc (H : Bytes → Bytes) (deny : List Nat) (name : Name) (key : Bytes) (dt : Nat)
    (ha : isAbs name = true) (hdt : dt = 1 ∨ dt = 2 ∨ dt = 4) (hp : dt ∉ deny) :
    makeDs H ConstsC15.algRSAMD5 deny name key dt =
      .ok (be16 (keyId ConstsC15.algRSAMD5 key) ++ [key.getD 3 0, dt] ++ H (toWire (lowerName name) ++ key)) := by
  have hne : ¬ (dt ≠ 1 ∧ dt ≠ 2 ∧ dt ≠ 4) := by omega
  simp [makeDs, makeDsParts, dsInput, canonicalWire_abs name ha, hp, hne]

example : makeDsParts ConstsC15.algRSAMD5 [0, 1, 3] [[69, 88], []] [1, 1, 3, 8, 3] 2 = .ok ([7, 9, 8, 2], [2, 101, 120, 0, 1, 1, 3, 8, 3])
    ∧ makeDsParts ConstsC15.algRSAMD5 [0, 1, 3] [[69, 88], []] [1, 1, 3, 8, 3] 1 = .error .denied
    ∧ makeDsParts ConstsC15.algRSAMD5 [] [[69, 88], []] [1, 1, 3, 8, 3] 3 = .error .unsupported := by decide +kernel

/-- "NSEC3 hashes": for an absolute name, `nsec3_hash` is base32hex (RFC 4648 §7) of RFC 5155 §5's
`IH(salt, canonical owner name, iterations)`, for any hash `H`, any salt, any iteration count: the loop is the
recurrence, and `b32encode` followed by the translation table is base32hex. -/
theorem nsec3_is_rfc (H : Bytes → Bytes) (name : Name) (salt : Bytes) (iterations : Nat) (ha : isAbs name = true) :
    nsec3Hash H name salt iterations 1 =
      .ok (b32encode b32Hex (IH H salt (toWire (lowerName name)) iterations)) := by
  have h := nsec3Iter_IH H salt (toWire (lowerName name)) iterations 0
  simp only [IH, Nat.zero_add] at h
  simp [nsec3Hash, canonicalWire_abs name ha, h, b32encode_translate]

/-- "`nsec3_hash` input normalisation", salt: `None`, a hexadecimal string (either case) and the octets themselves
denote the same salt; a string of odd length or with a non-hex character (such as the presentation form `-`) is
refused with ValueError. -/
theorem nsec3_salt_forms (upper : Bool) (b : Bytes) (hb : ∀ x ∈ b, x < 256) :
    saltEncode (.text (hexText upper b)) = .ok b ∧ saltEncode (.bytes b) = .ok b ∧ saltEncode .none = .ok [] := by
  refine ⟨?_, rfl, rfl⟩
  have : (hexText upper b).length % 2 = 0 := by rw [hexText_length]; omega
  simp [saltEncode, this, pyFromHex_hexText upper b hb]

example : hexText true [171, 205, 1] = "ABCD01".toList.map Char.toNat ∧ hexText false [171, 205, 1] = "abcd01".toList.map Char.toNat
    ∧ saltEncode (.text [45]) = .error .value ∧ saltEncode (.text [97, 98, 32]) = .error .value
    ∧ saltEncode (.text [97, 98, 32, 32]) = .ok [171] := by decide +kernel

/-- "`nsec3_hash` input normalisation", whole call: with the algorithm given as 1 or as the text `SHA1` in any
case, the domain given as a name or as text that `from_text` parses to `n`, and the salt in any accepted form
denoting `s`, the result is base32hex of RFC 5155 §5's `IH(s, canonical wire form of n, iterations)`. -/
theorem nsec3_args_is_rfc (H : Bytes → Bytes) (domain : DomainArg) (salt : SaltArg) (iterations : Nat) (alg : AlgArg)
    (n : Name) (s : Bytes) (halg : algDecode alg = .ok 1) (hsalt : saltEncode salt = .ok s)
    (hdom : domainDecode domain = .ok n) (ha : isAbs n = true) :
    nsec3HashArgs H domain salt iterations alg =
      .ok (b32encode b32Hex (IH H s (toWire (lowerName n)) iterations)) := by
  unfold nsec3HashArgs
  simp only [halg, hsalt, hdom, ne_eq, not_true_eq_false, if_false]
  exact nsec3_is_rfc H n s iterations ha

example : algDecode (.text [115, 72, 97, 49]) = .ok 1 ∧ algDecode (.num 1) = .ok 1 ∧ algDecode (.text [83, 72, 65, 50]) = .error .value
    ∧ domainDecode (.text [65, 46, 98]) = .ok [[65], [98], []] ∧ domainDecode (.text [64]) = .ok [[]] := by decide +kernel

/-- any other algorithm number is refused before anything else is looked at -/
theorem nsec3_other_algorithm_rejected (H : Bytes → Bytes) (domain : DomainArg) (salt : SaltArg) (iterations a : Nat)
    (h : a ≠ 1) : nsec3HashArgs H domain salt iterations (.num a) = .error .value := by
  simp [nsec3HashArgs, algDecode, h]

/-- "NSEC3 owner name construction" (RFC 5155 §3): `from_text(nsec3_hash(…), zone)` is the base32hex hash as a
single label prepended to the zone name, valid whenever that name fits the length limits — the hash text never
needs escaping and is never mistaken for `@`.  (`hne`: the hash function returns at least one octet.) -/
theorem nsec3_owner_is_rfc (H : Bytes → Bytes) (domain : DomainArg) (salt : SaltArg) (iterations : Nat) (alg : AlgArg)
    (n : Name) (s : Bytes) (zone : Name) (halg : algDecode alg = .ok 1) (hsalt : saltEncode salt = .ok s)
    (hdom : domainDecode domain = .ok n) (ha : isAbs n = true)
    (hne : IH H s (toWire (lowerName n)) iterations ≠ []) :
    nsec3Owner H domain salt iterations alg zone =
      liftName (validate (b32encode b32Hex (IH H s (toWire (lowerName n)) iterations) :: zone)) := by
  unfold nsec3Owner
  rw [nsec3_args_is_rfc H domain salt iterations alg n s halg hsalt hdom ha]
  simp only
  have hlen := b32encode_length_ge _ hne
  rw [fromText_plain _ zone (b32encode_ok _)]
  · intro h; rw [h] at hlen; simp at hlen
  · intro h; rw [h] at hlen; simp at hlen

example : nsec3Owner (fun x => x.take 5) (.text [65, 46]) (.text [97, 98]) 2 (.text [115, 104, 97, 49]) [[101, 120], []] =
    .ok [[48, 53, 71, 71, 49, 65, 84, 66], [101, 120], []] := by decide +kernel

/-- base32hex alphabet `0-9A-V` -/
example : (List.range 32).map b32Hex = "0123456789ABCDEFGHIJKLMNOPQRSTUV".toList.map Char.toNat := by decide +kernel

/-- "exact type bitmaps": decoding the windows produced by `Bitmap.from_rdtypes` (bit 0 = most significant,
RFC 4034 §4.1.2) gives exactly the input type set — duplicates and order of the input are irrelevant —; window
numbers strictly ascend; every bitmap has 1..32 octets and no trailing zero octet (minimal length). -/
theorem bitmap_exact (ts : List Nat) (h : ∀ t ∈ ts, 0 < t ∧ t < 65536) :
    (∀ t, bitmapHas (fromRdtypes ts) t ↔ t ∈ ts) ∧
    (fromRdtypes ts).Pairwise (fun a b => a.1 < b.1) ∧
    (∀ w ∈ fromRdtypes ts, w.1 < 256 ∧ w.2 ≠ [] ∧ w.2.length ≤ 32 ∧ w.2.getLast? ≠ some 0) :=
  fromRdtypes_exact ts h

example : ∀ t ∈ [47, 1, 46, 1234, 15, 1], 0 < t ∧ t < 65536 := by decide +kernel

example : fromRdtypes [47, 1, 46, 1234, 15, 1] = [(0, [64, 1, 0, 0, 0, 3]), (4, List.replicate 26 0 ++ [32])] := by decide +kernel

/-- the secure names are a sub-sequence of the sorted names: each at most once, in canonical order -/
theorem secure_sublist (c : NsecConsts) (origin : Name) (L : List ZNode) :
    (secure c origin L).Sublist L ∧ ∀ z, z ∈ secure c origin L ↔ z ∈ L ∧ occluded c origin L z = false := by
  refine ⟨List.filter_sublist, fun z => ?_⟩
  simp [secure, List.mem_filter]

/-- RFC 4035 §2.3 on what a node announces: all its types, except at a delegation point, where only NS and DS -/
def rfcNsecTypes (c : NsecConsts) (origin : Name) (z : ZNode) : List Nat :=
  if isCut c origin z then z.types.filter fun t => t == c.tNS || t == c.tDS else z.types

/-- The whole observable behaviour of `_sign_zone_nsec`, not only its NSEC records: the sequence of calls to the
signer and of NSEC additions is exactly `eventsSpec` over the secure names — for each secure name, in canonical
order, its RRsets are handed to the signer (`signSpec`), then the NSEC of the previous secure name is added and
signed; finally the last name's NSEC points back to the origin.  Same hypotheses as `nsec_chain`. -/
theorem sign_zone_events_exact (c : NsecConsts) (origin : Name) (nodes : List ZNode) (ws : Bool)
    (hd : DistinctNames nodes) (ht : ∀ z ∈ nodes, z.types ≠ []) (ho : origin ≠ []) :
    signZoneNsec c origin nodes ws = eventsSpec c origin ws none (secure c origin (sortNodes nodes)) := by
  have hperm : (sortNodes nodes).Perm nodes := insSort_perm _ nodes
  exact walk_events c origin nodes ws (sortNodes nodes)
    (fun z hz => ⟨lookup_of_distinct nodes hd z (hperm.mem_iff.mp hz), ht z (hperm.mem_iff.mp hz)⟩)
    ho (sortNodes_sorted nodes hd)

/-- "the NSEC chain visits every authoritative name exactly once in canonical order with exact type bitmaps,
skipping names beneath delegations" — unconditional in the order (C06 supplies: `sorted` output is strictly
increasing for distinct names, no name sorts before a name it is beneath, `is_subdomain` is transitive, the names
beneath a name follow it contiguously).  For any zone content whose node names are pairwise distinct (they are
dictionary keys) and whose nodes are non-empty: the NSEC records `_sign_zone_nsec` adds are exactly the chain over
`secure` (the names of the zone, in canonical order, that are not beneath a delegation): one record per such name,
each pointing at the next, the last one at the origin, bitmap = announced types ∪ {RRSIG, NSEC}
(`bitmap_exact`: encoded exactly).  (Full form since commit 67da86e: the apex-only zone included.) -/
theorem nsec_chain (c : NsecConsts) (origin : Name) (nodes : List ZNode) (ws : Bool)
    (hd : DistinctNames nodes) (ht : ∀ z ∈ nodes, z.types ≠ []) (ho : origin ≠ []) :
    nsecsOf (signZoneNsec c origin nodes ws) = chain c origin (secure c origin (sortNodes nodes)) origin := by
  rw [sign_zone_events_exact c origin nodes ws hd ht ho]
  exact nsecsOf_eventsSpec c origin ws _ none

/-- "skipping names beneath delegations", for signatures (RFC 4035 §2.2): an RRset (owner, type) is handed to the
signer iff its owner is a secure name of the zone and the type is NSEC, or a type the node has other than RRSIG —
at a delegation point only DS (not the NS RRset, not glue at the cut).  In particular nothing beneath a
delegation is ever signed. -/
theorem signed_rrsets_is_rfc4035 (c : NsecConsts) (origin : Name) (nodes : List ZNode)
    (hd : DistinctNames nodes) (ht : ∀ z ∈ nodes, z.types ≠ []) (ho : origin ≠ []) (n : Name) (ty : Nat) :
    Evt.sign n ty ∈ signZoneNsec c origin nodes true ↔
      ∃ z ∈ secure c origin (sortNodes nodes), n = z.name ∧
        (ty = c.tNSEC ∨ (ty ∈ z.types ∧ ty ≠ c.tRRSIG ∧ (isCut c origin z = true → ty = c.tDS))) := by
  rw [sign_zone_events_exact c origin nodes true hd ht ho, mem_eventsSpec]
  simp only [Option.toList_none, List.nil_append, mem_signSpec, ← exists_or, ← and_or_left]

/-- what `secure` ranges over: a permutation of the nodes, strictly increasing in the RFC 4034 §6.1 order -/
theorem sorted_nodes_canonical (nodes : List ZNode) (hd : DistinctNames nodes) :
    (sortNodes nodes).Perm nodes ∧
    (sortNodes nodes).Pairwise (fun a b => NameOrder.canonLt a.name b.name) := by
  refine ⟨insSort_perm _ _, (sortNodes_sorted nodes hd).imp ?_⟩
  intro a b h
  exact (NameOrder.cmpOrder_lt_iff a.name b.name).1 h

/-- "exact type bitmaps", which types: the types a node announces are RFC 4035 §2.3's — all of its types, except
at a delegation point, where only NS and DS (the parent is not authoritative for anything else found there, such
as glue whose owner is the cut itself).  Full form since dnspython commit 61a6394. -/
theorem nsec_types_is_rfc (c : NsecConsts) (origin : Name) (z : ZNode) :
    nsecTypes c origin z = rfcNsecTypes c origin z := rfl

def exConsts : NsecConsts := { tNS := 2, tDS := 43, tRRSIG := 46, tNSEC := 47 }

/-- non-vacuity: zone `ex.` with apex, `a` (A), cut `sub` (NS, DS, glue A at the cut), glue `ns.sub`, and `zz`:
the facts C06 supplies are visible on it, `ns.sub` is skipped, the chain is apex → a → sub → zz → apex -/
def exZone : List ZNode :=
  [⟨[[101, 120], []], [6, 2]⟩, ⟨[[97], [101, 120], []], [1]⟩, ⟨[[115, 117, 98], [101, 120], []], [2, 43, 1]⟩,
   ⟨[[110, 115], [115, 117, 98], [101, 120], []], [1]⟩, ⟨[[122, 122], [101, 120], []], [1]⟩]

example : exZone.Pairwise (fun a b => cmpOrder a.name b.name < 0) ∧ (∀ z ∈ exZone, z.types ≠ []) ∧
    exZone.Pairwise (fun a b => subOf a b = false) ∧
    (∀ x ∈ exZone, ∀ y ∈ exZone, ∀ z ∈ exZone, subOf x y = true → subOf y z = true → subOf x z = true) ∧
    contig exZone = true ∧
    (secure exConsts [[101, 120], []] exZone).map (·.name) =
      [[[101, 120], []], [[97], [101, 120], []], [[115, 117, 98], [101, 120], []], [[122, 122], [101, 120], []]] := by
  decide +kernel

/-- the hypotheses of `nsec_chain` on the same zone given in another order -/
example : DistinctNames exZone.reverse ∧ (∀ z ∈ exZone.reverse, z.types ≠ []) ∧ sortNodes exZone.reverse = exZone := by
  refine ⟨?_, by decide, by decide⟩
  unfold DistinctNames; decide

/-- and the chain itself, with the RFC 4035 §2.3 bitmap at the delegation point (the case repaired in 61a6394):
`sub` (NS, DS and glue A at the cut) announces only NS and DS, the ordinary name `a` all it has -/
example :
    (nsecsOf (signZoneNsec exConsts [[101, 120], []] exZone true)).map (fun r => (r.1, r.2.1)) =
      [([[101, 120], []], [[97], [101, 120], []]), ([[97], [101, 120], []], [[115, 117, 98], [101, 120], []]),
       ([[115, 117, 98], [101, 120], []], [[122, 122], [101, 120], []]), ([[122, 122], [101, 120], []], [[101, 120], []])]
    ∧ nsecTypes exConsts [[101, 120], []] ⟨[[115, 117, 98], [101, 120], []], [2, 43, 1]⟩ = [2, 43]
    ∧ rfcNsecTypes exConsts [[101, 120], []] ⟨[[97], [101, 120], []], [1, 16]⟩ = [1, 16]
    ∧ isCut exConsts [[101, 120], []] ⟨[[115, 117, 98], [101, 120], []], [2, 43, 1]⟩ = true := by
  decide +kernel

/-- non-vacuity on the example zone: apex SOA and NS, `a` A, at the cut `sub` only DS (neither its NS nor its
glue A), nothing at `ns.sub`, `zz` A; an NSEC for each of the four secure names -/
example : (signZoneNsec exConsts [[101, 120], []] exZone true).filterMap (fun e => match e with
      | .sign n ty => some (n.length, ty) | .nsec _ _ _ => none) =
    [(2, 6), (2, 2), (3, 1), (2, 47), (3, 43), (3, 47), (3, 1), (3, 47), (3, 47)] := by decide +kernel

/-- The case repaired in commit 67da86e (DESIGN D13): a relativized zone whose only name is the apex `@` gets
one NSEC `@ → origin`. -/
example : nsecsOf (signZoneNsec exConsts [[101, 120], []] [⟨[], [6, 2]⟩] true) =
        [([], [[101, 120], []], fromRdtypes [6, 2, 46, 47])] := by decide +kernel

/-- "ZONEMD digests", exclusions (RFC 8976 §3.3.1 items 4 and 6): at a node the rdatasets that are hashed
are, in ascending (type, covered type) order, all those of the node except — at the apex only — ZONEMD itself
and the RRSIG covering ZONEMD. -/
theorem zonemd_rdatasets_hashed (tZONEMD : Nat) (originName name : Name) (rs : List ZRdataset) :
    let hashed := (insSort rdsLe rs).filter fun r => !zonemdExcluded tZONEMD originName name r
    (∀ r, r ∈ hashed ↔ r ∈ rs ∧
        ¬ (nameEq name originName = true ∧ (r.rdtype = tZONEMD ∨ r.covers = tZONEMD))) := by
  refine fun r => ?_
  simp only [List.mem_filter, (insSort_perm rdsLe rs).mem_iff, zonemdExcluded]
  cases nameEq name originName <;> simp

/-- "ZONEMD digests", order within an owner (RFC 8976 §3.3.1: RRsets ascending by type; RRSIGs — all of type 46
— by their RDATA, which starts with the type covered): the rdatasets of a node enter the hash sorted by
(type, covered type), whatever their order in the node. -/
theorem zonemd_rdatasets_sorted_by_type_then_covers (tZONEMD : Nat) (originName name : Name) (rs : List ZRdataset) :
    ((insSort rdsLe rs).filter fun r => !zonemdExcluded tZONEMD originName name r).Pairwise
      (fun a b => a.rdtype < b.rdtype ∨ (a.rdtype = b.rdtype ∧ a.covers ≤ b.covers)) := by
  exact (insSort_pairwise (fun _ _ => decide_eq_true_iff) (fun a b => by omega) (fun a b c => by omega) rs).sublist
    List.filter_sublist

/-- and that sorted, filtered list is what `zonemdNode` hashes, rdataset by rdataset, after the owner name -/
theorem zonemd_node_unfolds (tZONEMD : Nat) (t : CanonTable) (origin : Option Name) (originName : Name) (node : ZMNode)
    (buf : Bytes) (h : nameDigestable node.name origin = .ok buf) :
    zonemdNode tZONEMD t origin originName node =
      concatExcept (((insSort rdsLe node.rdatasets).filter fun r => !zonemdExcluded tZONEMD originName node.name r).map
        (zonemdRdataset t origin buf)) := by
  simp [zonemdNode, h]

/-- owners enter the hash in canonical order (RFC 8976 §3.3.1 via RFC 4034 §6.1), each exactly once -/
theorem zonemd_nodes_sorted (nodes : List ZMNode) :
    (insSort (fun a b => nameLe a.name b.name) nodes).Perm nodes ∧
    (insSort (fun (a b : ZMNode) => nameLe a.name b.name) nodes).Pairwise (fun a b => cmpOrder a.name b.name ≤ 0) :=
  ⟨insSort_perm _ _, insSort_nameLe ZMNode.name nodes⟩

example : (insSort rdsLe [⟨46, 15, 1, 0, []⟩, ⟨15, 0, 1, 0, []⟩, ⟨46, 1, 1, 0, []⟩, ⟨1, 0, 1, 0, []⟩]).map (fun r => (r.rdtype, r.covers)) =
    [(1, 0), (15, 0), (46, 1), (46, 15)] := by decide +kernel

/-- each hashed RR is `owner | type | class | TTL | RDLENGTH | RDATA` with the rdataset's TTL, RDATAs of one
rdataset in canonical order (RFC 8976 §3.3.1, RFC 4034 §6) -/
theorem zonemd_rdataset_format (t : CanonTable) (origin : Option Name) (owner : Name) (rds : ZRdataset) (ds : List Bytes)
    (hd : mapExcept (fun rd => toDigestable t rds.rdclass rds.rdtype rd origin) rds.rdatas = .ok ds) :
    zonemdRdataset t origin (toWire (lowerName owner)) rds =
      .ok ((insSort bytesLe ds).flatMap (Rfc.rr owner rds.rdtype rds.rdclass rds.ttl)) := by
  simp only [zonemdRdataset, hd, rrRecord_eq]

/-- "ZONEMD digests", scheme and hash-algorithm selection: the hash algorithms accepted are exactly RFC 8976
§5.3's SHA-384 (1) and SHA-512 (2), the only scheme is SIMPLE (1); with both supported the digest input is the
zone walk, otherwise the specific error is raised — algorithm first — and nothing is hashed. -/
theorem zonemd_selection (tZ : Nat) (t : CanonTable) (origin : Name) (rel : Bool) (alg scheme : Nat) (nodes : List ZMNode) :
    ConstsC15.zonemdHashes = [1, 2] ∧
    zonemdCompute ConstsC15.zonemdHashes tZ t origin rel alg scheme nodes =
      if alg ≠ 1 ∧ alg ≠ 2 then .error .unsupportedDigestHash
      else if scheme ≠ 1 then .error .unsupportedDigestScheme
      else zonemdInput tZ t origin rel nodes := by
  have hh : ConstsC15.zonemdHashes = [1, 2] := by decide +kernel
  refine ⟨hh, ?_⟩
  unfold zonemdCompute
  rw [hh]
  by_cases h1 : alg = 1
  · subst h1; simp
  · by_cases h2 : alg = 2
    · subst h2; simp
    · simp [h1, h2]

/-- unsupported hash algorithm / scheme are refused before anything is hashed -/
theorem zonemd_unsupported (tZ : Nat) (t : CanonTable) (origin : Name) (rel : Bool) (alg scheme : Nat) (nodes : List ZMNode)
    (h : ConstsC15.zonemdHashes.contains alg = false ∨ scheme ≠ 1) :
    ∃ e, zonemdCompute ConstsC15.zonemdHashes tZ t origin rel alg scheme nodes = .error e := by
  unfold zonemdCompute
  cases ha : ConstsC15.zonemdHashes.contains alg with
  | false => exact ⟨_, rfl⟩
  | true =>
    have hs : scheme ≠ 1 := by
      rcases h with h | h
      · rw [ha] at h; cases h
      · exact h
    simp only [Bool.not_true, Bool.false_eq_true, if_false, hs, ne_eq, not_false_eq_true, if_true]
    exact ⟨_, rfl⟩

/-- non-vacuity: apex ZONEMD and the RRSIG covering it are left out; a ZONEMD elsewhere is hashed -/
example :
    zonemdInput 63 ConstsC15.canonTable [[101], []] true
      [⟨[], [⟨63, 0, 1, 0, [[Field.raw [1]]]⟩, ⟨46, 63, 1, 0, [[Field.raw [0, 63]]]⟩, ⟨1, 0, 1, 5, [[Field.raw [9, 9, 9, 9]]]⟩]⟩,
       ⟨[[65]], [⟨63, 0, 1, 0, [[Field.raw [7]]]⟩]⟩] =
    .ok ([1, 101, 0] ++ [0, 1, 0, 1, 0, 0, 0, 5, 0, 4, 9, 9, 9, 9] ++ [1, 97, 1, 101, 0] ++ [0, 63, 0, 1, 0, 0, 0, 0, 0, 1, 7]) := by
  decide +kernel

end C15
