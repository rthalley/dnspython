import Proofs.WritersLive
/-!
# C12 — Versioned-zone writers are serialized, FIFO and deadlock-free in every schedule

Theorems of record about `Model.Writers` (lean/Model/Writers.lean), the small-step model of `dns/versioned.py`'s
`Zone.writer`, `_maybe_wakeup_one_waiter_unlocked`, `_end_write*`, `_commit_version*`, `reader`, `_end_read`.
`Reach c n s`: `s` is reachable from the initial zone by **any** sequence of steps of threads `< n` (any `n`), whatever
their roles `c.role` (writer that commits / writer that rolls back / reader) and transaction bodies `c.body`;
one step = one source line that touches the lock, an event or a guarded field.
All statements are proved through one inductive invariant (`Model.Writers.Inv`, lean/Proofs/Writers*.lean).

Liveness ("every waiting writer is eventually admitted once its predecessors end") is proved under an explicit
**bounded-fairness** hypothesis (`FairExec c n k`: the scheduler never passes over a started, enabled thread more than `k`
times between two of its steps), in finitary form with an explicit bound (`eventually_admitted`): a writer that has
arrived is admitted within `360·(d+1)·(k+1)²` steps, `d` = admissions still needed (queue position + token holder + 1),
independently of the number of threads.  Plain weak fairness ("continuously enabled ⇒ eventually scheduled") is *not*
enough for this code: `threading.Lock` is not FIFO, so a writer (or the token holder) sitting in `acquire` is enabled
only intermittently and an unbounded stream of other lock users could overtake it forever; the skip bound is what rules
that out.  Transaction bodies terminate by construction (one model step).
-/
namespace C12
open Model.Writers

variable {c : Cfg} {n : Nat} {s s' : State}

/-- "at most one write transaction on a versioned zone is open at a time": two threads between admission
(`self._write_txn = Transaction(..)`) and the end of their transaction are the same thread, and it is `_write_txn`. -/
theorem mutex (h : Reach c n s) (t u : Tid) (ht : isOwner (s.loc t).pc = true) (hu : isOwner (s.loc u).pc = true) :
    t = u ∧ s.writeTxn = some t := by
  have hi := (reach_inv h).lk
  exact ⟨hi.owner_unique ht hu, (hi.own t).mp ht⟩

example : ∃ s, Reach { role := fun _ => .writer true, body := fun t x => x ++ [t] } 2 s ∧ isOwner (s.loc 0).pc = true :=
  ⟨_, .step 0 (.step 0 (.step 0 (.step 0 (.step 0 .init (by decide) rfl) (by decide) rfl) (by decide) rfl) (by decide) rfl)
    (by decide) rfl, rfl⟩

/-- the critical sections of `_version_lock` exclude each other (what "exactly one thread owns the lock" means in the
model), and only the thread recorded as holder is inside one. -/
theorem lock_mutex (h : Reach c n s) (t u : Tid) (ht : holdsLock (s.loc t).pc = true)
    (hu : holdsLock (s.loc u).pc = true) : t = u ∧ s.lock = some t := by
  have hi := (reach_inv h).lk
  have h1 := (hi.lock t).mp ht
  have h2 := (hi.lock u).mp hu
  rw [h1] at h2
  exact ⟨Option.some.inj h2, h1⟩

/-- `token_set`: while `_write_event` is some event `e`, no write transaction is open (except for the instant between
the token holder's `self._write_txn = ..` and `self._write_event = None`), and `e` has been `set()` unless the thread
that popped it is still between `popleft()` and `set()` under the lock. -/
theorem token_set (h : Reach c n s) (e : Ev) (he : s.writeEvent = some e) :
    (s.writeTxn = none ∨ (s.writeTxn = some (s.owner e) ∧ (s.loc (s.owner e)).pc = .wClrEv)) ∧
    (s.lock = none → e ∈ s.evSet) := by
  have hi := reach_inv h
  obtain ⟨_, _, _, _, _, htx⟩ := hi.ev.tok e he
  refine ⟨?_, ?_⟩
  · rcases htx with h1 | h1
    · exact .inl h1
    · exact .inr ⟨hi.lk.own_at h1, h1⟩
  · exact hi.ev.token_is_set he

/-- `token_unique`: exactly one thread holds the event that is `_write_event` in its local variable `event`; it is on its
way to admission (`wait` → re-acquire → test → create the transaction), so no other thread can pass the admission test. -/
theorem token_unique (h : Reach c n s) (e : Ev) (he : s.writeEvent = some e) :
    (s.loc (s.owner e)).ev = some e ∧ tokenPc (s.loc (s.owner e)).pc = true ∧ e ∉ s.waiters ∧
    ∀ u, (s.loc u).ev = some e → u = s.owner e := by
  have hi := reach_inv h
  obtain ⟨_, hev, hpc, hnw, _, _⟩ := hi.ev.tok e he
  exact ⟨hev, hpc, hnw, fun u hu => ((hi.ev.evLt u e hu).2).symm⟩

/-- `queue_exact` (1): every event in `_write_waiters` belongs to exactly one thread, which is parked on it
(`event.wait()` or the release just before), the event is not set and is not the token; the queue has no duplicates. -/
theorem queue_sound (h : Reach c n s) :
    s.waiters.Nodup ∧ ∀ e ∈ s.waiters, (s.loc (s.owner e)).ev = some e ∧ queuedPc (s.loc (s.owner e)).pc = true ∧
      e ∉ s.evSet ∧ s.writeEvent ≠ some e ∧ ∀ u, (s.loc u).ev = some e → u = s.owner e := by
  have hi := reach_inv h
  refine ⟨hi.ev.wqNodup, fun e he => ?_⟩
  obtain ⟨_, h1, h2, h3, h4⟩ := hi.ev.wq e he
  exact ⟨h1, h2, h3, h4, fun u hu => ((hi.ev.evLt u e hu).2).symm⟩

/-- `queue_exact` (2): every blocked writer is accounted for: a thread parked in `event.wait()` has its event either in
the queue or as the token (so a wake-up is never lost: nobody waits on an event that nobody will set). -/
theorem queue_complete (h : Reach c n s) (t : Tid) (ht : (s.loc t).pc = .wWait) :
    ∃ e, (s.loc t).ev = some e ∧ (e ∈ s.waiters ∨ s.writeEvent = some e) := by
  have hi := reach_inv h
  obtain ⟨h1, h2⟩ := hi.ev.wait t ht
  rcases hev : (s.loc t).ev with _ | e
  · exact absurd hev h1
  · exact ⟨e, rfl, h2 e hev⟩

/-- `queue_exact` (3), the arrival order: the writers in the order of their first critical section in `writer()` are
the admitted ones, then the token holder, then the owners of the queued events in queue order, then the writer that is
in its first critical section right now. -/
theorem queue_exact (h : Reach c n s) : s.arrivals = s.admitted ++ (tokPart s ++ s.waiters.map s.owner ++ inCS s) :=
  (reach_inv h).q.queue

/-- `no_orphan`: with the lock free, a non-empty waiter queue always has somebody who will pop it: an open write
transaction or an outstanding token. -/
theorem no_orphan (h : Reach c n s) (hl : s.lock = none) (htx : s.writeTxn = none) (hev : s.writeEvent = none) :
    s.waiters = [] :=
  (reach_inv h).ev.waiters_nil htx hev (fun h1 => h1.1 hl) fun h1 => h1.1 hl

/-- `fifo`: "writers are admitted in the order they started waiting": the admission order is a prefix of the arrival
order (order of the first critical section, in which a writer either is admitted or enqueues itself). -/
theorem fifo (h : Reach c n s) : s.admitted <+: s.arrivals := ⟨_, (reach_inv h).q.queue.symm⟩

/-- `deadlock_free` / no lost wake-up: in every reachable state in which some thread of the pool is not finished, some
thread of the pool can take a step. -/
theorem deadlock_free (h : Reach c n s) (t : Tid) (ht : t < n) (hd : (s.loc t).pc ≠ .done) :
    ∃ u, u < n ∧ (step c s u).isSome := by
  obtain ⟨u, hu, he⟩ := deadlock_free_aux (reach_inv h) ht hd
  exact ⟨u, hu, (enabled_iff c s u).mpr he⟩

/-- the holder of the wake-up token is never blocked by anything but a (bounded) lock hold. -/
theorem token_holder_enabled (h : Reach c n s) (e : Ev) (he : s.writeEvent = some e) (hl : s.lock = none) :
    (step c s (s.owner e)).isSome := by
  have hi := reach_inv h
  obtain ⟨_, hev, hpc, _⟩ := hi.ev.tok e he
  refine (enabled_iff c s _).mpr (free_enabled hi hl ?_ fun _ => ⟨e, hev, hi.ev.token_is_set he hl⟩)
  intro hd; rw [hd] at hpc; cases hpc

/-- `bounded_bypass` (safety form of "every waiting writer is eventually admitted once its predecessors end"):
the writer whose event is at position `k` of the queue in state `s` is, in every later state `s'`, the admission number
`p = |admitted| + |token holder| + k` (counting from 0): exactly the `k` waiters before it and the token holder are
admitted in between, nobody else, and it is not admitted before that (it is in `admitted` exactly when more than `p`
writers have been admitted); every admission needs the previous transaction to have ended
(`|admitted| = ends + [a transaction is open]`), so it is admitted after exactly `k + 1` further write-ends when a
transaction is open in `s`. -/
theorem bounded_bypass (h : Reach c n s) {k : Nat} {e : Ev} (hk : s.waiters[k]? = some e) (hs : ReachFrom c n s s') :
    s'.arrivals[s.admitted.length + (tokPart s).length + k]? = some (s.owner e) ∧
    (∀ hlt : s.admitted.length + (tokPart s).length + k < s'.admitted.length,
        s'.admitted[s.admitted.length + (tokPart s).length + k] = s.owner e) ∧
    (s.owner e ∈ s'.admitted ↔ s.admitted.length + (tokPart s).length + k < s'.admitted.length) ∧
    s'.admitted.length = s'.ends + (if s'.writeTxn = none then 0 else 1) := by
  have hr' := reach_of_reachFrom h hs
  have hq' := (reach_inv hr').q
  have hp := queue_position (reach_inv h).q hk
  obtain ⟨l, hl⟩ := arrivals_mono hs
  have hp' : s'.arrivals[s.admitted.length + (tokPart s).length + k]? = some (s.owner e) := by
    rw [hl, List.getElem?_append_left (List.getElem?_eq_some_iff.mp hp).1]; exact hp
  refine ⟨hp', fun hlt => ?_, admitted_iff_position hq' (reach_inv hr').arr.nodup hp', hq'.ends⟩
  rw [hq'.queue, List.getElem?_append_left hlt, List.getElem?_eq_getElem hlt] at hp'
  exact Option.some.inj hp'

/-- every writer arrives once: the arrival order has no repetition (so "position in the arrival order" is meaningful). -/
theorem arrivals_nodup (h : Reach c n s) : s.arrivals.Nodup := (reach_inv h).arr.nodup

/-- a parked writer is never stuck *for lack of an enabled step*: its event is queued or is the token; some thread can
move; and if it holds the token and the lock is free, it can move itself (the safety core of liveness, no fairness needed). -/
theorem waiting_writer_not_stuck (h : Reach c n s) (t : Tid) (ht : t < n) (hw : (s.loc t).pc = .wWait) :
    (∃ e, (s.loc t).ev = some e ∧ (e ∈ s.waiters ∨ s.writeEvent = some e)) ∧
    (∃ u, u < n ∧ (step c s u).isSome) ∧
    (∀ e, (s.loc t).ev = some e → s.writeEvent = some e → s.lock = none → (step c s t).isSome) := by
  refine ⟨queue_complete h t hw, deadlock_free h t ht (by rw [hw]; decide), ?_⟩
  intro e he hwe hl
  have := token_holder_enabled h e hwe hl
  rwa [(token_unique h e hwe).2.2.2 t he]

variable {k L : Nat} {sk sk' : Tid → Nat}

/-- the ranking argument: for a writer `w` that has arrived and is not yet admitted, **every** step of a `k`-fair
scheduler decreases `rank` = flattened lexicographic measure (admissions still needed; steps left of the thread the next
admission waits for: owner of the open transaction / the thread waking the head of the queue / the token holder;
its fairness budget; `lockFuel` of a foreign lock holder; that holder's fairness budget). -/
theorem fair_step_decreases_rank (h : Reach c n s) (w : Tid) (hw : w ∈ s.arrivals) (hna : w ∉ s.admitted) {t : Tid}
    (hst : FStep c k s sk t s' sk') :
    rank k s' sk' (stageThread s') (stageM s' w) < rank k s sk (stageThread s) (stageM s w) :=
  writer_rank_step (reach_inv h) hw hna hst

/-- liveness in the form that speaks about every fair execution, short or long: after `L` steps of a `k`-fair execution
either `w` has been admitted, or the rank has gone down by at least `L` (and the rank is at most
`admitBound k d = 360·(d+1)·(k+1)²`, `d` = admissions still needed). -/
theorem fair_execution_bound (h : Reach c n s) (w : Tid) (hw : w ∈ s.arrivals) (hx : FairExec c n k s sk L s' sk') :
    w ∈ s'.admitted ∨
      (L + rank k s' sk' (stageThread s') (stageM s' w) ≤ rank k s sk (stageThread s) (stageM s w) ∧
        rank k s sk (stageThread s) (stageM s w) ≤ admitBound k (needD s w)) := by
  rcases writer_admitted_or_rank (reach_inv h) hw hx with h1 | ⟨_, h1⟩
  · exact .inl h1
  · exact .inr ⟨h1, rank_le_admitBound _ _ _ _⟩

/-- `eventually_admitted` ("every waiting writer is eventually admitted once its predecessors end"), finitary form under
bounded fairness: from any reachable state, along **every** `k`-fair execution of length at least
`admitBound k d = 360·(d+1)·(k+1)²`, a writer that has arrived (`w ∈ arrivals`: it has been through its first critical
section, where it either was admitted or enqueued itself) has been admitted; `d = needD s w` is the number of admissions
still needed.  The bound does not depend on the number of threads nor on what other writers and readers do. -/
theorem eventually_admitted (h : Reach c n s) (w : Tid) (hw : w ∈ s.arrivals) (hx : FairExec c n k s sk L s' sk')
    (hL : admitBound k (needD s w) ≤ L) : w ∈ s'.admitted :=
  eventually_admitted_aux (reach_inv h) hw hx hL

/-- the same for a writer parked in `event.wait()` -/
theorem eventually_admitted_waiting (h : Reach c n s) (w : Tid) (hw : (s.loc w).pc = .wWait)
    (hx : FairExec c n k s sk L s' sk') (hL : admitBound k (needD s w) ≤ L) : w ∈ s'.admitted :=
  eventually_admitted_aux (reach_inv h) ((reach_inv h).arr.arrived w (.inl (by rw [hw]; rfl))) hx hL

/-- the same in terms of the queue: the writer whose event is at position `j` of `_write_waiters` needs at most `j + 2`
admissions (the token holder, the `j` waiters before it, itself), hence is admitted within `360·(j+3)·(k+1)²` steps. -/
theorem eventually_admitted_queue (h : Reach c n s) {j : Nat} {e : Ev} (hj : s.waiters[j]? = some e)
    (hx : FairExec c n k s sk L s' sk') (hL : admitBound k (j + 2) ≤ L) : s.owner e ∈ s'.admitted := by
  obtain ⟨hmem, hd⟩ := needD_of_queue (reach_inv h) hj
  have := tokPart_length_le s
  exact eventually_admitted_aux (reach_inv h) hmem hx (Nat.le_trans (admitBound_mono (by omega)) hL)

/-- an execution that a fair scheduler cannot continue (no thread of the pool enabled) has admitted every writer that had
arrived: together with `eventually_admitted` this covers executions shorter than the bound. -/
theorem admitted_when_quiescent (h : Reach c n s) (w : Tid) (hw : w ∈ s.arrivals)
    (hq : ∀ u, u < n → (step c s u).isSome = false) : w ∈ s.admitted := by
  apply Classical.byContradiction
  intro hna
  have hi := reach_inv h
  have hp := pending_ne_nil hi.q hw hna
  have hpos := stage_fuel_pos hi hp
  have hnd := stageFuel_not_idle _ hpos
  have hσn : stageThread s < n := lt_of_not_idle hi hnd.1
  obtain ⟨u, hu, he⟩ := deadlock_free h (stageThread s) hσn hnd.2
  rw [hq u hu] at he; cases he

/-- `serial_equivalence`: "the final zone equals the serial application of the committed transactions in admission
order": `zone.nodes` is the fold of the bodies of the committed transactions, which are the admitted committing
transactions in admission order (minus the one still open). In particular the private copy taken by the deferred
`_setup_version` outside the lock is the zone as of admission (`InvSer.snapA`), because only the owner can commit. -/
theorem serial_equivalence (h : Reach c n s) :
    s.nodes = applyTxns c s.committed ∧
    admittedCommitters c s = s.committed ++ curCommitter c s ∧
    (s.writeTxn = none → s.nodes = applyTxns c (admittedCommitters c s)) := by
  have hi := (reach_inv h).ser
  refine ⟨hi.nodes, hi.ac, fun hw => ?_⟩
  rw [hi.ac, hi.nodes]
  simp [curCommitter, hw]

/-- the snapshot handed to an admitted writer is the current zone (no lost update), or the empty version for
`writer(replacement=True)`; and the version id it was given is the next one. -/
theorem snapshot_is_current (h : Reach c n s) (t : Tid) (ht : snapAPc (s.loc t).pc = true) :
    (s.loc t).snap = (if c.repl t then [] else s.nodes) ∧ (s.loc t).vid = s.versions.length + 1 := by
  have hi := (reach_inv h).ser
  exact ⟨hi.snapA t ht, hi.vid t (snapAPc_vidPc _ ht)⟩

/-- the `replacement` option in the serial reading: committing transaction `t` makes the zone `body t zone`, or
`body t []` when `t` was opened with `writer(replacement=True)`: whatever earlier transactions wrote is discarded, and
nothing of a concurrent or later transaction is. -/
theorem serial_step (c : Cfg) (ts : List Tid) (t : Tid) :
    applyTxns c (ts ++ [t]) = c.body t (if c.repl t then [] else applyTxns c ts) :=
  applyTxns_snoc c ts t

/-- `readers_atomic`: "readers never observe a partially applied transaction": the version a reader holds is one of the
*published* versions (the first `|committed| + 1` elements of `_versions`; the element appended by a commit that is still
in progress, and that is withdrawn again if the pruning policy raises, is never handed out), and every published
version is the serial application of a prefix of the admitted committing transactions (version id = prefix length + 1). -/
theorem readers_atomic (h : Reach c n s) :
    (∀ t, readerHasPc (s.loc t).pc = true → (s.loc t).rver ∈ s.versions.take (s.committed.length + 1)) ∧
    ∀ v ∈ s.versions.take (s.committed.length + 1),
      ∃ i, i ≤ s.committed.length ∧ v = (i + 1, applyTxns c ((admittedCommitters c s).take i)) := by
  have hi := (reach_inv h).ser
  refine ⟨hi.rver, fun v hv => ?_⟩
  obtain ⟨i, hi', hv'⟩ := List.getElem_of_mem hv
  rw [List.length_take] at hi'
  have hlt : i < s.versions.length := by omega
  refine ⟨i, by omega, hi.versions i v (by omega) ?_⟩
  rw [List.getElem_take] at hv'
  rw [List.getElem?_eq_getElem hlt, hv']

/-- a commit whose pruning policy raises (`c.pruneFails t`; any callback, the theorems hold for every choice) behaves as a
rollback with hand-off: the appended version is withdrawn under the same lock hold (`cUndo`), the zone content and the
list of committed transactions do not change, the transaction does not count among the committers, and its end wakes the
next waiter like every other end (all the admission theorems above quantify over this path too). -/
theorem failed_commit_is_rollback (h : Reach c n s) (t : Tid) (ht : (s.loc t).pc = .cUndo) :
    c.pruneFails t = true ∧ willCommit c t = false ∧ s.writeTxn = some t ∧ s.lock = some t ∧
    s.nodes = applyTxns c s.committed ∧ s.versions.length = s.committed.length + 2 ∧
    ∃ s', step c s t = some s' ∧ s'.versions = s.versions.dropLast ∧ s'.versions.length = s'.committed.length + 1 ∧
      s'.nodes = s.nodes ∧ s'.committed = s.committed ∧ (s'.loc t).pc = .eTxnNone := by
  have hi := reach_inv h
  have hf := hi.ser.undoF t ht
  have hw := hi.lk.own_at ht
  have hl := hi.lk.lock_at ht
  have hlen := vlen_of_own hi.lk hi.ser ht
  simp at hlen
  refine ⟨hf, by simp [willCommit, hf], hw, hl, hi.ser.nodes, by omega, ?_⟩
  refine ⟨{ s with versions := s.versions.dropLast }.setLoc t { s.loc t with pc := .eTxnNone }, by simp [step, ht],
    rfl, ?_, rfl, rfl, by simp⟩
  simp [List.length_dropLast]; omega

/-- transactions whose commit failed leave no trace in the final zone: with no transaction open, the zone is the serial
application of the admitted transactions that commit *and* whose pruning went through. -/
theorem serial_equivalence_failed_commits (h : Reach c n s) (hw : s.writeTxn = none) :
    s.nodes = applyTxns c (s.admitted.filter fun t => c.role t == .writer true && !c.pruneFails t) :=
  (serial_equivalence h).2.2 hw

/-- `readers_nonblocking` (1): "readers never wait for a write transaction to end": a reader thread is never parked on an
event; the only thing that can stop it is `_version_lock` being held at this instant. -/
theorem readers_nonblocking (h : Reach c n s) (t : Tid) (hr : c.role t = .reader) (hd : (s.loc t).pc ≠ .done)
    (hl : s.lock = none) : (step c s t).isSome := by
  have hp := (reach_inv h).rd t hr
  apply (enabled_iff c s t).mpr
  apply free_enabled (reach_inv h) hl hd
  intro hw; rw [hw] at hp; cases hp

/-- `readers_nonblocking` (2): every hold of `_version_lock` is a straight-line section of at most 8 steps: the holder is
never blocked (no `wait`, no second `acquire` under the lock), each of its steps decreases `lockFuel`, and it releases
when `lockFuel` reaches 0. -/
theorem lock_hold_bounded (h : Reach c n s) (u : Tid) (hl : s.lock = some u) :
    lockFuel (s.loc u).pc ≤ 8 ∧
    ∃ s', step c s u = some s' ∧ lockFuel (s'.loc u).pc < lockFuel (s.loc u).pc ∧
      ((s'.lock = some u ∧ 0 < lockFuel (s'.loc u).pc) ∨ (s'.lock = none ∧ lockFuel (s'.loc u).pc = 0)) := by
  have hi := reach_inv h
  have he := (enabled_iff c s u).mpr (holder_enabled hi hl)
  obtain ⟨s', hs'⟩ := Option.isSome_iff_exists.mp he
  exact ⟨lockFuel_le _, s', hs', hi.lk.holder_progress hl (step_trans hs')⟩

/-- `readers_nonblocking` (4), *which steps happen inside the critical section*: the deferred `_setup_version()` (version
id, the copy of the whole node map, the public `writable_version_factory` hook) and the transaction body run **without**
the lock: a thread at one of these program points does not hold `_version_lock`, nobody holds it on its behalf, and every
program point at which the lock *is* held is one of the bounded bookkeeping points counted by `lockFuel`
(`lock_hold_bounded`): no callback, copy or wait among them.  So while an admitted writer builds its version, readers
can open and close and further writers can enqueue as soon as the lock is free of a bookkeeping holder. -/
theorem setup_outside_lock (h : Reach c n s) (t : Tid)
    (ht : (s.loc t).pc = .wSetupId ∨ (s.loc t).pc = .wSetupCopy ∨ (s.loc t).pc = .wReturn ∨ (s.loc t).pc = .wBody) :
    s.lock ≠ some t ∧ s.writeTxn = some t ∧
    (∀ u, s.lock = some u → 0 < lockFuel (s.loc u).pc ∧ (s.loc u).pc ≠ .wSetupId ∧ (s.loc u).pc ≠ .wSetupCopy ∧
      (s.loc u).pc ≠ .wBody) ∧
    (s.lock = none → ∀ r, c.role r = .reader → (s.loc r).pc ≠ .done → (step c s r).isSome) := by
  have hi := reach_inv h
  have hnl : holdsLock (s.loc t).pc = false := by rcases ht with h1 | h1 | h1 | h1 <;> rw [h1] <;> rfl
  have hown : isOwner (s.loc t).pc = true := by rcases ht with h1 | h1 | h1 | h1 <;> rw [h1] <;> rfl
  refine ⟨fun hl => ?_, (hi.lk.own t).mp hown, fun u hu => ?_, fun hl r hr hd => readers_nonblocking h r hr hd hl⟩
  · have := (hi.lk.lock t).mpr hl; rw [hnl] at this; cases this
  · have hh := (hi.lk.lock u).mpr hu
    refine ⟨(lockFuel_pos_iff _).mpr hh, ?_, ?_, ?_⟩ <;> (intro e; rw [e] at hh; cases hh)

/-- `readers_nonblocking` (3): the steps of other threads neither move the lock holder nor take the lock from it. -/
theorem lock_hold_stable (h : Reach c n s) (u t : Tid) (hl : s.lock = some u) (hne : t ≠ u)
    (hs : step c s t = some s') : s'.lock = some u ∧ s'.loc u = s.loc u :=
  (reach_inv h).lk.holder_stable hl hne (step_trans hs)

/-- `readers_wait_free` (1), own steps: a reader's program is straight-line: every own step uses up at least one unit of
`readerFuel` (11 at the call of `reader()`, 6 when `reader()` has returned, 0 when `_end_read` has returned; a lookup
`reader(id=..)` / `reader(serial=..)` that finds nothing skips from the lookup to the release): `reader()` completes in at
most 5 own steps and `_end_read` in 4, no retry loop, whatever the writers do. -/
theorem reader_own_steps (h : Reach c n s) (r : Tid) (hrole : c.role r = .reader) (hs : step c s r = some s') :
    readerFuel (s'.loc r).pc + 1 ≤ readerFuel (s.loc r).pc :=
  reader_step_fuel ((reach_inv h).rd r hrole) (step_trans hs)

/-- `reader(id=k)` hands out the published version with that id, never anything else: a reader holding a version holds
one of the published versions, and if it asked for id `k` (and got one) the version has id `k`. -/
theorem reader_by_id (h : Reach c n s) (r : Tid) (k : Nat) (v : Nat × Content) (hp : (s.loc r).pc = .rdPick)
    (hk : c.pick r = .byId k) (hf : s.versions.find? (fun v => v.1 == k) = some v) :
    ∃ s', step c s r = some s' ∧ (s'.loc r).rver = v ∧ v.1 = k ∧ v ∈ s.versions.take (s.committed.length + 1) := by
  have hi := reach_inv h
  exact ⟨s.setLoc r { s.loc r with pc := .rdAdd, rver := v }, by simp [step, hp, hk, hf], by simp,
    by simpa using List.find?_some hf, published_of_rdPick hi.lk hi.ser hp (List.mem_of_find?_eq_some hf)⟩

/-- `readers_wait_free` (2), what can delay a reader: an unfinished reader can take its next step unless another thread
holds `_version_lock` at this instant (a hold that ends within 8 steps of that thread, `lock_hold_bounded`): no condition
on `_write_txn`, `_write_event` or the waiter queue appears. -/
theorem reader_blocked_only_by_lock (h : Reach c n s) (r : Tid) (hrole : c.role r = .reader)
    (hd : (s.loc r).pc ≠ .done) : (step c s r).isSome ∨ ∃ v, s.lock = some v ∧ v ≠ r := by
  rcases reader_enabled (reach_inv h) ((reach_inv h).rd r hrole) hd with h1 | h1
  · exact .inl ((enabled_iff c s r).mpr h1)
  · exact .inr h1

/-- `readers_wait_free` (3), finitary form under bounded fairness: a reader that has called `reader()` has returned from
`_end_read` after at most `108·(k+1)²` steps of any `k`-fair execution: a bound in which no write transaction, queue
length or number of threads appears (each of its 10 own steps costs at most `k` passes plus `k` lock hand-overs of at
most 8 steps, each delayed by at most `k` passes). -/
theorem readers_wait_free (h : Reach c n s) (r : Tid) (hrole : c.role r = .reader) (hst : (s.loc r).pc ≠ .idle)
    (hx : FairExec c n k s sk L s' sk') (hL : 108 * (k + 1) * (k + 1) ≤ L) : (s'.loc r).pc = .done :=
  -- 108 = 9 · 12 is what the statement fixes; 9 · 11 is what `reader_finishes` needs
  reader_finishes (reach_inv h) hrole hst hx
    (Nat.le_trans (Nat.mul_le_mul_right _ (Nat.mul_le_mul_right _ (by decide))) hL)

/-! ## Non-vacuity: the protocol's rare interleaving is reachable in the model

Writer 0 is admitted, writer 1 queues, writer 0 commits and wakes 1 (token out, event set), and writer 2 arrives
*between the wake-up and the woken thread re-taking the lock*: it must queue behind the token. -/
def demoCfg : Cfg := { role := fun _ => .writer true, body := fun t x => x ++ [t] }

def demoSchedule : List Tid :=
  [0, 0, 0, 0, 0, 0, 0,            -- writer 0: call, event=None, acquire, test, create txn, clear event, release
   1, 1, 1, 1, 1, 1, 1,            -- writer 1: call … acquire, test fails, new event, append, release
   0, 0, 0, 0,                     -- writer 0: setup id, copy, return, body
   0, 0, 0, 0, 0, 0, 0, 0, 0,      -- writer 0: acquire, append version, prune, nodes, txn=None, test, popleft, set, release
   2, 2, 2, 2, 2, 2, 2]            -- writer 2: arrives now: test fails because the token is out

example : ∃ s, run demoCfg init demoSchedule = some s ∧ s.writeTxn = none ∧ s.writeEvent = some 0 ∧ s.waiters = [1] ∧
    s.admitted = [0] ∧ s.arrivals = [0, 1, 2] ∧ s.nodes = [0] := ⟨_, rfl, rfl, rfl, rfl, rfl, rfl, rfl⟩

/-- the state after `demoSchedule` -/
def demoState : State := (run demoCfg init demoSchedule).getD init

theorem demo_reach : Reach demoCfg 3 demoState :=
  reach_of_run demoSchedule .init (by decide) rfl

-- hypotheses of `token_set` / `token_unique` / `token_holder_enabled` (token out, lock free)
example : demoState.writeEvent = some 0 ∧ demoState.lock = none ∧ demoState.owner 0 = 1 := ⟨rfl, rfl, rfl⟩
-- hypotheses of `queue_sound` / `bounded_bypass` (a non-empty queue: writer 2 at position 0, behind the token holder 1)
example : demoState.waiters[0]? = some 1 ∧ demoState.owner 1 = 2 ∧ (tokPart demoState).length = 1 := ⟨rfl, rfl, rfl⟩
-- hypotheses of `queue_complete` (a thread parked in `event.wait()`), of `deadlock_free` (an unfinished thread)
example : (demoState.loc 1).pc = .wWait ∧ (demoState.loc 2).pc ≠ .done := ⟨rfl, by decide⟩
-- `bounded_bypass` instantiated: writer 2 is admission number 2 (after 0 and the token holder 1) in every later state
example (s' : State) (hs : ReachFrom demoCfg 3 demoState s') : (2 ∈ s'.admitted ↔ 2 < s'.admitted.length) :=
  (bounded_bypass demo_reach (k := 0) (e := 1) rfl hs).2.2.1

/-- one writer and one reader: the reader is admitted while the write transaction is open and sees the old version -/
def demoCfgR : Cfg := { role := fun t => if t = 0 then .writer true else .reader, body := fun t x => x ++ [t + 7] }
def demoScheduleR : List Tid :=
  [0, 0, 0, 0, 0, 0, 0, 0, 0, 0, 0,    -- writer 0 admitted, version set up, body run
   1, 1, 1, 1, 1, 1,                  -- reader 1: call, acquire, pick, register, release, return
   0, 0, 0, 0,                        -- writer 0: acquire, append version, prune, publish nodes
   1]                                 -- reader 1 reads
def demoStateR : State := (run demoCfgR init demoScheduleR).getD init

theorem demoR_reach : Reach demoCfgR 2 demoStateR :=
  reach_of_run demoScheduleR .init (by decide) rfl

-- hypotheses of `readers_atomic` / `readers_nonblocking` / `lock_hold_bounded`: a reader holding version 1 while version 2
-- exists, the writer inside its commit section
example : readerHasPc (demoStateR.loc 1).pc = true ∧ (demoStateR.loc 1).seen = [] ∧ demoStateR.versions = [(1, []), (2, [7])] ∧
    demoStateR.lock = some 0 ∧ demoCfgR.role 1 = .reader ∧ demoStateR.nodes = [7] := ⟨rfl, rfl, rfl, rfl, rfl, rfl⟩

/-- writer 0 appends and commits; writer 1 is a `writer(replacement=True)` that queues behind it, then commits: the zone is
what writer 1 wrote alone -/
def demoCfgRepl : Cfg :=
  { role := fun _ => .writer true, body := fun t x => x ++ [t + 5], repl := fun t => t == 1 }
def demoScheduleRepl : List Tid :=
  [0, 0, 0, 0, 0, 0, 0, 1, 1, 1, 1, 1, 1, 1, 0, 0, 0, 0, 0, 0, 0, 0, 0, 0, 0, 0, 0,
   1, 1, 1, 1, 1, 1, 1, 1, 1, 1, 1, 1, 1, 1, 1, 1, 1]
example : ∃ s, run demoCfgRepl init demoScheduleRepl = some s ∧ s.admitted = [0, 1] ∧ s.committed = [0, 1] ∧
    s.nodes = [6] ∧ s.versions = [(1, []), (2, [5]), (3, [6])] ∧ applyTxns demoCfgRepl [0, 1] = [6] :=
  ⟨_, rfl, rfl, rfl, rfl, rfl, rfl⟩

/-- writer 0's commit fails in the pruning policy while writer 1 is queued behind it: the version is withdrawn, writer 1 is
woken, admitted and commits on top of the *old* zone -/
def demoCfgFail : Cfg :=
  { role := fun _ => .writer true, body := fun t x => x ++ [t + 5], pruneFails := fun t => t == 0 }
def demoScheduleFail : List Tid :=
  [0, 0, 0, 0, 0, 0, 0, 1, 1, 1, 1, 1, 1, 1, 0, 0, 0, 0, 0, 0, 0]   -- 0 admitted, 1 queued, 0 appends its version
def demoStateFail : State := (run demoCfgFail init demoScheduleFail).getD init
example : (demoStateFail.loc 0).pc = .cUndo ∧ demoStateFail.versions = [(1, []), (2, [5])] ∧ demoStateFail.nodes = [] ∧
    demoStateFail.waiters = [0] := ⟨rfl, rfl, rfl, rfl⟩
example : ∃ s, run demoCfgFail init (demoScheduleFail ++ [0, 0, 0, 0, 0, 0,
      1, 1, 1, 1, 1, 1, 1, 1, 1, 1, 1, 1, 1, 1, 1, 1, 1]) = some s ∧
    s.admitted = [0, 1] ∧ s.committed = [1] ∧ s.nodes = [6] ∧ s.versions = [(1, []), (2, [6])] ∧
    (s.loc 0).pc = .done ∧ (s.loc 1).pc = .done := ⟨_, rfl, rfl, rfl, rfl, rfl, rfl, rfl⟩

/-- writer 0 commits once; then reader 1 asks for version id 1 (found: the initial empty version), reader 2's
lookup finds nothing (`KeyError`): it releases the lock and is finished without ever registering -/
def demoCfgPick : Cfg :=
  { role := fun t => if t = 0 then .writer true else .reader, body := fun t x => x ++ [t + 5],
    pick := fun t => if t = 1 then .byId 1 else if t = 2 then .missing else .latest }
example : ∃ s, run demoCfgPick init ([0,0,0,0,0,0,0,0,0,0,0,0,0,0,0,0,0,0] ++ [1,1,1,1,1,1] ++ [2,2,2,2]) = some s ∧
    s.versions = [(1, []), (2, [5])] ∧ (s.loc 1).rver = (1, []) ∧ s.readers = [1] ∧ (s.loc 2).pc = .done ∧ s.lock = none :=
  ⟨_, rfl, rfl, rfl, rfl, rfl, rfl⟩

/-! ## Non-vacuity of the fairness hypotheses

A 2-fair execution of three committing writers that all start before the first one is admitted (70 steps): writers 1
and 2 queue up and are admitted in arrival order.  (The length hypothesis `admitBound k d ≤ L` of `eventually_admitted`
is met only by long executions, i.e. large pools whose threads start a few at a time: the bound is independent of `n`
while a pool of `n` threads has executions of length up to about `40·n`; `fair_execution_bound` and
`admitted_when_quiescent` are the forms that also speak about short executions.) -/
def fairSchedule : List Tid :=
  [0, 1, 2, 0, 1, 2, 0, 0, 0, 0, 0, 1, 0, 1, 0, 1, 0, 1, 0, 1, 2, 2, 2, 2, 2, 0, 0, 0, 0, 0, 0, 0, 0, 0, 1, 1, 1, 1, 1, 1,
   1, 1, 1, 1, 1, 1, 1, 1, 1, 1, 1, 1, 1, 2, 2, 2, 2, 2, 2, 2, 2, 2, 2, 2, 2, 2, 2, 2, 2, 2]

/-- state after the first 20 steps: writer 0 holds the transaction, writer 1 is queued, writer 2 has not arrived yet -/
def fairMid : State × (Tid → Nat) := (fairRun demoCfg 3 2 init (fun _ => 0) (fairSchedule.take 20)).getD (init, fun _ => 0)

example : fairMid.1.admitted = [0] ∧ fairMid.1.waiters = [0] ∧ fairMid.1.owner 0 = 1 ∧ fairMid.1.arrivals = [0, 1] ∧
    needD fairMid.1 1 = 1 ∧ (fairMid.1.loc 1).pc = .wWait := ⟨rfl, rfl, rfl, rfl, rfl, rfl⟩

theorem fairMid_reach : Reach demoCfg 3 fairMid.1 :=
  reach_of_reachFrom .init (reachFrom_of_fairExec
    (fairExec_of_fairRun (k := 2) (fairSchedule.take 20) init (fun _ => 0) fairMid.1 fairMid.2
      (by intro u _; exact ⟨rfl, rfl⟩) rfl).1)

/-- a 2-fair execution of 50 steps from there, at the end of which the waiting writers 1 and 2 have been admitted -/
theorem fairMid_exec : ∃ s' sk', FairExec demoCfg 3 2 fairMid.1 fairMid.2 50 s' sk' ∧ s'.admitted = [0, 1, 2] ∧
    s'.nodes = [0, 1, 2] := by
  have hpool := (fairExec_of_fairRun (c := demoCfg) (n := 3) (k := 2) (fairSchedule.take 20) init (fun _ => 0) fairMid.1
    fairMid.2 (by intro u _; exact ⟨rfl, rfl⟩) rfl).2
  exact ⟨_, _, (fairExec_of_fairRun (fairSchedule.drop 20) fairMid.1 fairMid.2 _ _ hpool rfl).1, rfl, rfl⟩

end C12
