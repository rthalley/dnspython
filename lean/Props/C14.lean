import Model.Tsig
import Proofs.TsigRfc
import Proofs.TsigDigest
import Proofs.TsigValidate
import Proofs.TsigExchange
import Proofs.TsigReader
import Proofs.TsigInject
import Proofs.TsigFlip
import Proofs.TsigName
import Proofs.TsigCodec
import Proofs.TsigRoundTrip
import Proofs.TsigOwner
/-!
# C14 — TSIG MACs follow RFC 8945; genuine messages verify, altered ones never do

Theorems of record.  `Model.Tsig` follows `dns/tsig.py`, `dns/rdtypes/ANY/TSIG.py`, the signing tail of
`Message.to_wire` / `Renderer._write_tsig` and the TSIG part of `dns.message._WireReader`.  `Rfc8945` is
RFC 8945 §4.3 / §5.3.1 / §6 written independently.  The HMAC is an arbitrary function `H` throughout; the
algorithm table and the literal constants (`ConstsC14.*`) are regenerated from the working tree on every run.
-/
namespace C14
open Model Model.Tsig Rfc8945

/-! ## the algorithm table (a finite obligation about the regenerated table) -/

/-- octets of MAC the code emits for a table row -/
def outLen (e : AlgEntry) : Nat := if e.trunc ≠ 0 then e.trunc / 8 else e.dsize

/-- "for every supported algorithm incl. truncated variants": the regenerated `HMACTSig._hashes` /
`mac_sizes` table is exactly RFC 8945 §6 — same names (up to case), same hash, same number of MAC octets; the
truncations are whole octets and never longer than the digest. -/
theorem alg_table_is_rfc8945 :
    (∀ e ∈ algTable, (lowerName e.name, e.hash, outLen e) ∈ algorithms ∧ e.dsize = hashLen e.hash
        ∧ e.trunc % 8 = 0 ∧ outLen e ≤ e.dsize ∧ e.macSize = outLen e)
    ∧ (∀ r ∈ algorithms, ∃ e ∈ algTable, (lowerName e.name, e.hash, outLen e) = r) := by
  decide +kernel

/-- the MAC the code computes is the HMAC of the context's octets under the row's hash, cut to the RFC length -/
theorem mac_is_truncated_hmac (H : Hmac) (key : Key) (e : AlgEntry) (data : Bytes) (c : Ctx)
    (he : lookupAlg algTable key.algorithm = some e) (hc : getContext algTable key = .ok c)
    (hH : (H e.hash key.secret data).length = e.dsize) (hle : outLen e ≤ e.dsize) :
    (c.update data).sign H = (H e.hash key.secret data).take (outLen e)
      ∧ ((c.update data).sign H).length = outLen e := by
  unfold getContext at hc
  rw [he] at hc
  cases hc
  unfold Ctx.sign Ctx.update outLen
  unfold outLen at hle
  by_cases ht : e.trunc = 0
  · simp [ht, hH, List.take_of_length_le] at hle ⊢
  · simp [ht] at hle ⊢
    omega

/-! ## the octets fed to the MAC -/

/-- "the MAC equals the HMAC over the specified digest components … for requests, responses bound to a
request MAC": whenever `_digest` starts a context (`first`), the octets fed are, in order, the request MAC
with its length (iff one was given), the message with the original ID, and the TSIG variables of §4.3.3. -/
theorem digest_input_is_rfc8945 (tbl : List AlgEntry) (wire : Bytes) (key : Key) (rd : Rdata) (time : Option Nat)
    (rm : Bytes) (ctx : Option Ctx) (multi : Bool) (c : Ctx)
    (hfirst : multi = false ∨ ctx = none)
    (h : digest tbl wire key rd time rm ctx multi = .ok c) :
    c.data = if rm = [] then requestInput rd.originalId wire (varsOf key rd time)
             else responseInput rm rd.originalId wire (varsOf key rd time) := by
  rw [digest_first_data tbl wire key rd time rm ctx multi c (first_of_single_or_none hfirst) h]
  by_cases hr : rm = [] <;> simp [hr, requestInput, responseInput]

/-- on validation the "message" is the received one with the TSIG RR cut off and ARCOUNT decremented -/
theorem validate_digests_stripped_message (V : Verifier) (tbl : List AlgEntry) (wire : Bytes) (key : Key)
    (owner : Name) (rd : Rdata) (now : Nat) (rm : Bytes) (s : Nat) (c : Ctx) (c' : Option Ctx)
    (h : validateV V tbl wire key owner rd now rm s none false = .ok (c, c')) :
    c.data = (if rm = [] then requestInput rd.originalId (stripTsig wire s) (varsOf key rd none)
              else responseInput rm rd.originalId (stripTsig wire s) (varsOf key rd none))
      ∧ V c rd.mac = true := by
  obtain ⟨_, _, _, _, _, hd, hv, _⟩ := validateV_ok h
  refine ⟨?_, hv⟩
  rw [← newWire_eq_stripTsig]
  exact digest_input_is_rfc8945 tbl _ key rd none rm none false c (Or.inl rfl) hd

/-- "… and multi-message sequences", "any subset of intermediate messages unsigned": along a whole exchange
validated with `multi=True` and the context handed on, the octets at every MAC comparison are RFC 8945's:
first envelope as a request/response, later ones prior MAC ‖ unsigned messages since ‖ message ‖ timers. -/
theorem digest_input_is_rfc8945_exchange (V : Verifier) (tbl : List AlgEntry) (key : Key) (owner : Name) (now : Nat)
    (rm : Bytes) (envs : List Env) (l : List Bytes)
    (h : runExchange V tbl key owner now rm none envs = .ok l) :
    l = exchangeInputs rm none (envs.map (Env.toSpec key)) :=
  runExchange_inputs V tbl key owner now rm envs none none l (Or.inl ⟨rfl, rfl⟩) h

/-- the signing side of an exchange: a later signed envelope digests the running context (which
`_maybe_start_digest` started with the prior MAC and its length), the message, and the timers only -/
theorem sign_later_input (H : Hmac) (tbl : List AlgEntry) (wire : Bytes) (key : Key) (rd : Rdata) (time : Nat)
    (rm : Bytes) (c0 : Ctx) (rd' : Rdata) (c' : Option Ctx)
    (h : sign H tbl wire key rd time rm (some c0) true = .ok (rd', c')) :
    ∃ c : Ctx, c.data = c0.data ++ message rd.originalId wire ++ timers (varsOf key rd (some time))
      ∧ rd'.mac = c.sign H ∧ rd'.timeSigned = time
      ∧ ∃ c2 : Ctx, c' = some c2 ∧ c2.data = macField rd'.mac := by
  obtain ⟨c, hd, hm, rfl⟩ := sign_eq_ok_iff.mp h
  obtain ⟨c3, hc3, hd3⟩ := maybeStart_multi tbl key _ c' hm
  exact ⟨c, digest_later_data tbl wire key rd (some time) rm c0 c hd, rfl, rfl, c3, hc3, hd3⟩

/-! ## every signed message validates under the same key -/

/-- "every signed message validates under the same key", "for every supported algorithm": for every row of the
regenerated table, signing succeeds, and the message `Message.to_wire` then emits (body, TSIG RR appended,
ARCOUNT incremented) is accepted by `validate` with the same key, request MAC, context and `multi`, at any
time within the fudge window — whatever function the HMAC is.  The context handed on is the signer's. -/
theorem sign_then_validate (H : Hmac) (e : AlgEntry) (he : e ∈ algTable) (key : Key) (hk : key.algorithm = e.name)
    (body ownerEnc : Bytes) (rd : Rdata) (now vnow : Nat) (rm : Bytes) (ctx : Option Ctx) (multi : Bool)
    (hl : 12 ≤ body.length) (ho : Tsig.OctetsOk body) (hc : rd16 body 10 + 1 < 65536)
    (halg : rd.algorithm = key.algorithm) (herr : rd.error = 0) (hother : rd.other.length ≤ 65535)
    (hwin : absDiff now vnow ≤ rd.fudge) :
    ∃ wire rd' ctx', signMessage H algTable body ownerEnc key rd now rm ctx multi = .ok (wire, rd', ctx')
      ∧ wire = appendTsig body ownerEnc rd'
      ∧ Tsig.validate H algTable wire key key.name rd' vnow rm body.length ctx multi = .ok ctx' := by
  obtain ⟨wire, rd', ctx', c, hs, hw, _, hv⟩ := sign_then_validate_gen H e he key hk body ownerEnc key.name rd now vnow rm
    ctx multi hl ho hc (NameOrder.nameEq_refl _) halg herr hother hwin
  exact ⟨wire, rd', ctx', hs, hw, by simp [Tsig.validate, hv]⟩

/-- **sign, render, read** ("every signed message validates under the same key", at the level of
`dns.message.from_wire`).  A message body that the section walk gets through (`BodyOk`: header written, counts
right, no TSIG record), signed by the model of `Message.to_wire` with a key of the regenerated table and rendered
with an owner-name encoding `o` that reads back as a name equal to the key's (`OwnerEncodes`: any encoding,
compressed or not; `sign_then_read_uncompressed` discharges it for the plain encoding), is **accepted by the
reader** with the same key, request MAC, context and `multi` at any time within the fudge window; the reader
reports exactly the TSIG that was written (`rd'`: the template with time signed and MAC filled in), the message it
saw under the TSIG is the body that was signed (`newWire wire body.length = body`), and the context it hands on
is the signer's.  `H` is any function with at most 64 octets of output. -/
theorem sign_then_read (H : Hmac) (strict : Bool) (key : Key) (body o : Bytes) (owner : Name) (rd : Rdata)
    (now vnow : Nat) (rm : Bytes) (ctx : Option Ctx) (multi : Bool)
    (hok : SignedOk H key body o owner rd now vnow) :
    ∃ wire rd' ctx' c, signMessage H algTable body o key rd now rm ctx multi = .ok (wire, rd', ctx')
      ∧ wire = appendTsig body o rd' ∧ SignedFields H rd rd' now
      ∧ newWire wire body.length = body
      ∧ read H algTable strict wire (.key key) vnow rm ctx multi
          = .ok ⟨some ⟨owner, rd', some (c, rd'.mac)⟩, ctx'⟩ := by
  have := sign_then_read_core false [] (fun _ => rfl) H strict key body o owner rd now vnow rm ctx multi hok
  simp only [List.append_nil] at this
  exact this

/-- the uncompressed owner name `toWire key.name` is such an encoding (C01: `Dec_plain`, `fromWireAux_of_Dec`) -/
theorem sign_then_read_uncompressed (pre : Bytes) (n : Name) (hw : WfName n) (ha : isAbs n = true) :
    OwnerEncodes pre (toWire n) n ∧ nameEq n n = true :=
  ⟨ownerEncodes_plain pre n hw ha, NameOrder.nameEq_refl n⟩

/-- the **compressed** owner name the real renderer writes is such an encoding too.  `Message.to_wire` emits the TSIG
RR through `RRset.to_wire` / `Name.to_wire(file, compress)` with the compression table built while the body was
rendered; C01 models that as `toWireC` and proves (`toWireC_sound`) that a table every entry of which decodes in the
buffer to its key up to case stays so.  For any such table — whatever it holds, whichever suffix of the key name it
matches, at whatever offset — what `toWireC` appends for the key name is skipped as a whole by the section walk and
decodes, whatever follows, to a name equal to the key's: the hypothesis `OwnerEncodes` of `sign_then_read` and its
`nameEq` side condition hold for the renderer's own output, not only for the plain encoding. -/
theorem compressed_owner_encodes (pre : Bytes) (tbl : CTable) (n : Name) (hw : WfName n) (ha : isAbs n = true)
    (hs : TableSound C01.lowEq pre tbl) :
    ∃ o tbl' m, toWireC pre tbl n none = .ok (pre ++ o, tbl') ∧ OwnerEncodes pre o m ∧ nameEq n m = true :=
  ownerEncodes_compressed pre tbl n hw ha hs

/-- **sign, render with compression, read.**  `sign_then_read` with the owner name written by the renderer's
compressing name writer against any sound table: the reader accepts, reports the TSIG written and the body signed,
and hands on the signer's context.  (`hrest` collects the remaining hypotheses of `sign_then_read`, which do not
depend on how the owner is encoded.) -/
theorem sign_then_read_compressed (H : Hmac) (strict : Bool) (key : Key) (body : Bytes) (tbl : CTable) (rd : Rdata)
    (now vnow : Nat) (rm : Bytes) (ctx : Option Ctx) (multi : Bool)
    (hw : WfName key.name) (ha : isAbs key.name = true)
    (hs : TableSound C01.lowEq (setArcount body (rd16 body 10 + 1)) tbl)
    (hrest : ∀ o owner, OwnerEncodes (setArcount body (rd16 body 10 + 1)) o owner → nameEq key.name owner = true →
      SignedOk H key body o owner rd now vnow) :
    ∃ o tbl' owner wire rd' ctx' c,
      toWireC (setArcount body (rd16 body 10 + 1)) tbl key.name none = .ok (setArcount body (rd16 body 10 + 1) ++ o, tbl')
      ∧ signMessage H algTable body o key rd now rm ctx multi = .ok (wire, rd', ctx')
      ∧ wire = appendTsig body o rd' ∧ newWire wire body.length = body ∧ nameEq key.name owner = true
      ∧ read H algTable strict wire (.key key) vnow rm ctx multi = .ok ⟨some ⟨owner, rd', some (c, rd'.mac)⟩, ctx'⟩ := by
  obtain ⟨o, tbl', owner, htc, henc, hne⟩ := ownerEncodes_compressed _ tbl key.name hw ha hs
  obtain ⟨wire, rd', ctx', c, h1, h2, _, h4, h5⟩ :=
    sign_then_read_core false [] (fun _ => rfl) H strict key body o owner rd now vnow rm ctx multi (hrest o owner henc hne)
  exact ⟨o, tbl', owner, wire, rd', ctx', c, htc, h1, h2, h4, hne, by rwa [List.append_nil] at h5⟩

/-- "… multi-message sequences", "any subset of intermediate messages unsigned": **a whole exchange**.  The sender
signs the envelopes marked `signed` with `to_wire(multi=True, tsig_ctx=…)` and digests the unsigned ones whole into
the running context; the receiver reads them one after the other with `multi=True`, handing `tsig_ctx` on.  For
*every* pattern of signed and unsigned envelopes (RFC 8945 §5.3.1 demands that the first and last be signed and at
least every 100th; the theorem needs none of that) every envelope is accepted, a TSIG is reported exactly for the
signed ones, and nothing is rejected. -/
theorem sign_then_read_exchange (H : Hmac) (strict : Bool) (key : Key) (rm : Bytes) (envs : List SEnv)
    (hall : ∀ e ∈ envs, SEnv.Ok H key e) :
    ∃ ws rs, signExchange H key rm none envs = .ok ws
      ∧ readExchange H strict key rm none (ws.zip (envs.map SEnv.vnow)) = .ok rs
      ∧ ws.length = envs.length
      ∧ rs.map (fun r => r.tsig.isSome) = envs.map SEnv.isSigned :=
  sign_then_read_exchange_core H strict key rm envs none hall

/-- the code as it is now (repair 1f3fc58): an **unsigned envelope followed by octets that are not part of it**, read
with `multi=True`, `ignore_trailing=True` and a running context, is digested into that context as *the message
only* — the next context is the old one plus exactly the message octets, whatever trails them — so the MAC input
of the next signed envelope is RFC 8945 §5.3.1's ("any unsigned messages since the last TSIG"), not the buffer's. -/
theorem unsigned_envelope_digests_message_only (V : Verifier) (tbl : List AlgEntry) (strict : Bool) (body junk : Bytes)
    (kr : Keyring) (now : Nat) (rm : Bytes) (c : Ctx) (hb : BodyOk body) :
    readVI true V tbl strict (body ++ junk) kr now rm (some c) true = .ok ⟨none, some (c.update body)⟩ := by
  rw [readVI_unsigned_ok true V tbl strict body junk kr now rm (some c) true (fun h => by cases h) hb]
  rfl

/-- **a whole exchange, every envelope possibly followed by trailing octets**, read with `ignore_trailing=True`:
the statement of `sign_then_read_exchange` holds unchanged — every envelope is accepted, a TSIG is reported exactly
for the signed ones — for any pattern of signed / unsigned envelopes and any list `junks` of trailing octet
strings (one per envelope, empty or not). -/
theorem sign_then_read_exchange_trailing (H : Hmac) (strict : Bool) (key : Key) (rm : Bytes) (envs : List SEnv)
    (junks : List Bytes) (hj : junks.length = envs.length) (hall : ∀ e ∈ envs, SEnv.Ok H key e) :
    ∃ ws rs, signExchange H key rm none envs = .ok ws
      ∧ readExchangeJ H strict key rm none (ws.zip (junks.zip (envs.map SEnv.vnow))) = .ok rs
      ∧ ws.length = envs.length
      ∧ rs.map (fun r => r.tsig.isSome) = envs.map SEnv.isSigned :=
  sign_then_read_exchange_junk_core H strict key rm envs none junks hj hall

/-- the reader's name decoding is C01's: the fuel-driven `nameAt` used so that the kernel can evaluate the reader
is `Model.fromWireAux` (`nameFuel` always suffices), hence a decoded TSIG owner is a `Dec` derivation with strictly
backward pointers and a well-formed name (`Proofs/NameWire.lean`), and conversely. -/
theorem name_decoding_is_c01 (w : Bytes) (endp cur f : Nat) (acc : List Label) :
    nameAt w endp (nameFuel w) cur cur f acc = fromWireAux w endp cur cur f acc
      ∧ (∀ n, decodeName w cur = .ok n → ∃ ls fwd, Dec w cur cur ls fwd ∧ n = ls ++ [[]] ∧ WfName n)
      ∧ (∀ ls fwd, Dec w cur cur ls fwd → WfName (ls ++ [[]]) → decodeName w cur = .ok (ls ++ [[]])) :=
  ⟨nameAt_fuel w endp cur f acc, fun n h => decodeName_ok w cur n h, fun ls fwd hd hw => decodeName_of_Dec w cur ls fwd hd hw⟩

/-! ## rejection logic -/

/-- "Validation rejects … a different key name / algorithm, time outside the fudge window, … a TSIG error":
the complete decision list of `validate`, in the order the code applies it.  `absDiff t now > fudge` is
`|now − time| > fudge`; `nameEq` is the library's case-insensitive name equality. -/
theorem reject_logic (H : Hmac) (tbl : List AlgEntry) (wire : Bytes) (key : Key) (owner : Name) (rd : Rdata)
    (now : Nat) (rm : Bytes) (s : Nat) (ctx : Option Ctx) (multi : Bool) :
    Tsig.validate H tbl wire key owner rd now rm s ctx multi =
      if rd16 wire 10 = 0 then .error .formError
      else if rd.error ≠ 0 then .error (peerErr rd.error)
      else if absDiff rd.timeSigned now > rd.fudge then .error .badTime
      else if nameEq key.name owner = false then .error .badKey
      else if nameEq key.algorithm rd.algorithm = false then .error .badAlgorithm
      else match digest tbl (newWire wire s) key rd none rm ctx multi with
        | .error e => .error e
        | .ok c =>
          if c.sign H ≠ rd.mac then .error .badSignature
          else maybeStartDigest tbl key rd.mac multi := by
  -- `validate` is `validateV` followed by the projection on the next context, which passes through every rejecting test
  have hmap : Tsig.validate H tbl wire key owner rd now rm s ctx multi
      = (validateV (verifyWith H) tbl wire key owner rd now rm s ctx multi).map Prod.snd := by
    unfold Tsig.validate
    cases validateV (verifyWith H) tbl wire key owner rd now rm s ctx multi <;> rfl
  rw [hmap, validateV_spec]
  simp only [apply_ite (Except.map Prod.snd)]
  cases digest tbl (newWire wire s) key rd none rm ctx multi with
  | error e => rfl
  | ok c =>
    -- `verify` is the comparison of the computed MAC with the one in the record
    have hv : (verifyWith H c rd.mac = false) = (c.sign H ≠ rd.mac) := by simp [verifyWith]
    simp only [apply_ite (Except.map Prod.snd), hv]
    cases maybeStartDigest tbl key rd.mac multi <;> rfl

/-- the error field maps to the documented peer errors; any non-zero value is a rejection -/
theorem tsig_error_rejected (H : Hmac) (tbl : List AlgEntry) (wire : Bytes) (key : Key) (owner : Name) (rd : Rdata)
    (now : Nat) (rm : Bytes) (s : Nat) (ctx : Option Ctx) (multi : Bool) (hw : rd16 wire 10 ≠ 0) (he : rd.error ≠ 0) :
    Tsig.validate H tbl wire key owner rd now rm s ctx multi = .error (peerErr rd.error)
      ∧ peerErr 16 = .peerBadSignature ∧ peerErr 17 = .peerBadKey ∧ peerErr 18 = .peerBadTime
      ∧ peerErr 22 = .peerBadTruncation := by
  refine ⟨?_, by decide, by decide, by decide, by decide⟩
  rw [reject_logic]; simp [hw, he]

/-- "a TSIG that is not the last record is a format error" (also: outside the additional section, or with a
class other than ANY): the reader raises BadTSIG — a FormError — before looking at the RDATA or the key -/
theorem tsig_not_last_is_formerror (V : Verifier) (tbl : List AlgEntry) (strict : Bool) (w : Bytes) (kr : Keyring)
    (now : Nat) (rm : Bytes) (multi : Bool) (sec count i : Nat) (st : RState) (p : Nat)
    (hn : skipName w w.length (w.length + 1) st.cur = some p) (hh : p + 10 ≤ w.length)
    (ht : rd16 w p = ConstsC14.typeTsig)
    (hbad : sec ≠ 3 ∨ i + 1 ≠ count ∨ rd16 w (p + 2) ≠ ConstsC14.classAny) :
    readRR V tbl strict w kr now rm multi sec count i st = .error .badTSIG := by
  unfold readRR
  rw [hn]
  dsimp only
  rw [if_neg (by omega), if_pos ht, if_pos (by omega)]

/-! ## request-MAC binding -/

/-- "responses bound to a request MAC", "rejects … a different request MAC": two different request MACs
(one of them possibly absent) never lead to the same MAC input, everything else being equal. -/
theorem request_mac_binding (tbl : List AlgEntry) (wire : Bytes) (key : Key) (rd : Rdata) (time : Option Nat)
    (rm1 rm2 : Bytes) (ctx : Option Ctx) (multi : Bool) (c1 c2 : Ctx)
    (hfirst : multi = false ∨ ctx = none)
    (h1 : digest tbl wire key rd time rm1 ctx multi = .ok c1)
    (h2 : digest tbl wire key rd time rm2 ctx multi = .ok c2)
    (hne : rm1 ≠ rm2) : c1.data ≠ c2.data := by
  have hf := first_of_single_or_none hfirst
  rw [digest_first_data tbl wire key rd time rm1 ctx multi c1 hf h1,
    digest_first_data tbl wire key rd time rm2 ctx multi c2 hf h2]
  intro heq
  rw [List.append_assoc, List.append_assoc, List.append_left_inj] at heq
  exact hne (macPrefix_inj rm1 rm2 heq)

/-- consequently a response validated against another request MAC is rejected with BadSignature, unless the
(possibly truncated) HMAC of two different inputs collides — collision-freeness under this key is the explicit
hypothesis `hcf`. -/
theorem request_mac_binding_rejects (H : Hmac) (tbl : List AlgEntry) (wire : Bytes) (key : Key) (owner : Name)
    (rd : Rdata) (now : Nat) (rm1 rm2 : Bytes) (s : Nat) (c1 : Ctx)
    (hgen : digest tbl (newWire wire s) key rd none rm1 none false = .ok c1) (hmac : rd.mac = c1.sign H)
    (hne : rm1 ≠ rm2)
    (hcf : ∀ c c' : Ctx, c.secret = c'.secret → c.hash = c'.hash → c.size = c'.size → c.sign H = c'.sign H →
      c.data = c'.data)
    (hpre : rd16 wire 10 ≠ 0 ∧ rd.error = 0 ∧ absDiff rd.timeSigned now ≤ rd.fudge ∧ nameEq key.name owner = true
      ∧ nameEq key.algorithm rd.algorithm = true) :
    Tsig.validate H tbl wire key owner rd now rm2 s none false = .error .badSignature := by
  obtain ⟨h0, he, ht, hk, ha⟩ := hpre
  rw [reject_logic]
  have : ¬ absDiff rd.timeSigned now > rd.fudge := by omega
  simp only [h0, he, this, hk, ha, if_false, ne_eq, not_true_eq_false, Bool.true_eq_false]
  -- `_digest` succeeds or fails alike for both request MACs, from the same fresh context
  obtain ⟨c0, hc0, hlen, rfl⟩ := (digest_first_iff tbl _ key rd none rm1 none false c1 rfl).mp hgen
  have hd2 := (digest_first_iff tbl (newWire wire s) key rd none rm2 none false _ rfl).mpr ⟨c0, hc0, hlen, rfl⟩
  rw [hd2]
  exact if_pos fun heq => request_mac_binding tbl _ key rd none rm1 rm2 none false _ _ (Or.inl rfl) hgen hd2 hne
    (hcf _ _ rfl rfl rfl (hmac.symm.trans heq.symm))

/-! ## the reader: what acceptance means, and what an alteration can and cannot do -/

/-- "every message whose authenticated content was altered": **acceptance is sound**, for every kind of keyring (a
`Key`, a `dict` of `bytes` secrets or `Key`s, a callable).  If the reader returns a message as signed and checked
(stand-alone message), then the TSIG RR is the last record of the additional section (found at `s` by the section
walk, class ANY, ending the message), the keyring resolved a key `k` for its owner name, its error field is 0, the
time is within the fudge window, owner and algorithm equal the key's, and the MAC in the record is the (truncated)
HMAC of exactly the RFC 8945 digest components *of the received message*. -/
theorem accepted_carries_valid_mac (H : Hmac) (tbl : List AlgEntry) (strict : Bool) (w : Bytes) (kr : Keyring) (now : Nat)
    (rm : Bytes) (r : ReadOk) (f : Found) (c0 : Ctx) (m0 : Bytes)
    (h : read H tbl strict w kr now rm none false = .ok r) (hf : r.tsig = some f) (hck : f.checked = some (c0, m0)) :
    ∃ s c k, walkTo w = some s ∧ resolveKey kr f.owner f.rd = .ok (some k)
      ∧ f.checked = some (c, f.rd.mac) ∧ c.sign H = f.rd.mac
      ∧ c.data = (if rm = [] then requestInput f.rd.originalId (stripTsig w s) (varsOf k f.rd none)
                  else responseInput rm f.rd.originalId (stripTsig w s) (varsOf k f.rd none))
      ∧ f.rd.error = 0 ∧ absDiff f.rd.timeSigned now ≤ f.rd.fudge
      ∧ nameEq k.name f.owner = true ∧ nameEq k.algorithm f.rd.algorithm = true := by
  obtain ⟨s, p, k, c, hres, hc, a, _⟩ := accepted_of_checked h hf (by rw [hck]; nofun)
  obtain ⟨_, he, ht, hn, ha, _, hv, _⟩ := validateV_ok a.valid
  obtain ⟨hdat, _⟩ := validate_digests_stripped_message _ tbl w k _ _ now rm s c _ a.valid
  exact ⟨s, c, k, a.walk, hres, hc, by simpa [verifyWith] using hv, hdat, he, ht, hn, ha⟩

/-- **the MAC input determines every RFC 8945 digest component** (the digested string is self-delimiting — the
message by its section counts, the two names as prefix-free codes — so no two different splittings of it are
possible).  Two messages accepted as signed and checked under any two keyrings, with the same request MAC, running
context and `multi`, whose MAC inputs are the same octet string, have their TSIG RR at the same offset `s`, the
same §4.3.2 "DNS message" (hence agree on *every octet from 2 to `s`*: all of the message but its ID, which
RFC 8945 replaces by the original ID), the same original ID, time signed and fudge; stand-alone / first messages
also the same error and other data and the same canonical key name and algorithm name (§4.3.3: names are digested
in canonical form, so their case and compression are not authenticated).  CLASS is ANY and — in the code as it is
now — TTL is 0 in both, or they would not have been accepted. -/
theorem mac_input_determines_content (V1 V2 : Verifier) (tbl : List AlgEntry) (st1 st2 : Bool) (w1 w2 : Bytes)
    (kr1 kr2 : Keyring) (now1 now2 : Nat) (rm : Bytes) (ctx : Option Ctx) (multi : Bool) (r1 r2 : ReadOk) (f1 f2 : Found)
    (c1 c2 : Ctx) (m1 m2 : Bytes) (ho1 : Tsig.OctetsOk w1) (ho2 : Tsig.OctetsOk w2)
    (h1 : readV V1 tbl st1 w1 kr1 now1 rm ctx multi = .ok r1) (hf1 : r1.tsig = some f1)
    (h2 : readV V2 tbl st2 w2 kr2 now2 rm ctx multi = .ok r2) (hf2 : r2.tsig = some f2)
    (hc1 : f1.checked = some (c1, m1)) (hc2 : f2.checked = some (c2, m2)) (hd : c1.data = c2.data) :
    ∃ s, walkTo w1 = some s ∧ walkTo w2 = some s ∧ (∀ i, 2 ≤ i → i < s → w1[i]? = w2[i]?)
      ∧ message f1.rd.originalId (stripTsig w1 s) = message f2.rd.originalId (stripTsig w2 s)
      ∧ f1.rd.originalId = f2.rd.originalId ∧ f1.rd.timeSigned = f2.rd.timeSigned ∧ f1.rd.fudge = f2.rd.fudge
      ∧ ((multi = false ∨ ctx = none) → f1.rd.error = f2.rd.error ∧ f1.rd.other = f2.rd.other
          ∧ canon f1.owner = canon f2.owner ∧ canon f1.rd.algorithm = canon f2.rd.algorithm) := by
  obtain ⟨s1, p1, k1, c1', _, e1, a1, _⟩ := accepted_of_checked h1 hf1 (by rw [hc1]; nofun)
  obtain ⟨s2, p2, k2, c2', _, e2, a2, _⟩ := accepted_of_checked h2 hf2 (by rw [hc2]; nofun)
  obtain rfl : c1 = c1' := (Prod.mk.inj (Option.some.inj (hc1.symm.trans e1))).1
  obtain rfl : c2 = c2' := (Prod.mk.inj (Option.some.inj (hc2.symm.trans e2))).1
  obtain ⟨rfl, hb, hdrop, hoid, hrest⟩ := same_input_same_content ho1 ho2 a1 a2 hd
  refine ⟨s1, a1.walk, a2.walk, hb, ?_, hoid, hrest⟩
  simp only [message, ← newWire_eq_stripTsig, hdrop, hoid]

/-- where an altered bit can hide, for both variants of the TTL decision point (`strict = true`: the code as it is
now, a TSIG RR with a non-zero TTL is BadTSIG; `strict = false`: the code as it was shipped) and every kind of
keyring.  If the genuine message and the message with bit `i` flipped are both returned as signed and checked, then
the (MAC input, MAC) pairs differ, or `i` is in the message ID, in the owner name of the TSIG RR (`s`…`p`), in the
algorithm name (from `p+10` up to the fixed-layout tail of the RDATA) or — in the as-shipped variant only — in the
4 TTL octets `p+4`…`p+7`. -/
theorem bitflip_location_variants (V V' : Verifier) (tbl : List AlgEntry) (strict : Bool) (w : Bytes) (kr : Keyring)
    (now now' : Nat) (rm : Bytes) (ctx : Option Ctx) (multi : Bool) (r r' : ReadOk) (f f' : Found) (i : Nat)
    (ho : Tsig.OctetsOk w) (hi : i < 8 * w.length) (hfirst : multi = false ∨ ctx = none)
    (h : readV V tbl strict w kr now rm ctx multi = .ok r) (hf : r.tsig = some f) (hck : f.checked ≠ none)
    (h' : readV V' tbl strict (flipBit w i) kr now' rm ctx multi = .ok r') (hf' : r'.tsig = some f')
    (hck' : f'.checked ≠ none) :
    ∃ s p c c', walkTo w = some s ∧ skipName w w.length (w.length + 1) s = some p
      ∧ f.checked = some (c, f.rd.mac) ∧ f'.checked = some (c', f'.rd.mac)
      ∧ ((c'.data ≠ c.data ∨ f'.rd.mac ≠ f.rd.mac)
          ∨ i < 16 ∨ (8 * s ≤ i ∧ i < 8 * p)
          ∨ (strict = false ∧ 8 * (p + 4) ≤ i ∧ i < 8 * (p + 8))
          ∨ (8 * (p + 10) ≤ i ∧ i / 8 + (tsigTail f.rd).length < w.length)) := by
  obtain ⟨s, p, k, c, _, e, a, hst⟩ := accepted_of_checked h hf hck
  obtain ⟨s', p', k', c', _, e', a', hst'⟩ := accepted_of_checked h' hf' hck'
  refine ⟨s, p, c, c', a.walk, a.name, e, e', ?_⟩
  by_cases hd : c'.data = c.data
  case neg => exact Or.inl (Or.inl hd)
  by_cases hm : f'.rd.mac = f.rd.mac
  case neg => exact Or.inl (Or.inr hm)
  exact Or.inr (flip_same_pair_location ho hi hfirst a a' hst hst' hd hm)

/-- "rejects any single-bit alteration of authenticated content" — the code as it is now (`strict = true`), any
keyring.  **Every single-bit alteration is rejected by parsing / a check, or changes the (MAC input, MAC) pair,
or leaves every RFC 8945 digest component unchanged.**  Contrapositively: if the genuine message and the message
with bit `i` flipped are both returned as signed and checked and the same pair reached the comparison, then the
canonical owner and algorithm names are unchanged and `i` lies

* in the message ID (octets 0–1): RFC 8945 §4.3.2 digests the message "with the original message ID" taken from
  the TSIG RR, so the ID on the wire is deliberately not authenticated (forwarders rewrite it); or
* inside the owner-name encoding of the TSIG RR (`s`…`p`), the decoded name still being the same canonical name:
  §4.3.3 digests the key NAME "in canonical wire format" (lower case, uncompressed), and names are compared
  case-insensitively, so only the case of letters (or an equivalent encoding of the same name) can differ; or
* inside the algorithm-name encoding (`p+10` up to the fixed-layout tail of the RDATA), likewise with the same
  canonical algorithm name.

Nothing else: not the flags, counts, question or any record, not TYPE/CLASS/TTL/RDLENGTH of the TSIG RR, not
time signed, fudge, MAC size, MAC, original ID, error, other length or other data. -/
theorem bitflip_changes_input (V V' : Verifier) (tbl : List AlgEntry) (w : Bytes) (kr : Keyring) (now now' : Nat)
    (rm : Bytes) (ctx : Option Ctx) (multi : Bool) (r r' : ReadOk) (f f' : Found) (i : Nat)
    (ho : Tsig.OctetsOk w) (hi : i < 8 * w.length) (hfirst : multi = false ∨ ctx = none)
    (h : readV V tbl true w kr now rm ctx multi = .ok r) (hf : r.tsig = some f) (hck : f.checked ≠ none)
    (h' : readV V' tbl true (flipBit w i) kr now' rm ctx multi = .ok r') (hf' : r'.tsig = some f')
    (hck' : f'.checked ≠ none) :
    ∃ s p c c', walkTo w = some s ∧ skipName w w.length (w.length + 1) s = some p
      ∧ f.checked = some (c, f.rd.mac) ∧ f'.checked = some (c', f'.rd.mac)
      ∧ ((c'.data ≠ c.data ∨ f'.rd.mac ≠ f.rd.mac)
          ∨ (canon f'.owner = canon f.owner ∧ canon f'.rd.algorithm = canon f.rd.algorithm
              ∧ (i < 16 ∨ (8 * s ≤ i ∧ i < 8 * p)
                  ∨ (8 * (p + 10) ≤ i ∧ i / 8 + (tsigTail f.rd).length < w.length)))) := by
  obtain ⟨s, p, c, c', hs, hp, hc, hc', hcase⟩ :=
    bitflip_location_variants V V' tbl true w kr now now' rm ctx multi r r' f f' i ho hi hfirst h hf hck h' hf' hck'
  refine ⟨s, p, c, c', hs, hp, hc, hc', ?_⟩
  by_cases hd : c'.data = c.data
  case neg => exact Or.inl (Or.inl hd)
  rcases hcase with h1 | h1
  · exact Or.inl h1
  · right
    obtain ⟨_, _, _, _, _, _, _, _, hnames⟩ := mac_input_determines_content V' V tbl true true (flipBit w i) w kr kr now' now rm
      ctx multi r' r f' f c' c _ _ (flipBit_octets w i ho) ho h' hf' h hf hc' hc hd
    obtain ⟨_, _, hco, hca⟩ := hnames hfirst
    refine ⟨hco, hca, ?_⟩
    rcases h1 with h1 | h1 | h1 | h1
    · exact Or.inl h1
    · exact Or.inr (Or.inl h1)
    · simp at h1
    · exact Or.inr (Or.inr h1)

/-- the consequence under an explicit unforgeability hypothesis about the external HMAC (never an axiom):
suppose that, among contexts keyed with a secret the keyring can resolve, only the genuine (input, MAC) pair
verifies.  Then *every* single-bit alteration outside the message ID, the TSIG owner-name encoding and the
algorithm-name encoding is rejected or comes back without a checked TSIG.  Stated for both variants of the TTL
decision point and any keyring: for the retained as-shipped variant (`strict = false`) the TTL field must be
excluded by the explicit guard `hguard` (see `ttl_bit_accepted_in_asShipped_variant`); for the code as it is now
the guard is vacuous and the statement is `altered_bit_rejected` below. -/
theorem altered_bit_rejected_variants (strict : Bool) (H : Hmac) (tbl : List AlgEntry) (w : Bytes) (kr : Keyring)
    (now now' : Nat) (rm : Bytes)
    (r : ReadOk) (f : Found) (c : Ctx) (i s p : Nat) (ho : Tsig.OctetsOk w) (hi : i < 8 * w.length)
    (h : read H tbl strict w kr now rm none false = .ok r) (hf : r.tsig = some f)
    (hc : f.checked = some (c, f.rd.mac)) (hs : walkTo w = some s) (hp : skipName w w.length (w.length + 1) s = some p)
    (hunf : ∀ (c' : Ctx) (m' : Bytes), (∃ o rd k', resolveKey kr o rd = .ok (some k') ∧ c'.secret = k'.secret) →
      verifyWith H c' m' = true → c'.data = c.data ∧ m' = f.rd.mac)
    (hbit : 16 ≤ i ∧ ¬ (8 * s ≤ i ∧ i < 8 * p) ∧ ¬ (8 * (p + 10) ≤ i ∧ i / 8 + (tsigTail f.rd).length < w.length))
    (hguard : strict = false → ¬ (8 * (p + 4) ≤ i ∧ i < 8 * (p + 8))) :
    ∀ r', read H tbl strict (flipBit w i) kr now' rm none false = .ok r' →
      ∀ f', r'.tsig = some f' → f'.checked = none := by
  intro r' h' f' hf'
  cases hck' : f'.checked with
  | none => rfl
  | some cm =>
    exfalso
    obtain ⟨s0, p0, k, c0, _, e, a, hst⟩ := accepted_of_checked h hf (by rw [hc]; nofun)
    obtain ⟨s2, p2, k2, c2, hres2, _, a2, hst2⟩ := accepted_of_checked h' hf' (by rw [hck']; nofun)
    obtain rfl : c = c0 := (Prod.mk.inj (Option.some.inj (hc.symm.trans e))).1
    obtain rfl : s0 = s := Option.some.inj (a.walk.symm.trans hs)
    obtain rfl : p0 = p := Option.some.inj (a.name.symm.trans hp)
    -- the altered message's pair verified, so it is the genuine pair
    obtain ⟨_, _, _, _, _, hdig, hv, _⟩ := validateV_ok a2.valid
    have hsec : c2.secret = k2.secret := by
      obtain ⟨c00, hc00, _, rfl⟩ := (digest_first_iff tbl _ k2 _ none rm none false c2 rfl).mp hdig
      exact (getContext_ok tbl k2 c00 hc00).1
    obtain ⟨hd, hm⟩ := hunf c2 _ ⟨_, _, k2, hres2, hsec⟩ hv
    rcases flip_same_pair_location ho hi (Or.inl rfl) a a2 hst hst2 hd hm with h1 | h1 | h1 | h1
    · omega
    · exact hbit.2.1 h1
    · exact hguard h1.1 h1.2
    · exact hbit.2.2 h1

/-- "Validation rejects every message whose authenticated content was altered in any bit" — the code as it is
now (the TTL repair 62699df is in: a TSIG RR with a non-zero TTL is BadTSIG), any keyring, no guard on the TTL
field: every bit of the message from the flags to the last octet of the other data, except the encodings of the
two names, is covered. -/
theorem altered_bit_rejected (H : Hmac) (tbl : List AlgEntry) (w : Bytes) (kr : Keyring) (now now' : Nat) (rm : Bytes)
    (r : ReadOk) (f : Found) (c : Ctx) (i s p : Nat) (ho : Tsig.OctetsOk w) (hi : i < 8 * w.length)
    (h : read H tbl true w kr now rm none false = .ok r) (hf : r.tsig = some f)
    (hc : f.checked = some (c, f.rd.mac)) (hs : walkTo w = some s) (hp : skipName w w.length (w.length + 1) s = some p)
    (hunf : ∀ (c' : Ctx) (m' : Bytes), (∃ o rd k', resolveKey kr o rd = .ok (some k') ∧ c'.secret = k'.secret) →
      verifyWith H c' m' = true → c'.data = c.data ∧ m' = f.rd.mac)
    (hbit : 16 ≤ i ∧ ¬ (8 * s ≤ i ∧ i < 8 * p) ∧ ¬ (8 * (p + 10) ≤ i ∧ i / 8 + (tsigTail f.rd).length < w.length)) :
    ∀ r', read H tbl true (flipBit w i) kr now' rm none false = .ok r' →
      ∀ f', r'.tsig = some f' → f'.checked = none :=
  altered_bit_rejected_variants true H tbl w kr now now' rm r f c i s p ho hi h hf hc hs hp hunf hbit (by simp)

/-- what `Message.use_tsig` picks from each kind of keyring: the key itself; a `dict` entry found by name (a
`bytes` secret becomes a `Key` with the given name and algorithm); what a callable returns for the name -/
theorem use_tsig_key (k : Key) (alg : Name) (n : Name) (f : Name → Option Key) (es : List (Name × KeyVal)) :
    useTsig (.key k) (some n) alg = some (k, k.name)
      ∧ useTsig (.callable f) (some n) alg = (f n).map (fun k => (k, n))
      ∧ (∀ sec, es.find? (fun e => nameEq e.1 n) = some (n, .secret sec) →
          useTsig (.dict es) (some n) alg = some (⟨n, sec, alg⟩, n))
      ∧ useTsig .absent (some n) alg = none := by
  refine ⟨rfl, rfl, ?_, rfl⟩
  intro sec h
  simp [useTsig, h]

/-! ## non-vacuity -/

def okOf {α} : Except Err α → Option α
  | .ok a => some a
  | .error _ => none

def errOf {α} : Except Err α → Option Err
  | .ok _ => none
  | .error e => some e

def exKey : Key := ⟨[[107], []], [1, 2, 3], [[104,109,97,99,45,115,104,97,50,53,54],[]]⟩
def exBody : Bytes := [0x12, 0x34, 1, 0, 0, 1, 0, 0, 0, 0, 0, 0, 1, 97, 0, 0, 1, 0, 1]
def exRd : Rdata := ⟨exKey.algorithm, 0, 300, [], 0x1234, 0, []⟩
def exH : Hmac := fun _ k d => k ++ d    -- a (collision-free) toy
def exSigned : Bytes × Rdata := match signMessage exH algTable exBody [1, 107, 0] exKey exRd 1000 [] none false with
  | .ok (w, rd', _) => (w, rd')
  | .error _ => ([], exRd)

/-- a key, a message body and a TSIG template meeting the hypotheses of `sign_then_validate` (HMAC-SHA256 row,
ARCOUNT 0, fudge 300, verification 299 s later), and what the model computes on them with a toy HMAC -/
example :
    (⟨exKey.algorithm, 4, 32, 0, 32⟩ : AlgEntry) ∈ algTable ∧ 12 ≤ exBody.length ∧ OctetsOk exBody
      ∧ rd16 exBody 10 + 1 < 65536 ∧ absDiff 1000 1299 ≤ exRd.fudge
      ∧ exSigned.2.mac.take 5 = [1, 2, 3, 0x12, 0x34]
      ∧ exSigned.1.length = exBody.length + (tsigRR [1, 107, 0] exSigned.2).length
      ∧ okOf (Tsig.validate exH algTable exSigned.1 exKey exKey.name exSigned.2 1299 [] exBody.length none false)
          = some none := by
  unfold Tsig.OctetsOk
  decide +kernel

/-- `reject_logic` distinguishes its branches: accepted at the edge of the window, BadTime one second later,
BadSignature for another MAC, BadKey / BadAlgorithm / PeerBadTime for the other checks -/
example :
    let w : Bytes := [0,7,0,0,0,0,0,0,0,0,0,1,0]
    let rd : Rdata := ⟨exKey.algorithm, 1000, 300, [9], 7, 0, []⟩
    okOf (Tsig.validate (fun _ _ _ => [9]) algTable w exKey exKey.name rd 1300 [] 12 none false) = some none
      ∧ errOf (Tsig.validate (fun _ _ _ => [9]) algTable w exKey exKey.name rd 1301 [] 12 none false) = some .badTime
      ∧ errOf (Tsig.validate (fun _ _ _ => [8]) algTable w exKey exKey.name rd 1300 [] 12 none false) = some .badSignature
      ∧ errOf (Tsig.validate (fun _ _ _ => [9]) algTable w exKey [[108], []] rd 1300 [] 12 none false) = some .badKey
      ∧ errOf (Tsig.validate (fun _ _ _ => [9]) algTable w exKey exKey.name { rd with algorithm := [[120], []] } 1300 [] 12 none false)
          = some .badAlgorithm
      ∧ errOf (Tsig.validate (fun _ _ _ => [9]) algTable w exKey exKey.name { rd with error := 18 } 1300 [] 12 none false)
          = some .peerBadTime := by
  decide +kernel

/-- what the reader reports on `w` at time `now` when it accepts it as signed: (MAC input, MAC) -/
def exAccepted (strict : Bool) (w : Bytes) (now : Nat) : Option (Bytes × Bytes) :=
  match read exH algTable strict w (.key exKey) now [] none false with
  | .ok r => match r.tsig with
    | some f => match f.checked with
      | some (c, m) => some (c.data, m)
      | none => none
    | none => none
  | .error _ => none

/-- the hypotheses of `accepted_carries_valid_mac`, `mac_input_determines_content`, `bitflip_changes_input` are
met by a concrete message: the reader accepts the message signed above (its TSIG RR starts at 19, the owner name
ends at 22), an ID bit flip is accepted with the same pair, a flip in the question is rejected. -/
example :
    (exAccepted true exSigned.1 1299).isSome = true ∧ walkTo exSigned.1 = some 19
      ∧ skipName exSigned.1 exSigned.1.length (exSigned.1.length + 1) 19 = some 22 ∧ OctetsOk exSigned.1
      ∧ exAccepted true (flipBit exSigned.1 3) 1299 = exAccepted true exSigned.1 1299
      ∧ exAccepted true (flipBit exSigned.1 110) 1299 = none
      ∧ exAccepted true (flipBit exSigned.1 (8 * 50)) 1299 = none := by
  unfold Tsig.OctetsOk
  decide +kernel

/-- the keyring-generic theorems are not vacuous for the other keyring shapes: the same message is accepted and
checked through a `dict` holding the bare secret, a `dict` holding the `Key`, and a callable; a keyring that does
not know the name, or none at all, is UnknownTSIGKey -/
example :
    let isChecked := fun (kr : Keyring) => match read exH algTable true exSigned.1 kr 1299 [] none false with
      | .ok r => (r.tsig.bind (·.checked)).isSome
      | .error _ => false
    isChecked (.dict [(exKey.name, .secret exKey.secret)]) = true
      ∧ isChecked (.dict [([[120], []], .key exKey), (exKey.name, .key exKey)]) = true
      ∧ isChecked (.callable fun n => if nameEq n exKey.name then some exKey else none) = true
      ∧ errOf (read exH algTable true exSigned.1 (.dict [([[120], []], .key exKey)]) 1299 [] none false) = some .unknownTSIGKey
      ∧ errOf (read exH algTable true exSigned.1 (.callable fun _ => none) 1299 [] none false) = some .unknownTSIGKey
      ∧ errOf (read exH algTable true exSigned.1 .absent 1299 [] none false) = some .unknownTSIGKey := by
  decide +kernel

/-- a statement about the **retained as-shipped model variant only** (`strict = false`, the code before the repair
62699df; the check probes the working tree and demands correspondence with `strict = true` now): bit 215 is the
last bit of the TTL field of the TSIG RR (octets 26–29) of the genuine message; in that variant altering it leaves
the message accepted with the very same (MAC input, MAC) pair, so the guard `hguard` of
`altered_bit_rejected_variants` cannot be dropped there.  In the current variant the same alteration is rejected. -/
theorem ttl_bit_accepted_in_asShipped_variant :
    8 * (22 + 4) ≤ 215 ∧ 215 < 8 * (22 + 8)
      ∧ (exAccepted false exSigned.1 1299).isSome = true
      ∧ exAccepted false (flipBit exSigned.1 215) 1299 = exAccepted false exSigned.1 1299
      ∧ exAccepted true (flipBit exSigned.1 215) 1299 = none := by
  decide +kernel

/-- the hypotheses of `sign_then_read` are satisfiable: the body, key and template of the examples above with the
plain owner encoding and an HMAC stand-in of 32 octets form a `SignedOk` envelope, at any signing time and any
verification time within the fudge of 300 s -/
private theorem exSignedOk (now vnow : Nat) (ht : now < 281474976710656) (hw : absDiff now vnow ≤ 300) :
    SignedOk (fun _ k d => (k ++ d).take 32) exKey exBody (toWire exKey.name) exKey.name exRd now vnow where
  alg := ⟨⟨exKey.algorithm, 4, 32, 0, 32⟩, by decide, rfl⟩
  bodyOk := ⟨by decide, by unfold Tsig.OctetsOk; decide, ⟨19, 19, 19, by decide +kernel, by decide +kernel, by decide +kernel, by decide +kernel⟩⟩
  cnt := by decide
  enc := ownerEncodes_plain _ _ (by decide) (by decide)
  own := NameOrder.nameEq_refl _
  rdalg := rfl
  algWf := by decide
  algAbs := by decide
  err := rfl
  time := ht
  fudge := by decide
  oid := by decide
  hmac := fun _ k d => by simp; omega
  size := by decide
  win := hw

/-- … and so are those of `sign_then_read_exchange`: signed, unsigned, unsigned, signed -/
example : ∀ e ∈ [SEnv.signed exBody (toWire exKey.name) exKey.name exRd 1000 1299, SEnv.unsigned exBody 1300,
      SEnv.unsigned exBody 1300, SEnv.signed exBody (toWire exKey.name) exKey.name exRd 1001 1301],
    SEnv.Ok (fun _ k d => (k ++ d).take 32) exKey e := by
  intro e he
  simp only [List.mem_cons, List.not_mem_nil, or_false] at he
  have hb : BodyOk exBody := (exSignedOk 0 0 (by decide) (by decide)).bodyOk
  rcases he with rfl | rfl | rfl | rfl
  · exact exSignedOk 1000 1299 (by decide) (by decide)
  · exact hb
  · exact hb
  · exact exSignedOk 1001 1301 (by decide) (by decide)

/-- `compressed_owner_encodes` / `sign_then_read_compressed` are not vacuous: in the example body (ARCOUNT raised to
1) the question name `a.` stands at offset 12; the table entry (`a.` ↦ 12) is sound there, and the key name `k.a.`
is then written as the label `k` and a pointer to 12 -/
example :
    let pre := setArcount exBody 1
    TableSound C01.lowEq pre [([[97], []], 12)]
      ∧ (match toWireC pre [([[97], []], 12)] [[107], [97], []] none with
          | .ok r => some r
          | .error _ => none)
          = some (pre ++ [1, 107, 192, 12], [([[97], []], 12), ([[107], [97], []], 19)])
      ∧ WfName [[107], [97], []] ∧ isAbs [[107], [97], []] = true := by
  intro pre
  refine ⟨?_, by decide +kernel, by decide, by decide⟩
  intro p hp
  simp only [List.mem_cons, List.not_mem_nil, or_false] at hp
  subst hp
  refine ⟨by decide, [[97]], 15, ?_, rfl⟩
  have hroot : Dec pre 14 12 [] 15 := Dec.root 14 12 (by decide)
  exact Dec.label 12 12 1 [] 15 (by decide) (by decide) (by decide) (by decide) hroot

/-- `unsigned_envelope_digests_message_only` on a concrete buffer: the example body followed by three octets, read
with a running context holding `[7]`, leaves the context `[7] ++ body`; read strictly the same buffer is TrailingJunk -/
example :
    (match readVI true (fun _ _ => true) algTable true (exBody ++ [1, 2, 3]) (.key exKey) 0 [] (some ⟨[], 4, 0, [7]⟩) true with
      | .ok r => r.ctx.map (·.data)
      | .error _ => none) = some (7 :: exBody)
    ∧ errOf (readV (fun _ _ => true) algTable true (exBody ++ [1, 2, 3]) (.key exKey) 0 [] (some ⟨[], 4, 0, [7]⟩) true)
        = some .trailingJunk := by
  decide +kernel

/-- two request MACs of different length and of equal length (hypothesis of `request_mac_binding`) -/
example : ([] : Bytes) ≠ [0] ∧ ([1, 2] : Bytes) ≠ [1, 3] := by decide

end C14
