import Model.Render
import Proofs.RenderSpec
import Proofs.RenderTrunc
import Proofs.RenderPad
import Proofs.RenderShape
import Proofs.ParseCut
import Proofs.ParseMessage
import Proofs.OriginRoundTrip
/-!
# C08 — rendered messages respect the size limit; truncation and padding are exact

Theorems of record about `Model/Render.lean` (`dns/renderer.py`, `Message.to_wire`).  The clamp bounds
(`ConstsC03.minSize`/`maxSize`), the TC bit, the OPT sizes and the section numbers are regenerated from
the working tree on every run.
-/
namespace C08
open Model

/-- "A rendered message never exceeds its effective size limit": whatever the message, the requested limit
(0 = default), and whether or not truncation is preferred, a successful rendering is at most the clamped
limit long, and the clamped limit lies in [512, 65535].  (Every other outcome is an error: `TooBig`, or the
other renderer errors.) -/
theorem never_exceeds (m : Message) (lim : Nat) (pt : Bool) (w : Bytes) (h : m.toWire lim pt = .ok w) :
    w.length ≤ clampSize lim m.requestPayload ∧
      ConstsC03.minSize ≤ clampSize lim m.requestPayload ∧ clampSize lim m.requestPayload ≤ ConstsC03.maxSize := by
  obtain ⟨r, hr, rfl⟩ := toWire_ok_iff.mp h
  obtain ⟨_, _, _, _, _, _, _, hR, -⟩ := render_ok hr
  exact ⟨hR.size, clampSize_bounds _ _⟩

/-- "A record set that does not fit is removed whole … no compression pointer into removed bytes":
when an `add_question`/`add_rrset` overflows the budget, the renderer state afterwards is *exactly* the state
before the call (buffer, compression table, counts, budget) except that the current section has advanced.
In particular every invariant of the table (all entries below the end of the buffer, all entries decodable)
that held before the call holds after it. -/
theorem rollback_exact (s : RState) (it : Item) (s' : RState) (hb : TblBelow s) (h : s.addItem it = .tooBig s') :
    s' = { s with sec := it.sec } ∧ s'.out = s.out ∧ s'.tbl = s.tbl ∧ s'.counts = s.counts ∧ TblBelow s' := by
  have hspec := addItem_spec s it
  rw [h] at hspec
  obtain ⟨rfl, _⟩ := hspec.tooBig_eq hb
  exact ⟨rfl, rfl, rfl, rfl, hb⟩

/-- `rollback_exact` for *any* exception raised while an item is being written, not only `TooBig` (repair 2e4231d:
`_track_size` rolls back in an `except BaseException`): whatever the unfinished write had done — any octets `o` appended
to the buffer, any entries `t` added to the compression table for names inside those octets (`Appends`; every step of
writing an item is of this form: `toWireC_appends`, `rdataToWire_appends`, `rrsetToWire_appends`, and they compose) —
`_rollback(start)` leaves the renderer exactly as it was before the call, except for the section marker `_set_section`
had already moved.  This is the state the model's `.err` outcome stands for. -/
theorem rollback_exact_any (s : RState) (hb : TblBelow s) (sec : Nat) (o : Bytes) (t : CTable)
    (ha : Appends s.out s.tbl o t) :
    ({ s with sec := sec, out := o, tbl := t } : RState).rollback s.out.length = { s with sec := sec } ∧
    TblBelow { s with sec := sec } :=
  ⟨rollback_appends { s with sec := sec } o t ha hb, hb⟩

-- non-vacuity: the owner `ok.example.` and a record header written at offset 29, the suffix `example.` already in the table,
-- one entry added for `ok.example.`; then the RDATA raises: rolling back to 29 restores buffer and table
example : ({ out := List.replicate 29 0 ++ [2,111,107,192,16,0,2,0,1,0,0,1,44,0,0], tbl := [([[101,120,97,109,112,108,101],[]], 16), ([[111,107],[101,120,97,109,112,108,101],[]], 29)], maxSize := 65535, id := 1, flags := 0, sec := 1 } : RState).rollback 29
    = { out := List.replicate 29 0, tbl := [([[101,120,97,109,112,108,101],[]], 16)], maxSize := 65535, id := 1, flags := 0, sec := 1 } := by
  rfl

/-- … and the invariant "every table entry points into the buffer" holds in every state the section loops of
`to_wire` reach, so `rollback_exact` applies at every `TooBig`. -/
theorem table_below_reachable (m : Message) (L : Nat) (pt : Bool) (a b : Nat) (r : RState)
    (h : m.renderSections L pt a b = .ok r) : TblBelow r := by
  obtain ⟨_, _, _, _, _, hq, _, _, rfl⟩ := renderSections_ok h
  exact loopState_below hq

/-- "when truncation is preferred, returns … a prefix of the record sets in section order, with TC set exactly
when something before the additional section was left out, and still carrying the configured OPT and TSIG
records.  A record set that does not fit is removed whole (no partial record sets, counts consistent …)":
a successful rendering with `prefer_truncation` is *byte for byte* either the ordinary rendering of `m`, or the
ordinary (untruncated, `prefer_truncation=False`) rendering of `m.cut k tc` for some `k` smaller than the number
of record sets, where `m.cut k tc` is `m` with every section cut so that exactly the first `k` record sets in
section order remain (whole record sets; same id, OPT, padding, TSIG, origin), and whose flags are `m.flags`
with TC added exactly when `tc = m.tcAt k`, i.e. when the first dropped record set lies in a section before
ADDITIONAL.  Header counts, parseability and compression soundness of the result are therefore those of an
ordinary rendering (C03). -/
theorem truncation_prefix (m : Message) (lim : Nat) (w : Bytes) (h : m.toWire lim true = .ok w) :
    m.toWire lim false = .ok w ∨
    ∃ k, ∃ hk : k < m.items.length, (m.cut k (m.tcAt k)).toWire lim false = .ok w ∧
      (m.cut k (m.tcAt k)).items = m.items.take k ∧
      (m.cut k (m.tcAt k)).opt = m.opt ∧ (m.cut k (m.tcAt k)).tsig = m.tsig ∧
      (m.cut k (m.tcAt k)).flags = (if m.tcAt k then m.flags ||| ConstsC03.tcFlag else m.flags) ∧
      (m.tcAt k = true ↔ m.items[k].sec < ConstsC03.secADDITIONAL) := by
  rcases toWire_truncation m lim w h with h1 | ⟨k, hk, h2⟩
  · exact Or.inl h1
  · refine Or.inr ⟨k, hk, h2, items_cut m k _, rfl, rfl, rfl, ?_⟩
    rw [tcAt_of_lt m k hk]
    simp

/-- "… counts consistent … and still carrying the configured OPT and TSIG records": whatever is truncated, the header of
the result counts exactly the kept records per section plus one for the OPT record if the message has one and one for
the TSIG record if it has one — `prefer_truncation` never drops OPT or TSIG (they are rendered after the section
loops, in the space reserved for them), and never leaves a count that disagrees with the records present.  `mc` is
the message actually rendered: `m` itself, or `m` cut to its first `k` record sets (`truncation_prefix`). -/
theorem truncation_counts_opt_tsig (m : Message) (lim : Nat) (w : Bytes) (h : m.toWire lim true = .ok w) :
    ∃ mc : Message, (mc = m ∨ ∃ k, k < m.items.length ∧ mc = m.cut k (m.tcAt k)) ∧ mc.opt = m.opt ∧ mc.tsig = m.tsig ∧
      mc.toWire lim false = .ok w ∧
      w.take 12 = u16 m.id ++ u16 mc.flags ++ u16 mc.q.length ++ u16 (rrCount mc.an) ++ u16 (rrCount mc.au)
        ++ u16 (rrCount mc.ad + (if m.opt.isSome then 1 else 0) + (if m.tsig.isSome then 1 else 0)) := by
  rcases toWire_truncation m lim w h with h1 | ⟨k, hk, h2⟩
  · exact ⟨m, Or.inl rfl, rfl, rfl, h1, toWire_counts m lim w h1⟩
  · exact ⟨m.cut k (m.tcAt k), Or.inr ⟨k, hk, rfl⟩, rfl, rfl, h2, toWire_counts _ lim w h2⟩

/-- "returns a parseable message … still carrying the configured OPT and TSIG records": for every well-formed message
(`MsgOkP`: absolute names, opcode other than UPDATE, with or without OPT — with or without a padding request —, with or
without TSIG), at any limit, the rendering with `prefer_truncation` parses, without trailing junk, to the kept prefix
of `m` (`m` itself, or `m.cut k tc` as in `truncation_prefix`) up to the ASCII case of compressed names, with its TSIG
record and with its OPT record — the original options, followed when padding was requested by one PADDING option of
fewer than `pad` zero octets (`OptPadRel`).  Remaining gap to the full statement: relative names / origins, and
update messages (for which `C03.update_forms` gives the untruncated round trip). -/
theorem result_parses (m : Message) (lim : Nat) (w : Bytes) (hok : MsgOkP eqvSpec m) (h : m.toWire lim true = .ok w)
    (cfg : PCfg) (horg : cfg.origin = none) (hnorr : cfg.oneRRPerRRset = false) (hkey : cfg.hasKey = true) :
    ∃ m' opt', parseMessage cfg w = .ok m' ∧ OptPadRel m.pad m.opt opt' ∧
      (m'.simT eqvSpec { m with opt := opt' } ∨
        ∃ k, k < m.items.length ∧ m'.simT eqvSpec { m.cut k (m.tcAt k) with opt := opt' }) := by
  rcases toWire_truncation m lim w h with h1 | ⟨k, hk, h2⟩
  · obtain ⟨m', opt', hp, hs, hr⟩ := parse_toWire_pad m lim w hok h1 cfg horg hnorr hkey
    exact ⟨m', opt', hp, hr, Or.inl hs⟩
  · obtain ⟨m', opt', hp, hs, hr⟩ := parse_toWire_pad (m.cut k (m.tcAt k)) lim w (hok.cut k _) h2 cfg horg hnorr hkey
    exact ⟨m', opt', hp, hr, Or.inr ⟨k, hk, hs⟩⟩

/-- `result_parses` for messages that carry an origin (relative names): the truncated rendering, parsed with the same
origin, is the message or its prefix `m.cut k` *after relativisation* (`relNorm`: every section name made absolute against
the origin and relativized again — the message itself when its names are normal, see `C03.parse_render_origin`), with
the OPT (up to the padding option) and the TSIG kept; guard: the absolutized message is well formed (`MsgOkP`). -/
theorem result_parses_origin (m : Message) (o : Name) (hm : m.origin = some o) (ho : isAbs o = true) (lim : Nat) (w : Bytes)
    (hok : MsgOkP eqvSpec (m.absolutize o)) (h : m.toWire lim true = .ok w)
    (cfg : PCfg) (horg : cfg.origin = none) (hnorr : cfg.oneRRPerRRset = false) (hkey : cfg.hasKey = true) :
    ∃ m' opt', parseMessage { cfg with origin := some o } w = .ok m' ∧ m'.origin = some o ∧ OptPadRel m.pad m.opt opt' ∧
      (m'.simT eqvSpec { m.relNorm o with opt := opt' } ∨
        ∃ k, k < m.items.length ∧ m'.simT eqvSpec { (m.cut k (m.tcAt k)).relNorm o with opt := opt' }) :=
  parse_toWire_trunc_origin m o hm ho lim w hok h cfg horg hnorr hkey

-- non-vacuity: a message with origin `ex.` and relative owners whose second record set does not fit in 512 octets is cut to one set
set_option maxRecDepth 100000 in
example : (({ id := 1, flags := 32768, origin := some [[101,120],[]], q := [{ name := [[119]], rdclass := 1, rdtype := 16 }], an := [{ name := [[119]], rdclass := 1, rdtype := 16, ttl := 1, rdatas := [.raw (List.replicate 300 7)] }, { name := [[120]], rdclass := 1, rdtype := 16, ttl := 1, rdatas := [.raw (List.replicate 300 7)] }] } : Message).toWire 512 true).map (fun w => (w.length, w.take 4, w.drop 4 |>.take 4)) = .ok (334, [0, 1, 130, 0], [0, 1, 0, 1]) := by
  rfl

/-- "when padding is requested the final length, TSIG included, is a multiple of the block size": for every message
that carries an OPT record and requests padding (`pad ≠ 0`), with or without TSIG, at any limit, with or without
truncation, a successful rendering has a length divisible by the block size.  (The TSIG reserve is exact because
`Message.to_wire` renders the TSIG against a fresh compression table — repair b2718ca of DESIGN §6 D07; before it
the key name could be compressed and the witness below came out at 121 octets.) -/
theorem padding_multiple (m : Message) (lim : Nat) (pt : Bool) (w : Bytes) (o : EOpt)
    (hopt : m.opt = some o) (hpad : m.pad ≠ 0) (h : m.toWire lim pt = .ok w) :
    w.length % m.pad = 0 :=
  toWire_pad m lim pt w o hopt hpad h

-- regression (former D07 witness): `www.example. A`, `use_edns(0, pad=128)`, TSIG key `key.example.` now renders to 128 octets
set_option maxRecDepth 100000 in
example : (({ id := 1, flags := 256, requestPayload := 1232, pad := 128, q := [{ name := [[119,119,119],[101,120,97,109,112,108,101],[]], rdclass := 1, rdtype := 1 }], opt := some { ttl := 0, payload := 1232, options := [] }, tsig := some { name := [[107,101,121],[101,120,97,109,112,108,101],[]], alg := [[104,109,97,99,45,115,104,97,50,53,54],[]], time := 1700000000, fudge := 300, mac := List.replicate 32 0, origId := 1, error := 0, other := [] } } : Message).toWire 0 false).map List.length = .ok 128 := by
  rfl

/-- `padding_multiple` on the re-emit route: a message as the receiving side holds it — the result `m'` of parsing any
octets `w0` with a key —, possibly modified (`f`: any change of the sections), given an OPT record and a block size with
`use_edns(pad=…)` and rendered again, comes out as a multiple of the block, whether its TSIG record is re-emitted as
received or signed anew: in the model the MAC is data of the message, so "signed just now" and "carried over" are the
same rendering, and `Message.to_wire` clears the compression table before the TSIG record *because a TSIG is present*,
not because it was signed (the padding arithmetic counted its owner uncompressed either way). -/
theorem padding_multiple_reemit (cfg : PCfg) (w0 : Bytes) (m' : Message) (_hp : parseMessage cfg w0 = .ok m')
    (f : Message → Message) (o : EOpt) (pad : Nat) (hpad : pad ≠ 0) (lim : Nat) (pt : Bool) (w : Bytes)
    (h : ({ f m' with opt := some o, pad := pad } : Message).toWire lim pt = .ok w) :
    w.length % pad = 0 :=
  toWire_pad { f m' with opt := some o, pad := pad } lim pt w o rfl hpad h

-- non-vacuity: a received message (MAC and time as they came) with key `key.example.` below the question's suffix, padded to 128
set_option maxRecDepth 100000 in
example : (({ id := 4660, flags := 33152, requestPayload := 1232, pad := 128, q := [{ name := [[119,119,119],[101,120,97,109,112,108,101],[]], rdclass := 1, rdtype := 1 }], opt := some { ttl := 0, payload := 1232, options := [] }, tsig := some { name := [[107,101,121],[101,120,97,109,112,108,101],[]], alg := [[104,109,97,99,45,115,104,97,50,53,54],[]], time := 1690000000, fudge := 300, mac := (List.range 32).map (· + 1), origId := 4660, error := 0, other := [] } } : Message).toWire 0 true).map List.length = .ok 128 := by
  rfl

/-- … the same through the `Renderer` *object* (`add_opt(opt, pad, opt_size, tsig_size)`, `write_header`, then
`add_tsig` / `add_multi_tsig`, i.e. `_write_tsig`, the MAC being given), for a caller that does not go through
`Message.to_wire`: in any renderer state (`KeysLong`: the root name is never a table key, and the header is there — both
hold in every reachable state), whatever the compression table holds, if `add_opt` is handed the exact sizes — the OPT
record with an empty PADDING option and the TSIG record with an *uncompressed* owner — and both calls succeed, then the
signed message is a multiple of the block, and the TSIG leaves the compression table alone.  This rests on `was_padded`
being set whenever a PADDING option is written, also an empty one (unpadded size already aligned): `_write_tsig` then
writes the owner name without the table even if the key name shares a suffix with a rendered name. -/
theorem renderer_padding_multiple (s : RState) (hk : KeysLong s.tbl) (hlen : 12 ≤ s.out.length) (o : EOpt) (t : Tsig)
    (pad a b : Nat) (hpad : pad ≠ 0) (ha : a = 11 + (o.options.map fun p => p.2.length + 4).sum + 4)
    (habs : isAbs t.name = true) (hb : b = (toWire t.name).length + 10 + (tsigRdataWire t).length)
    (s1 s2 : RState) (h1 : s.addOpt o pad a b = .ok s1) (h2 : s1.writeHeader.writeTsig t = .ok s2) :
    s2.out.length % pad = 0 ∧ s2.tbl = s1.tbl :=
  addOpt_writeTsig_multiple s hk hlen o t pad a b hpad ha habs hb s1 s2 h1 h2

def okOf : Step → Option RState
  | .ok s => some s
  | _ => none

-- non-vacuity, on the aligned case: question `www.example.`, block 128, `opt_size` 15, `tsig_size` 84 (key `key.example.`,
-- hmac-sha256): 29 + 15 + 84 = 128, so the PADDING option is empty (44 octets after the OPT) and the total is 128
set_option maxRecDepth 100000 in
example : ((okOf ((RState.init 1 256 65535 none).addQuestion [[119,119,119],[101,120,97,109,112,108,101],[]] 1 1)).bind fun s =>
    (okOf (s.addOpt { ttl := 0, payload := 1232, options := [] } 128 15 84)).bind fun s1 =>
    (okOf (s1.writeHeader.writeTsig { name := [[107,101,121],[101,120,97,109,112,108,101],[]], alg := [[104,109,97,99,45,115,104,97,50,53,54],[]], time := 1700000000, fudge := 300, mac := List.replicate 32 0, origId := 1, error := 0, other := [] })).map fun s2 =>
    (s1.out.length, s2.out.length)) = some (44, 128) := by
  rfl

/-- a block so large that the padding would not fit a PADDING option (more than 65535 octets: 16-bit option length) is
`TooBig`, raised by `add_opt` before anything is written, marked or counted (repair 2d35a76; before it the option encoder's
`struct.error` escaped) -/
theorem padding_too_long_is_too_big (s : RState) (o : EOpt) (pad a b : Nat) (hpad : pad ≠ 0)
    (hbig : padLen s.out.length pad a b > 65535) : s.addOpt o pad a b = .tooBig s := by
  unfold RState.addOpt
  rw [if_pos ⟨hpad, hbig⟩]

-- non-vacuity: block 70000 on a renderer holding the header only
example : padLen (RState.init 1 0 65535 none).out.length 70000 15 0 = 69973 := by decide

/-- "rendering either raises the too-big error or …": when the OPT and TSIG reserves alone exceed the clamped limit
nothing is rendered and the outcome is `TooBig` (repair 1c55079; formerly `ValueError` from `Renderer.reserve`). -/
theorem reserve_too_big (m : Message) (lim : Nat) (pt : Bool) (b : Nat) (hb : m.tsigReserve = .ok b)
    (hbig : m.optReserve + b > clampSize lim m.requestPayload) : m.toWire lim pt = .error .tooBig := by
  simp [Message.toWire, Message.render, hb, Message.renderSections, hbig]

-- non-vacuity of `padding_multiple`: a padded EDNS query renders, to 128 octets
set_option maxRecDepth 100000 in
example : (({ id := 1, flags := 256, pad := 128, q := [{ name := [[119,119,119],[101,120,97,109,112,108,101],[]], rdclass := 1, rdtype := 1 }], opt := some { ttl := 0, payload := 1232, options := [] } } : Message).toWire 0 false).map List.length = .ok 128 := by
  rfl

-- non-vacuity of `truncation_prefix`: a response whose second answer does not fit in 512 octets is cut after the
-- first (331 octets, TC set)
set_option maxRecDepth 100000 in
example : (({ id := 1, flags := 32768, q := [{ name := [[119], []], rdclass := 1, rdtype := 16 }], an := [{ name := [[119], []], rdclass := 1, rdtype := 16, ttl := 1, rdatas := [.raw (List.replicate 300 7)] }, { name := [[120], []], rdclass := 1, rdtype := 16, ttl := 1, rdatas := [.raw (List.replicate 300 7)] }] } : Message).toWire 512 true).map (fun w => (w.length, w.take 4)) = .ok (331, [0, 1, 130, 0]) := by
  rfl

/-- non-vacuity: a two-record response rendered under a 512 limit with truncation succeeds -/
example : ∃ w, ({ id := 1, flags := 32768, q := [{ name := [[119], [101], []], rdclass := 1, rdtype := 1 }], an := [{ name := [[119], [101], []], rdclass := 1, rdtype := 1, ttl := 60, rdatas := [.raw [1, 2, 3, 4]] }] } : Message).toWire 512 true = .ok w :=
  ⟨_, rfl⟩

end C08
