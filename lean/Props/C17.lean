import Model.Cache
import Proofs.Cache
import Proofs.CacheLru
import Proofs.CacheLock
import Proofs.CacheRing
/-!
# C17 — Resolver caches never serve stale data, honour the LRU bound, are linearizable

Theorems of record about `Model.Cache` (model of `dns.resolver.Cache`, `LRUCache`, `LRUCacheNode`, `CacheBase`).
States are either arbitrary (`s`) — then the statement holds a fortiori after every operation sequence — or the
state reached from the constructor by an arbitrary operation list `ops` (gets, puts, flushes, resizes, clock
advances, statistics calls, in any order and number).

`set_max_size` is the repaired one (under the lock, evicting; DESIGN §6 D14 is fixed in the repository), so
`lru_bound` is unconditional: after every operation of every sequence.  `bound_needs_eviction_in_set_max_size`
records that the theorem fails for the former `set_max_size`.
-/
namespace C17
open Model.Cache

/-- state of `Cache(cleaning_interval=iv)` created at time `t0` after `ops` -/
abbrev reachC (iv t0 : Nat) (ops : List Op) : CState := (runC (initC iv t0) ops).1
/-- state of `LRUCache(max_size=n)` created at time `t0` after `ops` -/
abbrev reachL (n : Int) (t0 : Nat) (ops : List Op) : LState := (runL (initL n t0) ops).1

/-! ## never stale -/

/-- "never return an answer at or after its expiration time" — `Cache.get`, from any state whatsoever. -/
theorem never_stale_cache (s : CState) (k : Key) (v : Nat) (h : (stepC s (.get k)).2 = .val v) :
    ∃ a, (k, a) ∈ s.data ∧ a.val = v ∧ s.now < a.exp := by
  rw [stepC_get] at h
  obtain ⟨a, ha, hv, he⟩ := specGet_val h
  exact ⟨a, mem_of_mem_maybeClean (dget_mem _ _ _ ha), hv, he⟩

/-- "never return an answer at or after its expiration time" — `LRUCache.get`, from any state whatsoever. -/
theorem never_stale_lru (s : LState) (k : Key) (v : Nat) (h : (stepL s (.get k)).2 = .val v) :
    ∃ n ∈ s.ring, n.key = k ∧ n.ans.val = v ∧ s.now < n.ans.exp :=
  stepL_get_val h

example : (stepC (reachC 300 1000 [.put 1 ⟨7, 1010⟩, .adv 9]) (.get 1)).2 = .val 7 := by decide
example : (stepC (reachC 300 1000 [.put 1 ⟨7, 1010⟩, .adv 10]) (.get 1)).2 = .none := by decide
example : (stepL (reachL 2 1000 [.put 1 ⟨7, 1010⟩, .adv 10]) (.get 1)).2 = .none := by decide

/-! ## latest unexpired -/

/-- "always return the most recently stored unexpired answer for a key that has not been flushed" — `Cache`:
after any operation sequence a lookup returns exactly what the timed map `specRun` (last `put` of the key not
followed by a flush; no notion of sweeps) prescribes at the current time.  `Cache` never evicts. -/
theorem latest_unexpired_cache (iv t0 : Nat) (ops : List Op) (k : Key) :
    (stepC (reachC iv t0 ops) (.get k)).2 = specGet (specRun (fun _ => none) ops) (reachC iv t0 ops).now k :=
  get_of_refC _ _ k (refC_run _ _ ops (refC_init iv t0))

/-- `LRUCache`, the full statement: after any operation sequence a lookup returns exactly what the specification
`SpecL` prescribes — the answer of the timed map (`specRun`: most recent `put` of the key not followed by a flush;
the same history function as for `Cache`, blind to eviction and expiry) provided the key is still in the recency
list and the answer has not expired, and nothing otherwise.  The recency list is defined on keys alone: a `put` or a
hit moves the key to the front, a flush or a found-expired lookup removes it, and the only other way out is the tail
cut `take (max_size - 1)` of `put` / `take max_size` of `set_max_size`: eviction, least recently used first. -/
theorem latest_unexpired_lru_refines (n : Int) (t0 : Nat) (ops : List Op) (k : Key) :
    (stepL (reachL n t0 ops) (.get k)).2 = specGetL (specRunL (specInitL n t0) ops) k ∧
    (specRunL (specInitL n t0) ops).m = specRun (fun _ => none) ops ∧
    (reachL n t0 ops).ring.map (·.key) = (specRunL (specInitL n t0) ops).recency := by
  have h := simL_reach n t0 ops
  exact ⟨get_of_simL _ _ _ k h, specRunL_m _ ops, h.keys⟩

/-- `LRUCache`, soundness: whatever a lookup returns after any operation sequence is the most recent `put` of that
key, not flushed since, and unexpired. -/
theorem latest_unexpired_lru (n : Int) (t0 : Nat) (ops : List Op) (k : Key) (v : Nat)
    (h : (stepL (reachL n t0 ops) (.get k)).2 = .val v) :
    ∃ a, specRun (fun _ => none) ops k = some a ∧ a.val = v ∧ (reachL n t0 ops).now < a.exp := by
  have := (simL_reach n t0 ops).get_sound h
  rwa [specRunL_m] at this

/-- `LRUCache`, completeness: an entry that is in the cache and unexpired is returned (so an answer is lost only
by flush, by expiry, by being overwritten, or by the eviction characterised in `put_evicts_exactly_lru_tail`). -/
theorem lru_get_present (n : Int) (t0 : Nat) (ops : List Op) (k : Key) (nd : Node)
    (hmem : nd ∈ (reachL n t0 ops).ring) (hk : nd.key = k) (he : (reachL n t0 ops).now < nd.ans.exp) :
    (stepL (reachL n t0 ops) (.get k)).2 = .val nd.ans.val :=
  stepL_get_of_mem (invL_reach n t0 ops).nodup hmem hk he

example : (stepL (reachL 2 1000 [.put 1 ⟨7, 1010⟩, .put 1 ⟨8, 1020⟩]) (.get 1)).2 = .val 8 := by decide
-- the specification alone: key 0 is evicted by the third put into a cache of 2, key 1 survives because it was hit
example : (specRunL (specInitL 2 0) [.put 0 ⟨0, 9⟩, .put 1 ⟨1, 9⟩, .get 0, .get 1, .put 2 ⟨2, 9⟩]).recency = [2, 1] := by decide
example : specGetL (specRunL (specInitL 2 0) [.put 0 ⟨0, 9⟩, .put 1 ⟨1, 9⟩, .get 0, .get 1, .put 2 ⟨2, 9⟩]) 0 = .none := by decide
example : specGetL (specRunL (specInitL 2 0) [.put 0 ⟨0, 9⟩, .put 1 ⟨1, 9⟩, .get 0, .get 1, .put 2 ⟨2, 9⟩]) 1 = .val 1 := by decide
example : specRun (fun _ => none) [.put 1 ⟨7, 1010⟩, .put 1 ⟨8, 1020⟩, .flush 1] 1 = none := by decide

/-! ## ring and dict agree -/

/-- after every prefix of every sequence the ring carries each key at most once (so the key set of the ring is
a dict: `data` and the ring agree). -/
theorem ring_wf (n : Int) (t0 : Nat) (ops : List Op) : RingNodup (reachL n t0 ops).ring :=
  (invL_reach n t0 ops).nodup

/-! ## the ring at pointer level

`LRUCacheNode.link_after` / `unlink` are modelled as coded (two resp. four pointer assignments, each reading what the
previous one wrote), `put`'s make-room loop and `set_max_size`'s shrink loop follow `sentinel.prev`, `flush()` follows
`gnode.next`.  `Ring p l` says that `next` leads from the sentinel through exactly the nodes `l` and back, that `prev`
is its inverse, and that no node occurs twice. -/

/-- "the doubly linked list and the dict must agree after every prefix of every sequence": run the pointer
operations of the methods (`stepP`) next to the list model from the constructor through **any** operation sequence;
the `prev`/`next` pointers then represent exactly the list model's ring (node of key `k` ↦ `k + 1`, sentinel 0): a
single cycle through the sentinel, `prev` inverse to `next`, same nodes in the same order, `sentinel.next` the most
and `sentinel.prev` the least recently used node. -/
theorem ring_pointers_refine (n : Int) (t0 : Nat) (ops : List Op) :
    Ring (runPL ptrs0 (initL n t0) ops).1 (ids (reachL n t0 ops).ring) ∧
    (runPL ptrs0 (initL n t0) ops).1.next 0 = ((ids (reachL n t0 ops).ring).head?).getD 0 ∧
    (runPL ptrs0 (initL n t0) ops).1.prev 0 = ((ids (reachL n t0 ops).ring).getLast?).getD 0 := by
  have h := ring_runPL ptrs0 (initL n t0) ops (invL_init n t0) (by simpa [ids, initL] using ring_ptrs0)
  rw [h.2] at h
  exact ⟨h.1, ring_first _ _ h.1, ring_last _ _ h.1⟩

/-- `link_after(sentinel)` and `unlink()` on any well-formed ring (the two pointer lemmas everything rests on). -/
theorem link_unlink_correct (p : Ptrs) (l : List Nat) (x : Nat) (h : Ring p l) :
    (x ≠ 0 → x ∉ l → Ring (linkAfter p x 0) (x :: l)) ∧ (x ∈ l → Ring (unlinkP p x) (l.erase x)) :=
  ⟨fun h0 hx => ring_link p l x h h0 hx, fun hx => ring_unlink p l x h hx⟩

example : (runPL ptrs0 (initL 2 0) [.put 0 ⟨0, 9⟩, .put 1 ⟨1, 9⟩, .get 0, .put 2 ⟨2, 9⟩]).1.next 0 = 3 := by decide
example : (runPL ptrs0 (initL 2 0) [.put 0 ⟨0, 9⟩, .put 1 ⟨1, 9⟩, .get 0, .put 2 ⟨2, 9⟩]).1.prev 0 = 1 := by decide
-- dropping `node.next.prev = self` from link_after breaks the representation (the prev-ring no longer closes)
example : ({ next := setP (setP ptrs0.next 1 0) 0 1, prev := setP ptrs0.prev 1 0 } : Ptrs).prev 0 ≠ 1 := by decide

/-- "hit counters per key": after any operation sequence every cached node's `hits` (what `get_hits_for_key`
reports for an unexpired entry) is the number of lookups of that key that returned an answer since the key was last
stored. -/
theorem hits_for_key_exact (n : Int) (t0 : Nat) (ops : List Op) :
    ∀ nd ∈ (reachL n t0 ops).ring,
      nd.hits = hitsSpec (fun _ => 0) (ops.zip (runL (initL n t0) ops).2) nd.key :=
  (simL_reach n t0 ops).hits

example : (stepL (reachL 2 0 [.put 0 ⟨0, 9⟩, .get 0, .get 0, .get 1]) (.hitsFor 0)).2 = .num 2 := by decide
example : (stepL (reachL 2 0 [.put 0 ⟨0, 9⟩, .get 0, .put 0 ⟨1, 9⟩]) (.hitsFor 0)).2 = .num 0 := by decide

/-! ## the LRU bound -/

/-- `put` in closed form, after any operation sequence: the new node is linked after the sentinel, the other
nodes keep their order, and exactly the nodes beyond position `max_size - 1` — the least recently used ones — are
dropped.  In particular nothing is dropped unless the cache is full. -/
theorem put_evicts_exactly_lru_tail (n : Int) (t0 : Nat) (ops : List Op) (k : Key) (a : Ans) :
    (stepL (reachL n t0 ops) (.put k a)).1.ring =
      { key := k, ans := a, hits := 0, stamp := (reachL n t0 ops).tick + 1 } ::
        (removeKey (reachL n t0 ops).ring k).take ((reachL n t0 ops).maxSize - 1) :=
  stepL_put _ k a (invL_reach n t0 ops).maxPos

/-- "The LRU cache never holds more entries than its limit": after **every operation** of **every** operation
sequence (puts, hits, flushes, resizes up and down, clock advances, …), `len(data) ≤ max_size`; and the limit
itself is always at least 1. -/
theorem lru_bound (n : Int) (t0 : Nat) (ops : List Op) :
    (reachL n t0 ops).ring.length ≤ (reachL n t0 ops).maxSize ∧ 1 ≤ (reachL n t0 ops).maxSize :=
  ⟨bound_run (initL n t0) ops (invL_init n t0) (by simp [initL]), (invL_reach n t0 ops).maxPos⟩

/-- … and from *any* state (even one above the limit) a single `put` or `set_max_size` re-establishes it. -/
theorem lru_bound_restored (s : LState) (hm : 1 ≤ s.maxSize) (k : Key) (a : Ans) (m : Int) :
    (stepL s (.put k a)).1.ring.length ≤ (stepL s (.put k a)).1.maxSize ∧
    (stepL s (.setMax m)).1.ring.length ≤ (stepL s (.setMax m)).1.maxSize :=
  ⟨length_after_put s k a hm, length_after_setMax s m⟩

/-- regression record: with the former `set_max_size` (no eviction) the bound fails — `LRUCache(4)`, four puts,
`set_max_size(2)` left 4 entries.  (`stepLOld` is not part of the model of the current code.) -/
theorem bound_needs_eviction_in_set_max_size :
    ∃ ops, (runLOld (initL 4 0) ops).maxSize < (runLOld (initL 4 0) ops).ring.length :=
  ⟨[.put 0 ⟨0, 9⟩, .put 1 ⟨1, 9⟩, .put 2 ⟨2, 9⟩, .put 3 ⟨3, 9⟩, .setMax 2], by decide⟩

example : (reachL 4 0 [.put 0 ⟨0, 9⟩, .put 1 ⟨1, 9⟩, .put 2 ⟨2, 9⟩, .put 3 ⟨3, 9⟩, .setMax 2]).ring.length = 2 := by decide
example : (reachL 1 0 [.put 0 ⟨0, 9⟩, .setMax 0, .put 1 ⟨1, 9⟩]).maxSize = 1 := by decide

/-! ## evicts strictly least-recently-used first -/

/-- the ghost stamp of a node is the tick of its last use: `put` and a hit set it to the current tick and put the
node first; nothing else touches stamps.  After every operation sequence the ring is strictly ordered by last
use, most recent first. -/
theorem ring_ordered_by_last_use (n : Int) (t0 : Nat) (ops : List Op) :
    (reachL n t0 ops).ring.Pairwise (fun a b => b.stamp < a.stamp) :=
  (invL_reach n t0 ops).stamps.1

/-- "evicts strictly least-recently-used first": after any operation sequence, every entry a `put` evicts was
used strictly earlier than every entry it keeps. -/
theorem evicts_lru_first (n : Int) (t0 : Nat) (ops : List Op) (k : Key) (a : Ans)
    (e : Node) (he : e ∈ (reachL n t0 ops).ring) (hek : e.key ≠ k)
    (hev : e ∉ (stepL (reachL n t0 ops) (.put k a)).1.ring)
    (r : Node) (hr : r ∈ (stepL (reachL n t0 ops) (.put k a)).1.ring) (hrk : r.key ≠ k) :
    e.stamp < r.stamp :=
  put_evicts_older (invL_reach n t0 ops) k a he hek hev hr hrk

/-- … and nothing is evicted unless the cache is full. -/
theorem evicts_only_when_full (n : Int) (t0 : Nat) (ops : List Op) (k : Key) (a : Ans)
    (hfull : (removeKey (reachL n t0 ops).ring k).length < (reachL n t0 ops).maxSize)
    (e : Node) (he : e ∈ (reachL n t0 ops).ring) (hek : e.key ≠ k) :
    e ∈ (stepL (reachL n t0 ops) (.put k a)).1.ring :=
  put_keeps_when_room (invL_reach n t0 ops).maxPos k a hfull he hek

example : ((reachL 2 0 [.put 0 ⟨0, 9⟩, .put 1 ⟨1, 9⟩, .get 0, .put 2 ⟨2, 9⟩]).ring.map (·.key)) = [2, 0] := by decide

/-! ## counters -/

/-- "hit/miss counters account for every lookup exactly once" — `Cache`: after any sequence the counters are what
one gets by adding one hit per lookup that returned an answer and one miss per lookup that did not (restarting
at `reset_statistics`). -/
theorem counters_exact_cache (iv t0 : Nat) (ops : List Op) :
    ((reachC iv t0 ops).hits, (reachC iv t0 ops).misses) =
      countersSpec (0, 0) (ops.zip (runC (initC iv t0) ops).2) := by
  simp only [reachC, runC_eq_runG]
  exact runG_counters stepC (fun s => (s.hits, s.misses)) stepC_counters (initC iv t0) ops

/-- the same for `LRUCache`. -/
theorem counters_exact_lru (n : Int) (t0 : Nat) (ops : List Op) :
    ((reachL n t0 ops).hits, (reachL n t0 ops).misses) =
      countersSpec (0, 0) (ops.zip (runL (initL n t0) ops).2) := by
  simp only [reachL, runL_eq_runG]
  exact runG_counters stepL (fun s => (s.hits, s.misses)) stepL_counters (initL n t0) ops

/-- without a reset, hits + misses is the number of lookups. -/
theorem hits_plus_misses_cache (iv t0 : Nat) (ops : List Op) (h : ∀ op ∈ ops, isReset op = false) :
    (reachC iv t0 ops).hits + (reachC iv t0 ops).misses = (ops.filter isGet).length := by
  simp only [reachC, runC_eq_runG]
  exact (runG_lookups stepC (fun s => (s.hits, s.misses)) stepC_counters (initC iv t0) ops h).trans (Nat.zero_add _)

theorem hits_plus_misses_lru (n : Int) (t0 : Nat) (ops : List Op) (h : ∀ op ∈ ops, isReset op = false) :
    (reachL n t0 ops).hits + (reachL n t0 ops).misses = (ops.filter isGet).length := by
  simp only [reachL, runL_eq_runG]
  exact (runG_lookups stepL (fun s => (s.hits, s.misses)) stepL_counters (initL n t0) ops h).trans (Nat.zero_add _)

example : ((reachL 2 0 [.put 0 ⟨0, 9⟩, .get 0, .get 1, .adv 9, .get 0]).hits,
           (reachL 2 0 [.put 0 ⟨0, 9⟩, .get 0, .get 1, .adv 9, .get 0]).misses) = (1, 2) := by decide

/-! ## many threads, one lock -/

/-- "every concurrent history is equivalent to some sequential one": for any sequential object `step`, any
number of threads with any programs and **any schedule**, the lock-protected system is, at every moment:
(1) in the state the sequential object reaches by running the bodies in the order they ran, with the same
results; (2) each thread holds exactly the results of its own operations in that run; (3) that order is the
lock-acquisition order (equal to it whenever the lock is free); (4) it respects every thread's program order. -/
theorem linearizable {σ : Type} (step : σ → Op → σ × Out) (s0 : σ) (progs : Nat → List Op) (sched : List Nat) :
    let y := sysRun step (sysInit s0 progs) sched
    runG step s0 (y.ran.map (fun e => e.2.1)) = (y.shared, y.ran.map (fun e => e.2.2)) ∧
    (∀ j, (y.threads j).outs = (y.ran.filter (fun e => e.1 = j)).map (fun e => e.2.2)) ∧
    (y.ran.map keyOf <+: y.acq) ∧ (y.lock = none → y.ran.map keyOf = y.acq) ∧
    (∀ j, ∃ rest, (y.acq.filter (fun e => e.1 = j)).map (fun e => e.2) ++ rest = progs j) := by
  intro y
  have h := sysInv_reach step s0 progs sched
  exact ⟨h.seq, h.outs, h.ran_prefix, h.free, fun j => ⟨_, h.order j⟩⟩

/-- mutual exclusion: at any moment at most one thread is inside a cache method's critical section. -/
theorem mutual_exclusion {σ : Type} (step : σ → Op → σ × Out) (s0 : σ) (progs : Nat → List Op) (sched : List Nat)
    (j k : Nat) (hj : ((sysRun step (sysInit s0 progs) sched).threads j).phase ≠ .idle)
    (hk : ((sysRun step (sysInit s0 progs) sched).threads k).phase ≠ .idle) : j = k := by
  have h := sysInv_reach step s0 progs sched
  exact Option.some.inj ((h.holder hj).symm.trans (h.holder hk))

/-- instance: several threads on one `LRUCache` see the sequential `LRUCache` run in acquisition order. -/
theorem linearizable_lru (n : Int) (t0 : Nat) (progs : Nat → List Op) (sched : List Nat) :
    let y := sysRun (stepL) (sysInit (initL n t0) progs) sched
    y.lock = none →
      runL (initL n t0) (y.acq.map (fun e => e.2)) = (y.shared, y.ran.map (fun e => e.2.2)) := by
  intro y hl
  rw [runL_eq_runG]
  exact (sysInv_reach stepL _ progs sched).seq_acq hl

/-- instance: the same for `Cache`. -/
theorem linearizable_cache (iv t0 : Nat) (progs : Nat → List Op) (sched : List Nat) :
    let y := sysRun stepC (sysInit (initC iv t0) progs) sched
    y.lock = none →
      runC (initC iv t0) (y.acq.map (fun e => e.2)) = (y.shared, y.ran.map (fun e => e.2.2)) := by
  intro y hl
  rw [runC_eq_runG]
  exact (sysInv_reach stepC _ progs sched).seq_acq hl

/-! ### the finer model: `acquire; steps…; release`, nothing atomic by construction

In `MSys` every command of every thread is a step of its own and the scheduler may pick any thread at any moment:
argument evaluation, each statement of a method body (statistics reads of `hits()` / `misses()` /
`get_hits_for_key`, the three statements of `_maybe_clean`, `node.unlink()`, the expiry test, `link_after`, the
counter updates, …) and the return.  A shared access (`acc`) is executed **whether or not** the thread holds the
lock; what protects the cache is only the discipline of the code (`disc`: shared accesses lie between the single
`acquire` and the single `release` of the call) — the thing the access monitor checks on the real methods. -/

/-- "every concurrent history is equivalent to some sequential one", from the lock discipline: if every call keeps
the discipline and, run alone, is the sequential operation it stands for (`Good`), then for any number of threads,
any programs and **any schedule**, at every moment
(1) with the lock free, the shared state is the sequential object after the operations in lock-acquisition order;
(2) each thread has received (or, having left its critical section, is about to return) exactly the results that
    sequential run gives to its own operations;
(3) **the discipline is an invariant of the run**: a thread whose next command touches shared state holds the lock. -/
theorem linearizable_fine {σ ρ : Type} (step : σ → Op → σ × Out) (s0 : σ) (progs : Nat → List (Call σ ρ))
    (hg : ∀ j, ∀ c ∈ progs j, Good step c) (sched : List Nat) :
    let y := mRun (mInit s0 progs) sched
    (y.lock = none → y.shared = (runG step s0 (y.acq.map (·.2))).1) ∧
    (∀ j, (y.threads j).outs ++ pending (y.threads j) = outsOf step s0 (doneOps y) j) ∧
    (∀ j r f k, (y.threads j).cur = some r → r.rest = .acc f :: k → y.lock = some j) := by
  intro y
  have h := mInv_run step s0 (mInit s0 progs) sched (mInv_init step s0 progs hg)
  exact ⟨h.free, h.outs, fun j r f k hr he => h.holder_of_cur hr (by rw [he]; rfl) (by rw [he]; rfl)⟩

/-- the methods of `LRUCache`, statement by statement (`codeL`), keep the discipline and implement `stepL`; so any
threads running any sequences of them under any schedule see the sequential `LRUCache` in acquisition order. -/
theorem linearizable_fine_lru (n : Int) (t0 : Nat) (progs : Nat → List Op) (sched : List Nat) :
    let y := mRun (mInit (initL n t0) (fun j => (progs j).map callL)) sched
    (y.lock = none → y.shared = (runL (initL n t0) (y.acq.map (·.2))).1) ∧
    (∀ j, (y.threads j).outs ++ pending (y.threads j) = outsOf stepL (initL n t0) (doneOps y) j) ∧
    (∀ j r f k, (y.threads j).cur = some r → r.rest = .acc f :: k → y.lock = some j) := by
  intro y
  rw [runL_eq_runG]
  exact linearizable_fine stepL (initL n t0) _ (good_of_map callL good_callL progs) sched

/-- the same for `Cache` (`codeC`, including `_maybe_clean` statement by statement). -/
theorem linearizable_fine_cache (iv t0 : Nat) (progs : Nat → List Op) (sched : List Nat) :
    let y := mRun (mInit (initC iv t0) (fun j => (progs j).map callC)) sched
    (y.lock = none → y.shared = (runC (initC iv t0) (y.acq.map (·.2))).1) ∧
    (∀ j, (y.threads j).outs ++ pending (y.threads j) = outsOf stepC (initC iv t0) (doneOps y) j) ∧
    (∀ j r f k, (y.threads j).cur = some r → r.rest = .acc f :: k → y.lock = some j) := by
  intro y
  rw [runC_eq_runG]
  exact linearizable_fine stepC (initC iv t0) _ (good_of_map callC good_callC progs) sched

/-- the hypothesis is needed: a `hits()` that reads the counter *before* taking the lock breaks the discipline
(`disc` rejects it), so `linearizable_fine` does not apply to it. -/
example : disc (σ := LState) (ρ := Regs) .pre
    [.acc (fun r s => ({ r with n := s.hits }, s)), .acquire, .release, .loc (fun r => { r with out := .num r.n })] = false := rfl

/-- two threads, alternating command by command: thread 1's `get` runs between thread 0's `put` and `hits()` -/
example :
    (mRun (mInit (initL 2 0) (fun j => if j = 0 then [callL (.put 0 ⟨5, 9⟩), callL .hits]
        else if j = 1 then [callL (.get 0), callL (.setMax 1)] else [])) ((List.range 40).map (· % 2))).acq
      = [(0, .put 0 ⟨5, 9⟩), (1, .get 0), (0, .hits), (1, .setMax 1)] := by decide

/-- two threads, a schedule where thread 1 gets the lock between thread 0's two operations -/
example :
    (sysRun (stepL) (sysInit (initL 2 0) (fun j => if j = 0 then [.put 0 ⟨5, 9⟩, .get 1] else if j = 1 then [.put 1 ⟨6, 9⟩] else []))
      [0, 1, 0, 1, 0, 1, 1, 1, 0, 0, 0]).acq = [(0, .put 0 ⟨5, 9⟩), (1, .put 1 ⟨6, 9⟩), (0, .get 1)] := by decide

end C17
