import Proofs.ZoneTxnFrame
import Proofs.ZoneTxnValue
import Proofs.ZoneTxnSpelling
import Proofs.ZoneTxnBTree
import Proofs.ZoneTxnCow
/-!
# C10 — Zone transactions match a reference model and are all-or-nothing

Theorems of record.  `Model.ZT` (files `Model/ZoneTxn.lean`, `Model/ZoneNode.lean`, `Model/Serial.lean`) follows
`dns/transaction.py`, `dns/zone.py` (`_validate_name`, `Version`, `WritableVersion`, `zone.Transaction`),
`dns/node.py`, `dns/rdataset.py`/`dns/set.py`, `dns/serial.py`; the reference model is the flat finite map
`SZone = List ((owner, type, covers) × rdataset)` with `put / delRds / delName` and the operations `sStep`.
The constants (`ConstsC10.*`) are regenerated from the working tree on every run.

Decision points.  `Cfg.d09` / `Cfg.d10` are LEGACY variants of the model (the code before the repairs 48a5b1a and
32c445c); the code as it now is has both `false`, the harness always drives the model that way, and the legacy
variants survive only in the clearly named `legacy_*` theorems (counter-examples at the old witnesses, and
agreement on natively spelled owners).  `Cfg.gn` is the one decision point still open in the code:
`Transaction.get_node` lacks `_check_ended()`.  `GoodCfg` is all three `false`.
`txn_refines_spec` is the full statement (`GoodCfg`); `current_code_refines_spec` is the statement for the code
as it now is (any `gn`), whose only guard is that `get_node` is not called on an ended transaction;
`get_node_after_end_counterexample` is the counter-example for `gn = true`.
-/
namespace C10
open Model Model.ZT

/-- decidable equality of results (core has none for `Except`) — used only by the concrete `decide` examples -/
instance instDecEqExcept {ε α : Type} [DecidableEq ε] [DecidableEq α] : DecidableEq (Except ε α)
  | .ok a, .ok b => if h : a = b then isTrue (by rw [h]) else isFalse (by intro e; cases e; exact h rfl)
  | .error a, .error b => if h : a = b then isTrue (by rw [h]) else isFalse (by intro e; cases e; exact h rfl)
  | .ok _, .error _ => isFalse (by intro e; cases e)
  | .error _, .ok _ => isFalse (by intro e; cases e)

/-- The type sets and widths the reference model is about are the RFC ones (RFC 1034 §3.6.2 / RFC 4035 §2.5 CNAME
exclusivity with KEY, NSEC, NSEC3 neutral; singleton types; 32-bit serials; 0 ↦ 1), whatever the code says now. -/
theorem consts_rfc :
    ConstsC10.cnameTypes = [5] ∧ ConstsC10.neutralTypes = [25, 47, 50] ∧
      ConstsC10.singletons = [5, 6, 30, 39, 47] ∧ ConstsC10.rrsig = 46 ∧ ConstsC10.sig = 24 ∧ ConstsC10.soa = 6 ∧
      ConstsC10.serialBits = 32 ∧ ConstsC10.zeroSerialBecomes = 1 ∧ ConstsC10.maxTTL = 4294967295 := by decide

/-- error family of a result, for decidable statements -/
def errOf : Res → Option Err
  | .error e => some e
  | .ok _ => none

/-- "TTL minimisation on merge": the merged rdataset has the lesser TTL (the new one if nothing was there). -/
theorem merge_ttl_min (a b : Rdataset) : (a.union b).ttl = if a.items = [] then b.ttl else min a.ttl b.ttl := by
  unfold Rdataset.union Rdataset.unionUpdate
  rw [(foldl_add_hdr _ _).2.2.2, updateTtl_ttl]

/-- merge is set union for ordinary types (and never duplicates a record) -/
theorem merge_is_union (a b : Rdataset) (h : ∀ rd ∈ b.items, isSingleton rd.rdtype = false) (ha : a.items.Nodup) :
    (∀ x, x ∈ (a.union b).items ↔ x ∈ a.items ∨ x ∈ b.items) ∧ (a.union b).items.Nodup := by
  unfold Rdataset.union Rdataset.unionUpdate
  exact ⟨fun x => by rw [foldl_add_mem_plain b.items _ x h, updateTtl_items],
    foldl_add_nodup _ _ (by rw [updateTtl_items]; exact ha)⟩

/-- "singleton rule": for SOA, CNAME, DNAME, NSEC, NXT the record given last replaces whatever was there -/
theorem merge_singleton (a b : Rdataset) (l : List Rdata) (rd : Rdata) (hb : b.items = l ++ [rd])
    (h : isSingleton rd.rdtype = true) : (a.union b).items = [rd] := by
  unfold Rdataset.union Rdataset.unionUpdate
  rw [hb, List.foldl_append]
  exact add_singleton _ rd h

/-- deleting records is set difference (TTL kept); `delete_exact` insists that every record given is present -/
theorem delete_is_difference (e r : Rdataset) :
    (∀ x, x ∈ (e.difference r).items ↔ x ∈ e.items ∧ x ∉ r.items) ∧ (e.difference r).ttl = e.ttl ∧
      (e.rdclass = r.rdclass → e.rdtype = r.rdtype → e.covers = r.covers →
        ((e.intersection r).eq r = true ↔ ∀ x ∈ r.items, x ∈ e.items)) := by
  refine ⟨fun x => by unfold Rdataset.difference; simp [List.mem_filter], rfl, fun hc ht hv => ?_⟩
  unfold Rdataset.eq Rdataset.intersection
  have hh := updateTtl_hdr e r.ttl
  simp only [hh.1, hh.2.1, hh.2.2, hc, ht, hv, updateTtl_items, beq_self_eq_true, Bool.true_and, Bool.and_eq_true,
    List.all_eq_true, List.mem_filter, decide_eq_true_eq]
  exact ⟨fun h x hx => (h.2 x hx).1, fun h => ⟨fun x hx => hx.2, fun x hx => ⟨h x hx, hx⟩⟩⟩

/-- "CNAME exclusivity, empty nodes removed": the flat map after `put` — the stored rdataset under its key,
nothing of an excluded kind at that owner, everything else as before; and after the two deletions. -/
theorem reference_map_rules (z : SZone) (k : Name) (r : Rdataset) (k' : Name) (t c : Nat) :
    (z.put k r).get (k', t, c) =
        (if k' = k ∧ t = r.rdtype ∧ c = r.covers then some r
         else if k' = k ∧ SZone.excluded r.kind (classify t c) = true then none
         else z.get (k', t, c)) ∧
      (z.delRds k r.rdtype r.covers).get (k', t, c) =
        (if k' = k ∧ t = r.rdtype ∧ c = r.covers then none else z.get (k', t, c)) ∧
      (z.delName k).get (k', t, c) = (if k' = k then none else z.get (k', t, c)) ∧
      ((z.delName k).has k = false) :=
  ⟨sget_put z k r k' t c, sget_delRds z k r.rdtype r.covers k' t c, sget_delName z k k' t c,
    Bool.eq_false_iff.mpr fun h => by
      obtain ⟨t, c, h⟩ := (shas_iff_get _ _).mp h
      rw [sget_delName, if_pos rfl] at h
      cases h⟩

/-- "RFC 1982 serial increments": `Serial` reduces modulo 2^32; `+` accepts exactly the increments of magnitude
≤ 2^31 − 1 and wraps; a positive increment makes the serial greater in sequence-space order; `<` is irreflexive
and asymmetric, `>` is its converse, and two distinct serials are ordered unless exactly 2^31 apart. -/
theorem serial_rfc1982 :
    (∀ v : Int, Serial.make v < 4294967296) ∧
    (∀ (v : Nat) (d : Int), d.natAbs ≤ 2147483647 → Serial.add v d = some ((((v : Int) + d) % 4294967296).toNat)) ∧
    (∀ (v : Nat) (d : Int), d.natAbs > 2147483647 → Serial.add v d = none) ∧
    (∀ (v : Nat) (d : Int), v < 4294967296 → 0 < d → d ≤ 2147483647 →
        ∃ w, Serial.add v d = some w ∧ Serial.lt v w = true ∧ Serial.gt w v = true ∧ w < 4294967296) ∧
    (∀ a, Serial.lt a a = false) ∧
    (∀ a b, Serial.lt a b = true → Serial.lt b a = false) ∧
    (∀ a b, Serial.gt a b = Serial.lt b a) ∧
    (∀ a b : Nat, a ≠ b → a - b ≠ 2147483648 ∧ b - a ≠ 2147483648 → Serial.lt a b = true ∨ Serial.lt b a = true) := by
  refine ⟨fun v => by unfold Serial.make; rw [modulus_eq]; omega, serial_add_some, serial_add_none,
    fun v d hv h0 hd => ⟨_, serial_add_some v d (by omega), ?_⟩,
    fun a => by rw [← Bool.not_eq_true, serial_lt_iff]; omega,
    fun a b => by rw [← Bool.not_eq_true, serial_lt_iff, serial_lt_iff]; omega,
    fun a b => by rw [Bool.eq_iff_iff, serial_lt_iff, serial_gt_iff]; omega,
    fun a b hne hhalf => by rw [serial_lt_iff, serial_lt_iff]; omega⟩
  -- the sum either stays below 2^32 or wraps once
  have hw : (((v : Int) + d) % 4294967296).toNat < 4294967296 ∧
      ((((v : Int) + d) % 4294967296).toNat = v + d.toNat ∨
        (((v : Int) + d) % 4294967296).toNat + 4294967296 = v + d.toNat) := by omega
  have hn : 0 < d.toNat ∧ d.toNat ≤ 2147483647 := by omega
  generalize (((v : Int) + d) % 4294967296).toNat = w at hw
  generalize d.toNat = n at hw hn
  rw [serial_lt_iff, serial_gt_iff]
  rcases hw with ⟨hlt, hw | hw⟩
  · exact ⟨.inl ⟨by omega, by omega⟩, .inr ⟨by omega, by omega⟩, hlt⟩
  · exact ⟨.inr ⟨by omega, by omega⟩, .inl ⟨by omega, by omega⟩, hlt⟩

/-- "… with the 0 ↦ 1 rule": what `update_serial` stores, and that it is never 0. -/
theorem update_serial_rule (old : Nat) (value : Int) (rel : Bool) (hold : old < 4294967296) (hv : 0 ≤ value) :
    newSerial old value rel =
        (if rel then
          (if value > 2147483647 then .error .valueError
           else .ok (if ((old : Int) + value) % 4294967296 = 0 then 1 else (((old : Int) + value) % 4294967296).toNat))
         else .ok (if value % 4294967296 = 0 then 1 else (value % 4294967296).toNat)) ∧
      ∀ v, newSerial old value rel = .ok v → v ≠ 0 := by
  refine ⟨?_, fun v h => ?_⟩
  · have zero (x : Int) : (if (x % 4294967296).toNat = 0 then ConstsC10.zeroSerialBecomes else (x % 4294967296).toNat) =
        if x % 4294967296 = 0 then 1 else (x % 4294967296).toNat :=
      ite_congr (propext (toNat_emod_eq_zero x)) (fun _ => rfl) (fun _ => rfl)
    unfold newSerial
    cases rel with
    | true =>
      rw [serial_make_id old hold]
      by_cases hbig : value > 2147483647
      · rw [serial_add_none old value (by omega), if_pos hbig]; rfl
      · rw [serial_add_some old value (by omega), if_neg hbig]
        exact congrArg Except.ok (zero _)
    | false => exact congrArg Except.ok (zero value)
  · unfold newSerial at h
    dsimp only at h
    split at h
    · cases h
    · cases h
      split
      · exact Nat.one_ne_zero
      · assumption

/-- non-vacuity / the boundary: 2^32 − 1 plus one is 1, not 0; an absolute 2^32 is stored as 1 -/
example : newSerial 4294967295 1 true = .ok 1 ∧ newSerial 7 4294967296 false = .ok 1 ∧
    newSerial 5 2147483648 true = .error .valueError := by decide

/-- "Any sequence of add, replace, delete, delete-exact and serial-update operations in a write transaction
leaves the zone, after commit, with exactly the content a simple reference model predicts … identically for
plain, versioned and B-tree zones" (the model has no zone-class parameter: one model for the three classes, each
tied to it by the correspondence check; the B-tree version class' own put/delete paths are modelled in
`Model/ZoneBTree.lean` and shown content-equal in `btree_content_same`):
for every history of API calls (`add/replace/delete/delete_exact` in any argument form, well-formed or not, with
or without a vetoing check hook; `update_serial`, `get`, `name_exists`, `get_node`, `changed`, iteration,
`commit`, `rollback`), every exit (clean or through an exception), writer or reader:
every result agrees with the reference model's (`ResRel`: equal — error family, rdataset, flag — or, for
iteration and `get_node`, the same content in whatever order), and the published zone afterwards simulates the
reference zone (same rdataset under every (owner, type, covers), same set of owners — hence no empty nodes).
The conclusion re-establishes the hypotheses, so it composes over successive transactions. -/
theorem txn_refines_spec (cfg : Cfg) (hg : GoodCfg cfg) (z : Nodes) (sz : SZone)
    (hz : Sim cfg.rdclass z sz) (hi : Inv cfg.rdclass z) (ro : Bool) (ops : List Op) (exc : Bool) :
    let s0 := if ro then beginRead z else beginWrite z
    let t0 := if ro then sBeginRead sz else sBeginWrite sz
    let m := run cfg s0 ops
    let r := sRun cfg t0 (ops.map toSOp)
    AllRel (ResRel cfg.rdclass) m.2 r.2 ∧
      Sim cfg.rdclass (exitTxn m.1 exc).zone (sExit r.1 exc).zone ∧ Inv cfg.rdclass (exitTxn m.1 exc).zone :=
  txn_refines hg (TSim.begin hz hi ro) ops exc

/-- The same for `zone.writer(replacement=True)`: the version starts empty, whatever the zone holds; the zone is
replaced by what the transaction built — or left as it was if the transaction changed nothing or was aborted. -/
theorem txn_refines_spec_replacement (cfg : Cfg) (hg : GoodCfg cfg) (z : Nodes) (sz : SZone)
    (hz : Sim cfg.rdclass z sz) (hi : Inv cfg.rdclass z) (ops : List Op) (exc : Bool) :
    let m := run cfg (beginReplace z) ops
    let r := sRun cfg (sBeginReplace sz) (ops.map toSOp)
    AllRel (ResRel cfg.rdclass) m.2 r.2 ∧
      Sim cfg.rdclass (exitTxn m.1 exc).zone (sExit r.1 exc).zone ∧ Inv cfg.rdclass (exitTxn m.1 exc).zone ∧
      ((∀ op ∈ ops, op.isCommit = false) → exc = true → (exitTxn m.1 exc).zone = z) := by
  have ⟨h1, h2, h3⟩ := txn_refines (s := beginReplace z) (t := sBeginReplace sz) hg
    ⟨hz, ⟨fun _ _ _ => rfl, fun _ => rfl⟩, hi, Inv.nil _, rfl, rfl, rfl⟩ ops exc
  exact ⟨h1, h2, h3, fun hnc hexc => hexc ▸ (exit_zone _ true (.inl rfl)).trans (run_zone cfg ops _ hnc)⟩

/-- Every well-formed concrete zone (owner keys distinct, no empty node, one class, (type, covers) distinct within
a node) is simulated by its flattening — so the refinement applies to arbitrary initial zones. -/
theorem sim_flatten (cls : Nat) (z : Nodes) (h : WfZone cls z) : Sim cls z (flatten z) ∧ Inv cls z :=
  Model.ZT.sim_flatten cls z h

/-- `txn_refines_spec` from any well-formed initial zone, against the reference run from its flattening. -/
theorem txn_refines_spec_concrete (cfg : Cfg) (hg : GoodCfg cfg) (z : Nodes) (hw : WfZone cfg.rdclass z)
    (ro : Bool) (ops : List Op) (exc : Bool) :
    let m := run cfg (if ro then beginRead z else beginWrite z) ops
    let r := sRun cfg (if ro then sBeginRead (flatten z) else sBeginWrite (flatten z)) (ops.map toSOp)
    AllRel (ResRel cfg.rdclass) m.2 r.2 ∧
      Sim cfg.rdclass (exitTxn m.1 exc).zone (sExit r.1 exc).zone ∧ Inv cfg.rdclass (exitTxn m.1 exc).zone :=
  txn_refines_spec cfg hg z (flatten z) (Model.ZT.sim_flatten _ z hw).1 (Model.ZT.sim_flatten _ z hw).2 ro ops exc

/-- non-vacuity: a zone `ex.` (relativized) with SOA + NSEC + RRSIG(NSEC) at the apex, a CNAME with its
RRSIG(CNAME) and NSEC at `a`, and two A records at `b`, is well formed -/
example : WfZone 1
    [ ([], [ { rdclass := 1, rdtype := 6, covers := 0, ttl := 3600, items := [⟨1, 6, 0, 2024⟩] },
             { rdclass := 1, rdtype := 47, covers := 0, ttl := 300, items := [⟨1, 47, 0, 1⟩] },
             { rdclass := 1, rdtype := 46, covers := 47, ttl := 300, items := [⟨1, 46, 47, 1⟩, ⟨1, 46, 47, 2⟩] } ]),
      ([[97]], [ { rdclass := 1, rdtype := 5, covers := 0, ttl := 60, items := [⟨1, 5, 0, 1⟩] },
                 { rdclass := 1, rdtype := 46, covers := 5, ttl := 60, items := [⟨1, 46, 5, 7⟩] },
                 { rdclass := 1, rdtype := 47, covers := 0, ttl := 300, items := [⟨1, 47, 0, 2⟩] } ]),
      ([[98]], [ { rdclass := 1, rdtype := 1, covers := 0, ttl := 300, items := [⟨1, 1, 0, 1⟩, ⟨1, 1, 0, 2⟩] } ]) ] := by
  unfold WfZone NodeInv
  decide

/-- The code as it now is (repairs 48a5b1a, 32c445c in: `d09 = d10 = false`; `get_node` still unguarded or not:
any `gn`): every history in which `get_node` is not called on an already ended transaction runs exactly as under
the intended variant, hence refines the reference model — owner names in either spelling, no other guard.
Full statement (false while `gn = true`, see `get_node_after_end_counterexample`): the same without `hlate`,
which is `txn_refines_spec`. -/
theorem current_code_refines_spec (cfg : Cfg) (h09 : cfg.d09 = false) (h10 : cfg.d10 = false) (z : Nodes)
    (hw : WfZone cfg.rdclass z) (ro : Bool) (ops : List Op) (exc : Bool)
    (hlate : lateGetNode cfg (if ro then beginRead z else beginWrite z) ops = false) :
    let m := run cfg (if ro then beginRead z else beginWrite z) ops
    let r := sRun (closedCfg cfg) (if ro then sBeginRead (flatten z) else sBeginWrite (flatten z)) (ops.map toSOp)
    AllRel (ResRel cfg.rdclass) m.2 r.2 ∧
      Sim cfg.rdclass (exitTxn m.1 exc).zone (sExit r.1 exc).zone ∧ Inv cfg.rdclass (exitTxn m.1 exc).zone := by
  intro m r
  have hrun : m = run (closedCfg cfg) (if ro then beginRead z else beginWrite z) ops := run_gn cfg ops _ hlate
  have hg : GoodCfg (closedCfg cfg) := ⟨h09, h10, rfl⟩
  have h := txn_refines_spec_concrete (closedCfg cfg) hg z hw ro ops exc
  rw [hrun]
  exact h

/-- "reads inside a transaction see its own writes": after any prefix of the history, `get` and `name_exists`
return what the reference model holds at that point (which `reference_map_rules` describes write by write);
`get_node` and iteration likewise, by `txn_refines_spec`. -/
theorem reads_see_writes (cfg : Cfg) (hg : GoodCfg cfg) (z : Nodes) (sz : SZone)
    (hz : Sim cfg.rdclass z sz) (hi : Inv cfg.rdclass z) (ops : List Op) (n : Name) (t c : Nat) :
    let s := (run cfg (beginWrite z) ops).1
    let r := (sRun cfg (sBeginWrite sz) (ops.map toSOp)).1
    (step cfg s (.get n t c)).2 = (sStep cfg r (.get n t c)).2 ∧
      (step cfg s (.nameExists n)).2 = (sStep cfg r (.nameExists n)).2 := by
  intro s r
  have h := (run_refines cfg hg ops _ _ (TSim.begin hz hi false)).1
  exact ⟨(get_refines h n t c).2, (nameExists_refines h n).2⟩

/-- a write is read back: the reference model returns the rdataset just stored -/
theorem read_after_replace (cfg : Cfg) (t : STxn) (n k : Name) (r : Rdataset) (hv : validateName cfg n = .ok k)
    (he : t.ended = false) (hr : t.readOnly = false) (hc : r.rdclass = cfg.rdclass) (hs : r.rdtype ≠ ConstsC10.soa) :
    (sStep cfg (sStep cfg t (.replace n r false false)).1 (.get n r.rdtype r.covers)).2 = .ok (.rds (some r)) := by
  simp [sStep, sPut, he, hr, hc, hs, hv, SZone.put, SZone.get]

/-- "identically for plain, versioned and B-tree zones": plain and versioned zones share `dns.zone.WritableVersion`
(the model's `putRdataset / deleteRdataset / deleteNode`); the B-tree zone has its own version class whose put and
delete paths interleave the content operation with flag, delegation-index and `changed` bookkeeping
(`Model/ZoneBTree.lean`, following `dns/btreezone.py`).  Whatever the name-order oracles `P` of that bookkeeping
answer, its content is the plain model's: the same node map after `put_rdataset`, after `delete_rdataset`
(validated key, emptied node removed) and after `delete_node`, and `changed` becomes non-empty in exactly the
same cases (so a commit publishes in the same cases). -/
theorem btree_content_same (P : BParams) (cls : Nat) (v : BVer) (key : Name) :
    (∀ r, bContent (bPut P v key r).nodes =
          nodesSet (bContent v.nodes) key (((nodesGet (bContent v.nodes) key).getD []).replace r) ∧
        (bPut P v key r).changed ≠ []) ∧
    (∀ t c, bContent (bDelRds P cls v key t c).nodes = delRdsM cls (bContent v.nodes) key t c ∧
        (bDelRds P cls v key t c).changed ≠ []) ∧
    (bContent (bDelNode P v key).nodes =
        (if (nodesGet (bContent v.nodes) key).isSome then nodesErase (bContent v.nodes) key else bContent v.nodes) ∧
      ((nodesGet (bContent v.nodes) key).isSome = true → (bDelNode P v key).changed ≠ []) ∧
      ((nodesGet (bContent v.nodes) key).isSome = false → (bDelNode P v key).changed = v.changed)) := by
  obtain ⟨h1, h2, h3⟩ := content_bCow P v key
  unfold bPut bDelRds delRdsM
  generalize bCow P v key = cw at h1 h2 h3 ⊢
  obtain ⟨v1, node⟩ := cw
  dsimp only at h1 h2 h3 ⊢
  refine ⟨fun r => ?_, fun t c => ?_, ?_⟩
  · -- whichever way the delegation bookkeeping goes, it leaves content alone and `changed` non-empty
    split
    · split
      · rw [content_bSet, h2, nodesSet_set, h1]
        exact ⟨rfl, h3⟩
      · rw [content_bSet, content_updateGlue, h2, nodesSet_set, h1]
        exact ⟨rfl, bUpdateGlue_changed P _ key true h3⟩
    · rw [content_bSet, h2, nodesSet_set, h1]
      exact ⟨rfl, h3⟩
  · by_cases hns : t = 2 ∧ key ∈ v1.delegs
    · simp only [hns, and_self, if_true, h1]
      by_cases hl : (((nodesGet (bContent v.nodes) key).getD []).delete cls 2 c).length = 0
      · simp only [hl, if_true, content_bErase, content_updateGlue, h2, nodesErase_set]
        exact ⟨trivial, bUpdateGlue_changed P _ key false h3⟩
      · simp only [hl, if_false, content_bSet, content_updateGlue, h2, nodesSet_set]
        exact ⟨trivial, bUpdateGlue_changed P _ key false h3⟩
    · simp only [hns, if_false, h1]
      by_cases hl : (((nodesGet (bContent v.nodes) key).getD []).delete cls t c).length = 0
      · simp only [hl, if_true, content_bErase, h2, nodesErase_set]
        exact ⟨trivial, h3⟩
      · simp only [hl, if_false, content_bSet, h2, nodesSet_set]
        exact ⟨trivial, h3⟩
  · rw [content_bGet]
    unfold bDelNode
    cases hq : bGet v.nodes key with
    | none => simp
    | some node =>
      simp only [Option.map_some, Option.isSome_some, if_true, content_bErase]
      by_cases hd : node.deleg = true
      · simp [hd, content_updateGlue]
      · simp [hd]

/-- the plain model's `put_rdataset / delete_rdataset` are those expressions (so the two statements meet) -/
theorem plain_version_ops (cfg : Cfg) (hg : GoodCfg cfg) (v : Nodes) (name key : Name) (hv : validateName cfg name = .ok key) :
    (∀ r, putRdataset cfg v name r = .ok (nodesSet v key (((nodesGet v key).getD []).replace r))) ∧
    (∀ t c, deleteRdataset cfg v name t c = (delRdsM cfg.rdclass v key t c, none)) ∧
    deleteNode cfg v name = .ok (if (nodesGet v key).isSome then (nodesErase v key, true) else (v, false)) :=
  ⟨fun r => by simp [putRdataset, hv], fun t c => deleteRdataset_good cfg hg v name key t c hv, deleteNode_ok hv v⟩

/-- non-vacuity: a delegation `b` (NS only) with glue `a.b`; deleting the NS rdataset at rdataset granularity
removes the node in the B-tree instance too (the seeded change C10-a kept it as an empty node) -/
example :
    let P : BParams := { isOrigin := fun k => k == [], isGlue := fun d k => d.any (fun c => k != c && k.drop (k.length - c.length) == c),
                         below := fun k n => k != n && k.drop (k.length - n.length) == n }
    let ns : Rdataset := { rdclass := 1, rdtype := 2, covers := 0, ttl := 300, items := [⟨1, 2, 0, 1⟩] }
    let a : Rdataset := { rdclass := 1, rdtype := 1, covers := 0, ttl := 300, items := [⟨1, 1, 0, 1⟩] }
    let v0 : BVer := { nodes := [], delegs := [], changed := [] }
    let v := bPut P (bPut P v0 [[98]] ns) [[97], [98]] a
    v.delegs = [[[98]]] ∧ bContent (bDelRds P 1 v [[98]] 2 0).nodes = [([[97], [98]], [a])] ∧
      (bDelRds P 1 v [[98]] 2 0).delegs = [] := by
  decide

/-- "A transaction that is rolled back, or that exits through an exception raised at any point, leaves the zone
exactly as it was" — with copy-on-write made explicit (`Model/ZoneCow.lean`): node objects are mutable cells of a
store *shared* between the published zone and the version (`WritableVersion.__init__` copies only the dict);
`_maybe_cow_with_name` copies a node the first time its name is touched and every later
`replace_rdataset / delete_rdataset` mutates in place.  For every sequence of version operations, at every
point: (i) what the published zone reaches is untouched (so abandoning the version at any point is a perfect
rollback, and concurrent readers are not disturbed), and (ii) what the version holds is exactly what the
persistent-value model of `Model/ZoneTxn.lean` holds (`pStep` is its `putRdataset / deleteRdataset / deleteNode`,
see `plain_version_ops`) — which is what licenses modelling zones as persistent values everywhere else. -/
theorem cow_isolation (cls : Nat) (heap : Heap) (zone : PMap) (hz : ∀ e ∈ zone, e.2 < heap.next) (ops : List COp) :
    let v := ops.foldl (cStep cls) (cBegin heap zone)
    (∀ k, zview v k = (pget zone k).map heap.cell) ∧
      (∀ k, vview v k = nodesGet (ops.foldl (pStep cls) (deref heap zone)) k) := by
  intro v
  have hi : CowInv (cBegin heap zone) :=
    ⟨hz, hz, fun k hk => by simp [cBegin] at hk⟩
  have hr : Rep (cBegin heap zone) (deref heap zone) := by
    intro k; rw [nodesGet_deref]; rfl
  obtain ⟨_, h2, h3⟩ := cRun_spec cls ops (cBegin heap zone) (deref heap zone) hi hr
  exact ⟨fun k => h2 k, h3⟩

/-- non-vacuity, and the scenario itself: the zone's node `a` is object 0 holding an A rdataset; the version adds
a second A record (merged rdataset put) and deletes it again; the zone still reaches the original object, unmodified,
while the version went through a private copy (object 1) — and a `put` *without* the copy would have shown through -/
example :
    let a1 : Rdataset := { rdclass := 1, rdtype := 1, covers := 0, ttl := 300, items := [⟨1, 1, 0, 1⟩] }
    let a12 : Rdataset := { a1 with items := [⟨1, 1, 0, 1⟩, ⟨1, 1, 0, 2⟩] }
    let heap : Heap := { cell := fun i => if i = 0 then [a1] else [], next := 1 }
    let zone : PMap := [([[97]], 0)]
    let v := cPut (cBegin heap zone) [[97]] a12
    zview v [[97]] = some [a1] ∧ vview v [[97]] = some [a12] ∧ pget v.nodes [[97]] = some 1 ∧
      (∀ e ∈ zone, e.2 < heap.next) ∧
      zview ({ (cBegin heap zone) with heap := heap.set 0 [a12] }) [[97]] = some [a12] := by
  decide

/-- "… and regardless of whether owner names are given relative or absolute": for an owner `r` relative to the
origin whose absolute spelling `r ++ origin` is a legal name, every call gives the same result and the same
state with either spelling. -/
theorem relative_absolute_same (cfg : Cfg) (hg : GoodCfg cfg) (ho : WfOrigin cfg) (r : Name)
    (hr : isAbs r = false) (hv : validate r = .ok r)
    (hfull : validate (r ++ cfg.origin) = .ok (r ++ cfg.origin)) (s : Txn) :
    validateName cfg r = validateName cfg (r ++ cfg.origin) ∧
    (∀ rep rds extra veto, addCore cfg s rep r rds extra veto = addCore cfg s rep (r ++ cfg.origin) rds extra veto) ∧
    (∀ exact sel veto, deleteCore cfg s exact r sel veto = deleteCore cfg s exact (r ++ cfg.origin) sel veto) ∧
    (∀ value rel veto, txnUpdateSerial cfg s value rel r veto = txnUpdateSerial cfg s value rel (r ++ cfg.origin) veto) ∧
    (∀ t c, step cfg s (.get r t c) = step cfg s (.get (r ++ cfg.origin) t c)) ∧
    step cfg s (.nameExists r) = step cfg s (.nameExists (r ++ cfg.origin)) := by
  have h1 := validateName_rel_abs cfg ho r hr hfull
  have h2 := soaNameOk_rel_abs cfg hg.d10 ho r hr
  refine ⟨h1, ?_, ?_, ?_, ?_, ?_⟩
  · exact addCore_congr cfg cfg rfl h1 h2 s
  · exact deleteCore_congr cfg cfg rfl h1 (deleteRdataset_spelling cfg hg.d09 h1) s
  · exact updateSerial_congr cfg cfg rfl h1 h2 s
  · intro t c; simp only [step, getRdataset, h1]
  · simp only [step, getNode, h1]

/-- non-vacuity: origin `example.`, owner `a` / `a.example.` -/
example : WfOrigin { origin := [[101, 120], []], relativize := true, rdclass := 1, d09 := false, d10 := false } ∧
    isAbs [[97]] = false ∧ validate [[97]] = .ok [[97]] ∧
    validate ([[97]] ++ [[101, 120], []]) = .ok ([[97]] ++ [[101, 120], []]) := by
  refine ⟨⟨by decide, by decide⟩, by decide, by decide, by decide⟩

/-- "A transaction … that exits through an exception raised at any point, leaves the zone exactly as it was":
after any history without an explicit `commit()` call — in particular after every prefix of any history —
leaving the `with` block through an exception leaves the published zone untouched. -/
theorem exception_identity (cfg : Cfg) (z : Nodes) (ro : Bool) (ops : List Op)
    (h : ∀ op ∈ ops, op.isCommit = false) :
    (exitTxn (run cfg (if ro then beginRead z else beginWrite z) ops).1 true).zone = z := by
  rw [exit_zone _ true (.inl rfl), run_zone cfg ops _ h]
  cases ro <;> rfl

/-- "A transaction that is rolled back … leaves the zone exactly as it was": an explicit `rollback()` after any
history without a commit, whatever is called afterwards and however the block is left. -/
theorem rollback_identity (cfg : Cfg) (z : Nodes) (ops more : List Op) (exc : Bool)
    (h : ∀ op ∈ ops, op.isCommit = false) :
    (exitTxn (run cfg (beginWrite z) (ops ++ Op.rollback :: more)).1 exc).zone = z :=
  abort_zone cfg (beginWrite z) ops more exc .rollback (.inl rfl) h

/-- "… or that exits through an exception raised at any point" — the point being *inside the commit*: a callback the
commit path consults (the versioned / B-tree zone's pruning policy) raises.  The version is withdrawn and nothing is
published, whatever was done before and whatever is called afterwards or however the block is then left. -/
theorem failed_commit_identity (cfg : Cfg) (z : Nodes) (ops more : List Op) (exc : Bool)
    (h : ∀ op ∈ ops, op.isCommit = false) :
    (exitTxn (run cfg (beginWrite z) (ops ++ Op.commitRaise :: more)).1 exc).zone = z :=
  abort_zone cfg (beginWrite z) ops more exc .commitRaise (.inr rfl) h

/-- "… ended or read-only transactions refuse further use": once ended, every call raises `AlreadyEnded` and
changes nothing. -/
theorem ended_refuses (cfg : Cfg) (hgn : cfg.gn = false) (s : Txn) (h : s.ended = true) (op : Op) :
    step cfg s op = (s, .error .alreadyEnded) := step_ended cfg s op h (Or.inl hgn)

/-- Partial form for the code as it is (any `gn`): every call but `get_node` is refused once ended, and an ended
transaction never changes again whatever is called. -/
theorem ended_refuses_partial (cfg : Cfg) (s : Txn) (h : s.ended = true) (op : Op) :
    (op.isGetNode = false → step cfg s op = (s, .error .alreadyEnded)) ∧ (step cfg s op).1 = s :=
  ⟨fun hop => step_ended cfg s op h (Or.inr hop), step_ended_state cfg s op h⟩

/-- The open decision point at a witness (`corpus/C10/new-get-node-after-end.json`): a writer adds `a A 10.0.0.1`
and rolls back; as shipped (`gn = true`) `get_node(a)` still answers — with the rolled-back node — where the
intended variant raises `AlreadyEnded`. -/
theorem get_node_after_end_counterexample :
    let rds : Rdataset := { rdclass := 1, rdtype := 1, covers := 0, ttl := 300, items := [⟨1, 1, 0, 1⟩] }
    let ops : List Op := [.add [.name [[97]], .rds rds] false, .rollback, .getNode [[97]]]
    let shipped : Cfg := { origin := [[101, 120], []], relativize := true, rdclass := 1, d09 := false, d10 := false, gn := true }
    let intended : Cfg := { shipped with gn := false }
    (run shipped (beginWrite []) ops).2.map errOf = [none, none, none] ∧
      (run intended (beginWrite []) ops).2.map errOf = [none, none, some .alreadyEnded] ∧
      (exitTxn (run shipped (beginWrite []) ops).1 false).zone = [] := by
  decide

/-- a read-only transaction refuses every mutating call (`ReadOnly` for add/replace/delete/delete_exact, an error
for `update_serial`), and no history of calls, however it ends, changes the published zone. -/
theorem readonly_refuses (cfg : Cfg) (z : Nodes) :
    (∀ args veto, step cfg (beginRead z) (.add args veto) = (beginRead z, .error .readOnly)) ∧
    (∀ args veto, step cfg (beginRead z) (.replace args veto) = (beginRead z, .error .readOnly)) ∧
    (∀ args veto, step cfg (beginRead z) (.delete args veto) = (beginRead z, .error .readOnly)) ∧
    (∀ args veto, step cfg (beginRead z) (.deleteExact args veto) = (beginRead z, .error .readOnly)) ∧
    (∀ ops exc, (exitTxn (run cfg (beginRead z) ops).1 exc).zone = z) := by
  refine ⟨fun _ _ => rfl, fun _ _ => rfl, fun _ _ => rfl, fun _ _ => rfl, ?_⟩
  intro ops exc
  have h := run_readOnly_zone cfg ops (beginRead z) rfl
  exact (exit_zone _ exc (.inr h.2)).trans h.1

/-! ## the LEGACY variants `d09` / `d10` of the model (the code before repairs 48a5b1a / 32c445c) -/

/-- D09 at the witness `corpus/C10/d09-plain-relativized-absolute-owner.json`: zone `example.` relativized with
`a A 10.0.0.1`; `txn.delete(a.example., A)` raises `KeyError` and leaves an *empty node* `a` in the version, where
the intended variant (and the reference model) deletes the node. -/
theorem legacy_d09_counterexample :
    let origin : Name := [[101, 120], []]
    let z : Nodes := [([[97]], [{ rdclass := 1, rdtype := 1, covers := 0, ttl := 300, items := [⟨1, 1, 0, 1⟩] }])]
    let op : Op := .delete [.name [[97], [101, 120], []], .int 1] false
    let shipped : Cfg := { origin := origin, relativize := true, rdclass := 1, d09 := true, d10 := false }
    let intended : Cfg := { shipped with d09 := false }
    errOf (step shipped (beginWrite z) op).2 = some .keyError ∧
      (step shipped (beginWrite z) op).1.ver = [([[97]], [])] ∧
      errOf (step intended (beginWrite z) op).2 = none ∧ (step intended (beginWrite z) op).1.ver = [] := by
  decide

/-- D10 at the witness `corpus/C10/d10-update-serial-default-name-absolute-zone.json`: a non-relativized zone with
an SOA at the origin; `update_serial()` with its default name `@` raises `ValueError`, where the intended variant
stores serial 6. -/
theorem legacy_d10_counterexample :
    let origin : Name := [[101, 120], []]
    let soa : Rdataset := { rdclass := 1, rdtype := 6, covers := 0, ttl := 300, items := [⟨1, 6, 0, 5⟩] }
    let z : Nodes := [(origin, [soa])]
    let op : Op := .updateSerial 1 true [] false
    let shipped : Cfg := { origin := origin, relativize := false, rdclass := 1, d09 := false, d10 := true }
    let intended : Cfg := { shipped with d10 := false }
    errOf (step shipped (beginWrite z) op).2 = some .valueError ∧
      errOf (step intended (beginWrite z) op).2 = none ∧
      (step intended (beginWrite z) op).1.ver = [(origin, [{ soa with items := [⟨1, 6, 0, 6⟩] }])] := by
  decide

/-- The legacy variants and the repaired code are the same function on histories whose mutating calls name their
owner in the zone's own spelling (`NativeName`) — i.e. the repairs changed nothing else. -/
theorem legacy_variant_agrees_on_native_names (cfg : Cfg) (ho : WfOrigin cfg) (s : Txn) (ops : List Op)
    (hnat : ∀ op ∈ ops, ∀ n, op.owner = some n → NativeName cfg n) :
    run cfg s ops = run (modernCfg cfg) s ops := by
  induction ops generalizing s with
  | nil => rfl
  | cons op rest ih =>
    simp only [run]
    rw [step_native cfg ho s op (hnat op (List.mem_cons_self ..)), ih _ fun o ho' => hnat o (List.mem_cons_of_mem _ ho')]

/-- non-vacuity of the guard: in the relativized zone `ex.` the owner `a` is native, `a.ex.` is not -/
example :
    let cfg : Cfg := { origin := [[101, 120], []], relativize := true, rdclass := 1, d09 := true, d10 := true }
    validateName cfg [[97]] = .ok (lowerName [[97]]) ∧ validateName cfg [[97], [101, 120], []] ≠ .ok (lowerName [[97], [101, 120], []]) := by
  decide

end C10
