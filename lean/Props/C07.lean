import Proofs.SetAlg
import Proofs.Rdataset
import Generated.C07
/-!
# C07 — Records and record sets have value semantics and exact set algebra

Theorems of record.  `Model.SetAlg` follows `dns/set.py` (the insertion-ordered dict used as a set is an
insertion-ordered duplicate-free list; every loop is the code's loop), `Model.Rdataset` follows
`dns/rdataset.py` and the value semantics of `dns/rdata.py` over an abstract record.  They are tied to the
code by the correspondence check on whole operation histories.
-/
namespace C07
open Model Model.SetAlg Model.RdsProofs

variable {α : Type} [DecidableEq α]

/-- "A record set is a mathematical set …: duplicates collapse" — every operation of `dns.set.Set`, in place
or copying, aliased or not, keeps the items duplicate-free. -/
theorem nodup_preserved (s o : List α) (x : α) (hs : s.Nodup) :
    (add s x).Nodup ∧ (discard s x).Nodup ∧ (update s o).Nodup ∧ (ofList o).Nodup ∧
    (unionUpdate s o).Nodup ∧ (interUpdate s o).Nodup ∧ (diffUpdate s o).Nodup ∧ (symDiffUpdate s o).Nodup ∧
    (union s o).Nodup ∧ (inter s o).Nodup ∧ (diff s o).Nodup ∧ (symDiff s o).Nodup ∧
    (∀ r, remove s x = some r → r.Nodup) ∧ (∀ y r, pop s = some (y, r) → r.Nodup) ∧
    (∀ i r, delItem s i = some r → r.Nodup) ∧ (∀ a b st, (delSlice s a b st).Nodup) :=
  have hu := nodup_unionUpdate s o hs
  have hi := hs.sublist (interUpdate_sublist s o hs)
  have hd := hs.sublist (diffUpdate_sublist s o hs)
  have hsd := hu.sublist (diffUpdate_sublist _ _ hu)
  ⟨nodup_add s x hs, hs.sublist (discard_sublist s x), hu, nodup_unionUpdate [] o List.nodup_nil, hu, hi, hd, hsd, hu, hi, hd, hsd,
   fun _ h => hs.sublist (remove_sublist h), fun _ _ h => hs.sublist (pop_sublist h),
   fun _ _ h => hs.sublist (delItem_sublist h), fun a b st => hs.sublist (delSlice_sublist s a b st hs)⟩

/-- "… that remembers first-insertion order" and "union, intersection, difference, symmetric difference …
agree with set theory": the four loops of the code, run on duplicate-free operands, produce exactly
`self`'s surviving items in their order followed (for union and symmetric difference) by `other`'s new
items in `other`'s order. -/
theorem ops_closed_form (s o : List α) (hs : s.Nodup) (ho : o.Nodup) :
    unionUpdate s o = s ++ o.filter (fun x => decide (x ∉ s)) ∧
    interUpdate s o = s.filter (fun x => decide (x ∈ o)) ∧
    diffUpdate s o = s.filter (fun x => decide (x ∉ o)) ∧
    symDiffUpdate s o = s.filter (fun x => decide (x ∉ o)) ++ o.filter (fun x => decide (x ∉ s)) :=
  ⟨unionUpdate_eq s o ho, interUpdate_eq s o hs, diffUpdate_eq s o hs, symDiffUpdate_eq s o hs ho⟩

/-- the membership laws of set theory for the four operations (consequence of the closed forms; for union
no hypothesis at all is needed). -/
theorem mem_laws (s o : List α) (x : α) (hs : s.Nodup) (ho : o.Nodup) :
    (x ∈ unionUpdate s o ↔ x ∈ s ∨ x ∈ o) ∧
    (x ∈ interUpdate s o ↔ x ∈ s ∧ x ∈ o) ∧
    (x ∈ diffUpdate s o ↔ x ∈ s ∧ x ∉ o) ∧
    (x ∈ symDiffUpdate s o ↔ (x ∈ s ∧ x ∉ o) ∨ (x ∈ o ∧ x ∉ s)) := by
  refine ⟨mem_unionUpdate s o x, ?_, ?_, ?_⟩
  · rw [interUpdate_eq s o hs]; simp
  · rw [diffUpdate_eq s o hs]; simp
  · rw [symDiffUpdate_eq s o hs ho]; simp

/-- "subset and disjointness agree with set theory" -/
theorem predicates (s o : List α) :
    (isSubset s o = true ↔ ∀ x ∈ s, x ∈ o) ∧ (isSuperset s o = true ↔ ∀ x ∈ o, x ∈ s) ∧
    (isDisjoint s o = true ↔ ∀ x, ¬ (x ∈ s ∧ x ∈ o)) :=
  ⟨by simp [isSubset], by simp [isSuperset], by
    simp only [isDisjoint, List.all_eq_true, Bool.not_eq_true', decide_eq_false_iff_not, not_and]
    exact ⟨fun h x h1 h2 => h x h2 h1, fun h x h2 h1 => h x h1 h2⟩⟩

/-- "(in-place and copying forms alike)": a copying form is the in-place form run on a clone, and the clone
has the same items in the same order. -/
theorem inplace_eq_copy (s o : List α) :
    union s o = unionUpdate s o ∧ inter s o = interUpdate s o ∧ diff s o = diffUpdate s o ∧
    symDiff s o = symDiffUpdate s o :=
  ⟨rfl, rfl, rfl, rfl⟩

/-- aliasing `self is other`: the four special-cased branches of the code return what the general loop
(which would mutate a dict while iterating it) denotes at `other = self`, i.e. what set theory says for
`a ∪ a`, `a ∩ a`, `a \ a`, `a △ a`. -/
theorem self_alias_ok (s : List α) (hs : s.Nodup) :
    unionUpdateSelf s = unionUpdate s s ∧ interUpdateSelf s = interUpdate s s ∧
    diffUpdateSelf s = diffUpdate s s ∧ symDiffUpdateSelf s = symDiffUpdate s s :=
  ⟨.symm (by simp [unionUpdate_eq s s hs, unionUpdateSelf]), .symm (by simp [interUpdate_eq s s hs, interUpdateSelf]),
   .symm (by simp [diffUpdate_eq s s hs, diffUpdateSelf]), .symm (by simp [symDiffUpdate_eq s s hs hs, symDiffUpdateSelf])⟩

/-- "equality ignores order": `Set.__eq__` holds exactly when the two sets have the same members. -/
theorem eq_ignores_order (s o : List α) (hs : s.Nodup) (ho : o.Nodup) :
    setEq s o = true ↔ ∀ x, x ∈ s ↔ x ∈ o := by
  -- pigeonhole: were some `x ∈ o` missing from `s`, the duplicate-free `x :: s` would be included in `o` and longer than it
  unfold setEq
  simp only [Bool.and_eq_true, beq_iff_eq, List.all_eq_true, decide_eq_true_eq]
  constructor
  · rintro ⟨hl, hsub⟩ x
    refine ⟨hsub x, fun hx => Classical.byContradiction fun hn => ?_⟩
    have := (List.nodup_cons.2 ⟨hn, hs⟩).length_le_of_subset (List.cons_subset.2 ⟨hx, fun a => hsub a⟩)
    simp only [List.length_cons] at this
    omega
  · intro h
    exact ⟨((List.perm_ext_iff_of_nodup hs ho).2 h).length_eq, fun x => (h x).1⟩

/-- the small mutators: `add` inserts (at the end, only if absent), `discard`/`remove` delete exactly the
item, `remove` refuses an absent item, `pop` returns the most recently inserted item. -/
theorem small_mutators (s : List α) (x y : α) (hs : s.Nodup) :
    (y ∈ add s x ↔ y ∈ s ∨ y = x) ∧ (x ∈ s → add s x = s) ∧ (x ∉ s → add s x = s ++ [x]) ∧
    (y ∈ discard s x ↔ y ∈ s ∧ y ≠ x) ∧ ((remove s x).isSome ↔ x ∈ s) ∧
    (∀ r, pop s = some (y, r) → s = r ++ [y]) := by
  refine ⟨mem_add s x y, ?_, ?_, by rw [SetAlg.discard, hs.mem_erase_iff, and_comm], ?_, fun r h => pop_spec s r y h⟩
  · intro h; simp [add, h]
  · intro h; simp [add, h]
  · unfold remove; split <;> simp_all

/-! ## records (`dns.rdata.Rdata.__eq__`, `__hash__`, `_cmp` over the abstract record) -/

/-- "two records are equal iff they have the same class and type and the same DNSSEC canonical encoding"
(and the same relativity of their embedded names, as coded): the sequence of tests of `__eq__` decides
exactly equality of the four components, i.e. equality of abstract records. -/
theorem rdata_eq_iff (a b : Rd) :
    (rdEq a b = true ↔ a.cls = b.cls ∧ a.typ = b.typ ∧ a.rel = b.rel ∧ a.dig = b.dig) ∧
      (rdEq a b = true ↔ a = b) := by
  have h : rdEq a b = true ↔ a.cls = b.cls ∧ a.typ = b.typ ∧ a.rel = b.rel ∧ a.dig = b.dig := by
    simp [rdEq, and_assoc]
  refine ⟨h, h.trans ?_⟩
  cases a; cases b
  simp

/-- "equal records hash equally", whatever Python's `hash` on bytes is. -/
theorem rdata_hash_congr (H : Bytes → Nat) (a b : Rd) (h : rdEq a b = true) : rdHash H a = rdHash H b := by
  rw [(rdata_eq_iff a b).2.1 h]

/-- "record ordering is canonical RDATA octet order": `_cmp` decides the strict total order "relative records
first, then lexicographic octet order of the canonical encoding" (`rdLt`, stated with core `List.lt`);
the three outcomes are exclusive and exhaustive, `== 0` exactly on equal relativity and encoding, and the
order is transitive. -/
theorem cmp_total_order (a b c : Rd) :
    (rdCmp a b < 0 ↔ rdLt a b) ∧ (rdCmp a b > 0 ↔ rdLt b a) ∧
    (rdCmp a b = 0 ↔ a.rel = b.rel ∧ a.dig = b.dig) ∧
    (rdCmp a b < 0 ↔ rdCmp b a > 0) ∧
    (rdCmp a b < 0 → rdCmp b c < 0 → rdCmp a c < 0) := by
  refine ⟨rdCmp_lt a b, rdCmp_gt a b, rdCmp_eq a b, ?_, ?_⟩
  · rw [rdCmp_lt, rdCmp_gt]
  · intro h1 h2
    exact (rdCmp_lt a c).2 (rdLt_trans ((rdCmp_lt a b).1 h1) ((rdCmp_lt b c).1 h2))

/-! ## record sets (`dns.rdataset.Rdataset`) -/

/-- "A record of a different class, type or covered type is refused": `add` raises `IncompatibleTypes`
leaving the rdataset untouched, resp. `DifferingCovers` leaving records and `covers` untouched. -/
theorem add_refuses (sing : List Nat) (s : Rds) (rd : Rd) (ttl : Option Nat) :
    ((s.cls ≠ rd.cls ∨ s.typ ≠ rd.typ) → rdsAdd sing s rd ttl = (s, some .incompatibleTypes)) ∧
    (s.cls = rd.cls → s.typ = rd.typ → (s.typ = 46 ∨ s.typ = 24) → ¬ (s.items = [] ∧ s.covers = 0) →
      s.covers ≠ rd.covers →
      (rdsAdd sing s rd ttl).2 = some .differingCovers ∧ (rdsAdd sing s rd ttl).1.items = s.items ∧
        (rdsAdd sing s rd ttl).1.covers = s.covers) := by
  refine ⟨rdsAdd_incompatible sing s rd ttl, fun hc ht hsig hne hcov => ?_⟩
  rw [rdsAdd_compatible sing s rd ttl hc ht, mergeTtl_eq]
  simp only [coversStep, List.length_eq_zero_iff]
  rw [if_pos hsig, if_neg hne, if_pos hcov]
  exact ⟨rfl, rfl, rfl⟩

/-- "singleton types keep only the newest record": after a successful `add` of a record of a singleton type
to a non-empty rdataset the rdataset contains exactly that record; for every other type `add` is `Set.add`. -/
theorem singleton_keeps_newest (sing : List Nat) (s : Rds) (rd : Rd) (ttl : Option Nat)
    (hc : s.cls = rd.cls) (ht : s.typ = rd.typ) (hns : ¬ (s.typ = 46 ∨ s.typ = 24)) :
    (rdsAdd sing s rd ttl).2 = none ∧
    (rd.typ ∈ sing → s.items ≠ [] → (rdsAdd sing s rd ttl).1.items = [rd]) ∧
    (rd.typ ∉ sing → (rdsAdd sing s rd ttl).1.items = SetAlg.add s.items rd) := by
  rw [rdsAdd_ok sing s rd ttl hc ht hns, insertStep_eq, mergeTtl_eq]
  refine ⟨rfl, fun h1 h2 => if_pos ⟨h1, List.length_pos_iff.2 h2⟩, fun h1 => if_neg fun h => h1 h.1⟩

/-- the generated singleton set is the one the model is run with; SOA and CNAME are in it (non-vacuity of
`singleton_keeps_newest` against the code's current table) -/
theorem singletons_generated : 5 ∈ Consts.singletons ∧ 6 ∈ Consts.singletons ∧ 1 ∉ Consts.singletons := by
  decide

/-- the singleton table regenerated from `dns.rdatatype._singletons` on every run (and fed to the model the
driver runs) is pinned to the specification, not trusted: exactly CNAME 5 (RFC 1034 §3.6.2, RFC 2181 §10.1),
SOA 6 (RFC 1035, RFC 2181 §6.1), NXT 30 (RFC 2535 §5.1), DNAME 39 (RFC 6672 §2.4) and NSEC 47 (RFC 4035 §2.3) — the
list documented by `is_singleton()`.  A type added to or dropped from the code's table breaks this obligation;
so "singleton types keep only the newest record" is a statement about these five types. -/
theorem singletons_are_rfc : Consts.singletons = [5, 6, 30, 39, 47] := by decide

/-- the types whose records carry a covered type are SIG 24 and RRSIG 46 (RFC 2535 §4.1, RFC 4034 §3.1): the
model's own literal, which `Rdataset.add` is tied to by the correspondence check with signature pools -/
theorem sig_types_are_rfc : sigTypes = [24, 46] := rfl

/-- "the set's TTL is the minimum of the TTLs merged into it", stated over histories exactly as the code
behaves: after any sequence of operations (each possibly raising, binary ones with arbitrary or aliased
operands) on a freshly constructed rdataset, the TTL equals the minimum of the TTLs merged (constructor
argument, `add(…, ttl)`, `update_ttl`, and the other operand's TTL in `union_update`, `intersection_update`,
`update`, `symmetric_difference_update`) since a merge last found the set empty. -/
theorem ttl_is_min (sing : List Nat) (cls typ covers ttl0 : Nat) (ops : List Op) :
    (run sing (rdsNew cls typ covers ttl0, [ttl0]) ops).2 ≠ [] ∧
    (run sing (rdsNew cls typ covers ttl0, [ttl0]) ops).1.ttl =
      minOf (run sing (rdsNew cls typ covers ttl0, [ttl0]) ops).2 :=
  run_ttl sing ops _ _ ⟨by simp, rfl⟩

/-- the overridden update methods refine the `Set` algebra: the rdataset invariant (duplicate-free, all
records of the set's class and type) is kept by `add` and by the loops over `add` whatever the outcome, and
for a type that is neither a singleton nor a signature, `union_update`/`update` with records of the same
class and type is `Set.union_update` on the items (plus the TTL merge), so `ops_closed_form` and `mem_laws`
apply to rdatasets. -/
theorem rds_refines_set (sing : List Nat) (s o : Rds) (rd : Rd) (ttl : Option Nat) (hs : WfRds s) :
    WfRds (rdsAdd sing s rd ttl).1 ∧ WfRds (rdsUnionUpdate sing s o false).1 ∧ WfRds (rdsUpdate sing s o).1 ∧
    (s.typ ∉ sing → ¬ (s.typ = 46 ∨ s.typ = 24) → (∀ r ∈ o.items, r.cls = s.cls ∧ r.typ = s.typ) →
      rdsUnionUpdate sing s o false =
        ({ updateTtl s o.ttl with items := SetAlg.unionUpdate s.items o.items }, none)) := by
  have hw1 := updateTtl_wf s o.ttl hs
  refine ⟨rdsAdd_wf sing s rd ttl hs, rdsAddAll_wf sing _ _ hw1, rdsAddAll_wf sing _ _ hw1, ?_⟩
  intro h1 h2 h3
  simp only [rdsUnionUpdate, Bool.false_eq_true, if_false]
  rw [updateTtl_eq]
  exact rdsAddAll_refines sing _ o.items h1 h2 h3

/-- every in-place operation of a (mutable) rdataset object — `add`, `update_ttl`, `remove`, `discard`, `pop`,
`clear`, index and slice deletion, the four `*_update` methods, `update` and `-=`, with any other operand,
aliased or not, raising or not — and every history of them keeps the rdataset duplicate-free with records of
its own class and type ("duplicates collapse" for the whole `Rdataset` surface, not only for `Set`). -/
theorem rdataset_ops_keep_invariant (sing : List Nat) (h : List (InPlace × Rds × Bool)) (r : Reg)
    (hw : WfRds r.s) : WfRds (regRun sing r h).s := by
  induction h generalizing r with
  | nil => exact hw
  | cons x rest ih =>
    obtain ⟨op, o, al⟩ := x
    apply ih
    by_cases hi : r.imm = true
    · rw [regApply_imm_fst sing r hi]; exact hw
    · unfold regApply
      rw [if_neg hi]
      exact mutApply_wf sing r.s op o al hw

/-- "ImmutableRdataset: mutators raise, functional ops return new immutable sets", in the model the driver
runs: an in-place operation on an immutable rdataset object leaves it exactly as it is and reports the error
`immutable` — except `difference_update` with an empty, distinct argument, which performs no write and
returns normally; so does every history of in-place operations; wrapping copies the value; and a copying
form on an immutable object computes what it computes on a mutable object of the same value, returning an
immutable result. -/
theorem immutable_rdataset (sing : List Nat) (s o : Rds) (op : InPlace) (alias : Bool)
    (h : List (InPlace × Rds × Bool)) (kind : Nat) :
    (regApply sing ⟨s, true⟩ op o alias).1 = ⟨s, true⟩ ∧
    ((regApply sing ⟨s, true⟩ op o alias).2 = some .immutable ∨
      ((regApply sing ⟨s, true⟩ op o alias).2 = none ∧ alias = false ∧ o.items = [])) ∧
    regRun sing ⟨s, true⟩ h = ⟨s, true⟩ ∧
    regFreeze ⟨s, false⟩ = ⟨s, true⟩ ∧
    (regFun sing ⟨s, true⟩ kind o).1.imm = true ∧
    (regFun sing ⟨s, true⟩ kind o).1.s = (regFun sing ⟨s, false⟩ kind o).1.s ∧
    (regFun sing ⟨s, true⟩ kind o).2 = (regFun sing ⟨s, false⟩ kind o).2 := by
  refine ⟨regApply_imm_fst sing ⟨s, true⟩ rfl op o alias, ?_, regRun_imm sing s h, rfl, rfl, rfl, rfl⟩
  unfold regApply
  simp only [if_true]
  cases op <;> try exact Or.inl rfl
  by_cases c : (!alias && o.items.isEmpty) = true
  · right
    simp only [c, if_true, true_and]
    simp only [Bool.and_eq_true, Bool.not_eq_true', List.isEmpty_iff] at c
    exact c
  · left
    simp [c]

/-- **partial (enumeration, not proof)**: "Names and records are immutable values (no attribute can be
rebound and no field is a mutable container)" and "ImmutableRdataset: mutators raise".  The finite surface
(every immutable class × every slot × setattr/delattr, field carrier types of every specimen, every mutator
of ImmutableRdataset and of dns.immutable.Dict) is enumerated from the imported code on every run into
`Generated/C07.lean`; this obligation fails as soon as one entry of the regenerated table is bad. -/
theorem immutability_surface_partial :
    ConstsC07.surface.all (fun e => e.2.2.2) = true ∧ ConstsC07.surface.length > 500 ∧
      ConstsC07.classesProbed ≥ 60 := by
  decide +kernel

/-! ## non-vacuity -/
example : unionUpdate [3, 1, 2] [2, 5, 1, 4] = [3, 1, 2, 5, 4] ∧ interUpdate [3, 1, 2] [2, 5, 1] = [1, 2] ∧
    diffUpdate [3, 1, 2] [2, 5] = [3, 1] ∧ symDiffUpdate [3, 1, 2] [2, 5, 1, 4] = [3, 5, 4] := by decide +kernel
example : setEq [1, 2, 3] [3, 1, 2] = true ∧ setEq [1, 2] [1, 3] = false := by decide +kernel
example : ([3, 1, 2] : List Nat).Nodup := by decide +kernel
-- a CNAME rdataset keeps only the newest record, and its TTL is the minimum merged since it was last empty
example : (run Consts.singletons (rdsNew 1 5 0 300, [300])
    [.add ⟨1, 5, false, [1]⟩ (some 100), .add ⟨1, 5, false, [2]⟩ (some 500)]).1 =
      { cls := 1, typ := 5, covers := 0, ttl := 100, items := [⟨1, 5, false, [2]⟩] } := by decide +kernel
-- an RRSIG covering NS is refused by an rdataset of RRSIGs covering A
example : (rdsAdd Consts.singletons { cls := 1, typ := 46, covers := 1, ttl := 5, items := [⟨1, 46, false, [0, 1, 9]⟩] }
    ⟨1, 46, false, [0, 2, 9]⟩ none).2 = some .differingCovers := by decide +kernel
-- an ImmutableRdataset refuses add and |=, accepts `difference_update(empty)`, and its union is immutable
example : (regApply Consts.singletons ⟨{ cls := 1, typ := 1, covers := 0, ttl := 5, items := [⟨1, 1, false, [1]⟩] }, true⟩
      (.add ⟨1, 1, false, [2]⟩ none) (rdsNew 1 1 0 0) false).2 = some .immutable ∧
    (regApply Consts.singletons ⟨rdsNew 1 1 0 5, true⟩ .diffUpdate (rdsNew 1 1 0 0) false).2 = none ∧
    (regFun Consts.singletons ⟨{ cls := 1, typ := 1, covers := 0, ttl := 5, items := [⟨1, 1, false, [1]⟩] }, true⟩ 0
      { cls := 1, typ := 1, covers := 0, ttl := 3, items := [⟨1, 1, false, [2]⟩] }).1 =
      ⟨{ cls := 1, typ := 1, covers := 0, ttl := 3, items := [⟨1, 1, false, [1]⟩, ⟨1, 1, false, [2]⟩] }, true⟩ := by decide +kernel
-- relative records sort first; otherwise octet order with the shorter encoding first
example : rdLt ⟨1, 15, true, [9]⟩ ⟨1, 15, false, [0]⟩ ∧ rdLt ⟨1, 16, false, [1]⟩ ⟨1, 16, false, [1, 0]⟩ := by
  unfold rdLt; decide +kernel

end C07
