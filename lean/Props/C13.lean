import Proofs.XfrFault
import Proofs.XfrWire
/-!
# C13 — Inbound AXFR/IXFR converges to the server's zone or leaves the zone untouched

Theorems of record about `Model.Xfr` (the model of `dns/xfr.py` `Inbound` driven by the message loop of
`dns.query._inbound_xfr`).  `run true c z0 msgs` is what a caller of the code **as it is** observes after
`with Inbound(...) as inbound: for each message until done: inbound.process_message(m)`: the exception
(if any) and the zone afterwards.  (`run false` is the same loop without the look-ahead that refuses
surplus rrsets before committing — the code before commit 3feda1c; it only appears in
`repair_changed_only_d11` and `before_repair_surplus_was_committed`, the record of what the repair changed.)
Zones are sets of records `(owner, type, rdata, ttl)` compared by `≃z`: "equal to the server's target
version" includes the TTLs.  Versions are coherent zones (`Coherent`: one TTL per rrset, a CNAME never next
to other data, one rdata per singleton type), which is what makes the model's `put` — with the CNAME
exclusion of `dns.node` and the TTL/singleton rules of `dns.rdataset` — act as plain set insertion.

* convergence: `axfr_converges`, `axfr_ignores_serial`, `axfr_converges_with_out_of_zone`, `ixfr_converges`, `ixfr_denotes`, `axfr_style_ixfr`, `up_to_date_noop`,
  `udp_ixfr`, `usetcp_retry_converges` (+ `query_of_zone`, `query_of_supplied`, `udp_outcome_final`);
* atomicity: `error_implies_unapplied` (unconditional), `early_exit_leaves_zone`, `exit_never_commits`; `repair_changed_only_d11`,
  `before_repair_surplus_was_committed` (historical record);
* `fault_unchanged`, as a family over accepted streams / well-formed responses (`IxfrAt`), every position,
  every chunking: `fault_truncate`, `fault_header` (+`_rcode`, `_question`), `fault_surplus_after_final_soa`,
  `fault_first_not_apex_soa`, `fault_wrong_base_serial`, `fault_backwards_serial`, `fault_use_tcp`, `fault_udp_incomplete`,
  `fault_duplicate_deletion`, `fault_addition_in_delete_mode` (add-start SOA dropped / swapped with the first
  addition), `fault_drop_delstart_soa` (dropped or type-corrupted), `fault_drop_first_delstart_soa_nodels`,
  `fault_drop_first_delstart_soa_dels`, `drop_first_delstart_soa_single_step`, `drop_addstart_soa_without_additions`,
  `fault_drop_first_soa_ixfr`, `fault_nonapex_soa_in_add_mode`, `fault_nonapex_soa_in_delete_mode`,
  `fault_axfr_nonapex_soa`;
* undetectable faults, result = what the stream denotes: `fault_drop_axfr_record_denotes`,
  `fault_drop_deletion_denotes`, `fault_swap_deletion_across_boundary`;
* through wire format: `wire_keeps_order_from_soa`, `wire_ixfr_one_rr`, `ixfr_wire_converges`,
  `axfr_wire_converges`;
* `consts_ok`, `serialLt_asymm`, `serialLt_ahead`, `extract_of_make`.
-/
namespace C13
open Model.Xfr

/-- the type codes and tables the model is instantiated with are the ones the code has now -/
theorem consts_ok : ConstsC13.soa = soaType ∧ ConstsC13.axfr = axfrType ∧ ConstsC13.ixfr = ixfrType ∧
    kindOf soaType = .regular ∧ isSingleton soaType = true ∧ kindOf 5 = .cname ∧ isSingleton 5 = true ∧
    kindOf (46 + 65536 * 5) = .cname ∧ kindOf 47 = .neutral ∧ kindOf 1 = .regular := by
  decide

/-- **AXFR converges.**  "Feeding an inbound transfer any valid AXFR … response stream (… any division of
the record stream into messages) leaves the zone equal to the server's target version with its serial."
For every coherent version `v` (TTLs and CNAMEs included), every zone content before, every division of
`SOA, body, SOA` into messages. -/
theorem axfr_converges (o : Name) (v : Version) (z0 : Zone) (ser : Option Nat) (msgs : List Msg)
    (hb : BodyOk o v.body) (hco : Coherent (zoneOf o v))
    (hc : Chunks ⟨some o, axfrType, ser, false⟩ (axfrStream o v) msgs) :
    (run true ⟨some o, axfrType, ser, false⟩ z0 msgs).err = none ∧
      (run true ⟨some o, axfrType, ser, false⟩ z0 msgs).zone ≃z zoneOf o v ∧
      (run true ⟨some o, axfrType, ser, false⟩ z0 msgs).zone.serial o = some v.soa.rdata.serial :=
  run_converges rfl (axfr_flat o v z0 ser hb hco) hb hc

/-- **AXFR with glue outside the zone converges to the part of the version that belongs to the zone**:
"Ignore glue that is not a subdomain of the origin" — rrsets whose owner is outside the zone may sit
anywhere in the body (any division into messages); they are skipped and the zone ends as the in-zone part
of what the server sent, with its serial. -/
theorem axfr_converges_with_out_of_zone (o : Name) (v : Version) (z0 : Zone) (ser : Option Nat) (msgs : List Msg)
    (hb : BodyOkOoz v.body) (hco : Coherent (zoneOf o ⟨v.soa, inZone o v.body⟩))
    (hc : Chunks ⟨some o, axfrType, ser, false⟩ (axfrStream o v) msgs) :
    (run true ⟨some o, axfrType, ser, false⟩ z0 msgs).err = none ∧
      (run true ⟨some o, axfrType, ser, false⟩ z0 msgs).zone ≃z zoneOf o ⟨v.soa, inZone o v.body⟩ ∧
      (run true ⟨some o, axfrType, ser, false⟩ z0 msgs).zone.serial o = some v.soa.rdata.serial :=
  run_converges (v := ⟨v.soa, inZone o v.body⟩) rfl (axfr_flat_ooz o v z0 ser hb hco) (bodyOk_inZone hb) hc

/-- **An AXFR is unconditional: it ignores any serial handed to `Inbound`.**  Whatever serial the caller
passes with `rdtype=AXFR` — its local one, `0` as the classic `dns.query.xfr` route always does, one equal
to, behind (RFC 1982) or more than 2^31 away from the server's — exception and zone are those of
`serial=None`, for every sequence of messages; so `axfr_converges` and every AXFR fault theorem hold for
every `ser`. -/
theorem axfr_ignores_serial (origin : Option Name) (ser : Option Nat) (udp : Bool) (z0 : Zone) (msgs : List Msg) :
    run true ⟨origin, axfrType, ser, udp⟩ z0 msgs = run true ⟨origin, axfrType, none, udp⟩ z0 msgs :=
  run_axfr_serial true origin ser udp z0 msgs

/-- **IXFR converges**, chains of any length, any division into messages.  `v0 :: vs` is the chain of zone
versions from the one we hold to the server's current one; the response carries, per RFC 1995, the
difference sequences between consecutive versions (on records with their TTLs: an rrset whose TTL changes
is deleted and added again; an A replaced by a CNAME is deleted, then the CNAME added).  Side conditions:
the versions are servable, no older version carries the final SOA, the server is not behind us (RFC 1982). -/
theorem ixfr_converges (o : Name) (v0 : Version) (vs : List Version) (z0 : Zone) (msgs : List Msg)
    (hne : vs ≠ []) (hz0 : z0 ≃z zoneOf o v0) (hv0 : WfVersion o v0) (hvs : ∀ v ∈ vs, WfVersion o v)
    (hdist : ∀ v ∈ (v0 :: vs).dropLast, v.soa.rdata ≠ (lastVersion v0 vs).soa.rdata)
    (hs1 : (lastVersion v0 vs).soa.rdata.serial ≠ v0.soa.rdata.serial)
    (hs2 : serialLt (lastVersion v0 vs).soa.rdata.serial v0.soa.rdata.serial = false)
    (hc : Chunks ⟨some o, ixfrType, some v0.soa.rdata.serial, false⟩ (ixfrStream o v0.soa (diffSteps v0 vs)) msgs) :
    (run true ⟨some o, ixfrType, some v0.soa.rdata.serial, false⟩ z0 msgs).err = none ∧
      (run true ⟨some o, ixfrType, some v0.soa.rdata.serial, false⟩ z0 msgs).zone ≃z zoneOf o (lastVersion v0 vs) ∧
      (run true ⟨some o, ixfrType, some v0.soa.rdata.serial, false⟩ z0 msgs).zone.serial o =
        some (lastVersion v0 vs).soa.rdata.serial :=
  run_converges rfl (ixfr_versions_flat o v0 vs z0 false hne hz0 hv0 hvs hdist hs1 hs2)
    (wf_lastVersion vs v0 hv0 hvs).body hc

/-- **What an IXFR stream denotes.**  For *any* difference sequences (not only the ones a correct server
computes) that can be applied — deletions name present records once, additions are data of the zone, the
zones passed through are coherent — the transfer completes and the zone is exactly what applying the
sequences to the zone before gives, under the final SOA.  (A server that omits a deletion, or a stream in
which a record moved across the delete/add boundary, is believed: the result is the zone the stream
denotes, which need not be the server's.) -/
theorem ixfr_denotes (o : Name) (cur : Soa) (steps : List Step) (z0 : Zone) (msgs : List Msg) (hne : steps ≠ [])
    (hs1 : (lastSoa cur steps).rdata.serial ≠ cur.rdata.serial)
    (hs2 : serialLt (lastSoa cur steps).rdata.serial cur.rdata.serial = false)
    (hc0 : Coherent z0) (hok : StepsOk o (lastSoa cur steps) cur z0 steps)
    (hc : Chunks ⟨some o, ixfrType, some cur.rdata.serial, false⟩ (ixfrStream o cur steps) msgs) :
    (run true ⟨some o, ixfrType, some cur.rdata.serial, false⟩ z0 msgs).err = none ∧
      (run true ⟨some o, ixfrType, some cur.rdata.serial, false⟩ z0 msgs).zone ≃z
        putSoa o (applyAll o z0 steps) (lastSoa cur steps) :=
  (ixfr_flat o cur steps z0 false hne hs1 hs2 hc0 hok).run rfl hc

/-- **AXFR-style answer to an IXFR request** ("AXFR-style answers to an IXFR request"): the increments
collected so far are rolled back, a replacement transaction takes the full zone. -/
theorem axfr_style_ixfr (o : Name) (v : Version) (z0 : Zone) (b : Nat) (msgs : List Msg)
    (hb : BodyOk o v.body) (hco : Coherent (zoneOf o v)) (hne : v.body ≠ [])
    (hs1 : v.soa.rdata.serial ≠ b) (hs2 : serialLt v.soa.rdata.serial b = false)
    (hc : Chunks ⟨some o, ixfrType, some b, false⟩ (axfrStream o v) msgs) :
    (run true ⟨some o, ixfrType, some b, false⟩ z0 msgs).err = none ∧
      (run true ⟨some o, ixfrType, some b, false⟩ z0 msgs).zone ≃z zoneOf o v ∧
      (run true ⟨some o, ixfrType, some b, false⟩ z0 msgs).zone.serial o = some v.soa.rdata.serial :=
  run_converges rfl (axfr_style_flat o v z0 b hb hco hne hs1 hs2) hb hc

/-- **The already-up-to-date answer** leaves the zone as it is and raises nothing (TCP or UDP). -/
theorem up_to_date_noop (o : Name) (z0 : Zone) (d : Soa) (udp : Bool) (m : Msg) (more : List Msg)
    (hh : headerErrOf o ixfrType m = none) (ha : m.answer = [soaRR o d]) :
    run true ⟨some o, ixfrType, some d.rdata.serial, udp⟩ z0 (m :: more) = ⟨none, z0⟩ :=
  run_first_done (start_ixfr o _ udp z0) hh ha (by rw [firstSoa_ixfr, if_pos rfl]) rfl

/-- **UDP IXFR**: the whole response in one datagram converges like the TCP one. -/
theorem udp_ixfr (o : Name) (v0 : Version) (vs : List Version) (z0 : Zone) (m : Msg)
    (hne : vs ≠ []) (hz0 : z0 ≃z zoneOf o v0) (hv0 : WfVersion o v0) (hvs : ∀ v ∈ vs, WfVersion o v)
    (hdist : ∀ v ∈ (v0 :: vs).dropLast, v.soa.rdata ≠ (lastVersion v0 vs).soa.rdata)
    (hs1 : (lastVersion v0 vs).soa.rdata.serial ≠ v0.soa.rdata.serial)
    (hs2 : serialLt (lastVersion v0 vs).soa.rdata.serial v0.soa.rdata.serial = false)
    (hc : Chunks ⟨some o, ixfrType, some v0.soa.rdata.serial, true⟩ (ixfrStream o v0.soa (diffSteps v0 vs)) [m]) :
    (run true ⟨some o, ixfrType, some v0.soa.rdata.serial, true⟩ z0 [m]).err = none ∧
      (run true ⟨some o, ixfrType, some v0.soa.rdata.serial, true⟩ z0 [m]).zone ≃z zoneOf o (lastVersion v0 vs) := by
  obtain ⟨s', hf, hd, hz⟩ := ixfr_versions_flat o v0 vs z0 true hne hz0 hv0 hvs hdist hs1 hs2
  rw [run_repaired, run_udp rfl hc (by simp [ixfrStream]), hf]
  simpa [hd, repaired] using hz

/-- **UseTCP**: the truncated UDP answer (a lone, newer SOA) raises `UseTCP`; the zone is as it was. -/
theorem fault_use_tcp (o : Name) (z0 : Zone) (d : Soa) (b : Nat) (m : Msg) (more : List Msg)
    (hh : headerErrOf o ixfrType m = none) (ha : m.answer = [soaRR o d])
    (hs1 : d.rdata.serial ≠ b) (hs2 : serialLt d.rdata.serial b = false) :
    run true ⟨some o, ixfrType, some b, true⟩ z0 (m :: more) = ⟨some .UseTCP, z0⟩ :=
  run_first_err (z := z0) (start_ixfr o b true z0) hh ha (by simp [firstSoa_ixfr, hs1, hs2])

/-- **A UDP IXFR that ends early**: the datagram carries only the first `k` records (`2 ≤ k`, short of the
whole) of a response the machine would accept: `FormError` (unexpected end of UDP IXFR), zone exactly as
before.  (`k = 1`, the lone SOA, is the truncated answer: `fault_use_tcp`.) -/
theorem fault_udp_incomplete (c : Config) (z0 : Zone) (recs : List RRset) (k : Nat) (m : Msg)
    (hu : c.isUdp = true) (hacc : Accepted c z0 recs) (hk2 : 2 ≤ k) (hk : k < recs.length)
    (hc : Chunks c (recs.take k) [m]) :
    run true c z0 [m] = ⟨some .FormError, z0⟩ := by
  obtain ⟨s', hf, _⟩ := hacc
  obtain ⟨s'', h2, hd2⟩ := flatRun_take k hf (by omega) hk
  rw [run_repaired, run_udp hu hc (by rw [List.length_take]; omega), h2]
  simp [hd2, repaired]

/-- **Serial going backwards** (RFC 1982): raises `SerialWentBackwards`, whatever follows; zone as it was. -/
theorem fault_backwards_serial (o : Name) (z0 : Zone) (d : Soa) (b : Nat) (udp : Bool) (m : Msg)
    (rest : List RRset) (more : List Msg) (hh : headerErrOf o ixfrType m = none)
    (ha : m.answer = soaRR o d :: rest) (hs1 : d.rdata.serial ≠ b) (hs2 : serialLt d.rdata.serial b = true) :
    run true ⟨some o, ixfrType, some b, udp⟩ z0 (m :: more) = ⟨some .SerialWentBackwards, z0⟩ :=
  run_first_err (z := z0) (start_ixfr o b udp z0) hh ha (by simp [firstSoa_ixfr, hs1, hs2])

/-- **An error is never reported for a transfer that was applied.**  The code as it is, every
configuration, every sequence of messages whatsoever (valid, faulty, adversarial): if anything is raised,
the zone is exactly the zone before. -/
theorem error_implies_unapplied (c : Config) (z0 : Zone) (msgs : List Msg) (e : XErr)
    (h : (run true c z0 msgs).err = some e) : (run true c z0 msgs).zone = z0 := by
  rw [run_fix_atomic h]

/-- **Leaving early leaves the zone.**  `Inbound` driven directly as a context manager
(`with Inbound(...) as inbound: for m in msgs: if inbound.process_message(m): break`), by any caller, fed
any messages whatsoever, the block left normally (the caller just stops feeding — after the first SOA, in
the middle of an AXFR, between or inside IXFR difference sequences), by an exception of the caller's own,
or by one of `process_message`: unless a `process_message` call returned `True`, the zone afterwards is
exactly the zone before — `__exit__` rolls the open transaction back, it never commits it. -/
theorem early_exit_leaves_zone (c : Config) (z0 : Zone) (msgs : List Msg) (callerRaises : Bool)
    (h : (drive true c z0 msgs callerRaises).done = false) : (drive true c z0 msgs callerRaises).zone = z0 := by
  unfold drive at h ⊢
  cases hs : Inbound.init c.origin z0 c.rdtype c.serial c.isUdp with
  | error e' => rfl
  | ok s =>
    have hz : s.zone = z0 := (Pending.of_init hs).1.zone
    have p := feedLoop_post (msgs := msgs) (s := s)
    rw [hs] at h
    dsimp only at h ⊢
    cases h1 : feedLoop true s msgs with
    | error ez => rw [h1] at p; exact p.trans hz
    | ok s' =>
      rw [h1] at p h
      dsimp only at h ⊢
      rw [exit_zone]
      exact (Later.open_ p h).2.1.trans hz

/-- … and `__exit__` itself: whatever state the machine is in and whether or not an exception is in flight,
the committed zone is what it was (an open transaction is rolled back, not committed) -/
theorem exit_never_commits (s : Inbound) (excInFlight : Bool) : s.exit excInFlight = s.zone :=
  exit_zone s excInFlight

/-- What commit 3feda1c changed, and nothing else: the loop without the look-ahead behaves identically,
except that where the code now raises `FormError` with the zone untouched it may have raised that
`FormError` after committing. -/
theorem repair_changed_only_d11 (c : Config) (z0 : Zone) (msgs : List Msg) :
    run false c z0 msgs = run true c z0 msgs ∨
      ((run false c z0 msgs).err = some .FormError ∧ run true c z0 msgs = ⟨some .FormError, z0⟩) := by
  rcases run_variants c z0 msgs with eq | ⟨hf, ht⟩
  · exact Or.inl eq
  · exact Or.inr ⟨hf, run_fix_atomic ht⟩

/-! ## explicit fault transformers on accepted streams

`Accepted c z0 recs`: the machine, fed `recs` flat over TCP, completes.  Every valid stream is accepted
(`axfr_accepted`, `ixfr_accepted`, `axfr_style_accepted`), so the theorems below speak about every valid
AXFR, IXFR and AXFR-style stream, every division into messages, and the fault at every position. -/

theorem axfr_accepted (o : Name) (v : Version) (z0 : Zone) (ser : Option Nat) (hb : BodyOk o v.body)
    (hco : Coherent (zoneOf o v)) : Accepted ⟨some o, axfrType, ser, false⟩ z0 (axfrStream o v) :=
  (axfr_flat o v z0 ser hb hco).accepted

theorem axfr_style_accepted (o : Name) (v : Version) (z0 : Zone) (b : Nat) (hb : BodyOk o v.body)
    (hco : Coherent (zoneOf o v)) (hne : v.body ≠ []) (hs1 : v.soa.rdata.serial ≠ b)
    (hs2 : serialLt v.soa.rdata.serial b = false) :
    Accepted ⟨some o, ixfrType, some b, false⟩ z0 (axfrStream o v) :=
  (axfr_style_flat o v z0 b hb hco hne hs1 hs2).accepted

theorem ixfr_accepted (o : Name) (v0 : Version) (vs : List Version) (z0 : Zone)
    (hne : vs ≠ []) (hz0 : z0 ≃z zoneOf o v0) (hv0 : WfVersion o v0) (hvs : ∀ v ∈ vs, WfVersion o v)
    (hdist : ∀ v ∈ (v0 :: vs).dropLast, v.soa.rdata ≠ (lastVersion v0 vs).soa.rdata)
    (hs1 : (lastVersion v0 vs).soa.rdata.serial ≠ v0.soa.rdata.serial)
    (hs2 : serialLt (lastVersion v0 vs).soa.rdata.serial v0.soa.rdata.serial = false) :
    Accepted ⟨some o, ixfrType, some v0.soa.rdata.serial, false⟩ z0 (ixfrStream o v0.soa (diffSteps v0 vs)) :=
  (ixfr_versions_flat o v0 vs z0 false hne hz0 hv0 hvs hdist hs1 hs2).accepted

/-- **Ends early / truncated / final SOA dropped**: only the first `k` records of an accepted stream
arrive (any `k` short of the whole, any division into messages): the run raises (end of stream) and the
zone is exactly the zone before. -/
theorem fault_truncate (c : Config) (z0 : Zone) (recs : List RRset) (k : Nat) (msgs : List Msg)
    (hu : c.isUdp = false) (hacc : Accepted c z0 recs) (hk : k < recs.length)
    (hc : Chunks c (recs.take k) msgs) :
    run true c z0 msgs = ⟨some .EOF, z0⟩ := by
  obtain ⟨s', hf, _⟩ := hacc
  cases k with
  | zero =>
    obtain ⟨_, s, st⟩ := Start.of_flatRun hf
    cases msgs with
    | nil => rw [st.run_eq, runLoop, st.zone]; rfl
    | cons m ms =>
      have h := hc.flat
      simp only [List.take_zero, List.flatMap_cons, List.append_eq_nil_iff] at h
      exact absurd h.1 (hc.first m rfl)
  | succ k =>
    obtain ⟨s'', h2, hd2⟩ := flatRun_take (k + 1) hf (by omega) hk
    exact run_of_flat_open hu hc h2 hd2

/-- **Non-zero rcode / wrong question** on any message of any division of an accepted stream (a message
that is read: records are still due when it arrives): the run raises `TransferError` resp. `FormError`
and the zone is exactly the zone before. -/
theorem fault_header (c : Config) (o : Name) (z0 : Zone) (recs : List RRset)
    (pre post : List Msg) (m m' : Msg) (e : XErr)
    (hu : c.isUdp = false) (ho : c.origin = some o) (hacc : Accepted c z0 recs)
    (hc : Chunks c recs (pre ++ m :: post)) (htail : (m :: post).flatMap (·.answer) ≠ [])
    (he : headerErrOf o c.rdtype m' = some e) :
    run true c z0 (pre ++ m' :: post) = ⟨some e, z0⟩ := by
  obtain ⟨s', hf, _⟩ := hacc
  obtain ⟨s2, _, p2, _, hX⟩ := run_tcp_prefix hu hc hf htail
  rw [run_repaired, hX, runLoop_header_err (by rw [p2.headerErr_eq ho]; exact he)]; rfl

/-- the two header faults are instances: -/
theorem fault_header_rcode (o : Name) (t : Nat) (m : Msg) (h : m.rcode ≠ 0) :
    headerErrOf o t m = some .TransferError := by
  simp [headerErrOf, h]

theorem fault_header_question (o : Name) (t : Nat) (m : Msg) (q : Name × Nat) (rest : List (Name × Nat))
    (hr : m.rcode = 0) (hq : m.question = q :: rest) (hbad : q.1 ≠ o ∨ q.2 ≠ t) :
    headerErrOf o t m = some .FormError := by
  unfold headerErrOf
  rw [hq]
  rcases hbad with h | h
  · simp [hr, h]
  · by_cases h1 : q.1 = o <;> simp [hr, h, h1]

/-- **Surplus after the final SOA in the same message** (any division of an accepted stream, any rrsets
appended to the message that holds the final SOA): `FormError`, zone exactly as before. -/
theorem fault_surplus_after_final_soa (c : Config) (z0 : Zone) (recs : List RRset) (pre : List Msg) (m : Msg)
    (extra : List RRset) (hu : c.isUdp = false) (hacc : Accepted c z0 recs)
    (hc : Chunks c recs (pre ++ [m])) (hm : m.answer ≠ []) (hx : extra ≠ []) :
    run true c z0 (pre ++ [{ m with answer := m.answer ++ extra }]) = ⟨some .FormError, z0⟩ := by
  obtain ⟨s', hf, hd⟩ := hacc
  rw [run_repaired, run_surplus_shipped hu hc hf hd hm hx]; rfl

/-- … which is the defect D11 the repair removed: before it, the same `FormError` was raised *after* the
transfer had been committed (the zone was the target). -/
theorem before_repair_surplus_was_committed (c : Config) (z0 : Zone) (recs : List RRset) (pre : List Msg) (m : Msg)
    (extra : List RRset) (s' : Inbound) (hu : c.isUdp = false) (hf : flatRun c z0 recs = .ok s') (hd : s'.done = true)
    (hc : Chunks c recs (pre ++ [m])) (hm : m.answer ≠ []) (hx : extra ≠ []) :
    run false c z0 (pre ++ [{ m with answer := m.answer ++ extra }]) = ⟨some .FormError, s'.zone⟩ :=
  run_surplus_shipped hu hc hf hd hm hx

/-- **The first rrset is not the apex SOA** (first SOA dropped from an AXFR, swapped with the record after
it, its owner or type corrupted — AXFR or IXFR): `FormError`, zone exactly as before. -/
theorem fault_first_not_apex_soa (c : Config) (o : Name) (z0 : Zone) (s0 : Inbound) (m0 : Msg) (ms : List Msg)
    (rr0 : RRset) (rest0 : List RRset) (ho : c.origin = some o)
    (hi : Inbound.init c.origin z0 c.rdtype c.serial c.isUdp = .ok s0)
    (hh : headerErrOf o c.rdtype m0 = none) (ha : m0.answer = rr0 :: rest0)
    (hns : rr0.rdtype ≠ soaType ∨ rr0.owner ≠ o) :
    run true c z0 (m0 :: ms) = ⟨some .FormError, z0⟩ := by
  have st := Start.of_init hi
  have hso : (openTxn s0).origin = o := by have := st.origin; rw [ho] at this; cases this; rfl
  exact run_first_err (z := z0) st (by rw [st.headerErr_eq ho]; exact hh) ha
    (by rw [firstSoa_not_apex (hso ▸ hns), st.zone])

/-! ## faults at an arbitrary position of an IXFR response

`IxfrAt o cur pre st post z0`: a well-formed response (difference sequences `pre ++ st :: post`) for the
zone `z0` with SOA `cur`, looked at its sequence `st`.  `dn` below is the server's final SOA.  Every
theorem holds for every division of the faulty stream into messages (`Chunks`). -/

/-- every difference sequence of every valid chain of versions is such a place: the fault theorems below
speak about every valid IXFR response -/
theorem ixfrAt_of_versions (o : Name) (v0 : Version) (pre : List Version) (b : Version) (post : List Version)
    (z0 : Zone) (hz0 : z0 ≃z zoneOf o v0) (hv0 : WfVersion o v0) (hvs : ∀ v ∈ pre ++ b :: post, WfVersion o v)
    (hdist : ∀ v ∈ (v0 :: (pre ++ b :: post)).dropLast, v.soa.rdata ≠ (lastVersion v0 (pre ++ b :: post)).soa.rdata)
    (hs1 : (lastVersion v0 (pre ++ b :: post)).soa.rdata.serial ≠ v0.soa.rdata.serial)
    (hs2 : serialLt (lastVersion v0 (pre ++ b :: post)).soa.rdata.serial v0.soa.rdata.serial = false) :
    IxfrAt o v0.soa (diffSteps v0 pre) (diffStep (lastVersion v0 pre) b) (diffSteps b post) z0 :=
  (IxfrAt.of_versions v0 pre b post z0 hz0 hv0 hvs hdist hs1 hs2).1

/-- **A deletion sent twice**, in any difference sequence, at any position `j`: the second copy cannot be
exact — `DeleteNotExact`, zone exactly as before. -/
theorem fault_duplicate_deletion (o : Name) (cur : Soa) (pre : List Step) (st : Step) (post : List Step) (z0 : Zone)
    (j : Nat) (d : RR) (tail : List RRset) (msgs : List Msg)
    (h : IxfrAt o cur pre st post z0) (hj : st.dels[j]? = some d)
    (hc : Chunks ⟨some o, ixfrType, some cur.rdata.serial, false⟩
      (soaRR o (lastSoa cur (pre ++ st :: post)) ::
        ((ixfrSteps o cur pre ++ (soaRR o (lastSoa cur pre) :: (st.dels.take (j + 1)).map single)) ++ single d :: tail))
      msgs) :
    run true ⟨some o, ixfrType, some cur.rdata.serial, false⟩ z0 msgs = ⟨some .DeleteNotExact, z0⟩ := by
  obtain ⟨hcW, hdel, _⟩ := h.here
  obtain ⟨x1, hf, q1⟩ := h.in_dels false (List.take_sublist (j + 1) st.dels)
  have hdm : d ∈ st.dels.take (j + 1) := List.mem_iff_getElem?.2 ⟨j, by simp [hj]⟩
  have hdd := hdel d (List.mem_of_mem_take hdm)
  exact run_of_flat_raises rfl hf rfl
    (mid_del_absent hdd.1 hdd.2.1 q1 hcW (fun q hq => ((mem_delAll _ _ _).1 hq).1) hdd.2.2
      fun hq => ((mem_delAll _ _ _).1 hq).2 hdm) hc

/-- **An addition arriving while the deletions are still being read** — the SOA that separates the two
halves of a difference sequence was dropped, or swapped with the first addition: a record that is not in
the zone cannot be deleted, `DeleteNotExact`, zone exactly as before.  (`hfresh`: the record is new with
respect to a coherent zone `W` that holds the version being edited; for a server's own differences,
`W` is the next version.) -/
theorem fault_addition_in_delete_mode (o : Name) (cur : Soa) (pre : List Step) (st : Step) (post : List Step)
    (z0 : Zone) (a : RR) (W : Zone) (tail : List RRset) (msgs : List Msg)
    (h : IxfrAt o cur pre st post z0) (ha : a ∈ st.adds)
    (hW : Coherent W) (haW : a ∈ W) (hsubW : ∀ q ∈ delAll (applyAll o z0 pre) st.dels, q ∈ W)
    (hfresh : a ∉ delAll (applyAll o z0 pre) st.dels)
    (hc : Chunks ⟨some o, ixfrType, some cur.rdata.serial, false⟩
      (soaRR o (lastSoa cur (pre ++ st :: post)) ::
        ((ixfrSteps o cur pre ++ (soaRR o (lastSoa cur pre) :: st.dels.map single)) ++ single a :: tail)) msgs) :
    run true ⟨some o, ixfrType, some cur.rdata.serial, false⟩ z0 msgs = ⟨some .DeleteNotExact, z0⟩ := by
  obtain ⟨_, _, _, hadd⟩ := h.here
  obtain ⟨x1, hf, q1⟩ := h.in_dels false (List.Sublist.refl st.dels)
  exact run_of_flat_raises rfl hf rfl
    (mid_del_absent (hadd a ha).1 (hadd a ha).2 q1 hW hsubW haW hfresh) hc

/-- … and for a server's own differences its side conditions hold: an addition of the step from version
`a` to version `b` is not among what is left of `a` after the deletions, and together they form a coherent
zone. -/
theorem fresh_addition_of_versions (o : Name) (a b : Version) (w : Zone) (x : RR)
    (hw : w ≃z zoneOf o a) (ha : WfVersion o a) (hb : WfVersion o b) (hx : x ∈ (diffStep a b).adds) :
    Coherent (delAll w (diffStep a b).dels ++ [x]) ∧ x ∈ delAll w (diffStep a b).dels ++ [x] ∧
      (∀ q ∈ delAll w (diffStep a b).dels, q ∈ delAll w (diffStep a b).dels ++ [x]) ∧
      x ∉ delAll w (diffStep a b).dels := by
  simp only [diffStep, List.mem_filter, decide_eq_true_eq] at hx
  have hxb : x ∈ zoneOf o b := mem_zoneOf.2 (Or.inl hx.1)
  have hxt := (mem_recsOfAll_ok hb.body hx.1).1
  -- what is left after the deletions: records common to both versions, and the old SOA
  have hleft : ∀ q, q ∈ delAll w (diffStep a b).dels → (q ∈ recsOfAll a.body ∧ q ∈ recsOfAll b.body) ∨ q = soaRec o a.soa := by
    intro q hq
    rw [mem_delAll] at hq
    simp only [diffStep, List.mem_filter, decide_eq_true_eq, not_and] at hq
    rcases mem_zoneOf.1 ((hw q).1 hq.1) with h | h
    · exact Or.inl ⟨h, Classical.not_not.1 (hq.2 h)⟩
    · exact Or.inr h
  have hnot : x ∉ delAll w (diffStep a b).dels := by
    intro h
    rcases hleft x h with h' | h'
    · exact hx.2 h'.1
    · rw [h'] at hxt; exact hxt rfl
  have hwc : Coherent w := Coherent.congr hw ha.coherent
  have hdc : Coherent (delAll w (diffStep a b).dels) := hwc.subset fun q hq => ((mem_delAll _ _ _).1 hq).1
  -- `x` fits every `q` left over: both are in version `b`, or `q` is the old SOA (another type, at the apex)
  have hsoab : soaRec o b.soa ∈ zoneOf o b := mem_zoneOf.2 (Or.inr rfl)
  have pair : ∀ q ∈ delAll w (diffStep a b).dels, Compat q x := by
    intro q hq
    rcases hleft q hq with h | h
    · exact coherent_iff.1 hb.coherent q (mem_zoneOf.2 (Or.inl h.2)) x hxb
    · subst h
      refine fun ho => ⟨fun ht => absurd ht.symm hxt, ?_⟩
      have hk := no_cname_beside hb.coherent hsoab (soaRec_regular o b.soa) x hxb ho.symm
      simp only [drivesOut, soaRec, kindOf_soa]
      cases hkx : kindOf x.rdtype <;> first | exact ⟨rfl, rfl⟩ | exact absurd hkx hk
  exact ⟨hdc.snoc pair, by simp, fun q hq => List.mem_append_left _ hq, hnot⟩

/-- **The SOA that opens a difference sequence is dropped** (any sequence but the first), or its type is
corrupted so that it and possibly other junk `junk` is read as data: the deletions are taken for additions
and the next SOA does not continue from our serial — `FormError`, zone exactly as before. -/
theorem fault_drop_delstart_soa (o : Name) (cur : Soa) (pre : List Step) (st : Step) (post : List Step) (z0 : Zone)
    (junk : List RRset) (tail : List RRset) (msgs : List Msg)
    (h : IxfrAt o cur pre st post z0) (hpre : pre ≠ [])
    (hser : st.soa.rdata.serial ≠ (lastSoa cur pre).rdata.serial)
    (hjb : BodyOk o junk) (hjc : Coherent (applyAll o z0 pre ++ recsOfAll junk))
    (hc : Chunks ⟨some o, ixfrType, some cur.rdata.serial, false⟩
      (soaRR o (lastSoa cur (pre ++ st :: post)) ::
        ((ixfrSteps o cur pre ++ (junk ++ st.dels.map single)) ++ soaRR o st.soa :: tail)) msgs) :
    run true ⟨some o, ixfrType, some cur.rdata.serial, false⟩ z0 msgs = ⟨some .FormError, z0⟩ := by
  obtain ⟨x', hf, _⟩ := h.before false
  obtain ⟨_, hdel, _⟩ := h.here
  have hemp : pre.isEmpty = false := by simpa using hpre
  rw [hemp] at hf
  -- without the SOA the machine stays in add mode: junk and deletions alike are stored
  have hb : BodyOkOoz (junk ++ st.dels.map single) := by
    intro rs hrs
    rcases List.mem_append.1 hrs with h' | h'
    · exact hjb.ooz.1 rs h'
    · exact (bodyOk_singles fun r hr => ⟨(hdel r hr).1, (hdel r hr).2.1⟩).ooz.1 rs h'
  exact run_of_flat_raises rfl (A := _ :: (ixfrSteps o cur pre ++ (junk ++ st.dels.map single)))
    (by rw [← List.cons_append, flatRun_append _ hf]; exact procAnswers_adds _ _ hb) rfl (mid_soa_mismatch hser) hc

/-- **The SOA that opens the first difference sequence is dropped and that sequence deletes nothing**: the
next SOA is read where the old one should be — `FormError` (empty IXFR sequence, or base serial mismatch). -/
theorem fault_drop_first_delstart_soa_nodels (o : Name) (cur : Soa) (st : Step) (post : List Step) (z0 : Zone)
    (tail : List RRset) (msgs : List Msg)
    (h : IxfrAt o cur [] st post z0) (hser : st.soa.rdata.serial ≠ cur.rdata.serial)
    (hc : Chunks ⟨some o, ixfrType, some cur.rdata.serial, false⟩
      (soaRR o (lastSoa cur ([] ++ st :: post)) :: ((ixfrSteps o cur [] ++ []) ++ soaRR o st.soa :: tail)) msgs) :
    run true ⟨some o, ixfrType, some cur.rdata.serial, false⟩ z0 msgs = ⟨some .FormError, z0⟩ := by
  obtain ⟨x', hf, _⟩ := h.before false
  exact run_of_flat_raises rfl (A := _ :: (ixfrSteps o cur [] ++ [])) hf rfl
    (mid_soa_mismatch (b := (lastSoa cur []).rdata.serial) hser) hc

/-- **… and that sequence has deletions, more sequences follow**: the deletions are taken for the body of
an AXFR-style answer, in which the next SOA (not the final one) has no place — `FormError`. -/
theorem fault_drop_first_delstart_soa_dels (o : Name) (cur : Soa) (st : Step) (post : List Step) (z0 : Zone)
    (d0 : RR) (ds : List RR) (tail : List RRset) (msgs : List Msg)
    (h : IxfrAt o cur [] st post z0) (hd : st.dels = d0 :: ds)
    (hnf : st.soa.rdata ≠ (lastSoa cur ([] ++ st :: post)).rdata)
    (hc : Chunks ⟨some o, ixfrType, some cur.rdata.serial, false⟩
      (soaRR o (lastSoa cur ([] ++ st :: post)) :: ((ixfrSteps o cur [] ++ st.dels.map single) ++ soaRR o st.soa :: tail))
      msgs) :
    run true ⟨some o, ixfrType, some cur.rdata.serial, false⟩ z0 msgs = ⟨some .FormError, z0⟩ := by
  obtain ⟨x', hf, _⟩ := h.before false
  obtain ⟨_, hdel, _⟩ := h.here
  have hb : BodyOkOoz (st.dels.map single) :=
    (bodyOk_singles fun r hr => ⟨(hdel r hr).1, (hdel r hr).2.1⟩).ooz.1
  simp only [List.isEmpty_nil] at hf
  have h0 : (single d0).rdtype ≠ soaType := (hdel d0 (by simp [hd])).1
  have hpos := flatRun_append (st.dels.map single) hf
  rw [hd, List.map_cons, procAnswers_fallback _ h0, ← List.map_cons, ← hd, procAnswers_adds _ _ hb] at hpos
  exact run_of_flat_raises rfl hpos rfl (by rw [mid_soa_axfr, if_neg hnf]) hc

/-- **The first SOA of an IXFR response is dropped**: the response then starts with the SOA of the version
we hold, which reads as "already up to date".  Alone in its message the transfer ends there, otherwise
the rest is refused (`FormError`); either way the zone is exactly the zone before. -/
theorem fault_drop_first_soa_ixfr (o : Name) (z0 : Zone) (cur : Soa) (udp : Bool) (m0 : Msg) (ms : List Msg)
    (rest0 : List RRset) (hh : headerErrOf o ixfrType m0 = none) (ha : m0.answer = soaRR o cur :: rest0) :
    run true ⟨some o, ixfrType, some cur.rdata.serial, udp⟩ z0 (m0 :: ms) =
      ⟨if rest0.isEmpty then none else some .FormError, z0⟩ :=
  run_first_done (start_ixfr o _ udp z0) hh ha (by rw [firstSoa_ixfr, if_pos rfl]) rfl

/-- Dropping the SOA that separates deletions from additions when there are no additions, and dropping the
SOA that opens the next difference sequence, give the same stream (the two SOAs are the same rrset), and
so do dropping that SOA in the last sequence and dropping the final SOA: these cases are
`fault_drop_delstart_soa` and `fault_truncate`. -/
theorem drop_addstart_soa_without_additions (o : Name) (cur : Soa) (dels : List RR) (soa : Soa) (rest : List Step) :
    ixfrSteps o cur (⟨dels, soa, []⟩ :: rest) =
      soaRR o cur :: (dels.map single ++ (soaRR o soa :: ixfrSteps o soa rest)) := by
  simp [ixfrSteps]

/-- **The first difference sequence loses its opening SOA, has deletions, and is the only one**: what
arrives up to the next SOA *is* the AXFR-style response of the zone made of the deleted records — which
the machine accepts (`axfr_style_ixfr`); what follows is surplus (`fault_surplus_after_final_soa`).  The
stream denotes that zone, not the server's. -/
theorem drop_first_delstart_soa_single_step (o : Name) (cur : Soa) (st : Step) :
    soaRR o (lastSoa cur [st]) :: (st.dels.map single ++ (soaRR o st.soa :: (st.adds.map single ++ [soaRR o (lastSoa cur [st])]))) =
      axfrStream o ⟨st.soa, st.dels.map single⟩ ++ (st.adds.map single ++ [soaRR o st.soa]) := by
  simp [axfrStream, lastSoa]

/-- **The owner of an SOA is corrupted** to another name of the zone, at a place where the machine is
adding (the SOA that opens any difference sequence, the final SOA): `txn.add` refuses a non-apex SOA,
`ValueError`, zone exactly as before. -/
theorem fault_nonapex_soa_in_add_mode (o : Name) (cur dn : Soa) (pre : List Step) (z0 : Zone) (x : RRset)
    (tail : List RRset) (msgs : List Msg)
    (hs1 : dn.rdata.serial ≠ cur.rdata.serial) (hs2 : serialLt dn.rdata.serial cur.rdata.serial = false)
    (hc0 : Coherent z0) (hok : StepsOk o dn cur z0 pre)
    (hxt : x.rdtype = soaType) (hxo : x.owner ≠ o) (hxz : isSubdomain x.owner o = true)
    (hc : Chunks ⟨some o, ixfrType, some cur.rdata.serial, false⟩
      (soaRR o dn :: ((ixfrSteps o cur pre ++ []) ++ x :: tail)) msgs) :
    run true ⟨some o, ixfrType, some cur.rdata.serial, false⟩ z0 msgs = ⟨some .ValueError, z0⟩ := by
  obtain ⟨x', hf, _⟩ := ixfr_prefix_flat o cur dn pre z0 false hs1 hs2 hc0 hok
  exact run_of_flat_raises rfl (A := _ :: (ixfrSteps o cur pre ++ [])) (by rw [List.append_nil]; exact hf) rfl
    (mid_add_nonapex_soa hxt hxo hxz) hc

/-- … and where the machine is deleting (the SOA between deletions and additions): no such record exists,
`DeleteNotExact`, zone exactly as before. -/
theorem fault_nonapex_soa_in_delete_mode (o : Name) (cur : Soa) (pre : List Step) (st : Step) (post : List Step)
    (z0 : Zone) (x : RRset) (tail : List RRset) (msgs : List Msg)
    (h : IxfrAt o cur pre st post z0)
    (hxt : x.rdtype = soaType) (hxo : x.owner ≠ o) (hxz : isSubdomain x.owner o = true) (hxn : x.rdatas ≠ [])
    (hapex : ∀ q ∈ applyAll o z0 pre, q.rdtype = soaType → q.owner = o)
    (hc : Chunks ⟨some o, ixfrType, some cur.rdata.serial, false⟩
      (soaRR o (lastSoa cur (pre ++ st :: post)) ::
        ((ixfrSteps o cur pre ++ (soaRR o (lastSoa cur pre) :: st.dels.map single)) ++ x :: tail)) msgs) :
    run true ⟨some o, ixfrType, some cur.rdata.serial, false⟩ z0 msgs = ⟨some .DeleteNotExact, z0⟩ := by
  obtain ⟨x1, hf, q1⟩ := h.in_dels false (List.Sublist.refl st.dels)
  exact run_of_flat_raises rfl hf rfl
    (mid_del_nonapex_soa hxt hxo hxz hxn q1 fun r hr => hapex r ((mem_delAll _ _ _).1 hr).1) hc

/-- **AXFR: the owner of the closing SOA (or an SOA anywhere in the body) is not the apex**: `ValueError`,
zone exactly as before. -/
theorem fault_axfr_nonapex_soa (o : Name) (soa : Soa) (pb : List RRset) (z0 : Zone) (ser : Option Nat) (x : RRset)
    (tail : List RRset) (msgs : List Msg) (hb : BodyOk o pb) (hco : Coherent (recsOfAll pb))
    (hxt : x.rdtype = soaType) (hxo : x.owner ≠ o) (hxz : isSubdomain x.owner o = true)
    (hc : Chunks ⟨some o, axfrType, ser, false⟩ (soaRR o soa :: (([] ++ pb) ++ x :: tail)) msgs) :
    run true ⟨some o, axfrType, ser, false⟩ z0 msgs = ⟨some .ValueError, z0⟩ := by
  exact run_of_flat_raises rfl (A := _ :: ([] ++ pb))
    (by rw [List.nil_append, flatRun_axfr]; exact procAnswers_adds _ _ hb.ooz.1) rfl
    (mid_add_nonapex_soa hxt hxo hxz) hc

/-! ## faults the protocol cannot detect: the result is the zone the stream denotes -/

/-- **A record of an AXFR is dropped** (not an SOA): nothing can tell; the transfer completes and the zone
is the version *without that rrset* — what the stream denotes, not what the server holds. -/
theorem fault_drop_axfr_record_denotes (o : Name) (v : Version) (i : Nat) (z0 : Zone) (ser : Option Nat)
    (msgs : List Msg) (hb : BodyOk o v.body) (hco : Coherent (zoneOf o v))
    (hc : Chunks ⟨some o, axfrType, ser, false⟩ (axfrStream o ⟨v.soa, v.body.eraseIdx i⟩) msgs) :
    (run true ⟨some o, axfrType, ser, false⟩ z0 msgs).err = none ∧
      (run true ⟨some o, axfrType, ser, false⟩ z0 msgs).zone ≃z zoneOf o ⟨v.soa, v.body.eraseIdx i⟩ := by
  have hsub : ∀ rs ∈ v.body.eraseIdx i, rs ∈ v.body := fun rs h => List.mem_of_mem_eraseIdx h
  have hb' : BodyOk o (v.body.eraseIdx i) := fun rs h => hb rs (hsub rs h)
  have hco' : Coherent (zoneOf o ⟨v.soa, v.body.eraseIdx i⟩) := hco.subset fun r hr =>
    mem_zoneOf.2 ((mem_zoneOf.1 hr).imp_left fun h =>
      have ⟨rs, hrs, hr'⟩ := List.mem_flatMap.1 h
      List.mem_flatMap.2 ⟨rs, hsub rs hrs, hr'⟩)
  have := axfr_converges o ⟨v.soa, v.body.eraseIdx i⟩ z0 ser msgs hb' hco' hc
  exact ⟨this.1, this.2.1⟩

/-- **A deletion of an IXFR is dropped**: the difference sequence with one deletion fewer is still a
difference sequence, the transfer completes (`ixfr_denotes`), and the record stays: the sequence then
yields what it should have yielded, plus that record. -/
theorem fault_drop_deletion_denotes (o : Name) (w : Zone) (st : Step) (d : RR) (hnd : st.dels.Nodup)
    (hd : d ∈ st.dels) (r : RR) :
    r ∈ applyStep o w ⟨st.dels.erase d, st.soa, st.adds⟩ ↔
      r ∈ applyStep o w st ∨ (r = d ∧ d ∈ w ∧ ¬ (d.owner = o ∧ d.rdtype = soaType)) := by
  rw [mem_applyStep, mem_applyStep]
  simp only [hnd.mem_erase_iff]
  by_cases hrd : r = d
  · subst hrd; simp [hd, or_comm, or_assoc]
  · simp [hrd]

/-- **The last deletion and the SOA after it change places** (a swap across the delete/add boundary): the
stream is, rrset for rrset, the response whose difference sequence deletes one record fewer and adds it
instead — accepted (`ixfr_denotes`), and the sequence yields what it should have yielded plus that record. -/
theorem fault_swap_deletion_across_boundary (o : Name) (cur : Soa) (dels : List RR) (d : RR) (soa : Soa) (adds : List RR)
    (rest : List Step) (w : Zone) :
    ixfrSteps o cur (⟨dels, soa, d :: adds⟩ :: rest) =
        soaRR o cur :: (dels.map single ++ (soaRR o soa :: single d :: (adds.map single ++ ixfrSteps o soa rest))) ∧
      ixfrSteps o cur (⟨dels ++ [d], soa, adds⟩ :: rest) =
        soaRR o cur :: (dels.map single ++ (single d :: soaRR o soa :: (adds.map single ++ ixfrSteps o soa rest))) ∧
      ∀ r, r ∈ applyStep o w ⟨dels, soa, d :: adds⟩ ↔ r ∈ applyStep o w ⟨dels ++ [d], soa, adds⟩ ∨ r = d := by
  refine ⟨by simp [ixfrSteps], by simp [ixfrSteps], fun r => ?_⟩
  rw [mem_applyStep, mem_applyStep]
  simp only [List.mem_append, List.mem_cons, not_or, List.not_mem_nil, or_false]
  by_cases hrd : r = d <;> simp [hrd]

/-- **Wrong base serial**: a valid IXFR response for a chain that starts at `cur`, received by a client
that asked for a different serial `b` (and is neither up to date nor ahead): `FormError` (base serial
mismatch) at the first difference sequence, whatever the division into messages; zone exactly as before. -/
theorem fault_wrong_base_serial (o : Name) (cur : Soa) (steps : List Step) (z0 : Zone) (b : Nat)
    (msgs : List Msg) (hne : steps ≠ []) (hcur : cur.rdata ≠ (lastSoa cur steps).rdata)
    (hb1 : b ≠ cur.rdata.serial) (hb2 : (lastSoa cur steps).rdata.serial ≠ b)
    (hb3 : serialLt (lastSoa cur steps).rdata.serial b = false)
    (hc : Chunks ⟨some o, ixfrType, some b, false⟩ (ixfrStream o cur steps) msgs) :
    run true ⟨some o, ixfrType, some b, false⟩ z0 msgs = ⟨some .FormError, z0⟩ := by
  cases steps with
  | nil => exact absurd rfl hne
  | cons st rest =>
    have hshape : ixfrStream o cur (st :: rest) =
        soaRR o (lastSoa cur (st :: rest)) :: (([] ++ []) ++ soaRR o cur ::
          (st.dels.map single ++ (soaRR o st.soa :: (st.adds.map single ++ ixfrSteps o st.soa rest)) ++
            [soaRR o (lastSoa cur (st :: rest))])) := by
      simp [ixfrStream, ixfrSteps]
    rw [hshape] at hc
    exact run_of_flat_raises rfl (A := _ :: ([] ++ [])) (flatRun_ixfr hb2 hb3 []) rfl
      (mid_soa_mismatch (fun h => hb1 h.symm)) hc

/-! ## through wire format

What `Inbound` is fed in a real transfer is `dns.message.from_wire(wire, xfr=True, one_rr_per_rrset=is_ixfr)`
of each message (`readMsg`, `parseAnswer`): from the first SOA of a message on, one rrset per record in wire
order; before it (continuation messages of an AXFR) records of one owner and type merge. -/

/-- **Nothing moves across an SOA when a message is read**: an SOA record and all that follows it in the
message come out as one rrset per record, in wire order, behind whatever preceded — so surplus records
after the final SOA are still after it when `process_message` looks (`fault_surplus_after_final_soa`). -/
theorem wire_keeps_order_from_soa (one : Bool) (l : List RR) (s : RR) (extra : List RR) (hs : s.rdtype = soaType) :
    parseAnswer one (l ++ s :: extra) =
      parseAnswer one l ++ single (clampTtl s) :: (extra.map clampTtl).map single :=
  parse_keeps_order_from_soa one l s extra hs

/-- an IXFR message is read one rrset per record (`TtlOk`: TTLs at most 2^31-1, as RFC 2181 has them;
a larger TTL is read as 0, `clampTtl`) -/
theorem wire_ixfr_one_rr (l : List RR) (h : TtlOk l) : parseAnswer true l = l.map single := parse_one_rr l h

/-- **IXFR read from the wire converges**: the server's records cut into wire messages in any way, each read
with `one_rr_per_rrset=True`. -/
theorem ixfr_wire_converges (o : Name) (v0 : Version) (vs : List Version) (z0 : Zone) (wms : List WireMsg)
    (recs : List RR) (hrecs : recs.map single = ixfrStream o v0.soa (diffSteps v0 vs))
    (hflat : wms.flatMap (·.recs) = recs) (httl : TtlOk recs) (hhdr : ∀ w ∈ wms, w.rcode = 0 ∧ w.question = [])
    (hfirst : ∀ w ∈ wms.head?, w.recs ≠ [])
    (hne : vs ≠ []) (hz0 : z0 ≃z zoneOf o v0) (hv0 : WfVersion o v0) (hvs : ∀ v ∈ vs, WfVersion o v)
    (hdist : ∀ v ∈ (v0 :: vs).dropLast, v.soa.rdata ≠ (lastVersion v0 vs).soa.rdata)
    (hs1 : (lastVersion v0 vs).soa.rdata.serial ≠ v0.soa.rdata.serial)
    (hs2 : serialLt (lastVersion v0 vs).soa.rdata.serial v0.soa.rdata.serial = false) :
    (run true ⟨some o, ixfrType, some v0.soa.rdata.serial, false⟩ z0 (wms.map (readMsg true))).err = none ∧
      (run true ⟨some o, ixfrType, some v0.soa.rdata.serial, false⟩ z0 (wms.map (readMsg true))).zone ≃z
        zoneOf o (lastVersion v0 vs) := by
  have hc := ixfr_wire_chunks (c := ⟨some o, ixfrType, some v0.soa.rdata.serial, false⟩) hflat httl
    (fun w hw => ⟨(hhdr w hw).1, Or.inl (hhdr w hw).2⟩) hfirst
  rw [hrecs] at hc
  have := ixfr_converges o v0 vs z0 _ hne hz0 hv0 hvs hdist hs1 hs2 hc
  exact ⟨this.1, this.2.1⟩

/-- **AXFR read from the wire converges**: first message `SOA, b0`, any number of continuation messages
(each read with rrset merging, `one_rr_per_rrset=False`), last message `bl, SOA`; the zone ends as the set
of records sent, with their TTLs. -/
theorem axfr_wire_converges (o : Name) (soa : Soa) (z0 : Zone) (ser : Option Nat) (first last : WireMsg)
    (mids : List WireMsg) (b0 bl : List RR)
    (hf : first.recs = soaRec o soa :: b0) (hl : last.recs = bl ++ [soaRec o soa])
    (hhdr : ∀ w ∈ first :: mids ++ [last], w.rcode = 0 ∧ w.question = [])
    (hok : ∀ r ∈ b0 ++ mids.flatMap (·.recs) ++ bl, r.rdtype ≠ soaType ∧ isSubdomain r.owner o = true)
    (hco : Coherent ((b0 ++ mids.flatMap (·.recs) ++ bl) ++ [soaRec o soa]))
    (httl : TtlOk ((b0 ++ mids.flatMap (·.recs) ++ bl) ++ [soaRec o soa])) :
    (run true ⟨some o, axfrType, ser, false⟩ z0 ((first :: mids ++ [last]).map (readMsg false))).err = none ∧
      (run true ⟨some o, axfrType, ser, false⟩ z0 ((first :: mids ++ [last]).map (readMsg false))).zone ≃z
        ((b0 ++ mids.flatMap (·.recs) ++ bl) ++ [soaRec o soa]) :=
  axfr_wire_run o soa (b0 ++ mids.flatMap (·.recs) ++ bl) (first :: mids ++ [last]) z0 ser (by simp [hf, hl])
    (fun w hw => ⟨(hhdr w hw).1, Or.inl (hhdr w hw).2⟩) (by simp [hf]) hok hco httl

/-! ## `dns.query.inbound_xfr`: UDP first, TCP retry -/

/-- the query `inbound_xfr` makes for a zone that holds version `v` announces `v`'s serial in an IXFR -/
theorem query_of_zone (o : Name) (v : Version) (z0 : Zone) (hz : z0 ≃z zoneOf o v) (hb : BodyOk o v.body) :
    queryOf (some o) z0 none = .ok (ixfrType, some v.soa.rdata.serial) := by
  simp [queryOf, makeQuery, serial_of_equiv hz hb]

/-- a supplied IXFR query runs with the serial of the SOA in its authority section -/
theorem query_of_supplied (origin : Option Name) (z0 : Zone) (s : Nat) :
    queryOf origin z0 (some (ixfrType, some s)) = .ok (ixfrType, some s) := by
  simp [queryOf, extractSerial, ixfrType, axfrType]

/-- **UseTCP from UDP leads to a TCP retry with the same query, and the zone converges.**  The server
answers the IXFR over UDP with the lone newer SOA; with `udp_mode = TRY_FIRST` the transfer is run again
over TCP with the same type and serial (the one the zone announces when no query was supplied, the one in
the query otherwise), on the untouched zone, and ends in the server's version — for every chain of versions
and every division of the TCP response into messages.  With `ONLY`, `UseTCP` is raised and the zone is as
it was. -/
theorem usetcp_retry_converges (o : Name) (v0 : Version) (vs : List Version) (z0 : Zone) (m : Msg) (more tcp : List Msg)
    (query : Option (Nat × Option Nat)) (hq : query = none ∨ query = some (ixfrType, some v0.soa.rdata.serial))
    (hne : vs ≠ []) (hz0 : z0 ≃z zoneOf o v0) (hv0 : WfVersion o v0) (hvs : ∀ v ∈ vs, WfVersion o v)
    (hdist : ∀ v ∈ (v0 :: vs).dropLast, v.soa.rdata ≠ (lastVersion v0 vs).soa.rdata)
    (hs1 : (lastVersion v0 vs).soa.rdata.serial ≠ v0.soa.rdata.serial)
    (hs2 : serialLt (lastVersion v0 vs).soa.rdata.serial v0.soa.rdata.serial = false)
    (hh : headerErrOf o ixfrType m = none) (ha : m.answer = [soaRR o (lastVersion v0 vs).soa])
    (hc : Chunks ⟨some o, ixfrType, some v0.soa.rdata.serial, false⟩ (ixfrStream o v0.soa (diffSteps v0 vs)) tcp) :
    inboundXfr true (some o) query .only z0 (m :: more) tcp = ⟨some .UseTCP, z0⟩ ∧
    inboundXfr true (some o) query .tryFirst z0 (m :: more) tcp =
      run true ⟨some o, ixfrType, some v0.soa.rdata.serial, false⟩ z0 tcp ∧
    (inboundXfr true (some o) query .tryFirst z0 (m :: more) tcp).err = none ∧
    (inboundXfr true (some o) query .tryFirst z0 (m :: more) tcp).zone ≃z zoneOf o (lastVersion v0 vs) := by
  have hqo : queryOf (some o) z0 query = .ok (ixfrType, some v0.soa.rdata.serial) := by
    rcases hq with h | h
    · rw [h]; exact query_of_zone o v0 z0 hz0 hv0.body
    · rw [h]; exact query_of_supplied (some o) z0 _
  have hudp := fault_use_tcp o z0 (lastVersion v0 vs).soa v0.soa.rdata.serial m more hh ha hs1 hs2
  have htcp := ixfr_converges o v0 vs z0 tcp hne hz0 hv0 hvs hdist hs1 hs2 hc
  have h1 : inboundXfr true (some o) query .only z0 (m :: more) tcp = ⟨some .UseTCP, z0⟩ := by
    simp [inboundXfr, hqo, hudp]
  have h2 : inboundXfr true (some o) query .tryFirst z0 (m :: more) tcp =
      run true ⟨some o, ixfrType, some v0.soa.rdata.serial, false⟩ z0 tcp := by
    simp [inboundXfr, hqo, hudp]
  exact ⟨h1, h2, by rw [h2]; exact htcp.1, by rw [h2]; exact htcp.2.1⟩

/-- a UDP attempt that completes, or fails with anything but `UseTCP`, is final: TCP is not tried -/
theorem udp_outcome_final (origin : Option Name) (query : Option (Nat × Option Nat)) (mode : UdpMode) (z0 : Zone)
    (udp tcp : List Msg) (s : Option Nat) (hq : queryOf origin z0 query = .ok (ixfrType, s)) (hm : mode ≠ .never)
    (hne : (run true ⟨origin, ixfrType, s, true⟩ z0 udp).err ≠ some .UseTCP) :
    inboundXfr true origin query mode z0 udp tcp = run true ⟨origin, ixfrType, s, true⟩ z0 udp := by
  unfold inboundXfr
  rw [hq]
  simp only [true_and, hm, ne_eq, not_false_eq_true, if_true]
  cases hr : run true ⟨origin, ixfrType, s, true⟩ z0 udp with
  | mk err zone =>
    rw [hr] at hne
    cases err with
    | none => rfl
    | some e => cases e <;> first | rfl | exact absurd rfl hne

/-! ## RFC 1982 comparison and the query helpers -/

/-- `Serial(a) < b` is irreflexive and asymmetric (RFC 1982 §3.2), so "went backwards" and "is ahead"
exclude each other -/
theorem serialLt_asymm (a b : Nat) : serialLt a b = true → serialLt b a = false := by
  unfold serialLt two32 two31
  simp only [Bool.or_eq_true, Bool.and_eq_true, decide_eq_true_eq, Bool.or_eq_false_iff, Bool.and_eq_false_iff,
    decide_eq_false_iff_not]
  omega

/-- a server that is `k` increments ahead, `0 < k < 2^31`, is never "behind" — also across the wrap at 2^32 -/
theorem serialLt_ahead (a k : Nat) (hk : 0 < k) (hk2 : k < 2147483648) :
    serialLt ((a + k) % 4294967296) a = false ∧ (a + k) % 4294967296 ≠ a % 4294967296 := by
  unfold serialLt two32 two31
  simp only [Bool.or_eq_false_iff, Bool.and_eq_false_iff, decide_eq_false_iff_not]
  omega

/-- `extract_serial_from_query(make_query(zone, serial)[0])` is the serial `make_query` announces -/
theorem extract_of_make (origin : Option Name) (z : Zone) (ser : Option Int) (t : Nat) (s : Option Nat)
    (h : makeQuery origin z ser = .ok (t, s)) : extractSerial t s = .ok s := by
  unfold makeQuery at h
  repeat' split at h
  all_goals first
    | (cases h; done)
    | (cases h; simp [extractSerial, axfrType, ixfrType])

/-! ## non-vacuity -/

def exO : Name := [[101, 120], []]
def exA : Name := [[97], [101, 120], []]
def exB : Name := [[98], [101, 120], []]
/-- v0: apex NS; a has two A records (TTL 300) -/
def exV0 : Version := ⟨⟨⟨4294967294, 0⟩, 3600⟩, [⟨exO, 2, 300, [⟨0, 1⟩]⟩, ⟨exA, 1, 300, [⟨0, 2⟩, ⟨0, 3⟩]⟩]⟩
/-- v1: a's A rrset is replaced by a CNAME (delete, then add); b appears; serial 2^32-1 -/
def exV1 : Version := ⟨⟨⟨4294967295, 0⟩, 3600⟩, [⟨exO, 2, 300, [⟨0, 1⟩]⟩, ⟨exA, 5, 60, [⟨0, 9⟩]⟩, ⟨exB, 28, 300, [⟨0, 4⟩]⟩]⟩
/-- v2: the TTL of b's AAAA rrset changes and it grows; the serial wraps to 1; the SOA's other fields change -/
def exV2 : Version := ⟨⟨⟨1, 7⟩, 600⟩, [⟨exO, 2, 300, [⟨0, 1⟩]⟩, ⟨exA, 5, 60, [⟨0, 9⟩]⟩, ⟨exB, 28, 60, [⟨0, 4⟩, ⟨0, 5⟩]⟩]⟩

instance (z : Zone) : Decidable (Coherent z) := by unfold Coherent; infer_instance

/-- the hypotheses of `ixfr_converges` are met by a two-step chain in which an A rrset is replaced by a
CNAME, a TTL changes and the serial wraps around 2^32; cut into three messages, the model ends in the last
version (records with TTLs) -/
example : exV1.soa.rdata ≠ exV2.soa.rdata ∧ serialLt exV2.soa.rdata.serial exV0.soa.rdata.serial = false ∧
    Coherent (zoneOf exO exV0) ∧ Coherent (zoneOf exO exV1) ∧ Coherent (zoneOf exO exV2) ∧
    (recsOfAll exV1.body).Nodup ∧
    (let recs := ixfrStream exO exV0.soa (diffSteps exV0 [exV1, exV2])
     let msgs : List Msg := [⟨0, [], recs.take 2⟩, ⟨0, [(exO, ixfrType)], (recs.drop 2).take 3⟩, ⟨0, [], recs.drop 5⟩]
     (run true ⟨some exO, ixfrType, some 4294967294, false⟩ (zoneOf exO exV0) msgs).err = none ∧
     ∀ r ∈ zoneOf exO exV2, r ∈ (run true ⟨some exO, ixfrType, some 4294967294, false⟩ (zoneOf exO exV0) msgs).zone) := by
  decide +kernel

/-- out-of-zone glue in an AXFR body is skipped (`axfr_converges_with_out_of_zone` at a witness: the
hypotheses hold and the glue record does not reach the zone) -/
example :
    let glue : RRset := ⟨[[110, 115], [111, 116, 104, 101, 114], []], 1, 300, [⟨0, 8⟩]⟩
    let v : Version := ⟨exV0.soa, [⟨exO, 2, 300, [⟨0, 1⟩]⟩, glue, ⟨exA, 1, 300, [⟨0, 2⟩]⟩]⟩
    BodyOkOoz v.body ∧ Coherent (zoneOf exO ⟨v.soa, inZone exO v.body⟩) ∧ (inZone exO v.body).length = 2 ∧
    (run true ⟨some exO, axfrType, none, false⟩ [] [⟨0, [], (axfrStream exO v).take 3⟩, ⟨0, [], (axfrStream exO v).drop 3⟩]).err = none ∧
    (run true ⟨some exO, axfrType, none, false⟩ [] [⟨0, [], (axfrStream exO v).take 3⟩, ⟨0, [], (axfrStream exO v).drop 3⟩]).zone.length = 3 := by
  refine ⟨?_, by decide +kernel, by decide +kernel, by decide +kernel, by decide +kernel⟩
  intro rs hrs
  simp only [List.mem_cons, List.not_mem_nil, or_false] at hrs
  rcases hrs with rfl | rfl | rfl <;> decide

/-- a UDP datagram with the first 3 of the 10 records of the chain above: `FormError`, zone untouched -/
example :
    let recs := ixfrStream exO exV0.soa (diffSteps exV0 [exV1, exV2])
    run true ⟨some exO, ixfrType, some 4294967294, true⟩ (zoneOf exO exV0) [⟨0, [], recs.take 3⟩] =
      ⟨some .FormError, zoneOf exO exV0⟩ := by
  decide +kernel

/-- the caller stops after 5 of the 10 records of the chain above (between the two difference sequences)
and leaves the block normally: not done, zone untouched — although the working copy had changed -/
example :
    let recs := ixfrStream exO exV0.soa (diffSteps exV0 [exV1, exV2])
    let d := drive true ⟨some exO, ixfrType, some 4294967294, false⟩ (zoneOf exO exV0) [⟨0, [], recs.take 2⟩, ⟨0, [], (recs.drop 2).take 3⟩] false
    d.err = none ∧ d.done = false ∧ d.zone = zoneOf exO exV0 := by
  decide +kernel

/-- an AXFR into a zone whose serial equals the server's (or is "ahead" of it, or 0 against a serial above
2^31) completes all the same -/
example :
    let v : Version := ⟨⟨⟨2147483653, 0⟩, 300⟩, [⟨exO, 2, 300, [⟨0, 1⟩]⟩]⟩
    let m : Msg := ⟨0, [], axfrStream exO v⟩
    (run true ⟨some exO, axfrType, some 2147483653, false⟩ [] [m]).err = none ∧
    (run true ⟨some exO, axfrType, some 2147483654, false⟩ [] [m]).err = none ∧
    (run true ⟨some exO, axfrType, some 0, false⟩ [] [m]) = (run true ⟨some exO, axfrType, none, false⟩ [] [m]) := by
  decide +kernel

/-- an incoherent "version" (A next to a CNAME) is not a counterexample: `Coherent` refuses it -/
example : ¬ Coherent [⟨exA, 1, ⟨0, 2⟩, 300⟩, ⟨exA, 5, ⟨0, 9⟩, 300⟩] := by decide

/-- surplus after the final SOA in the same message: refused before committing (the former defect D11) -/
example :
    let soa := soaRR exO ⟨⟨2, 0⟩, 300⟩
    let m : Msg := ⟨0, [], [soa, ⟨exO, 2, 300, [⟨0, 1⟩]⟩, soa, ⟨[[120], [101, 120], []], 1, 300, [⟨0, 9⟩]⟩]⟩
    run true ⟨some exO, axfrType, none, false⟩ [] [m] = ⟨some .FormError, []⟩ ∧
    (run false ⟨some exO, axfrType, none, false⟩ [] [m]).zone ≠ [] := by
  decide +kernel

end C13
