import Model.Render
import Model.Message
import Proofs.MessageHdr
import Proofs.MessageCounts
import Proofs.MessageCompress
import Proofs.ParseExact
import Proofs.ParseUpdate
import Proofs.ParseMessage
import Proofs.OriginRoundTrip
import Proofs.ParseExtend
/-!
# C03 — messages survive render-then-parse unchanged; compression is sound

Theorems of record about `Model/Render.lean` (`dns/renderer.py`, `Rdataset.to_wire`, `Message.to_wire`) and
`Model/Message.lean` (`_WireReader.read`).  Type codes, the TC bit, section numbers, the set of types whose RDATA
names are compressed etc. are regenerated from the working tree on every run (`ConstsC03`).
-/
namespace C03
open Model

/-- "the header counts equal the records present": an (untruncated) rendering writes, in its twelve header
octets, the id, the flags and per section exactly the number of records it rendered — one per question,
`max 1 (number of rdatas)` per record set (an empty set is one class/type-only record), plus one for the OPT
and one for the TSIG record in ADDITIONAL.  These are the numbers `Message.section_count` reports.
(For a truncated rendering the same holds of the message cut to its kept prefix, `C08.truncation_prefix`.) -/
theorem counts_exact (m : Message) (lim : Nat) (w : Bytes) (h : m.toWire lim false = .ok w) :
    w.take 12 = u16 m.id ++ u16 m.flags ++ u16 m.q.length ++ u16 (rrCount m.an) ++ u16 (rrCount m.au)
      ++ u16 (rrCount m.ad + (if m.opt.isSome then 1 else 0) + (if m.tsig.isSome then 1 else 0)) :=
  toWire_counts m lim w h

/-- … and they agree with `Message.section_count` whenever the question entries carry no rdata (as every
question the library builds) -/
theorem counts_are_section_counts (m : Message) (hq : ∀ r ∈ m.q, r.rdatas = []) :
    m.sectionCounts = (m.q.length, rrCount m.an, rrCount m.au,
      rrCount m.ad + (if m.opt.isSome then 1 else 0) + (if m.tsig.isSome then 1 else 0)) := by
  simp [Message.sectionCounts, rrCount_eq_length m.q fun r hr => by simp [hq r hr]]

/-- "Every compression pointer the renderer emits targets an earlier occurrence of exactly that name suffix":
the renderer emits a pointer only for a hit in its compression table (`Name.to_wire`), so the clause is the
invariant that the table is *sound*.  For every message whose names are legal (`namesOk`: absolute — possibly
after appending the origin — and within the 63/255 limits), any limit, with or without truncation: in the
finished message `w`, every table entry `(suffix, off)` — every target any pointer of `w` can have — satisfies
`off ≤ 0x3FFF`, `off < |w|`, and running the library's own name decoder (`from_wire_parser`, i.e. `fromWireAux`)
at `off` succeeds, follows only strictly backward pointers (that is how `fromWireAux` is defined), and yields
exactly that suffix up to ASCII case (reading of DESIGN §6 "Case and compression"). -/
theorem compression_sound (m : Message) (lim : Nat) (pt : Bool) (r : RState) (hok : m.namesOk eqvSpec)
    (h : m.render lim pt = .ok r) :
    ∀ p ∈ r.tbl, p.2 ≤ Consts.maxPtr ∧ p.2 < r.out.length ∧
      ∃ n fwd, fromWireAux r.out r.out.length p.2 p.2 p.2 [] = .ok (n, fwd) ∧ lowerName n = lowerName p.1 := by
  intro p hp
  obtain ⟨hs, hb⟩ := render_sound m lim pt r hok h
  obtain ⟨hle, ls, fwd, hd, hr⟩ := hs p hp
  refine ⟨hle, hb p hp, ls ++ [[]], max p.2 fwd, ?_, hr⟩
  have := fromWireAux_of_Dec hd p.2 []
  simpa using this

/-- … and each name the renderer writes in a state whose table is sound (a) only appends to buffer and table,
(b) keeps the table sound, and (c) decodes, from the offset it was written at and following only pointers into
the earlier part of the buffer, to the name up to ASCII case — whatever the offset (also beyond 0x3FFF, where
nothing new is remembered).  By induction over the rendering this covers every pointer of the message. -/
theorem compression_sound_name (out : Bytes) (t : CTable) (n : Name) (origin : Option Name) (hok : NameOk eqvSpec origin n)
    (hs : TableSound NameEqv out t) :
    ∃ ext new full, toWireC out t n origin = .ok (out ++ ext, t ++ new) ∧ wireName n origin = some full ∧
      TableSound NameEqv (out ++ ext) (t ++ new) ∧
      ∃ got fwd, fromWireAux (out ++ ext) (out ++ ext).length out.length out.length out.length [] = .ok (got, fwd)
        ∧ fwd = (out ++ ext).length ∧ lowerName got = lowerName full := by
  obtain ⟨full, hw, hwf, habs, _⟩ := hok
  obtain ⟨h1, ls, hd, hr⟩ := cLoop_sound out t full hwf habs hs
  have hfw := hd.fwd_le
  refine ⟨(cLoop out.length t full).1, (cLoop out.length t full).2, full, ?_, hw, h1, ls ++ [[]],
    max out.length (out.length + (cLoop out.length t full).1.length), ?_, ?_, hr⟩
  · rw [toWireC_eq, hw]
  · have := fromWireAux_of_Dec hd out.length []
    simpa using this
  · simp

/-- non-vacuity of `compression_sound`: a response with a shared suffix and a case-differing repeat has legal names -/
example : ({ id := 1, flags := 32768, q := [{ name := [[119,119,119],[101,120],[]], rdclass := 1, rdtype := 2 }], an := [{ name := [[87,87,87],[69,88],[]], rdclass := 1, rdtype := 2, ttl := 5, rdatas := [.name1 [[110,115],[101,120],[]]] }] } : Message).namesOk eqvSpec := by
  refine ⟨?_, by intro t ht; simp at ht⟩
  intro it hit
  simp [Message.items] at hit
  rcases hit with rfl | rfl
  · exact ⟨_, rfl, by decide, rfl, trivial⟩
  · refine ⟨⟨_, rfl, by decide, rfl, trivial⟩, ?_⟩
    intro rd hrd
    simp at hrd; subst hrd
    exact ⟨_, rfl, by decide, rfl, trivial⟩

/-- "Rendering any well-formed message … and parsing the bytes yields a message with the same id, flags,
opcode, rcode … and the same records in every section (equal to the original whenever it uses absolute names)".
Full statement: for every well-formed message `m` (any opcode incl. UPDATE, with OPT/TSIG, with or without
origin), `parseMessage cfg (m.toWire lim false) = .ok m'` with `m'` equal to `m` as the library compares messages.
Proved here (`MsgOkP`) for: absolute names (no origin), opcode other than UPDATE (for UPDATE see `update_forms`);
with or without the EDNS OPT record (any version/flags/extended-rcode bits in its ttl, any payload, any option list); with
or without a TSIG record (any key name — compressible or not —, algorithm name, time, fudge, MAC octets, original
id, error, other data; a key being available to the parser, MAC validation itself abstract); arbitrary id/flags (hence opcode and header rcode), any number of questions and of record sets per section, any
mix of opaque, NS/CNAME/PTR-, MX- and SOA-shaped RDATA, any owner-name sharing pattern — every name may be
compressed against any earlier one, at any offset.  The result is the original message up to the ASCII case of
names (`Message.sim`: the parser returns a compressed name in the case of the occurrence it was compressed
against — the library's own name equality; DESIGN §6 reading), all other fields identical, record sets in the
original order with their rdatas in the original order, the parser consuming exactly the whole message (no
`TrailingJunk`), with `one_rr_per_rrset=False` and any `ignore_trailing`.
The EDNS state (`Message.opt`: version, flags, extended rcode, payload, options) comes back identical, hence so
do `rcode()`, `edns`, `ednsflags`, `payload`, `options`.
The TSIG record comes back with its owner up to ASCII case and every other field identical.  When padding was
requested (`pad ≠ 0`) the parsed OPT carries the original options followed by one PADDING option of fewer than `pad`
zero octets (`OptPadRel`); otherwise it is the original OPT.
Relativisation against an origin (rendering/parsing with relative names) is `parse_render_origin` below. -/
theorem parse_render_partial (m : Message) (lim : Nat) (w : Bytes) (hok : MsgOkP eqvSpec m) (h : m.toWire lim false = .ok w)
    (cfg : PCfg) (horg : cfg.origin = none) (hnorr : cfg.oneRRPerRRset = false) (hkey : cfg.hasKey = true) :
    ∃ m' opt', parseMessage cfg w = .ok m' ∧ m'.simT eqvSpec { m with opt := opt' } ∧ OptPadRel m.pad m.opt opt' ∧
      m'.id = m.id ∧ m'.flags = m.flags ∧ m'.opcode = m.opcode ∧ m'.rcode = m.rcode ∧ m'.edns = m.edns ∧
      (m.pad = 0 → m'.opt = m.opt) := by
  obtain ⟨m', opt', hp, hs, hr⟩ := parse_toWire_pad m lim w hok h cfg horg hnorr hkey
  have ho : m'.opt = opt' := hs.2.2.2.2.2.2.1
  refine ⟨m', opt', hp, hs, hr, hs.1, hs.2.1, by simp [Message.opcode, hs.2.1], ?_⟩
  simp only [Message.rcode, Message.ednsflags, Message.edns, hs.2.1, ho]
  rcases hr.fields with ⟨h1, h2⟩ | ⟨o, o', h1, h2, ht, _, he⟩
  · rw [h1, h2]; exact ⟨rfl, rfl, fun _ => rfl⟩
  · rw [h1, h2]; exact ⟨by simp only [ht], by simp only [ht], fun hpad => by rw [he hpad]⟩

/-- non-vacuity of `parse_render_partial`: a response with a question, an NS record set of two records whose
owner repeats the question name in another case and whose targets share its suffix, and an opaque A record set -/
example : MsgOkP eqvSpec { id := 7, flags := 33152, pad := 16, opt := some { ttl := 16809984, payload := 1232, options := [(10, [1,2,3,4,5,6,7,8])] }, tsig := some { name := [[107],[101,120],[]], alg := [[104,109,97,99],[]], time := 1700000000, fudge := 300, mac := [1,2,3,4], origId := 7, error := 0, other := [] }, q := [{ name := [[119,119,119],[101,120],[]], rdclass := 1, rdtype := 2 }], an := [{ name := [[87,87,87],[69,88],[]], rdclass := 1, rdtype := 2, ttl := 5, rdatas := [.name1 [[110,115],[101,120],[]], .name1 [[110,116],[101,120],[]]] }], ad := [{ name := [[110,115],[101,120],[]], rdclass := 1, rdtype := 1, ttl := 5, rdatas := [.raw [192,0,2,1]] }] } := by
  decide

/-- Origins, parser side, for *every* octet string `w` (accepted or not, produced by the renderer or not):
`from_wire(w, origin=o)` is `from_wire(w)` followed by `relativize(o)` of the owner names and of the names inside the
RDATA of the four sections (`relF o`: cut `o` off when it is a suffix up to ASCII case, else keep the absolute name).
The owner names of the OPT and TSIG records and the TSIG algorithm name are *not* relativized (commit 4655a6b: the
root-owner check of OPT and the TSIG key lookup see the absolute name), the error raised is the same, and the section
index (`find_rrset`) and `Rdataset.add` merge exactly the same records, because relativisation is injective up to
ASCII case on the absolute legal names the wire decoder produces (`relF_lower_iff`). -/
theorem parse_origin_commutes (cfg : PCfg) (o : Name) (ho : isAbs o = true) (hc : cfg.origin = none) (w : Bytes) :
    parseMessage { cfg with origin := some o } w =
      match parseMessage cfg w with
      | .ok m => .ok { m.mapNames (relF o) with origin := some o }
      | .error e => .error e :=
  parseMessage_relF cfg o ho hc w

/-- Origins, renderer side, for every message, limit and mode: rendering with origin `o` produces exactly the octets
(or the error) of rendering, without origin, the message in which every relative name `n` of the four sections has been
replaced by `n + o` (`derelativize`); the OPT owner (root) and the TSIG owner (required absolute) never see the origin. -/
theorem render_origin_absolutize (m : Message) (o : Name) (hm : m.origin = some o) (ho : isAbs o = true) (lim : Nat)
    (pt : Bool) : m.toWire lim pt = (m.absolutize o).toWire lim pt :=
  (toWire_absolutize m o hm ho lim pt).symm

/-- "messages rendered with an origin / parsed with an origin: equal after relativisation".  `m` carries the absolute
origin `o` and may mix relative and absolute names; guard: the absolutized message is well formed in the sense of
`parse_render_partial` (`MsgOkP`: in particular every `n + o` is a legal name; OPT, padding, TSIG allowed; not an UPDATE —
for those see `update_forms_origin`).  Then parsing the rendering with the same origin succeeds, the parsed message
carries the origin, and it equals — up to the ASCII case of names, OPT up to the padding option, TSIG owner absolute as
rendered — the *relativisation* `m.relNorm o` of `m` (every name made absolute against `o`, then relativized against
`o`).  For a message all of whose names are normal (relative, or absolute and not at or below `o` — what `from_wire`,
`from_text` and `make_query` with that origin produce) `m.relNorm o` is `m` itself, so the round trip returns `m`. -/
theorem parse_render_origin (m : Message) (o : Name) (hm : m.origin = some o) (ho : isAbs o = true) (lim : Nat) (w : Bytes)
    (hok : MsgOkP eqvSpec (m.absolutize o)) (h : m.toWire lim false = .ok w)
    (cfg : PCfg) (horg : cfg.origin = none) (hnorr : cfg.oneRRPerRRset = false) (hkey : cfg.hasKey = true) :
    ∃ m' opt', parseMessage { cfg with origin := some o } w = .ok m' ∧ m'.origin = m.origin ∧
      m'.simT eqvSpec { m.relNorm o with opt := opt' } ∧ OptPadRel m.pad m.opt opt' ∧
      (m.Normal o → m'.simT eqvSpec { m with opt := opt' }) := by
  obtain ⟨m', opt', hp, horg', hs, hr⟩ := parse_toWire_origin m o hm ho lim w hok h cfg horg hnorr hkey
  refine ⟨m', opt', hp, by rw [horg', hm], hs, hr, ?_⟩
  intro hn
  rw [Message.relNorm_normal o ho m hn] at hs
  exact hs

/-- `update_forms` with an origin: the same for dynamic updates rendered and parsed with origin `o` -/
theorem update_forms_origin (m : Message) (o : Name) (hm : m.origin = some o) (ho : isAbs o = true) (zc lim : Nat)
    (w : Bytes) (hok : UMsgOkT eqvSpec ((m.absolutize o).canonUpdate zc)) (h : m.toWire lim false = .ok w)
    (cfg : PCfg) (horg : cfg.origin = none) (hkey : cfg.hasKey = true) :
    ∃ m', parseMessage { cfg with origin := some o } w = .ok m' ∧ m'.origin = some o ∧
      m'.simT eqvSpec (((m.absolutize o).canonUpdate zc).mapNames (relF o)) :=
  parse_toWire_update_origin m o hm ho zc lim w hok h cfg horg hkey

/-- non-vacuity of `parse_render_origin`: origin `ex.`; question `www` (relative), an NS record set at `WWW` (relative,
other case) with a relative target `ns` and an absolute one outside the origin (`ns.o.`), an A record at `ns`, an OPT
record with padding and a TSIG record whose (absolute) key name `k.ex.` lies below the origin: all names are normal and
the absolutized message is well formed -/
example : ∃ (m : Message) (o : Name), m.origin = some o ∧ isAbs o = true ∧ m.Normal o ∧ MsgOkP eqvSpec (m.absolutize o) := by
  refine ⟨{ id := 7, flags := 33152, origin := some [[101,120],[]], pad := 16, opt := some { ttl := 16809984, payload := 1232, options := [(10, [1,2,3,4,5,6,7,8])] }, tsig := some { name := [[107],[101,120],[]], alg := [[104,109,97,99],[]], time := 1700000000, fudge := 300, mac := [1,2,3,4], origId := 7, error := 0, other := [] }, q := [{ name := [[119,119,119]], rdclass := 1, rdtype := 2 }], an := [{ name := [[87,87,87]], rdclass := 1, rdtype := 2, ttl := 5, rdatas := [.name1 [[110,115]], .name1 [[110,115],[111],[]]] }], ad := [{ name := [[110,115]], rdclass := 1, rdtype := 1, ttl := 5, rdatas := [.raw [192,0,2,1]] }] },
    [[101,120],[]], rfl, rfl, by decide, by decide⟩

/-- Error class of one whole family of mutated wires, for *every* accepted octet string `w` (produced by the renderer or
not, any opcode, with or without origin, `one_rr_per_rrset`, TSIG…): appending octets to it gives exactly `TrailingJunk`
when `ignore_trailing=False`, and exactly the same message when `ignore_trailing=True`; and whatever was accepted with
either setting is accepted unchanged with `ignore_trailing=True`.  The reader never looks beyond the last record it
was told to read (name decoding, RDATA windows, option and TSIG field walks are all insensitive to what follows), and its
position never leaves the message. -/
theorem trailing_octets (cfg : PCfg) (w j : Bytes) (m : Message) (h : parseMessage cfg w = .ok m) :
    parseMessage { cfg with ignoreTrailing := true } (w ++ j) = .ok m ∧
    (cfg.ignoreTrailing = false → j ≠ [] → parseMessage cfg (w ++ j) = .error .trailingJunk) :=
  ⟨parseMessage_ignore_trailing cfg w j m h, (parseMessage_junk cfg w j m h).2⟩

/-- … in particular for renderings: a rendered well-formed message followed by junk is `TrailingJunk`, or — with
`ignore_trailing=True` — parses to the message `parse_render_partial` describes -/
theorem parse_render_trailing (m : Message) (lim : Nat) (w junk : Bytes) (hok : MsgOkP eqvSpec m) (h : m.toWire lim false = .ok w)
    (cfg : PCfg) (horg : cfg.origin = none) (hnorr : cfg.oneRRPerRRset = false) (hkey : cfg.hasKey = true) (hj : junk ≠ []) :
    parseMessage { cfg with ignoreTrailing := false } (w ++ junk) = .error .trailingJunk ∧
    ∃ m' opt', parseMessage { cfg with ignoreTrailing := true } (w ++ junk) = .ok m' ∧ m'.simT eqvSpec { m with opt := opt' } ∧
      OptPadRel m.pad m.opt opt' := by
  obtain ⟨m', opt', hp, hs, hr⟩ := parse_toWire_pad m lim w hok h { cfg with ignoreTrailing := false } horg hnorr hkey
  refine ⟨(parseMessage_junk _ w junk m' hp).2 rfl hj, m', opt', ?_, hs, hr⟩
  exact parseMessage_ignore_trailing { cfg with ignoreTrailing := false } w junk m' hp

-- non-vacuity: the empty message (twelve zero octets) is accepted; followed by one octet it is TrailingJunk, or accepted with ignore_trailing
example : parseMessage {} (List.replicate 12 0) = .ok { id := 0, flags := 0 } ∧
    parseMessage {} (List.replicate 12 0 ++ [7]) = .error .trailingJunk ∧
    parseMessage { ignoreTrailing := true } (List.replicate 12 0 ++ [7]) = .ok { id := 0, flags := 0 } := by
  refine ⟨rfl, rfl, rfl⟩

/-- "… (equal to the original whenever it uses absolute names)": *exact* form of `parse_render_partial`.  Guard, stated
precisely: the message is well formed as above and all its (absolute) names — owners, NS/CNAME/PTR/MX/SOA rdata names,
the TSIG owner — lie in a set `S` of names that contains the root, is closed under taking suffixes, and in which no two
members are equal only up to ASCII case (`CaseClosed S`, the message-wide `CaseConsistent` of DESIGN §6).  Then parsing
the rendering returns the message itself — every field of every record set identical, names byte for byte — except
that `request_payload`, which is not on the wire, is 0. -/
theorem parse_render_exact (S : Name → Prop) (hS : CaseClosed S) (m : Message) (lim : Nat) (w : Bytes)
    (hok : MsgOkT (exactSpec S hS) m) (h : m.toWire lim false = .ok w)
    (cfg : PCfg) (horg : cfg.origin = none) (hnorr : cfg.oneRRPerRRset = false) (hkey : cfg.hasKey = true) :
    parseMessage cfg w = .ok { m with requestPayload := 0 } :=
  parse_toWire_exact m lim w hok h cfg horg hnorr hkey

/-- "rendering the parsed message again without record shuffling reproduces the bytes exactly" — under the guard of
`parse_render_exact` (case-consistent names) and an explicit size limit (`max_size ≠ 0`; with `max_size = 0` the limit
would come from `request_payload`, which the parsed message does not carry): the parsed message renders, at the same
limit, to exactly the octets it was parsed from.
Without the guard the statement is still true of the implementation (the parser returns a compressed name in the case
of the occurrence it was compressed against, which is what is on the wire) and is covered by the correspondence check
and the direct oracle; the proof here goes through exactness of the round trip. -/
theorem render_parse_render (S : Name → Prop) (hS : CaseClosed S) (m : Message) (lim : Nat) (w : Bytes)
    (hok : MsgOkT (exactSpec S hS) m) (hlim : lim ≠ 0) (h : m.toWire lim false = .ok w)
    (cfg : PCfg) (horg : cfg.origin = none) (hnorr : cfg.oneRRPerRRset = false) (hkey : cfg.hasKey = true) :
    ∃ m', parseMessage cfg w = .ok m' ∧ m'.toWire lim false = .ok w := by
  refine ⟨_, parse_toWire_exact m lim w hok h cfg horg hnorr hkey, ?_⟩
  rw [toWire_requestPayload m lim false 0 hlim]
  exact h

/-- non-vacuity of `parse_render_exact` / `render_parse_render`: a response whose names share suffixes (so that they
are compressed) in one consistent spelling -/
example : ∃ (S : Name → Prop) (hS : CaseClosed S), MsgOkT (exactSpec S hS) { id := 7, flags := 33152, q := [{ name := [[119,119,119],[101,120],[]], rdclass := 1, rdtype := 2 }], an := [{ name := [[119,119,119],[101,120],[]], rdclass := 1, rdtype := 2, ttl := 5, rdatas := [.name1 [[110,115],[101,120],[]]] }] } := by
  exact ⟨fun x => x ∈ [[[119,119,119],[101,120],[]], [[110,115],[101,120],[]], [[101,120],[]], [[]]],
    caseClosed_of_list _ (by decide) (by decide) (by decide), by decide⟩

/-- "dynamic update with its delete/prerequisite forms" — `parse_render_partial` lifted to opcode UPDATE.  Guard
(`UMsgOkT` of the canonical form): one zone entry of type SOA and a non-meta class; every other record set, *after
canonicalisation*, is one of: an ordinary record (add, prerequisite with rdata), a delete-RR record (class NONE outside
the prerequisite section, rdata kept), or a class/type-only record with RDLENGTH 0 (delete-rrset / delete-name with
class ANY; the "present"/"absent" prerequisites with class ANY / NONE in the prerequisite section); one record per
record set; with or without OPT and TSIG, no padding, absolute names.  `canonUpdate zc` rewrites a record set whose
wire class is ANY/NONE into the parser's representation (class `zc` = the zone's class, `deleting` = ANY/NONE) and
leaves every other record set alone.  For *every* such message — whether its delete/prerequisite forms are in the
parser's representation or in the one the `UpdateMessage` API builds (`rdclass = ANY/NONE`: `present(name[,type])`,
`absent(name[,type])`, `delete(name)`) — parsing the rendering returns the canonical form, up to ASCII case of
compressed names.  The only update forms for which the parsed message is not the original (as Python objects) are
therefore exactly those with `canonUpdate m ≠ m`: the recorded finding
`C03/parse_render/library-eq/update-metaclass-form`. -/
theorem update_forms (m : Message) (zc lim : Nat) (w : Bytes) (hok : UMsgOkT eqvSpec (m.canonUpdate zc))
    (h : m.toWire lim false = .ok w) (cfg : PCfg) (horg : cfg.origin = none) (hkey : cfg.hasKey = true) :
    ∃ m', parseMessage cfg w = .ok m' ∧ m'.simT eqvSpec (m.canonUpdate zc) ∧ m'.opcode = ConstsC03.opUPDATE := by
  obtain ⟨m', hp, hs⟩ := parse_toWire_update_canon m zc lim w hok h cfg horg hkey
  refine ⟨m', hp, hs, ?_⟩
  have := hok.isUpd
  simp only [isUpdate, beq_iff_eq] at this
  have hf : (m.canonUpdate zc).flags = m.flags := rfl
  simp [Message.opcode, hs.2.1, hf] at this ⊢
  exact this

/-- … and a message already in the parser's representation (`UMsgOkT m` itself) is its own canonical form: it comes
back as itself. -/
theorem update_forms_canonical (m : Message) (lim : Nat) (w : Bytes) (hok : UMsgOkT eqvSpec m)
    (h : m.toWire lim false = .ok w) (cfg : PCfg) (horg : cfg.origin = none) (hkey : cfg.hasKey = true) :
    ∃ m', parseMessage cfg w = .ok m' ∧ m'.simT eqvSpec m :=
  parse_toWire_update_full m lim w hok h cfg horg hkey

/-- … the API's representation renders to exactly the same octets as the canonical one, whatever the limit and mode -/
theorem update_forms_api (m : Message) (zc lim : Nat) (pt : Bool) :
    (m.canonUpdate zc).toWire lim pt = m.toWire lim pt :=
  toWire_canonUpdate m zc lim pt

/-- non-vacuity of `update_forms`: zone `ex.` IN, prerequisite "name in use" (ANY ANY), an add, a delete-rrset,
a delete-rr -/
example : UMsgOkT eqvSpec { id := 9, flags := 10240, q := [{ name := [[101,120],[]], rdclass := 1, rdtype := 6 }], an := [{ name := [[97],[101,120],[]], rdclass := 1, rdtype := 255, deleting := some 255 }], au := [{ name := [[97],[101,120],[]], rdclass := 1, rdtype := 1, ttl := 300, rdatas := [.raw [10,0,0,1]] }, { name := [[98],[101,120],[]], rdclass := 1, rdtype := 1, deleting := some 255 }, { name := [[99],[101,120],[]], rdclass := 1, rdtype := 1, deleting := some 254, rdatas := [.raw [10,0,0,2]] }] } := by
  decide

/-- "the same … rcode incl. extended": splitting an rcode over the header nibble and the top octet of the OPT
ttl (`rcode.to_flags`) and joining it again (`rcode.from_flags`) is the identity on 0..4095; the two parts do not
overlap any other header or EDNS bit; `to_flags` refuses everything above 4095. -/
theorem rcode_roundtrip (v : Nat) :
    (v ≤ 4095 → ∃ a b, rcodeToFlags v = some (a, b) ∧ rcodeFromFlags a b = v ∧ a < 16 ∧ b % 16777216 = 0 ∧ b < 4294967296) ∧
    (v > 4095 → rcodeToFlags v = none) := by
  constructor
  · intro h
    have hv : ¬ v > 4095 := by omega
    obtain ⟨h1, h2, h3, h4⟩ := rcode_table v (by omega)
    exact ⟨_, _, by simp [rcodeToFlags, hv], h1, h2, h3, h4⟩
  · intro h; simp [rcodeToFlags, h]

/-- "the same … opcode": `opcode.to_flags` / `opcode.from_flags` are inverse on the sixteen opcodes and touch only
the opcode bits -/
theorem opcode_roundtrip (v : Nat) (h : v < 16) :
    opcodeFromFlags (opcodeToFlags v) = v ∧ opcodeToFlags v &&& 0x87FF = 0 :=
  opcode_table v h

end C03
