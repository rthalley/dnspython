import Proofs.BTreeTree
import Proofs.BTreeDeleteExact
import Proofs.BTreeCursorPark
import Proofs.BTreeApi
import Proofs.BTreeCowRefine
import Generated.C19
/-!
# C19 — the copy-on-write B-tree is a correct sorted map with isolated clones

Theorems of record about `Model.BTree` (the executable model of `dns/btree.py`, tied to the code by the
correspondence check `harness/props/C19.py`, which compares the full tree shape after every operation).

* Spec: a strictly sorted association list (`Sorted`, `lookup`, `insSorted`, `delKey`), keys and value
  ids in `Nat`.
* `flat n` is `visit_in_order`; `Wf t n` = all leaves at one depth, every internal node has one more child
  than elements, every non-root node holds between `t-1` and `2t-1` elements, the root at most `2t-1`, and
  `flat n` is strictly sorted.  `RootOk n` = an internal root holds at least one element.
* `TreeWf tr` adds the handle: `3 ≤ t` and `size = number of elements`.

Layers: L1 (`get`, order, length), L2 (`insert_element`, every `t ≥ 3`), L3 (`_delete`, every `t ≥ 3`),
L4 (in-order optimisation) are proved.  L3 exposes a defect of the code as shipped (an internal root is
left without elements when a deletion of an absent key merges its two children; see
`delete_asShipped_*`); the full statement is proved for the intended root collapse
(`Tree.collapseAlways = true`), a guarded statement and the counterexamples for the shipped one.  A second
defect of the same kind (root left empty when `delete_exact` raised) is covered by `delete_exact_refines` /
`delete_exact_unrepaired_loses_rootOk` (`Tree.collapseOnError`).  Both are repaired in the working tree
(f381413, 90d7725); the correspondence check runs the model with both repairs as the reference.
L5 (cursors): a cursor position is a split `done ++ rest` of the in-order listing (`CurInv`, a zipper over the
parents stack); `next` / `prev` / `seek` / `seek_first` / `seek_last` and unparking after arbitrary mutations
are proved to be navigation in that listing.

Mechanism level (`Model.BTreeCow`): a heap of cells with creator tokens, trees as root pointers, copy-on-write
exactly where the code copies.  `cow_step_refines` / `cow_run_refines`: every operation of any interleaving on any
number of trees and clones refines the persistent model; `cow_writes_only_own_cells`: a mutation changes only
cells created by the operating tree's token; `clone_isolated_mech`: it changes the abstraction of no other tree.

API level: `dict_*` / `set_*` state the `BTreeDict` / `BTreeSet` methods (with the `MutableMapping` /
`MutableSet` mixins) against the sorted association list; `mutation_parks_registered` and
`registered_cursor_resumes` put the parking of registered cursors inside the model.
-/
namespace C19
open Model.BTree

/-- The occupancy bounds `_MIN(t)`, `_MAX(t)` of the working tree, evaluated at t = 3..8, are the model's
`minKeys`/`maxKeys`, and the constructor's lower bound on `t` is 3. -/
theorem consts_agree :
    (∀ r ∈ ConstsC19.minMax, r.2.1 = minKeys r.1 ∧ r.2.2 = maxKeys r.1) ∧ ConstsC19.minT = 3 := by
  decide

/-! ## L1 — lookup, order, length -/

/-- "lookup … agree[s] with a reference sorted dictionary": `get_element` on a well-formed tree is lookup in
the in-order listing. -/
theorem get_refines {t : Nat} {n : Node} (k : Nat) (h : Wf t n) : get (height n) n k = lookup (flat n) k := by
  obtain ⟨hh, hs⟩ := h.shape
  rw [height_of_shape hs]
  exact get_refines_aux t k hh n hs h.sorted

/-- "in-order iteration … agree[s]": the in-order listing of a well-formed tree is strictly increasing in the
keys (and, by `insert_refines` / `delete_refines`, it is exactly the reference list after every operation). -/
theorem inorder_sorted {t : Nat} {n : Node} (h : Wf t n) : (flat n).Pairwise (fun a b => a.1 < b.1) := h.sorted

/-- "length … agree[s]": `len()` is the number of elements of the in-order listing, initially and after
every insertion and deletion (either variant of the root collapse). -/
theorem len_exact {tr : Tree} (hw : TreeWf tr) (hm : tr.immutable = false) (e : Elt) (k : Nat) :
    tr.size = tr.items.length ∧
    (tr.insert e).1.size = (tr.insert e).1.items.length ∧
    ((tr.delete k none).2 ≠ .indexError → (tr.delete k none).1.size = (tr.delete k none).1.items.length) := by
  refine ⟨hw.size_ok, (tree_insert_spec e hw hm).1.size_ok, fun hne => ?_⟩
  rcases tree_delete_weak k hw hm with ⟨h1, _⟩ | ⟨h1, _⟩
  · exact absurd h1 hne
  · exact h1.size_ok

/-! ## L2 / L4 — insertion -/

/-- "For every sequence of insertions, replacements …": `insert_element` on a well-formed mutable tree, for
every branching factor `t ≥ 3` and with the in-order optimisation on or off, yields a well-formed tree whose
in-order listing is the sorted insertion (a replacement when the key exists), returns the replaced element,
keeps the root condition, and keeps `size` exact. -/
theorem insert_refines {tr : Tree} (e : Elt) (hw : TreeWf tr) (hm : tr.immutable = false) :
    TreeWf (tr.insert e).1 ∧ (tr.insert e).1.items = insSorted e tr.items ∧
    (tr.insert e).2 = .ok (lookup tr.items e.1) ∧ (RootOk tr.root → RootOk (tr.insert e).1.root) :=
  let h := tree_insert_spec e hw hm
  ⟨h.1, h.2.1, h.2.2.1, h.2.2.2.1⟩

/-- the same at node level (`insert_nonfull` below a grown root), as in DESIGN Appendix A -/
theorem insert_refines_node {t : Nat} (ht : 3 ≤ t) (io : Bool) (e : Elt) {n : Node} (h : Wf t n) :
    Wf t (insertRoot t io n e).1 ∧ flat (insertRoot t io n e).1 = insSorted e (flat n) ∧
    (insertRoot t io n e).2 = lookup (flat n) e.1 :=
  insertRoot_spec (by omega) io e h

/-- L4, "in-order optimisation on and off": the optimisation changes the shape only — the listing and the
returned element do not depend on it, and both results are well-formed. -/
theorem in_order_opt_refines {t : Nat} (ht : 3 ≤ t) (e : Elt) {n : Node} (h : Wf t n) :
    flat (insertRoot t true n e).1 = flat (insertRoot t false n e).1 ∧
    (insertRoot t true n e).2 = (insertRoot t false n e).2 ∧
    Wf t (insertRoot t true n e).1 ∧ Wf t (insertRoot t false n e).1 := by
  obtain ⟨a1, a2, a3⟩ := insertRoot_spec (t := t) (by omega) true e h
  obtain ⟨b1, b2, b3⟩ := insertRoot_spec (t := t) (by omega) false e h
  exact ⟨by rw [a2, b2], by rw [a3, b3], a1, b1⟩

/-! ## L3 — deletion -/

/-- "… and deletions": with the intended root collapse (an emptied root is collapsed whenever `delete`
returns), `delete_key` on a well-formed mutable tree, for every `t ≥ 3` and every key (present or absent),
through every rebalancing case (steal left, steal right, merge, successor replacement, root collapse), yields a
well-formed tree whose listing is the reference list without the key, and returns the removed element. -/
theorem delete_refines {tr : Tree} (k : Nat) (hw : TreeWf tr) (hr : RootOk tr.root) (hm : tr.immutable = false)
    (hv : tr.collapseAlways = true) :
    TreeWf (tr.delete k none).1 ∧ RootOk (tr.delete k none).1.root ∧
    (tr.delete k none).1.items = delKey k tr.items ∧ (tr.delete k none).2 = .ok (lookup tr.items k) :=
  tree_delete_spec k hw hr hm hv

/-
Full statement for the code as shipped (it does NOT hold — see the two counterexamples below):

theorem delete_refines_asShipped {tr : Tree} (k : Nat) (hw : TreeWf tr) (hr : RootOk tr.root)
    (hm : tr.immutable = false) (hv : tr.collapseAlways = false) :
    TreeWf (tr.delete k none).1 ∧ RootOk (tr.delete k none).1.root ∧
    (tr.delete k none).1.items = delKey k tr.items ∧ (tr.delete k none).2 = .ok (lookup tr.items k)
-/

/-- The shipped `_delete` (root collapsed only when an element was deleted): the full statement holds outside
the trigger class "the key is absent and the root is an internal node holding exactly one element". -/
theorem delete_refines_partial {tr : Tree} (k : Nat) (hw : TreeWf tr) (hr : RootOk tr.root)
    (hm : tr.immutable = false) (hv : tr.collapseAlways = false)
    (guard : (lookup tr.items k).isSome ∨ tr.root.elts.length ≠ 1 ∨ tr.root.isLeaf = true) :
    TreeWf (tr.delete k none).1 ∧ RootOk (tr.delete k none).1.root ∧
    (tr.delete k none).1.items = delKey k tr.items ∧ (tr.delete k none).2 = .ok (lookup tr.items k) :=
  tree_delete_of_root k hw hm
    (by rw [hv]; exact deleteRoot_asShipped_partial (by have := hw.t_ok; omega) k hw.wf hr guard)

/-- What the shipped code does on *every* well-formed tree (root condition or not, either variant): a deletion
either refines the reference and keeps the tree well-formed, or — exactly when the root is an internal node
without elements over a single minimal child — raises `IndexError` and leaves the tree unchanged.  Occupancy
bounds, uniform leaf depth and order therefore hold after every operation of every history; only totality
fails. -/
theorem delete_refines_or_indexError {tr : Tree} (k : Nat) (hw : TreeWf tr) (hm : tr.immutable = false) :
    ((tr.delete k none).2 = .indexError ∧ (tr.delete k none).1 = tr ∧
        ∃ c, tr.root = .node [] [c] ∧ c.elts.length = minKeys tr.t) ∨
    (TreeWf (tr.delete k none).1 ∧ (tr.delete k none).1.items = delKey k tr.items ∧
      (tr.delete k none).2 = .ok (lookup tr.items k)) :=
  tree_delete_weak k hw hm

/-- a root with one element over two minimal leaves (t = 3) -/
def witnessRoot : Node := .node [(4, 0)] [.leaf [(0, 0), (2, 0)], .leaf [(6, 0), (8, 0)]]

/-- an internal root without elements over a single minimal child (t = 3), as left behind by deletions of
absent keys -/
def witnessStuck : Node :=
  .node [] [.node [(10, 0), (22, 0)]
    [.leaf [(0, 0), (2, 0), (4, 0), (6, 0), (8, 0)], .leaf [(12, 0), (14, 0), (16, 0), (18, 0), (20, 0)],
     .leaf [(24, 0), (26, 0), (28, 0), (30, 0), (32, 0)]]]

theorem witnessRoot_wf : Wf 3 witnessRoot ∧ RootOk witnessRoot := by
  refine ⟨⟨⟨1, ?_⟩, by decide, by decide⟩, Or.inr (by decide)⟩
  simp [witnessRoot, Shape, Occ, minKeys, maxKeys, Node.elts]

theorem witnessStuck_wf : Wf 3 witnessStuck := by
  refine ⟨⟨2, ?_⟩, by decide, by decide⟩
  simp [witnessStuck, Shape, Occ, minKeys, maxKeys, Node.elts]

/-- Counterexample 1 (code as shipped): deleting the absent key 1 from a well-formed tree whose root holds one
element over two minimal children leaves an internal root without elements — the root condition is lost
(nothing observable is wrong yet). -/
theorem delete_asShipped_loses_rootOk :
    Wf 3 witnessRoot ∧ RootOk witnessRoot ∧ lookup (flat witnessRoot) 1 = none ∧
    shapeCode (deleteRoot false 3 witnessRoot 1 none).1 =
      [(false, [], 1), (true, [(0, 0), (2, 0), (4, 0), (6, 0), (8, 0)], 0)] ∧
    ¬ RootOk (deleteRoot false 3 witnessRoot 1 none).1 := by
  refine ⟨witnessRoot_wf.1, witnessRoot_wf.2, by decide, by decide, ?_⟩
  have h1 : (deleteRoot false 3 witnessRoot 1 none).1.isLeaf = false := by decide
  have h2 : (deleteRoot false 3 witnessRoot 1 none).1.elts.length = 0 := by decide
  intro h
  rcases h with h | h
  · rw [h1] at h; cases h
  · omega

/-- Counterexample 2 (either variant, reachable only with the shipped one): in the state that further deletions
of absent keys produce, every deletion raises `IndexError`. -/
theorem delete_asShipped_indexError (k : Nat) :
    Wf 3 witnessStuck ∧ (deleteRoot false 3 witnessStuck k none).2 = .indexError := by
  refine ⟨witnessStuck_wf, ?_⟩
  -- this is the failing configuration of `deleteRoot_weak`: the other alternative would return `.ok _`
  rcases deleteRoot_weak (t := 3) (by omega) false k witnessStuck_wf with ⟨h, _⟩ | ⟨_, _, h3, _⟩
  · exact h
  · exfalso
    have hd : (deleteRoot false 3 witnessStuck k none).2 = .indexError := by
      simp [deleteRoot, witnessStuck, height, heightL, delete, Node.elts, searchInNode_nil,
        delPrep_single_minimal (t := 3) (c := .node [(10, 0), (22, 0)]
          [.leaf [(0, 0), (2, 0), (4, 0), (6, 0), (8, 0)], .leaf [(12, 0), (14, 0), (16, 0), (18, 0), (20, 0)],
           .leaf [(24, 0), (26, 0), (28, 0), (30, 0), (32, 0)]]) k (by simp [Node.elts, minKeys])]
    rw [hd] at h3
    cases h3

/-! ## `delete_exact` -/

/-- `delete_exact(element)` with the repaired `_delete` (the root is collapsed whenever it is left empty — also when
the call raises; dnspython f381413 + 90d7725).  Object identity is modelled as equality of (key, value id).

* the element passed is the stored one: the call *is* `delete_key(element.key())`, hence (by `delete_refines`) the
  tree stays well-formed, its listing loses exactly that key, and the element is returned;
* any other element (absent key, or another element under a present key): `ValueError`; the rebalancing done on the
  way down stays, and what is left is a well-formed tree whose root condition holds, with the same listing and the
  same `size` — so every later operation is again covered by the theorems above. -/
theorem delete_exact_refines {tr : Tree} (x : Elt) (hw : TreeWf tr) (hr : RootOk tr.root)
    (hm : tr.immutable = false) (hv : tr.collapseAlways = true) (he : tr.collapseOnError = true) :
    (lookup tr.items x.1 = some x →
      TreeWf (tr.delete x.1 (some x)).1 ∧ RootOk (tr.delete x.1 (some x)).1.root ∧
      (tr.delete x.1 (some x)).1.items = delKey x.1 tr.items ∧ (tr.delete x.1 (some x)).2 = .ok (some x)) ∧
    (lookup tr.items x.1 ≠ some x →
      TreeWf (tr.delete x.1 (some x)).1 ∧ RootOk (tr.delete x.1 (some x)).1.root ∧
      (tr.delete x.1 (some x)).1.items = tr.items ∧ (tr.delete x.1 (some x)).2 = .valueError ∧
      (tr.delete x.1 (some x)).1.size = tr.size) := by
  obtain ⟨h1, h2⟩ := tree_delete_exact x.1 x hw hr hm he
  refine ⟨fun hx => ?_, h2⟩
  rw [h1 hx]
  obtain ⟨a, b, c, d⟩ := delete_refines x.1 hw hr hm hv
  exact ⟨a, b, c, by rw [d, hx]⟩

/-- The same for any key/element pair (the model keeps `key` and `exact` apart like `_Node.delete` does): a failing
exact deletion never changes the listing, whatever it did to the shape. -/
theorem delete_exact_failure_keeps_contents {tr : Tree} (k : Nat) (x : Elt) (hw : TreeWf tr) (hr : RootOk tr.root)
    (hm : tr.immutable = false) (he : tr.collapseOnError = true) (hx : lookup tr.items k ≠ some x) :
    (tr.delete k (some x)).2 = .valueError ∧ (tr.delete k (some x)).1.items = tr.items ∧
    TreeWf (tr.delete k (some x)).1 ∧ RootOk (tr.delete k (some x)).1.root := by
  obtain ⟨a, b, c, d, _⟩ := (tree_delete_exact k x hw hr hm he).2 hx
  exact ⟨d, c, a, b⟩

/-- the tree of `witnessRoot` as a handle (t = 3, five elements), with and without the repair of 90d7725 -/
def witnessTree (collapseOnError : Bool) : Tree := ⟨3, witnessRoot, 5, false, false, true, collapseOnError⟩

theorem witnessTree_wf (b : Bool) : TreeWf (witnessTree b) ∧ RootOk (witnessTree b).root :=
  ⟨⟨by simp [witnessTree], witnessRoot_wf.1, by simp [witnessTree, witnessRoot, flat, inter]⟩,
    Or.inr (by simp [witnessTree, witnessRoot, Node.elts])⟩

/-- non-vacuity, failing branch: `delete_exact` of an element that is not stored (absent key 5) merges the two
minimal leaves on its way down and raises; with the repair the emptied root is collapsed … -/
example : (lookup (witnessTree true).items 5 ≠ some (5, 9)) ∧
    ((witnessTree true).delete 5 (some (5, 9))).2 = .valueError ∧
    shapeCode ((witnessTree true).delete 5 (some (5, 9))).1.root =
      [(true, [(0, 0), (2, 0), (4, 0), (6, 0), (8, 0)], 0)] := by
  refine ⟨by decide, rfl, by decide⟩

/-- … and without it (the code before 90d7725) the root condition is lost although nothing was deleted: the
hypothesis `collapseOnError = true` of `delete_exact_refines` cannot be dropped. -/
theorem delete_exact_unrepaired_loses_rootOk :
    TreeWf (witnessTree false) ∧ RootOk (witnessTree false).root ∧
    ((witnessTree false).delete 5 (some (5, 9))).2 = .valueError ∧
    ¬ RootOk ((witnessTree false).delete 5 (some (5, 9))).1.root := by
  refine ⟨(witnessTree_wf false).1, (witnessTree_wf false).2, rfl, ?_⟩
  intro hro
  rcases hro with hl | hp
  · have : (((witnessTree false).delete 5 (some (5, 9))).1.root.isLeaf) = false := by decide
    rw [this] at hl; cases hl
  · have : ((witnessTree false).delete 5 (some (5, 9))).1.root.elts.length = 0 := by decide
    omega

/-- non-vacuity, matching branch: the stored element (4, 0) of an internal node is deleted exactly; a foreign element
under the same key is refused and changes nothing here -/
example : ((witnessTree true).delete 4 (some (4, 0))).2 = .ok (some (4, 0)) ∧
    ((witnessTree true).delete 4 (some (4, 0))).1.items = [(0, 0), (2, 0), (6, 0), (8, 0)] ∧
    ((witnessTree true).delete 4 (some (4, 7))).2 = .valueError ∧
    ((witnessTree true).delete 4 (some (4, 7))).1.items = (witnessTree true).items := by
  refine ⟨rfl, by decide, rfl, by decide⟩

/-! ## frozen trees and clones -/

/-- "a frozen tree rejects every mutation": `insert_element`, `delete_key` and `delete_exact` on an immutable tree
raise `Immutable` and leave the tree as it is. -/
theorem frozen_rejects {tr : Tree} (h : tr.immutable = true) (e : Elt) (k : Nat) (x : Option Elt) :
    tr.insert e = (tr, .immutableErr) ∧ tr.delete k x = (tr, .immutableErr) ∧
    (tr.makeImmutable).immutable = true :=
  ⟨frozen_insert e h, frozen_delete k x h, rfl⟩

/-- "A copy-on-write clone …": a clone can only be taken from a frozen tree, is mutable, and starts with the
same contents; in the model nodes are persistent values, so no later operation on the clone can be observed
through the original (isolation of the *code* is established by the correspondence histories, which re-read
the original and every clone after each mutation). -/
theorem clone_isolated {o : Tree} (io : Bool) :
    (o.immutable = false → o.clone io = none) ∧
    (∀ c, o.clone io = some c → c.items = o.items ∧ c.size = o.size ∧ c.t = o.t ∧ c.root = o.root ∧
      c.immutable = false ∧ (TreeWf o → TreeWf c)) := by
  refine ⟨fun h => by simp [Tree.clone, h], ?_⟩
  intro c hc
  unfold Tree.clone at hc
  split at hc
  · simp only [Option.some.injEq] at hc
    subst hc
    exact ⟨rfl, rfl, rfl, rfl, rfl, fun hw => ⟨hw.t_ok, hw.wf, hw.size_ok⟩⟩
  · simp at hc

/-! ## non-vacuity -/

/-- the hypotheses of the theorems above are met by a non-trivial tree: a two-level tree with t = 3 -/
example : TreeWf ⟨3, witnessRoot, 5, false, true, true, false⟩ ∧ RootOk witnessRoot :=
  ⟨⟨by decide, witnessRoot_wf.1, by decide⟩, witnessRoot_wf.2⟩

/-- and the operations really change it: inserting key 5 and deleting key 4 (successor replacement + merge +
root collapse) on that tree -/
example : flat (insertRoot 3 true witnessRoot (5, 9)).1 = [(0, 0), (2, 0), (4, 0), (5, 9), (6, 0), (8, 0)] := by
  decide
example : shapeCode (deleteRoot true 3 witnessRoot 4 none).1 = [(true, [(0, 0), (2, 0), (6, 0), (8, 0)], 0)] := by
  decide
example : get (height witnessRoot) witnessRoot 6 = some (6, 0) := by decide
example : (Tree.empty 3 false).immutable = false ∧ TreeWf (Tree.empty 3 false) :=
  ⟨rfl, (empty_treeWf (by decide) false false).1⟩

/-! ## L5 — cursors

`CurInv t root c done rest`: the (unparked) cursor `c` rests in the tree `root` at the position that splits the
in-order listing into `done ++ rest`.  `SplitAt k before done rest`: that position is the lower bound
(`before`) / upper bound (`not before`) of key `k`.
-/

/-- "cursor seek/next/prev … agree with a reference sorted dictionary": a fresh cursor and `seek_first` rest on the
left boundary, `seek_last` on the right boundary, of whatever tree they are used with. -/
theorem cursor_boundaries (t : Nat) (root : Node) (c : Cursor) :
    CurInv t root ({} : Cursor) [] (flat root) ∧ CurInv t root c.seekFirst [] (flat root) ∧
    CurInv t root c.seekLast (flat root) [] ∧ c.seekFirst.parked = false ∧ c.seekLast.parked = false ∧
    c.seekFirst.pkey = none ∧ c.seekLast.pkey = none :=
  ⟨(boundary_inv t root {} rfl rfl rfl).1 rfl, (boundary_inv t root c.seekFirst rfl rfl rfl).1 rfl,
   (boundary_inv t root c.seekLast rfl rfl rfl).2 rfl, rfl, rfl, rfl, rfl⟩

/-- `seek(key, before)` on a well-formed tree rests at the lower bound (`before`) or upper bound (`not before`)
of the key in the in-order listing, and records the anchor (key, not yet returned, hint = `before`). -/
theorem cursor_seek_refines {tr : Tree} (hw : TreeWf tr) (key : Nat) (before : Bool) :
    ∃ D R, CurInv tr.t tr.root (Cursor.seek tr.root key before) D R ∧ D ++ R = tr.items ∧
      SplitAt key before D R ∧ (Cursor.seek tr.root key before).parked = false ∧
      (Cursor.seek tr.root key before).pkey = some key ∧ (Cursor.seek tr.root key before).pread = false ∧
      (Cursor.seek tr.root key before).increasing = before := by
  obtain ⟨D, R, h1, h2, _, h3⟩ := seek_spec hw.wf key before
  exact ⟨D, R, h1, curInv_split h1, h2, h3⟩

/-- `next()` of an unparked cursor returns the element after the position (`None` at the end) and moves past
it; the anchor it leaves is that element's key, returned, increasing. -/
theorem cursor_next_refines {tr : Tree} (hw : TreeWf tr) (c : Cursor) (D R : List Elt) (hp : c.parked = false)
    (hinv : CurInv tr.t tr.root c D R) :
    D ++ R = tr.items ∧ (c.next tr.root).2 = R.head? ∧
    CurInv tr.t tr.root (c.next tr.root).1 (D ++ R.head?.toList) R.tail ∧ (c.next tr.root).1.parked = false ∧
    (∀ e, (c.next tr.root).2 = some e → (c.next tr.root).1.pkey = some e.1 ∧ (c.next tr.root).1.pread = true ∧
      (c.next tr.root).1.increasing = true) ∧
    ((c.next tr.root).2 = none → (c.next tr.root).1.pkey = none) := by
  obtain ⟨Hr, hr⟩ := hw.wf.shape
  obtain ⟨h1, h2, h3⟩ := next_spec hr c D R hp hinv
  exact ⟨curInv_split hinv, h1, h2, h3, (next_anchor c tr.root).1, (next_anchor c tr.root).2⟩

/-- `prev()` of an unparked cursor returns the element before the position (`None` at the start) and moves
before it; the anchor it leaves is that element's key, returned, decreasing. -/
theorem cursor_prev_refines {tr : Tree} (hw : TreeWf tr) (c : Cursor) (D R : List Elt) (hp : c.parked = false)
    (hinv : CurInv tr.t tr.root c D R) :
    D ++ R = tr.items ∧ (c.prev tr.root).2 = D.getLast? ∧
    CurInv tr.t tr.root (c.prev tr.root).1 D.dropLast (D.getLast?.toList ++ R) ∧ (c.prev tr.root).1.parked = false ∧
    (∀ e, (c.prev tr.root).2 = some e → (c.prev tr.root).1.pkey = some e.1 ∧ (c.prev tr.root).1.pread = true ∧
      (c.prev tr.root).1.increasing = false) ∧
    ((c.prev tr.root).2 = none → (c.prev tr.root).1.pkey = none) := by
  obtain ⟨Hr, hr⟩ := hw.wf.shape
  obtain ⟨h1, h2, h3⟩ := prev_spec hr c D R hp hinv
  exact ⟨curInv_split hinv, h1, h2, h3, (prev_anchor c tr.root).1, (prev_anchor c tr.root).2⟩

/-- "including cursors kept open across mutations": a parked cursor with a parking key `K`, used on the tree
*as it is now* (any well-formed tree, whatever mutations happened while the cursor was parked), resumes at the
bound of `K` — just after `K` if `K` was returned by `next()`, just before it if it was returned by `prev()`, as
sought if it was not returned yet — and `next()` / `prev()` continue from there.  A parked cursor without a
parking key rests on a boundary and stays there. -/
theorem cursor_unpark_refines {tr : Tree} (hw : TreeWf tr) (c : Cursor) (K : Nat) (hp : c.parked = true)
    (hk : c.pkey = some K) :
    ∃ D R, D ++ R = tr.items ∧ SplitAt K (unparkBefore c) D R ∧
      (c.next tr.root).2 = R.head? ∧ CurInv tr.t tr.root (c.next tr.root).1 (D ++ R.head?.toList) R.tail ∧
      (c.prev tr.root).2 = D.getLast? ∧
      CurInv tr.t tr.root (c.prev tr.root).1 D.dropLast (D.getLast?.toList ++ R) ∧
      (c.next tr.root).1.parked = false ∧ (c.prev tr.root).1.parked = false := by
  obtain ⟨Hr, hr⟩ := hw.wf.shape
  obtain ⟨D, R, hinv, hsplit, hunp⟩ := maybeUnpark_key hw.wf c K hp hk
  have hinv1 : CurInv tr.t tr.root { c.maybeUnpark tr.root with pkey := none } D R :=
    curInv_congr rfl rfl rfl rfl rfl hinv
  obtain ⟨n1, n2, n3⟩ := nextBody_spec hr _ D R hinv1
  obtain ⟨p1, p2, p3⟩ := prevBody_spec hr _ D R hinv1
  rw [← next_eq_body] at n1 n2 n3
  rw [← prev_eq_body] at p1 p2 p3
  exact ⟨D, R, curInv_split hinv, hsplit, n1, n2, p1, p2, by rw [n3]; exact hunp, by rw [p3]; exact hunp⟩

/-- parking without a mutation is the identity: the position that an anchor denotes in a sorted listing is
unique, so re-seeking it on an unchanged tree returns to the same split. -/
theorem cursor_bound_unique {key : Nat} {b : Bool} {D R D' R' : List Elt}
    (hs : (D ++ R).Pairwise (fun a b => a.1 < b.1)) (heq : D ++ R = D' ++ R') (h : SplitAt key b D R)
    (h' : SplitAt key b D' R') : D = D' ∧ R = R' := by
  unfold SplitAt at h h'
  cases b
  · simp only [Bool.false_eq_true, if_false] at h h'
    exact append_cut_unique (P := fun x => x.1 ≤ key) heq h.1 (fun x hx => Nat.not_le.mpr (h.2 x hx)) h'.1
      (fun x hx => Nat.not_le.mpr (h'.2 x hx))
  · simp only [if_true] at h h'
    exact append_cut_unique (P := fun x => x.1 < key) heq h.1 (fun x hx => Nat.not_lt.mpr (h.2 x hx)) h'.1
      (fun x hx => Nat.not_lt.mpr (h'.2 x hx))

/-- non-vacuity: a cursor sought to key 4 in the two-level witness tree; `next()` returns (4, 0), then (6, 0);
after deleting key 6 from the tree (cursor parked with anchor "after 4"), `next()` returns (8, 0). -/
example : ((Cursor.seek witnessRoot 4 true).next witnessRoot).2 = some (4, 0) := by decide
example : ((((Cursor.seek witnessRoot 4 true).next witnessRoot).1.park).next
    (deleteRoot true 3 witnessRoot 6 none).1).2 = some (8, 0) := by decide

/-! ## the copy-on-write mechanism (`Model.BTreeCow`)

`Sess` = one heap of cells (`creator`, `is_leaf`, `elts`, child addresses) + tree handles (root pointer, own creator
token).  `Sess.step` runs `BTree(t=…)`, `insert_element`, `delete_key`, `BTree(original=…)`, `make_immutable` on the
heap, copying exactly where the code copies; `refStep` runs the same operation on a list of independent
`Model.BTree.Tree` values; `Sess.abs` reads every tree off the heap.  `SessOk` is the session invariant (well-formed
unshared trees; every cell created by a handed-out token; distinct tokens; no cell created by the token of a mutable
tree is reachable from another tree). -/
section Mechanism
open Model.BTreeCow

/-- "A copy-on-write clone is fully isolated" at mechanism level, one step: the invariant is kept and the
abstraction of the whole session after the step is the step of the persistent reference — so the operated tree
behaves as `Model.BTree` says (L1–L3 apply to it) and every other tree is unchanged. -/
theorem cow_step_refines {s : Sess} (ok : SessOk s) (op : Op) (hop : OpOk op) :
    SessOk (s.step op) ∧ (s.step op).abs = refStep s.abs op :=
  step_refines ok op hop

/-- "… for all clone/freeze points in the history": any interleaving of operations on any number of trees and
clones, starting from the empty session. -/
theorem cow_run_refines (ops : List Op) (hops : ∀ op ∈ ops, OpOk op) :
    SessOk (ops.foldl Sess.step Sess.init) ∧
    (ops.foldl Sess.step Sess.init).abs = ops.foldl refStep [] := by
  have := run_refines ops hops sessOk_init
  simpa [Sess.abs, Sess.init] using this

/-- "no mutation of a clone is observable through its original or any other clone": an operation on tree `i`
leaves the abstraction of every other tree `j` exactly as it was. -/
theorem clone_isolated_mech {s : Sess} (ok : SessOk s) (op : Op) (hop : OpOk op) (j : Nat) (hj : j < s.hs.length)
    (hne : op.target ≠ some j) :
    (s.step op).abs[j]? = s.abs[j]? := by
  rw [(step_refines ok op hop).2]
  exact refStep_other s.abs op j (by simpa [Sess.abs] using hj) hne

/-- Every operation on a tree with creator token `c` writes only heap cells whose creator is `c`: cells created
by other tokens are untouched, no creator changes, every new cell is created by `c`. -/
theorem cow_writes_only_own_cells {s : Sess} (ok : SessOk s) (i : Nat) (hd : Handle) (hi : s.hs[i]? = some hd)
    (e : Elt) (k : Nat) :
    Footprint hd.creator s.w.heap (s.step (.insert i e)).w.heap ∧
    Footprint hd.creator s.w.heap (s.step (.delete i k)).w.heap :=
  ⟨(step_insert ok i e).2.2 hd hi, (step_delete ok i k).2.2 hd hi⟩

/-- non-vacuity: a tree with five keys is frozen and cloned twice; both clones are mutated.  The invariant holds
(so the theorems above apply), and on the heap the original still reads as before while the clones differ. -/
def demoOps : List Op :=
  [.new 3 false true, .insert 0 (1, 1), .insert 0 (2, 2), .insert 0 (3, 3), .insert 0 (4, 4), .insert 0 (5, 5),
   .freeze 0, .clone 0 false, .clone 0 true, .insert 1 (6, 6), .delete 2 3, .insert 0 (9, 9)]

example : SessOk (demoOps.foldl Sess.step Sess.init) :=
  (cow_run_refines demoOps (by simp [demoOps, OpOk])).1

example : ((demoOps.foldl Sess.step Sess.init).abs.map Tree.items) =
    [[(1, 1), (2, 2), (3, 3), (4, 4), (5, 5)],
     [(1, 1), (2, 2), (3, 3), (4, 4), (5, 5), (6, 6)],
     [(1, 1), (2, 2), (4, 4), (5, 5)]] := by
  rw [(cow_run_refines demoOps (by simp [demoOps, OpOk])).2]
  decide

end Mechanism

/-! ## registered cursors -/

/-- `_check_mutable_and_park`: every mutation that is not rejected parks every registered cursor (and only those),
and a rejected mutation (frozen tree) parks nothing. -/
theorem mutation_parks_registered {tc : TreeC} (e : Elt) (k : Nat) (x : Option Elt) :
    (tc.tree.immutable = false →
      (tc.insert e).1.cursors = tc.cursors.map (fun bc => if bc.1 then (bc.1, bc.2.park) else bc) ∧
      (tc.delete k x).1.cursors = tc.cursors.map (fun bc => if bc.1 then (bc.1, bc.2.park) else bc) ∧
      (tc.insert e).1.tree = (tc.tree.insert e).1 ∧ (tc.delete k x).1.tree = (tc.tree.delete k x).1) ∧
    (tc.tree.immutable = true → tc.insert e = (tc, .immutableErr) ∧ tc.delete k x = (tc, .immutableErr)) :=
  ⟨fun hm => ⟨(insert_parks e hm).1, (delete_parks k x hm).1, (insert_parks e hm).2.1, (delete_parks k x hm).2.1⟩,
   fun hm => frozen_keeps_cursors e k x hm⟩

/-- "cursors kept open across mutations", end to end at the tree-with-cursors level: a registered cursor whose last
`next()` returned an element with key `K` (so its anchor is `K`, returned, increasing — `cursor_next_refines`),
after *any* insertion or deletion on its tree, continues with the least element of the tree as it is now whose
key is greater than `K`. -/
theorem registered_cursor_resumes {tc : TreeC} (hw : TreeWf tc.tree) (hr : RootOk tc.tree.root)
    (hm : tc.tree.immutable = false) (hv : tc.tree.collapseAlways = true) (i : Nat) (c : Cursor) (K : Nat)
    (hc : tc.cursors[i]? = some (true, c)) (hk : c.pkey = some K) (hread : c.pread = true)
    (hinc : c.increasing = true) (e : Elt) (k : Nat) :
    ((tc.insert e).1.next i).2 = ((tc.insert e).1.tree.items.filter (fun x => decide (K < x.1))).head? ∧
    ((tc.delete k none).1.next i).2 = ((tc.delete k none).1.tree.items.filter (fun x => decide (K < x.1))).head? := by
  have key : ∀ (tc' : TreeC), TreeWf tc'.tree →
      tc'.cursors = tc.cursors.map (fun bc => if bc.1 then (bc.1, bc.2.park) else bc) →
      (tc'.next i).2 = (tc'.tree.items.filter (fun x => decide (K < x.1))).head? := by
    intro tc' hw' hcs
    have hpc : tc'.cursors[i]? = some (true, c.park) := by rw [hcs]; exact parked_getElem hc
    obtain ⟨D, R, h1, h2, h3, _⟩ := cursor_unpark_refines hw' c.park K rfl (by simpa [Cursor.park] using hk)
    have hb : unparkBefore c.park = false := by simp [unparkBefore, Cursor.park, hread, hinc]
    rw [hb] at h2
    have := splitAt_after h2
    simp only [TreeC.next, TreeC.withCursor, hpc]
    rw [h3, ← h1, ← this]
  have hi := insert_parks (tc := tc) e hm
  have hd := delete_parks (tc := tc) k none hm
  constructor
  · exact key _ (by rw [hi.2.1]; exact (insert_refines e hw hm).1) hi.1
  · exact key _ (by rw [hd.2.1]; exact (delete_refines k hw hr hm hv).1) hd.1

/-! ## the mapping and set API -/

/-- "the B-tree map … behave[s] as a sorted dictionary" at the API the user calls (`BTreeDict` with the
`MutableMapping` mixin), for a well-formed tree `tr` and reference listing `tr.items`. -/
theorem dict_reads_refine {tr : Tree} (hw : TreeWf tr) (k : Nat) :
    Dict.getitem tr k = (match lookup tr.items k with | some e => .ok e.2 | none => .error .keyError) ∧
    Dict.get tr k = (lookup tr.items k).map (·.2) ∧ Dict.contains tr k = (lookup tr.items k).isSome ∧
    Dict.len tr = tr.items.length ∧ Dict.keys tr = tr.items.map (·.1) ∧ Dict.items tr = tr.items ∧
    Dict.values tr = tr.items.map (·.2) :=
  ⟨dict_getitem hw k, dict_get hw k, dict_contains hw k, hw.size_ok, dict_keys hw, dict_items hw, dict_values hw⟩

/-- `d[k] = v`, `del d[k]` (`KeyError` exactly for an absent key) and `d.pop(k)` on a mutable well-formed
`BTreeDict` (with the repaired `_delete`). -/
theorem dict_writes_refine {tc : TreeC} (hw : TreeWf tc.tree) (hr : RootOk tc.tree.root)
    (hm : tc.tree.immutable = false) (hv : tc.tree.collapseAlways = true) (k v : Nat) :
    (TreeWf (Dict.setitem tc k v).1.tree ∧ (Dict.setitem tc k v).1.tree.items = insSorted (k, v) tc.tree.items ∧
      (Dict.setitem tc k v).2 = .ok ()) ∧
    (TreeWf (Dict.delitem tc k).1.tree ∧ (Dict.delitem tc k).1.tree.items = delKey k tc.tree.items ∧
      (Dict.delitem tc k).2 = (if (lookup tc.tree.items k).isSome then .ok () else .error .keyError)) ∧
    ((Dict.pop tc k).2 = (match lookup tc.tree.items k with | some e => .ok e.2 | none => .error .keyError) ∧
      (Dict.pop tc k).1.tree.items = delKey k tc.tree.items) :=
  ⟨dict_setitem k v hw hm,
   let h := dict_delitem k hw hr hm hv; ⟨h.1, h.2.2.1, h.2.2.2⟩,
   dict_pop k hw hr hm hv⟩

/-- "… and set": `x in s`, `len`, iteration, `add`, `discard`, `remove` (`KeyError` exactly for an absent
member) of `BTreeSet`. -/
theorem set_refines {tc : TreeC} (hw : TreeWf tc.tree) (hr : RootOk tc.tree.root)
    (hm : tc.tree.immutable = false) (hv : tc.tree.collapseAlways = true) (k : Nat) :
    SetApi.contains tc.tree k = (lookup tc.tree.items k).isSome ∧ SetApi.len tc.tree = tc.tree.items.length ∧
    SetApi.members tc.tree = tc.tree.items.map (·.1) ∧
    ((SetApi.add tc k).1.tree.items = insSorted (k, 0) tc.tree.items ∧ (SetApi.add tc k).2 = .ok ()) ∧
    ((SetApi.discard tc k).1.tree.items = delKey k tc.tree.items ∧ (SetApi.discard tc k).2 = .ok ()) ∧
    ((lookup tc.tree.items k).isSome = true → (SetApi.remove tc k).2 = .ok () ∧
        (SetApi.remove tc k).1.tree.items = delKey k tc.tree.items) ∧
    ((lookup tc.tree.items k).isSome = false → SetApi.remove tc k = (tc, .error .keyError)) :=
  ⟨set_contains hw k, hw.size_ok, set_members hw,
   let h := set_add k hw hm; ⟨h.2.1, h.2.2⟩,
   let h := set_discard k hw hr hm hv; ⟨h.2.2.1, h.2.2.2⟩,
   (set_remove k hw hr hm hv).1, (set_remove k hw hr hm hv).2⟩

end C19
