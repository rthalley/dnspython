import Model.ResolverCode
import Model.ResolverName
import Proofs.ResolverNx
import Proofs.ResolverTrace
import Proofs.ResolverClass
import Proofs.ResolverEquiv
import Proofs.ResolverAsync
/-!
# C16 — stub resolution reaches the documented outcome under every fault sequence

Theorems of record about `Model.Resolver` (the executable model of `dns/resolver.py`'s `_Resolution`, the
`resolve` loop, `_get_qnames_to_try`, `_compute_timeout`, and `dns/message.py` `resolve_chaining`).
Constants (`ConstsC16.*`: `MAX_CHAIN`, the observed back-off table) are regenerated from the working tree on
every run.  The synchronous and the asyncio resolver share `_Resolution`; that their loops take identical
decisions is `async_eq_sync` below, for the coroutine model of the asyncio loop (`Model/ResolverAsync.lean`).
-/
namespace C16
open Model Model.Resolver

/-! ## regenerated constants -/

/-- the first `n` back-off values of a schedule -/
def backoffSeq (bo : Backoff) : Nat → Nat → List Nat
  | 0, _ => []
  | n + 1, b => b :: backoffSeq bo n (min (b * bo.factor) bo.cap)

/-- "back-off 0.1 → 2 s doubling": the model's schedule with the regenerated parameters reproduces the back-off
values observed on a real `_Resolution` object of the working tree. -/
theorem backoff_table_matches :
    backoffSeq codeBackoff 8 codeBackoff.init = ConstsC16.backoffSeqMs := by decide

/-- what termination needs of the schedule: the first back-off is positive and never exceeds the cap,
and the factor does not shrink it. -/
theorem backoff_wellformed :
    0 < codeBackoff.init ∧ codeBackoff.init ≤ codeBackoff.cap ∧ 1 ≤ codeBackoff.factor := by decide

/-! ## candidate names -/

/-- "candidate names follow search-list and ndots rules": whenever `_get_qnames_to_try` returns, the list is
exactly: the name itself if absolute; else only its absolute form when searching is off; else the absolute form
*first* if the name has at least `ndots` dots (`len(qname) > ndots`) followed by `qname + suffix` for each suffix of
the search list in order, or the suffixed names first and the absolute form *last* otherwise.  The search list is
`search` if non-empty, else `[domain]` unless the domain is the root. -/
theorem search_ndots_rule (cfg : Config) (q : Name) (s : Option Bool) (l : List Name)
    (h : getQnamesToTry cfg q s = .ok l) :
    l = if isAbs q then [q]
        else if !(s.getD cfg.useSearchByDefault) then [q ++ root]
        else if cfg.ndots.getD 1 < q.length then (q ++ root) :: (searchList cfg).map (q ++ ·)
        else (searchList cfg).map (q ++ ·) ++ [q ++ root] := by
  unfold getQnamesToTry at h
  simp only at h
  by_cases habs : isAbs q = true
  · rw [if_pos habs] at h ⊢
    cases h; rfl
  · rw [if_neg habs] at h ⊢
    cases hq : concatenate q root with
    | error e => rw [hq] at h; cases h
    | ok absQ =>
      rw [hq, concatenate_ok hq] at h
      cases hs : s.getD cfg.useSearchByDefault with
      | false => rw [hs] at h; cases h; rfl
      | true =>
        rw [hs] at h
        cases hc : concatAll q (searchList cfg) with
        | error e => simp [hc] at h
        | ok cands =>
          simp only [hc, concatAll_ok hc, gt_iff_lt] at h
          by_cases hn : cfg.ndots.getD 1 < q.length
          · rw [if_pos hn] at h ⊢; cases h; rfl
          · rw [if_neg hn] at h ⊢; cases h; rfl

example : getQnamesToTry
    { servers := [], search := [[[101, 120], []], [[99], []]], domain := none, ndots := some 2,
      useSearchByDefault := true, timeout := 2000, lifetime := 5000, retryServfail := false, cacheOn := false }
    [[119]] none = .ok [[[119], [101, 120], []], [[119], [99], []], [[119], []]] := by rfl

/-! ## the CNAME chain -/

/-- "the answer follows the CNAME chain (bounded) with minimum TTL": whenever `resolve_chaining` returns,
fewer than `MAX_CHAIN` CNAME RRsets were followed, they form a path in the answer section from the question name to
the canonical name, an answer RRset is the RRset of the question's class and type *at the canonical name*, and
`minimum_ttl` is exactly the minimum of `MAX_TTL`, the TTLs of the CNAMEs followed and the answer's TTL — or, without
an answer, that minimum further lowered by the negative-caching walk (next theorem). -/
theorem chain_bounded_min_ttl (maxChain : Nat) (r : Resp) (q : Name) (cls ty : Nat) (c : ChainResult)
    (h : resolveChaining maxChain r q cls ty = .ok c) :
    c.cnames.length < maxChain ∧
    IsCnamePath r.answer cls q c.cnames c.canonical ∧
    (∀ a, c.answer = some a →
        a ∈ r.answer ∧ sameName a.owner c.canonical = true ∧ a.rdclass = cls ∧ a.rdtype = ty ∧
        c.minTtl = listMin Consts.maxTTL (c.cnames.map (·.ttl) ++ [a.ttl])) ∧
    (c.answer = none →
        findRRset r.answer c.canonical cls ty = none ∧
        c.minTtl = soaWalk r.authority cls c.canonical (listMin Consts.maxTTL (c.cnames.map (·.ttl)))) := by
  unfold resolveChaining at h
  split at h
  · cases h
  split at h
  · cases h
  obtain ⟨ext, e1, e2, e3, e4, e5, e6⟩ := chainLoop_spec r.answer cls ty maxChain q Consts.maxTTL [] _ rfl
  rw [List.nil_append] at e1
  simp only at h
  split at h
  · cases h
  rename_i hlong
  have hlong' : (chainLoop r.answer cls ty maxChain q Consts.maxTTL []).tooLong = false := by
    simpa using hlong
  split at h
  · cases h
  split at h <;> rename_i ha <;> cases h <;> refine ⟨e1 ▸ e4 hlong', e1 ▸ e2, ?_, ?_⟩
  · intro a' ha'
    cases ha'
    exact e1 ▸ e5 _ ha
  · intro hn; cases hn
  · intro a' ha'; cases ha'
  · exact fun _ => ⟨((e6 ha).2 hlong').1, congrArg (soaWalk r.authority cls _) (e1 ▸ (e6 ha).1)⟩

/-- "negative TTL from SOA": without an answer the TTL is lowered by the TTL and the MINIMUM field of the SOA RRset
of the question's class found at the closest name among the canonical name and its ancestors (parent by parent,
stopping at the root), and left alone if there is none. -/
theorem negative_ttl_from_soa (auth : List Soa) (cls : Nat) (n : Name) (m : Nat) :
    soaWalk auth cls n m =
      match (ancestors n).findSome? (fun a => findSoa auth a cls) with
      | some s => min m (min s.ttl s.minimum)
      | none => m :=
  soaWalk_spec auth cls n m

/-- "(bounded)": a chain of `MAX_CHAIN` CNAMEs is refused even when it ends in an answer; non-responses, a question
count other than one, and an NXDOMAIN carrying an answer are refused. -/
theorem chain_refusals (maxChain : Nat) (r : Resp) (q : Name) (cls ty : Nat) :
    (r.qr = false → resolveChaining maxChain r q cls ty = .error .notQueryResponse) ∧
    (r.qr = true → r.qcount ≠ 1 → resolveChaining maxChain r q cls ty = .error .formError) ∧
    (r.qr = true → r.qcount = 1 → (chainLoop r.answer cls ty maxChain q Consts.maxTTL []).tooLong = true →
        resolveChaining maxChain r q cls ty = .error .chainTooLong) := by
  refine ⟨?_, ?_, ?_⟩
  · intro h; simp [resolveChaining, h]
  · intro h1 h2; simp [resolveChaining, h1, h2]
  · intro h1 h2 h3; simp [resolveChaining, h1, h2, h3]

/-- non-vacuity: a two-link chain with an answer, TTL = the minimum along it -/
example : resolveChaining 16
    { rcode := 0, qr := true, qcount := 1,
      answer := [⟨[[97], []], 1, 5, 300, [[98], []]⟩, ⟨[[98], []], 1, 5, 20, [[99], []]⟩, ⟨[[99], []], 1, 1, 60, []⟩],
      authority := [] } [[97], []] 1 1
    = .ok { canonical := [[99], []], answer := some ⟨[[99], []], 1, 1, 60, []⟩, minTtl := 20,
            cnames := [⟨[[97], []], 1, 5, 300, [[98], []]⟩, ⟨[[98], []], 1, 5, 20, [[99], []]⟩] } := by rfl

/-! ## the cache -/

/-- "results cached under (name, type, class)": the cache is a map keyed by exactly that triple (names up to ASCII
case): a `put` is visible under its own key until it expires and leaves every other key untouched. -/
theorem cache_key_exact (c : Cache) (k k' : Key) (a : Answer) (now : Nat) :
    cacheGet (cachePut c k a) k' now =
      if k' = k then (if a.expiration ≤ now then none else some a) else cacheGet c k' now :=
  cacheGet_put c k k' a now

/-! ## termination and the lifetime -/

/-- the resolve loop of the model, started the way `Resolver.resolve` starts it -/
def loopResult (env : Env) (cache : Cache) (script : List ScriptStep) : List Event × Result × St :=
  run env (fuelBound env.bo env.cfg.servers.length env.qnamesToTry.length env.lifetime)
    (initSt env.start cache script env.qnamesToTry)

/-- "terminates within its lifetime", part 1 (termination): for every script of nameserver outcomes, every
configuration and every cache, the loop ends by itself — it never needs more than
`(2n+2)·candidates + 2n·⌈lifetime / first back-off⌉ + 1` iterations (`n` nameservers), because every re-arming of the
server list sleeps at least the first back-off and is followed by the lifetime test.  Hypotheses on the back-off
schedule are those discharged for the code's schedule by `backoff_wellformed`. -/
theorem terminates_within_lifetime (env : Env) (cache : Cache) (script : List ScriptStep)
    (hpos : 0 < env.bo.init) (hcap : env.bo.init ≤ env.bo.cap) (hfac : 1 ≤ env.bo.factor) :
    (loopResult env cache script).2.1 ≠ .outOfFuel ∧
    (loopResult env cache script).1.countP isQuery
      ≤ fuelBound env.bo env.cfg.servers.length env.qnamesToTry.length env.lifetime :=
  ⟨run_ends env hpos hcap hfac rfl (phi_init env cache script), run_query_count env rfl⟩

/-- the same for `Resolver.resolve` as a whole with the schedule regenerated from the code: the result is always one
of the documented classes, never "still running". -/
theorem resolve_terminates (cfg : Config) (clip : Bool) (maxChain : Nat) (req : Request) (now : Nat) (cache : Cache)
    (script : List ScriptStep) :
    (resolve cfg codeBackoff clip maxChain req now cache script).2.1 ≠ .outOfFuel :=
  resolve_ends cfg codeBackoff clip maxChain req now cache script backoff_wellformed.1 backoff_wellformed.2.1
    backoff_wellformed.2.2

/-- the clock at the end of the loop, for both variants of the model's back-off sleep: clipped to the remaining
lifetime (`clipSleep = true`, the code since the repair 95c41ae) the loop ends inside the lifetime; unclipped (the code as
first shipped, retained as a model variant) it ends at most one back-off (≤ the cap, 2 s) later.  Nameservers honour
the timeout they are given (built into `doQuery`). -/
theorem ends_within_lifetime_variants (env : Env) (cache : Cache) (script : List ScriptStep)
    (hcap : env.bo.init ≤ env.bo.cap) :
    (loopResult env cache script).2.1 = .outOfFuel ∨
    (loopResult env cache script).2.2.now ≤ env.start + env.lifetime + (if env.clipSleep then 0 else env.bo.cap) :=
  Or.inr ((run_wf env rfl).clock hcap)

/-- "a stub resolution terminates within its lifetime": for every configuration, request, cache and script of
nameserver outcomes, `Resolver.resolve` as the code now is (schedule, clipping and `MAX_CHAIN` regenerated from the
working tree: `ConstsC16.clipSleep = true` is an obligation about the code) returns or raises no later than
`lifetime` after it was called — unconditionally. -/
theorem ends_within_lifetime (cfg : Config) (req : Request) (now : Nat) (cache : Cache) (script : List ScriptStep) :
    (codeResolve cfg req now cache script).2.2.now ≤ now + req.lifetime.getD cfg.lifetime := by
  have hclip : ConstsC16.clipSleep = true := by decide
  unfold codeResolve
  rw [hclip]
  exact resolve_within_lifetime cfg codeBackoff ConstsC16.maxChain req now cache script backoff_wellformed.2.1

/-- The retained *unclipped* variant of the model (the code before 95c41ae) does overrun: two silent nameservers,
timeout 0.25 s, lifetime 0.5 s — `LifetimeTimeout` at 0.6 s, after a 0.1 s back-off sleep that began exactly when the
lifetime ran out; the clipped variant ends at 0.5 s on the same input.  (Recorded as fixed in KNOWN_FINDINGS.) -/
theorem lifetime_overrun_unclipped_variant :
    let cfg : Config := { servers := [⟨0, false⟩, ⟨1, false⟩], search := [], domain := none, ndots := none,
                          useSearchByDefault := false, timeout := 250, lifetime := 500, retryServfail := false,
                          cacheOn := false }
    let req : Request := { qname := [[97], []], rdtype := 1, rdclass := 1, tcp := false, raiseOnNoAnswer := true,
                           search := none, lifetime := none }
    (resolve cfg codeBackoff false ConstsC16.maxChain req 0 [] []).2.1 = .lifetimeTimeout ∧
    (resolve cfg codeBackoff false ConstsC16.maxChain req 0 [] []).2.2.now = 600 ∧
    (resolve cfg codeBackoff true ConstsC16.maxChain req 0 [] []).2.2.now = 500 := by
  decide

/-! ## the result -/

/-- "exactly the documented result: the first acceptable answer / NXDOMAIN / NoAnswer / YXDOMAIN / NoNameservers /
LifetimeTimeout": for every script, configuration and cache the loop's result is classified by `Classified`
(`Proofs/ResolverClass.lean`): no query before the last one had an acceptable outcome (a NOERROR response that
survives `resolve_chaining`), and
* an `Answer` is either the `Answer()` made from the *last* query's NOERROR response (labelled with that candidate,
  the requested type and class, that server, expiring `minimum_ttl` after the reply) or a live cache entry under
  `(candidate, type, class)` — and it has an RRset unless `raise_on_no_answer` is off;
* `NoAnswer` is the same with an empty RRset and `raise_on_no_answer` on;
* `YXDOMAIN` means the last query's response had rcode YXDOMAIN;
* `NoNameservers` means every nameserver has been taken out of the mix for the current candidate;
* `LifetimeTimeout` means the lifetime had expired at the test before a query;
* `NXDOMAIN` carries the full candidate list (see `nxdomain_only_if_all`);
and it is never a pre-resolution error. -/
theorem result_classification (env : Env) (cache : Cache) (script : List ScriptStep) :
    (loopResult env cache script).2.1 = .outOfFuel ∨
    Classified env (loopResult env cache script).1 (loopResult env cache script).2.1 (loopResult env cache script).2.2 :=
  run_class env rfl

/-- "exactly the documented result", strongest form: the result is a *total function of the script*.  `spec`
(`Proofs/ResolverSpec.lean`) is written independently of the state machine — candidate after candidate, round after
round, server by server, with the documented fall-backs and no state flags — and for every configuration, request,
clock, cache and script the model of `Resolver.resolve` returns exactly `spec`'s result and leaves exactly the clock,
the cache and the unread script `spec` leaves (any back-off schedule with a positive first value ≤ cap, factor ≥ 1;
both variants of the sleep). -/
theorem resolve_eq_spec (cfg : Config) (bo : Backoff) (clip : Bool) (maxChain : Nat) (req : Request) (now : Nat)
    (cache : Cache) (script : List ScriptStep)
    (hpos : 0 < bo.init) (hcap : bo.init ≤ bo.cap) (hfac : 1 ≤ bo.factor) :
    (resolve cfg bo clip maxChain req now cache script).2.1 = (spec cfg bo clip maxChain req now cache script).1 ∧
    (resolve cfg bo clip maxChain req now cache script).2.2.now = (spec cfg bo clip maxChain req now cache script).2.now ∧
    (resolve cfg bo clip maxChain req now cache script).2.2.cache = (spec cfg bo clip maxChain req now cache script).2.cache ∧
    (resolve cfg bo clip maxChain req now cache script).2.2.script = (spec cfg bo clip maxChain req now cache script).2.script := by
  unfold resolve spec
  by_cases hmeta : (isMetatype req.rdtype || isMetaclass req.rdclass) = true
  · simp [hmeta, initSt]
  · simp only [hmeta, Bool.false_eq_true, if_false]
    cases hg : getQnamesToTry cfg req.qname req.search with
    | error e => simp [initSt]
    | ok qnames =>
      exact (run_sim (mkEnv cfg bo clip maxChain req now qnames) hpos hcap hfac rfl rfl).resolve_left
        (terminates_within_lifetime (mkEnv cfg bo clip maxChain req now qnames) cache script hpos hcap hfac).1

/-- the same for the code as it now is (constants regenerated from the working tree) -/
theorem codeResolve_eq_spec (cfg : Config) (req : Request) (now : Nat) (cache : Cache) (script : List ScriptStep) :
    (codeResolve cfg req now cache script).2.1 =
      (spec cfg codeBackoff ConstsC16.clipSleep ConstsC16.maxChain req now cache script).1 :=
  (resolve_eq_spec cfg codeBackoff ConstsC16.clipSleep ConstsC16.maxChain req now cache script
    backoff_wellformed.1 backoff_wellformed.2.1 backoff_wellformed.2.2).1

/-- "the first acceptable answer": as soon as a query's outcome is a NOERROR response that survives validation,
`query_result` ends the resolution with that answer (or `NoAnswer`); it never goes on to another server. -/
theorem first_acceptable_answer_ends (env : Env) (st : St) (ns : Server) (out : Outcome) (a : Answer)
    (h : acceptable env st ns out a) :
    (∃ d st', queryResult env st ns out = .ret (some a) d st' ∧ (a.hasRRset = true ∨ env.raiseOnNoAnswer = false)) ∨
    (∃ st', queryResult env st ns out = .raise .noAnswer st' ∧ a.hasRRset = false ∧ env.raiseOnNoAnswer = true) := by
  obtain ⟨r, rfl, h2, h3⟩ := h
  have hv : verdict env st.qname ns st.tcpAttempt st.now (.resp r) = .accept a := by simp [verdict, h2, h3]
  rw [queryResult_eq, hv]
  cases h1 : a.hasRRset <;> cases h4 : env.raiseOnNoAnswer <;> simp [actOn, h1, h4]

/-- "NXDOMAIN only if every candidate got NXDOMAIN": when the loop raises NXDOMAIN, the exception carries the whole
candidate list and *every* candidate name has NXDOMAIN evidence recorded in `nxdomain_responses` (a validated
NXDOMAIN response in this resolution, or a cached one — the only two places that record, see
`nxdomain_evidence_sources`). -/
theorem nxdomain_only_if_all (env : Env) (cache : Cache) (script : List ScriptStep) (qs rs : List Name)
    (h : (loopResult env cache script).2.1 = .nxdomain qs rs) :
    qs = env.qnamesToTry ∧ ∀ q ∈ env.qnamesToTry, covered rs q :=
  (run_wf env rfl).nx qs rs h

/-- "NXDOMAIN only if every candidate got NXDOMAIN", traced to its sources: when the loop raises NXDOMAIN, for *every*
candidate name either some query of this resolution for that name (up to ASCII case) was answered with an NXDOMAIN
response that survives validation, or the cache *the resolution started with* holds an NXDOMAIN entry under
`(name, ANY, class)` — entries put during the resolution are themselves traced to such a response. -/
theorem nxdomain_evidence_traced (env : Env) (cache : Cache) (script : List ScriptStep) (qs rs : List Name)
    (h : (loopResult env cache script).2.1 = .nxdomain qs rs) :
    ∀ q ∈ env.qnamesToTry, Evid env cache (loopResult env cache script).1 q :=
  run_evid env rfl qs rs h

/-- `query_result` records NXDOMAIN evidence only for a response with rcode NXDOMAIN that survives `Answer()`
validation, and then for the current candidate. -/
theorem nxdomain_evidence_sources (env : Env) (st : St) (ns : Server) (out : Outcome) :
    (queryResult env st ns out).st.nxNames = st.nxNames ∨
    (∃ r c, out = .resp r ∧ r.rcode = rcNXDOMAIN ∧
      resolveChaining env.maxChain r st.qname env.rdclass env.rdtype = .ok c ∧
      (queryResult env st ns out).st.nxNames = recordNx st.nxNames st.qname) := by
  rw [queryResult_st]
  have hv := (verdict_cases env st.qname ns st.tcpAttempt st.now out).2.2
  generalize verdict env st.qname ns st.tcpAttempt st.now out = v at hv
  cases v
  case nxdomain a =>
    obtain ⟨r, hout, h3, hm⟩ := hv
    obtain ⟨⟨c, hc⟩, _⟩ := mkAnswer_ok hm
    exact Or.inr ⟨r, c, hout, h3, hc, rfl⟩
  all_goals exact Or.inl rfl

/-! ## servers -/

/-- "a broken server is never asked again within the resolution" — per candidate name, the code rebuilding the
server list for each candidate (reading recorded in DESIGN §7): in the event list of any resolution over distinct
nameservers, after a query to `s` whose outcome proves it broken (`provesBroken`), no later query goes to `s` until the
next candidate name is started. -/
theorem broken_never_reasked (env : Env) (cache : Cache) (script : List ScriptStep)
    (hnodup : env.cfg.servers.Nodup)
    (pre mid post : List Event) (q q' : Name) (s s' : Server) (tcp tcp' : Bool) (t t' : Nat) (out out' : Outcome)
    (hev : (loopResult env cache script).1 = pre ++ .query q s tcp t out :: (mid ++ .query q' s' tcp' t' out' :: post))
    (hb : provesBroken env q tcp out = true) (hmid : ∀ e ∈ mid, isCandidate e = false) : s' ≠ s := by
  obtain ⟨m', hm, _⟩ := run_mon env hnodup (res := loopResult env cache script) rfl
  rw [hev] at hm
  exact mon_broken_not_reasked hm hb hmid

/-- "all-nameservers-failed": `NoNameservers` is raised *exactly when* every configured nameserver has proved broken
for the candidate name in progress.  `brokenAfter env [] evs` is the list of servers with a `provesBroken` outcome since
the last candidate was started (`mem_brokenAfter` spells that out); over distinct, at least one, nameservers the result
is `NoNameservers` iff that list covers the configuration. -/
theorem no_nameservers_iff_all_broken (env : Env) (cache : Cache) (script : List ScriptStep)
    (hnodup : env.cfg.servers.Nodup)
    (hpos : 0 < env.bo.init) (hcap : env.bo.init ≤ env.bo.cap) (hfac : 1 ≤ env.bo.factor) :
    ((loopResult env cache script).2.1 = .noNameservers →
      ∀ s ∈ env.cfg.servers, ∃ pre q tcp t out post,
        (loopResult env cache script).1 = pre ++ .query q s tcp t out :: post ∧
        provesBroken env q tcp out = true ∧ ∀ e ∈ post, isCandidate e = false) ∧
    (env.cfg.servers ≠ [] → (∀ s ∈ env.cfg.servers, s ∈ brokenAfter env [] (loopResult env cache script).1) →
      (loopResult env cache script).2.1 = .noNameservers) := by
  have ht := (terminates_within_lifetime env cache script hpos hcap hfac).1
  obtain ⟨m', hm, hiff⟩ := run_mon env hnodup (res := loopResult env cache script) rfl
  obtain ⟨h1, h2⟩ := hiff ht
  rw [monAll_broken env _ m0 m' hm] at h1 h2
  refine ⟨fun hr s hs => ?_, h2⟩
  rcases mem_brokenAfter env _ [] s (h1 hr s hs) with ⟨h, _⟩ | h
  · cases h
  · exact h

/-- "a truncated UDP reply is retried once over TCP on the same server": in the event list of any resolution, the
event right after a UDP query that ended in `Truncated` — if the lifetime allows one — is a TCP query to the same
server (no sleep, no other server in between); a TCP query that is truncated in turn proves the server broken
(`provesBroken … true (.exc .truncated) = true`), so by `broken_never_reasked` it is not retried again. -/
theorem truncation_one_tcp_retry_same_server (env : Env) (cache : Cache) (script : List ScriptStep)
    (hnodup : env.cfg.servers.Nodup) (pre post : List Event) (q : Name) (s : Server) (t : Nat) (e : Event)
    (hev : (loopResult env cache script).1 = pre ++ .query q s false t (.exc .truncated) :: e :: post) :
    (∃ q' t' out', e = .query q' s true t' out') ∧ provesBroken env q true (.exc .truncated) = true := by
  obtain ⟨m', hm, _⟩ := run_mon env hnodup (res := loopResult env cache script) rfl
  rw [hev] at hm
  exact ⟨mon_trunc_retry hm, rfl⟩

/-- the whole monitor (`monStep`): besides the two clauses above, TCP is used only when the caller asked for it, the
nameserver always uses maximum-size transport, or as the retry after truncation; and no back-off sleep separates a
truncated reply from its retry. -/
theorem trace_accepted (env : Env) (cache : Cache) (script : List ScriptStep) (hnodup : env.cfg.servers.Nodup) :
    ∃ m', monAll env { broken := [], pending := none } (loopResult env cache script).1 = some m' :=
  (run_mon env hnodup rfl).imp fun _ h => h.1

/-- "results are cached under the queried name, type and class": one `query_result` call touches the cache at most
under `(candidate, type, class)` (an answer) or `(candidate, ANY, class)` (an NXDOMAIN), never when the resolver has
no cache; an answer it returns is then readable under `(candidate, type, class)` until it expires. -/
theorem cache_touch_exact (env : Env) (st : St) (ns : Server) (out : Outcome) :
    (∀ k' t, k' ≠ mkKey st.qname env.rdtype env.rdclass → k' ≠ mkKey st.qname tyANY env.rdclass →
        cacheGet (queryResult env st ns out).st.cache k' t = cacheGet st.cache k' t) ∧
    (env.cfg.cacheOn = false → (queryResult env st ns out).st.cache = st.cache) ∧
    (∀ a d st', queryResult env st ns out = .ret (some a) d st' → env.cfg.cacheOn = true →
        ∀ t, cacheGet st'.cache (mkKey st.qname env.rdtype env.rdclass) t = if a.expiration ≤ t then none else some a) :=
  ⟨(queryResult_cache env st ns out).1, (queryResult_cache env st ns out).2, fun a d st' h hc t => by
    rw [queryResult_ret_some h]
    simp [leaves, hc, cacheGet_put]⟩

/-- the same over a whole resolution: whatever the script, the final cache agrees with the initial one on every key
that is not `(candidate, type, class)` or `(candidate, ANY, class)` for a candidate name of this resolution. -/
theorem cache_only_candidate_keys (env : Env) (cache : Cache) (script : List ScriptStep) :
    (loopResult env cache script).2.1 = .outOfFuel ∨
    ∀ k t, foreignKey env k → cacheGet (loopResult env cache script).2.2.cache k t = cacheGet cache k t :=
  Or.inr (run_cache env rfl)

/-- `_compute_timeout`: a query is only issued while the lifetime has not expired, and its timeout is the smaller of
what is left of the lifetime and the per-query timeout (so a nameserver that honours it cannot overrun the lifetime). -/
theorem query_timeout_budget (env : Env) (now t : Nat) (h : computeTimeout env now = some t) :
    now - env.start < env.lifetime ∧ t = min (env.lifetime - (now - env.start)) env.cfg.timeout ∧
    (env.start ≤ now → now + t ≤ env.start + env.lifetime) :=
  computeTimeout_some h

/-- `_compute_timeout` on a clock that may run backwards (`computeTimeoutZ`, tied to the code by the stand-alone
`c16.timeout` stream): a step back of more than a second gives up, a smaller one counts as no time elapsed, and on a clock
that did not run backwards it is the `computeTimeout` the resolution theorems are about. -/
theorem compute_timeout_any_clock (env : Env) (start now : Int) :
    (now - start < -1000 → computeTimeoutZ env.lifetime env.cfg.timeout start now = none) ∧
    (-1000 ≤ now - start → now - start < 0 →
        computeTimeoutZ env.lifetime env.cfg.timeout start now =
          if env.lifetime = 0 then none else some (min env.lifetime env.cfg.timeout)) ∧
    (∀ n : Nat, env.start ≤ n →
        computeTimeoutZ env.lifetime env.cfg.timeout (env.start : Int) (n : Int) = computeTimeout env n) := by
  refine ⟨?_, ?_, ?_⟩
  · intro h
    have h0 : now - start < 0 := by omega
    simp [computeTimeoutZ, h0, h]
  · intro h1 h2
    have h3 : ¬ (now - start < -1000) := by omega
    simp [computeTimeoutZ, h2, h3]
  · intro n hn
    have h0 : ¬ ((n : Int) - (env.start : Int) < 0) := by omega
    have hd : ((n : Int) - (env.start : Int)).toNat = n - env.start := by omega
    have hge : (n : Int) - (env.start : Int) ≥ (env.lifetime : Int) ↔ n - env.start ≥ env.lifetime := by omega
    unfold computeTimeoutZ computeTimeout
    simp only [h0, if_false, hd, hge]

/-- `next_nameserver`: "retry_with_tcp, round re-arming, back-off doubling" — the pending TCP retry goes to the same
server with no back-off; otherwise the next server of the round is taken; when the round is exhausted and servers
remain, the round is re-armed with all remaining servers, the current back-off is slept and then multiplied (capped);
with no server left the resolution fails with `NoNameservers`. -/
theorem next_nameserver_schedule (env : Env) (st : St) :
    (∀ ns tcp b st1, nextNameserver env st = .ok ns tcp b st1 →
      st1.nameservers = st.nameservers ∧ st1.retryWithTcp = false ∧ st1.tcpAttempt = tcp ∧ st1.nameserver = some ns ∧
      ((st.retryWithTcp = true ∧ st.nameserver = some ns ∧ tcp = true ∧ b = 0 ∧ st1.current = st.current ∧
          st1.backoff = st.backoff) ∨
       (st.retryWithTcp = false ∧ st.current = ns :: st1.current ∧ b = 0 ∧ st1.backoff = st.backoff ∧
          tcp = (env.tcp || ns.alwaysMax)) ∨
       (st.retryWithTcp = false ∧ st.current = [] ∧ st.nameservers = ns :: st1.current ∧ b = st.backoff ∧
          st1.backoff = min (st.backoff * env.bo.factor) env.bo.cap ∧ tcp = (env.tcp || ns.alwaysMax)))) ∧
    (st.retryWithTcp = false → st.current = [] → st.nameservers = [] → nextNameserver env st = .raise .noNameservers) := by
  refine ⟨?_, ?_⟩
  · intro ns tcp b st1 h
    rcases nextNameserver_cases env st with ⟨hr, _⟩ | ⟨c, hp, hr⟩ <;> rw [hr] at h <;> cases h
    cases hp <;> simp_all [St.asked]
  · intro h1 h2 h3
    rcases nextNameserver_cases env st with ⟨hr, _⟩ | ⟨c, hp, _⟩
    · exact hr
    · cases hp <;> simp_all

/-! ## composite entry points -/

/-- `Resolver.resolve_name` of the working tree (constants regenerated from the code) -/
def codeResolveName (cfg : Config) (rq : NameReq) (now : Nat) (cache : Cache) (script : List ScriptStep) :
    List Event × NameResult × Final :=
  resolveName cfg codeBackoff ConstsC16.clipSleep ConstsC16.maxChain rq now cache script

theorem budget_le {life timeout start now l : Nat} (h : budget life timeout start now = some l) :
    now - start < life ∧ l ≤ life - (now - start) := by
  unfold budget at h
  split at h
  · cases h
  · cases h
    refine ⟨by omega, ?_⟩
    rw [Nat.min_def]; split <;> omega

/-- "terminates within its lifetime" at the `resolve_name` entry point: the one or two lookups a host-name resolution
is made of share one deadline — for every family, configuration, cache and script the call returns or raises no
later than `lifetime` after it began (the A lookup only gets what the AAAA lookup left over). -/
theorem resolve_name_within_lifetime (cfg : Config) (rq : NameReq) (now : Nat) (cache : Cache)
    (script : List ScriptStep) :
    (codeResolveName cfg rq now cache script).2.2.now ≤ now + rq.lifetime.getD cfg.lifetime := by
  -- each lookup ends within the lifetime it is given
  have hsub : ∀ q ty rona life now cache script,
      (resolve cfg codeBackoff ConstsC16.clipSleep ConstsC16.maxChain (subReq rq q ty rona life) now cache script).2.2.now
        ≤ now + life.getD cfg.lifetime :=
    fun q ty rona life => ends_within_lifetime cfg (subReq rq q ty rona life)
  unfold codeResolveName resolveName
  cases hf : rq.family with
  | inet => exact hsub ..
  | inet6 => exact hsub ..
  | unspec =>
    simp only
    cases hb1 : budget (rq.lifetime.getD cfg.lifetime) cfg.timeout now now with
    | none => simp
    | some l1 =>
      obtain ⟨_, hl1⟩ := budget_le hb1
      have h1 := hsub rq.qname tyAAAA false (some l1) now cache script
      simp only
      generalize resolve cfg codeBackoff ConstsC16.clipSleep ConstsC16.maxChain
        (subReq rq rq.qname tyAAAA false (some l1)) now cache script = r1 at h1 ⊢
      simp only [Option.getD_some] at h1
      split
      · rename_i v6 _
        cases hb2 : budget (rq.lifetime.getD cfg.lifetime) cfg.timeout now r1.2.2.now with
        | none => simp only [finalOf]; omega
        | some l2 =>
          obtain ⟨_, hl2⟩ := budget_le hb2
          have h2 := hsub v6.qname tyA false (some l2) r1.2.2.now r1.2.2.cache r1.2.2.script
          simp only [Option.getD_some] at h2
          simp only [finalOf]
          omega
      · simp only [finalOf]; omega

/-- non-vacuity (the scenario of seeded change C16-g): lifetime 4 s, the AAAA lookup gets no data after 3 s, nobody
answers the A lookup — its one query is given the remaining second and the call ends at 4 s with `LifetimeTimeout` -/
example :
    let cfg : Config := { servers := [⟨0, false⟩], search := [], domain := none, ndots := none,
                          useSearchByDefault := false, timeout := 4000, lifetime := 4000, retryServfail := false,
                          cacheOn := false }
    let rq : NameReq := { qname := [[97], []], family := .unspec, tcp := false, raiseOnNoAnswer := true,
                          search := none, lifetime := none }
    let nodata : Resp := { rcode := 0, qr := true, qcount := 1, answer := [], authority := [] }
    let r := codeResolveName cfg rq 0 [] [⟨.resp nodata, 3000⟩]
    r.2.1 = .raised .lifetimeTimeout ∧ r.2.2.now = 4000 ∧
    r.1 = [.candidate [[97], []], .query [[97], []] ⟨0, false⟩ false 4000 (.resp nodata),
           .candidate [[97], []], .query [[97], []] ⟨0, false⟩ false 1000 (.exc .timeout), .sleep 0] := by
  decide

/-! ## the asyncio resolver -/

/-- "The synchronous and asynchronous resolvers take identical decisions": `resolveAsync` (`Model/ResolverAsync.lean`)
models `dns.asyncresolver.Resolver.resolve` as a coroutine — the loop body cut at its two suspension points
(`await backend.sleep`, `await nameserver.async_query`), with its own clipping of the back-off sleep and its own
`if backoff:` guard, resumed by an event loop — and sharing `_Resolution` with the synchronous resolver as the source
does.  Driven by a loop whose timers fire on time (the harness's virtual-time loop), it produces for every
configuration, request, clock, cache and script exactly the synchronous resolver's event sequence (every query with its
server, transport and timeout, every sleep), result and final state.  (That the coroutine model is
`asyncresolver.py` is the tie: identical traces on every generated script and the run-time comparison of the two loop
bodies.) -/
theorem async_eq_sync (cfg : Config) (bo : Backoff) (clip : Bool) (maxChain : Nat) (req : Request) (now : Nat)
    (cache : Cache) (script : List ScriptStep) :
    resolveAsync exactLoop cfg bo clip maxChain req now cache script =
      resolve cfg bo clip maxChain req now cache script := by
  unfold resolveAsync resolve
  by_cases hmeta : (isMetatype req.rdtype || isMetaclass req.rdclass) = true
  · simp only [hmeta, if_true]
  · simp only [hmeta, Bool.false_eq_true, if_false]
    cases getQnamesToTry cfg req.qname req.search with
    | error e => rfl
    | ok qnames => exact arun_eq_run _ _ _

/-- hence the asyncio resolver, too, computes the independent specification -/
theorem async_eq_spec (cfg : Config) (req : Request) (now : Nat) (cache : Cache) (script : List ScriptStep) :
    (resolveAsync exactLoop cfg codeBackoff ConstsC16.clipSleep ConstsC16.maxChain req now cache script).2.1 =
      (spec cfg codeBackoff ConstsC16.clipSleep ConstsC16.maxChain req now cache script).1 := by
  rw [async_eq_sync]
  exact codeResolve_eq_spec cfg req now cache script

/-- non-vacuity: the coroutine really suspends — a SERVFAIL round, a back-off sleep, a truncated UDP reply, its TCP
retry, an answer: two services per pass are needed and used -/
example :
    let cfg : Config := { servers := [⟨0, false⟩], search := [], domain := none, ndots := none,
                          useSearchByDefault := false, timeout := 2000, lifetime := 5000, retryServfail := true,
                          cacheOn := false }
    let req : Request := { qname := [[97], []], rdtype := 1, rdclass := 1, tcp := false, raiseOnNoAnswer := true,
                           search := none, lifetime := none }
    let sf : Resp := { rcode := 2, qr := true, qcount := 1, answer := [], authority := [] }
    let ok : Resp := { rcode := 0, qr := true, qcount := 1, answer := [⟨[[97], []], 1, 1, 60, []⟩], authority := [] }
    let r := resolveAsync exactLoop cfg codeBackoff true 16 req 0 []
      [⟨.resp sf, 5⟩, ⟨.exc .truncated, 3⟩, ⟨.resp ok, 7⟩]
    r.1.countP isQuery = 3 ∧ r.2.2.now = 115 ∧
    (match r.2.1 with | .answer a => decide (a.minTtl = 60 ∧ a.server = some 0) | _ => false) = true := by
  decide

/-! ## non-vacuity of the run-level theorems -/

/-- a resolution with a truncated UDP reply, a TCP retry that fails, a second server answering through a CNAME -/
example :
    let cfg : Config := { servers := [⟨0, false⟩, ⟨1, false⟩], search := [[[99], []]], domain := none, ndots := none,
                          useSearchByDefault := true, timeout := 2000, lifetime := 5000, retryServfail := false,
                          cacheOn := true }
    let req : Request := { qname := [[97]], rdtype := 1, rdclass := 1, tcp := false, raiseOnNoAnswer := true,
                           search := none, lifetime := none }
    let nx : Resp := { rcode := 3, qr := true, qcount := 1, answer := [], authority := [] }
    let ok : Resp := { rcode := 0, qr := true, qcount := 1,
                       answer := [⟨[[97], []], 1, 5, 30, [[98], []]⟩, ⟨[[98], []], 1, 1, 60, []⟩], authority := [] }
    let r := resolve cfg codeBackoff false ConstsC16.maxChain req 0 []
      [⟨.resp nx, 5⟩, ⟨.exc .truncated, 3⟩, ⟨.exc .os, 2⟩, ⟨.resp ok, 7⟩]
    r.1.countP isQuery = 4 ∧ cfg.servers.Nodup ∧
    (match r.2.1 with
     | .answer a => decide (a.canonical = [[98], []] ∧ a.minTtl = 30 ∧ a.server = some 1)
     | _ => false) = true := by
  decide

end C16
