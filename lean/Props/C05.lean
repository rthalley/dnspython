import Model.RdataText
import Proofs.RdataTextNum
import Proofs.RdataTextEsc
import Proofs.RdataTextRec
import Proofs.RdataTextEnc
import Proofs.RdataTextPrint
/-!
# C05 — every record type's master-file text parses back to an equal record

Theorems of record.  The models (`Model.IPAddr`, `Model.TextFields`, `Model.RdataText`) follow `dns/ipv4.py`,
`dns/ipv6.py`, `dns/tokenizer.py`, `dns/rdata.py` and the `to_styled_text`/`from_text` pairs of the modelled record
types; constants (`Consts.*`, `ConstsC05.*`) are regenerated from the working tree on every run.
-/
namespace C05
open Model

/-- "address text codecs used by A/AAAA/APL/IPSECKEY/…": `dns.ipv4.inet_aton(dns.ipv4.inet_ntoa(a)) == a`
for every 4-octet address. -/
theorem ipv4_roundtrip (a b c d : Nat) (ha : a < 256) (hb : b < 256) (hc : c < 256) (hd : d < 256) :
    ∃ t, ip4Ntoa [a, b, c, d] = some t ∧ ip4Aton t = some [a, b, c, d] :=
  ip4_roundtrip a b c d ha hb hc hd

/-- "address text codecs used by A/AAAA/APL/IPSECKEY/…": `dns.ipv6.inet_aton(dns.ipv6.inet_ntoa(a)) == a` for every
16-octet address — whatever zero run the printer selects for `::`, including the embedded-IPv4 forms
`::a.b.c.d` and `::ffff:a.b.c.d`. -/
theorem ipv6_roundtrip (a : Bytes) (hlen : a.length = 16) (ha : ∀ x ∈ a, x < 256) :
    ∃ t, ip6Ntoa a = some t ∧ ip6Aton t = some a :=
  ip6_roundtrip a hlen ha

/-- non-vacuity and a reading aid: `2001:db8::1` -/
example : ip6Ntoa [0x20, 1, 0x0d, 0xb8, 0, 0, 0, 0, 0, 0, 0, 0, 0, 0, 0, 1]
    = some [50, 48, 48, 49, 58, 100, 98, 56, 58, 58, 49] := by decide

/-- "with arbitrary octets in character-strings": the quoted form `"` ++ `_escapify(s)` ++ `"` of any octet string
(all 256 values) is read by the tokenizer as exactly one QUOTED_STRING token whose raw value is the escaped text, and
`Token.unescape_to_bytes` (the octet-correct path used by TXT-like types) gives back `s`. -/
theorem charstring_roundtrip (s : Bytes) (hs : ∀ c ∈ s, c < 256) :
    lexLine (quote (escapifyR s)) = some [⟨.quoted, escapifyR s⟩] ∧ unescapeBytes (escapifyR s) = some s := by
  obtain ⟨hl, hu⟩ := charstring_tok s hs
  exact ⟨lexLine_of_lexes _ _ hl, hu⟩

/-- the lossless style `txt_is_utf8` (TXT, SPF, AVC, NINFO, RESINFO, WALLET): a string that is valid UTF-8 is printed through
`_escapify_unicode` of its decoded form — only `"`, `\\` and C0 controls are escaped, every other code point (DEL, C1,
NBSP, soft hyphen, zero-width/ideographic spaces, combining marks, astral planes) is emitted raw — and a string that is not
valid UTF-8 falls back to `_escapify`.  Either way the quoted text is one QUOTED_STRING token and
`Token.unescape_to_bytes` restores the octets. -/
theorem txt_utf8_roundtrip (utf8 : Bool) (s : Bytes) (hs : ∀ c ∈ s, c < 256) :
    let e := txtElement utf8 ConstsC05.unicodeEscaped Consts.rdataEscaped s
    lexLine (quote e) = some [⟨.quoted, e⟩] ∧ unescapeBytes e = some s := by
  obtain ⟨hq, hu⟩ := txtElement_rt utf8 s hs
  exact ⟨lexLine_of_lexes _ _ hq, hu⟩

/-- non-vacuity: `a<NBSP>b` (61 c2 a0 62) is valid UTF-8 and is printed raw as the code point U+00A0 -/
example : txtElement true ConstsC05.unicodeEscaped Consts.rdataEscaped [0x61, 0xC2, 0xA0, 0x62] = [0x61, 0xA0, 0x62] := by decide

/-- the same through `Token.unescape` + `str.encode()`, i.e. `Tokenizer.get_string` (the code-point path; the
character-string fields of HINFO/ISDN/X25/CAA/NAPTR and the URI target left it with the `fix:` commits 6aa8f9c / 210fbe5,
it remains in use for tokens that are ASCII by construction — GPOS, mnemonics, salts): `unescape` returns the octets as
*code points*, and UTF-8 encoding is the identity only below 0x80, so this path is exact only there. -/
theorem charstring_codepoint_path_ascii (s : Bytes) (hs : ∀ c ∈ s, c < 128) :
    (unescapeCP (escapifyR s)).bind utf8Encode = some s := by
  have hesc := escROk_generated
  rw [show escapifyR s = escapifyRWith Consts.rdataEscaped s from rfl,
    unescapeCP_escapify _ hesc s (fun c hc => by have := hs c hc; omega)]
  simp [utf8Encode_ascii s hs]

/-- why `get_string` must not be used for character-strings (the witness of D03): octet 0xC8 (`\200`) comes back as the two octets C3 88 -/
theorem charstring_codepoint_path_loses_high_octets :
    (unescapeCP (escapifyR [200])).bind utf8Encode = some [195, 136] := by decide

example : ∀ c ∈ ([0, 34, 92, 10, 200, 255] : Bytes), c < 256 := by decide

/-- "hex and base64 blobs with `_wordbreak` chunking and `concatenate_remaining_identifiers`": for any data, any chunk
size and any blank separator (or chunking off), the chunks are read back as identifiers whose concatenation is the
encoded text, and `unhexlify` inverts `hexlify`. -/
theorem hex_blob_parse_print (d : Bytes) (hd : ∀ x ∈ d, x < 256) (chunk : Nat) (sep : List Nat) (hc : ChunkOk chunk sep)
    (allowEmpty : Bool) (hne : allowEmpty = true ∨ d ≠ []) :
    ∃ toks, Lexes (wordbreak (hexlify d) chunk sep) toks ∧
      (concatIdents allowEmpty toks).bind unhexlify = some d := by
  obtain ⟨hl, hcat, hdec, -⟩ := blob_chunks hex_ok d hd allowEmpty hne chunk sep hc
  exact ⟨_, hl, by rw [hcat]; exact hdec⟩

/-- the same for base64: the executable codec of the model is proved to satisfy the contract
(`b64decode(b64encode(d)) = d`, alphabet free of delimiters); the *implementation's* `base64` module is external. -/
theorem base64_blob_parse_print (d : Bytes) (hd : ∀ x ∈ d, x < 256) (hne : d ≠ []) (chunk : Nat) (sep : List Nat)
    (hc : ChunkOk chunk sep) :
    ∃ toks, Lexes (wordbreak (b64Encode d) chunk sep) toks ∧
      (concatIdents false toks).bind b64Decode = some d := by
  obtain ⟨hl, hcat, hdec, -⟩ := blob_chunks b64_ok d hd false (Or.inr hne) chunk sep hc
  exact ⟨_, hl, by rw [hcat]; exact hdec⟩

/-- "the RFC 3597 generic form of … unknown types": `\# len hex` of any octet string, under every lossless hex
chunking style, is parsed back by `dns.rdata.from_text` to the same data (any origin / relativize setting). -/
theorem generic_form (st : Style) (env : PEnv) (data : Bytes) (hd : ∀ x ∈ data, x < 256)
    (hc : ChunkOk st.hexChunk st.hexSep) :
    fromTextRdata none env (printGeneric st data) = some (.generic data) :=
  generic_unknown_roundtrip st env data hd hc

/-- "the RFC 3597 generic form of known … types … under any origin/relativization choice": when the wire codec of the
type round-trips on the value against the origin `dns.rdata.from_text` uses for the wire form
(`wire_origin = (relativize_to or origin) if relativize else None`, commit 7f93d2c — names at or below the origin are
relativized on decoding and re-encoded against the same origin, so they no longer trip the re-encode check), the generic
text of the wire form parses back to the value.  The two hypotheses are the C02 wire round trip of the type. -/
theorem generic_form_known (tn : String) (sch : Schema) (hsch : schemaOf tn = some sch) (st : Style) (env : PEnv)
    (vals : List FV) (tail : Option FV) (w : Bytes) (hw : ∀ x ∈ w, x < 256) (hc : ChunkOk st.hexChunk st.hexSep)
    (hwire : sch.wire = true)
    (henc : encRec tn sch (wireOrigin env) vals tail = some w)
    (hdec : decRec tn sch w (wireOrigin env) = some (vals, tail)) :
    fromTextRdata (some tn) env (printGeneric st w) = some (.known vals tail) := by
  unfold fromTextRdata
  have hlex := printGeneric_lexes st w hw hc
  rw [lexLine_of_lexes _ _ hlex]
  have hstart : isGenericStart ([⟨.ident, [92, 35]⟩, ⟨.ident, natToDec w.length⟩] ++
      identToks (chunksOf st.hexChunk (hexlify w))) = true := by
    simp [isGenericStart]
  simp only [hsch, hstart, if_true, hwire, Bool.not_true, Bool.false_eq_true, if_false, parseGeneric_tokens w hw st.hexChunk, hdec, henc]

/-- non-vacuity of the encode hypothesis on the former failing input (`MX 10 m` relative to `ex.`, i.e. the wire form of
`10 m.ex.` read with origin `ex.`): the relativized name re-encodes to the given octets.  (The decode hypothesis runs
`fromWire`, defined by well-founded recursion, which `decide` cannot unfold; it is exercised on this and ~900 other
values per run by the correspondence op `c05.parse` against the implementation.) -/
example : (schemaOf "MX").bind (fun sch => encRec "MX" sch (wireOrigin { origin := some [[101, 120], []] })
    [.n 10, .nm [[109]]] none) = some [0, 10, 1, 109, 2, 101, 120, 0] := by decide

/-- "for relative and absolute names under any origin/relativization choice": a legal name over all 256 octets comes back
from its text *unchanged* in each of the configurations of `NameCfgOk` — nothing rewrites names; an absolute name read
with `relativize=False` under any origin; or the zone-file configuration (absolute origin `O` for parsing with
`relativize=True`, printing against no origin or against `O` with either `relativize` value, the name relative with
`n ++ O` legal or absolute and not below `O`).  In general `as_name` on the printed name `m` returns `nameBack env m`
(`asName_toText`): `from_text` appends the origin to a relative `m`, then `choose_relativity` is applied — so a relative
name read with `relativize=False` comes back derelativized, which is equal modulo the origin but not the same value. -/
theorem name_field_any_origin (st : Style) (env : PEnv) (n : Name) (hw : WfName n) (ho : OctetsOk n)
    (hcfg : NameCfgOk st env n) :
    ∃ text, printField st .name (.nm n) = some text ∧ Lexes text [⟨.ident, text⟩] ∧
      parseField env .name ⟨.ident, text⟩ = some (.nm n) := by
  obtain ⟨t, hp, hl, hpa, _⟩ := field_name st env n (nameCfg_ok st env n hw ho hcfg)
  exact ⟨t, hp, hl, hpa⟩

/-- "under any origin/relativization choice", `relativize_to` different from `origin` (a zone-file `$ORIGIN` below, above
or beside the zone origin): a relative name `m` in the text is completed with `origin` and the result is relativized
against `relativize_to` — `as_name(text of m) = relativize(derelativize(m, origin), relativize_to)`.  The same `asName`
reads the name of every name-bearing field kind (`.name`, the HIP server list, the IPSECKEY / AMTRELAY gateway). -/
theorem name_field_relativize_to (env : PEnv) (m o r q : Name) (hw : WfName m) (hoct : OctetsOk m)
    (ho : env.origin = some o) (hrt : env.relTo = some r) (hr : r ≠ []) (hrel : env.relativize = true)
    (hm : isAbs m = false) (hq : validate (m ++ o) = .ok q) :
    parseField env .name ⟨.ident, toText m⟩ =
      (match relativize q r with | .ok x => some (.nm x) | .error _ => none) ∧
    parseGatewayTok env 3 ⟨.ident, toText m⟩ =
      (match relativize q r with | .ok x => some ([], x) | .error _ => none) := by
  have h := asName_toText env m hw hoct
  have hb : nameBack env m = (match relativize q r with | .ok x => some x | .error _ => none) := by
    simp only [nameBack, ho, hrt, hrel, hm, hq, orOrigin, hr, chooseRelativity, if_false, if_true, Bool.false_eq_true]
    cases relativize q r <;> rfl
  constructor
  · simp only [parseField, h, hb]
    cases relativize q r <;> rfl
  · simp only [parseGatewayTok, h, hb]
    cases relativize q r <;> rfl

/-- well-formed for text (the decidable side conditions are spelled out in `FieldOk` / `TailOk`):
every field within its range, names legal and printed/parsed in a configuration that does not rewrite them,
character-strings of any octets within their length limits, blobs non-empty, chunking lossless, and the
constructor's own validation. -/
def WfText (tn : String) (st : Style) (env : PEnv) (vals : List FV) (tail : Option FV) : Prop :=
  ∃ sch, schemaOf tn = some sch ∧ FieldsOk st env sch.fields vals ∧ TailOk st env vals sch.tail tail ∧ (sch.tail = .bitmap → sch.fields ≠ []) ∧
    sch.check vals tail = true

/-- "for every implemented record type and every well-formed value, the text form parses back to an equal record: with
arbitrary octets in character-strings and names … producing text never fails": for every type described by a schema whose
field kinds have a round-trip lemma, `to_styled_text` succeeds and `dns.rdata.from_text` of its output returns exactly the
value — all 256 octet values in every character-string (HINFO, ISDN, X25, NAPTR, CAA, URI, TXT-like), every lossless
chunking style. -/
theorem parseText_printText (tn : String) (st : Style) (env : PEnv) (vals : List FV) (tail : Option FV)
    (h : WfText tn st env vals tail) :
    ∃ sch text, schemaOf tn = some sch ∧ printRec sch st vals tail = some text ∧
      fromTextRdata (some tn) env text = some (.known vals tail) := by
  obtain ⟨sch, hsch, hf, ht, hbf, hchk⟩ := h
  obtain ⟨text, hp, hr⟩ := record_roundtrip tn sch hsch st env vals tail hf ht hbf hchk
  exact ⟨sch, text, hsch, hp, hr⟩

/-- "producing text never fails for a record the library accepted from text or wire", for the schema types under `WfText`
(the URI counter-example of D04 is gone with commit 210fbe5: the target is printed through `_escapify`) -/
theorem text_total (tn : String) (st : Style) (env : PEnv) (vals : List FV) (tail : Option FV)
    (h : WfText tn st env vals tail) : ∃ sch text, schemaOf tn = some sch ∧ printRec sch st vals tail = some text := by
  obtain ⟨sch, text, a, b, _⟩ := parseText_printText tn st env vals tail h
  exact ⟨sch, text, a, b⟩

/-- field kinds that have a round-trip lemma -/
def kindProved : FK → Bool
  | .uint _ | .ttl | .algo | .name | .ip4 | .ip6 | .salt | .oct16 | .eui _ | .hex16x4 | .nsap => true
  | .cstr _ _ _ => true
  | .rdtype | .algoName | .scheme | .ctype | .keyFlags | .keyProto | .sigtime | .b32hex => true
  | .hexOne | .b64One | .nameRaw | .rcode | .gpos _ => true

/-- the record types whose every field kind is covered by `parseText_printText` -/
def provedTypes : List String :=
  ["A", "AAAA", "NS", "CNAME", "PTR", "DNAME", "NSAP-PTR", "MX", "AFSDB", "RT", "KX", "LP", "PX", "SRV", "RP", "SOA",
   "TXT", "SPF", "AVC", "NINFO", "RESINFO", "WALLET", "HINFO", "X25", "ISDN", "NAPTR", "CAA", "URI", "DS", "DLV", "CDS",
   "TLSA", "SMIMEA", "SSHFP", "ZONEMD", "DNSKEY", "CDNSKEY", "DHCID", "OPENPGPKEY", "BRID", "HHIT", "L32", "NSEC3PARAM",
   "CH-A", "EUI48", "EUI64", "NID", "L64", "NSAP",
   "CERT", "DSYNC", "KEY", "RRSIG", "SIG", "NSEC", "CSYNC", "NSEC3",
   "HIP", "TKEY", "TSIG", "IPSECKEY", "AMTRELAY", "APL", "WKS", "GPOS"]

/-- every type in `provedTypes` has a schema made of proved field kinds only (complete finite table, by `decide`) -/
theorem provedTypes_covered :
    ∀ t ∈ provedTypes, ∃ sch, schemaOf t = some sch ∧ sch.fields.all kindProved = true := by
  decide +kernel

/-- the record types for which "accepted from text ⇒ encodable to wire" is proved: every schema type (HIP and TKEY since
commit 18b73c9 bounds their key / other data by the 16-bit wire length; witnesses `corpus/C05/hip-key-65536-octets.json`,
`tkey-key-65536-octets.json`) except AMTRELAY, whose two header octets are not in schema order (oracle only) -/
def encodableTypes : List String :=
  ["A", "AAAA", "NS", "CNAME", "PTR", "DNAME", "NSAP-PTR", "MX", "AFSDB", "RT", "KX", "LP", "PX", "SRV", "RP", "SOA",
   "TXT", "SPF", "AVC", "NINFO", "RESINFO", "WALLET", "HINFO", "X25", "ISDN", "NAPTR", "CAA", "URI", "DS", "DLV", "CDS",
   "TLSA", "SMIMEA", "SSHFP", "ZONEMD", "DNSKEY", "CDNSKEY", "DHCID", "OPENPGPKEY", "BRID", "HHIT", "L32", "NSEC3PARAM",
   "CH-A", "EUI48", "EUI64", "NID", "L64", "NSAP",
   "CERT", "DSYNC", "KEY", "RRSIG", "SIG", "NSEC", "CSYNC", "NSEC3", "GPOS", "TSIG", "IPSECKEY", "APL", "WKS",
   "TKEY", "HIP"]

/-- every type of `encodableTypes` has a schema whose parts the model's `to_wire` covers (HIP, whose header is not in schema
order, through its own encoder `encHip`) -/
theorem encodableTypes_schemas :
    ∀ t ∈ encodableTypes, ∃ sch, schemaOf t = some sch ∧ recEncodable t sch = true := by
  decide +kernel

/-- "a record accepted from text can always be encoded to wire": whatever `dns.rdata.from_text` returns for a type of
`encodableTypes` — from *any* text, any origin / relativize / relativize_to — is within what `to_wire` can pack:
integers fit their `struct` formats, character-strings, salts and hashes are at most 255 octets, addresses have 4 / 16
octets, bitmap windows are below 256 with at most 32 octets, and names can be written against any absolute origin `O`
under which the relative names of the value fit (`NamesFit`: a relative name needs an origin — `to_wire()` without one
raises `NeedAbsoluteNameOrOrigin` by design — and `n ++ O` must be a legal name, else `NameTooLong`; a name read against
the parse origin always fits it, the TKEY / TSIG algorithm name is read without any origin); HIP / TKEY keys and
TKEY other data fit their 16-bit lengths.  For the RFC 3597
generic syntax the value was re-encoded by `from_text` itself against `wireOrigin env`, so it is encodable against that.
`encRec` is tied to `Rdata.to_wire` by the correspondence op `c05.wire.enc`; composing with the C02 codec theorems was
not possible (C02 models the message-level codec over its own field kinds), so `encRec`'s packing guards are stated in
this model. -/
theorem text_accepts_encodable (tn : String) (htn : tn ∈ encodableTypes) (env : PEnv) (text : Text)
    (vals : List FV) (tail : Option FV) (h : fromTextRdata (some tn) env text = some (.known vals tail)) :
    ∃ sch toks, schemaOf tn = some sch ∧ lexLine text = some toks ∧
      (isGenericStart toks = false → ∀ O, isAbs O = true → NamesFit O vals tail → (encRec tn sch (some O) vals tail).isSome = true) ∧
      (isGenericStart toks = true → (encRec tn sch (wireOrigin env) vals tail).isSome = true) := by
  obtain ⟨sch, hsch, henc⟩ := encodableTypes_schemas tn htn
  cases hl : lexLine text with
  | none => simp [fromTextRdata, hl] at h
  | some toks =>
    refine ⟨sch, toks, hsch, rfl, fun hg O hO hfit => ?_, fun hg => ?_⟩
    · exact rec_encodable tn sch env O hO henc toks _ _ (parseRec_of_fromTextRdata hsch hl hg h) hfit
    · obtain ⟨data, -, -, he⟩ := fromTextRdata_generic hsch hl hg h
      rw [he]; rfl

/-- "producing text never fails for a record the library accepted from text": for **every** schema type (all 65) and
*any* text, origin, relativize and relativize_to, whatever `dns.rdata.from_text` returns through the type's own syntax
can be printed under every style whose name handling succeeds on the names of the value (`NamesPrint`: `choose_relativity`
raises only `NameTooLong`, when `relativize=False` asks to complete a relative name with an origin it does not fit —
with no style origin, or `relativize=True`, it never raises, see `namesPrint_of_no_origin`).  No other field can make
`to_styled_text` raise: addresses have 4 / 16 octets, numbers, mnemonics, times, blobs and strings always print. -/
theorem text_accepted_prints (tn : String) (sch : Schema) (hsch : schemaOf tn = some sch) (env : PEnv) (text : Text)
    (toks : List Tok) (hl : lexLine text = some toks) (hg : isGenericStart toks = false)
    (vals : List FV) (tail : Option FV) (h : fromTextRdata (some tn) env text = some (.known vals tail))
    (st : Style) (hn : NamesPrint st vals tail) : (printRec sch st vals tail).isSome = true :=
  record_printable sch env st toks _ _ (parseRec_of_fromTextRdata hsch hl hg h) hn

/-- a style without origin prints every name as it is stored -/
theorem namesPrint_of_no_origin (st : Style) (ho : st.origin = none) (vals : List FV) (tail : Option FV) :
    NamesPrint st vals tail := by
  have h : ∀ n, NamePrints st n := fun n => ⟨toText n, by simp [nameToStyled, chooseRelativity, ho]⟩
  exact ⟨fun _ _ n _ => h n, fun _ _ n _ => h n⟩

/-- `WfText` from the fields, the tail kind and the constructor check of the type's schema, which the kernel reads off
`schemaOf` -/
theorem wfText_of {tn : String} {st : Style} {env : PEnv} {vals : List FV} {tail : Option FV} (fields : List FK) (tk : TK)
    (hs : (schemaOf tn).map (fun s => (s.fields, s.tail, s.check vals tail)) = some (fields, tk, true))
    (hf : FieldsOk st env fields vals) (ht : TailOk st env vals tk tail) (hb : tk = .bitmap → fields ≠ []) :
    WfText tn st env vals tail := by
  obtain ⟨sch, hsch, he⟩ := Option.map_eq_some_iff.mp hs
  simp only [Prod.mk.injEq] at he
  obtain ⟨rfl, rfl, hc⟩ := he
  exact ⟨sch, hsch, hf, ht, hb, hc⟩

/-- non-vacuity: the hypotheses are satisfiable — `TXT "a\200" ""` is accepted from its text (by `parseText_printText`)
and its names (none) print under every style -/
example : ∃ sch text, schemaOf "TXT" = some sch ∧
    fromTextRdata (some "TXT") {} text = some (.known [] (some (.bl [[97, 200], []]))) ∧
    NamesPrint {} [] (some (.bl [[97, 200], []])) ∧ (printRec sch {} [] (some (.bl [[97, 200], []]))).isSome = true := by
  have hw : WfText "TXT" {} {} [] (some (.bl [[97, 200], []])) := by
    refine wfText_of [] .txt (by decide +kernel) trivial ⟨by simp, ?_⟩ (by decide)
    intro s hs; simp at hs; rcases hs with rfl | rfl <;> refine ⟨by decide, by decide⟩
  obtain ⟨sch, text, h1, h2, h3⟩ := parseText_printText "TXT" {} {} [] _ hw
  exact ⟨sch, text, h1, h3, namesPrint_of_no_origin {} rfl _ _, by rw [h2]; rfl⟩

/-- non-vacuity: `CAA 0 issue "ca.example"`'s value is packed (the value field is the rest of the rdata) -/
example : (schemaOf "CAA").bind (fun sch => encRec "CAA" sch (some [[]]) [.n 0, .b [105], .b [99, 97]] none)
    = some [0, 1, 105, 99, 97] := by decide

/-- non-vacuity: `MX 10 mail.example.`, `TXT "a\200" ""`, `DS 1 8 2 <32 octets>` are well-formed for text -/
example : WfText "MX" {} {} [.n 10, .nm [[109, 97, 105, 108], [101, 120], []]] none := by
  refine wfText_of [u16, .name] .none (by decide +kernel) ⟨(by decide : 10 ≤ 65535), ⟨?_, trivial⟩⟩ trivial (by decide)
  refine nameCfg_ok _ _ _ ?_ ?_ (Or.inl ⟨rfl, rfl, rfl⟩)
  · decide
  · unfold OctetsOk; decide

/-- the zone-file configuration: `MX 10 mail` relative to the origin `ex.`, printed against that origin with either
`relativize` value (`mail` / `mail.ex.`), parsed with `origin=ex., relativize=True` -/
example (r : Bool) : WfText "MX" { origin := some [[101, 120], []], relativize := r }
    { origin := some [[101, 120], []], relativize := true } [.n 10, .nm [[109, 97, 105, 108]]] none := by
  refine wfText_of [u16, .name] .none (by decide +kernel) ⟨(by decide : 10 ≤ 65535), ⟨?_, trivial⟩⟩ trivial (by decide)
  refine nameCfg_ok _ _ _ ?_ ?_ (Or.inr (Or.inr ⟨[[101, 120], []], rfl, by decide, by unfold OctetsOk; decide, rfl,
    by decide, Or.inr rfl, Or.inl ⟨by decide, ?_⟩⟩))
  · decide
  · unfold OctetsOk; decide
  · decide

/-- `HINFO "\\200\"" ""`: a high octet and a quote in a character-string -/
example : WfText "HINFO" {} {} [.b [200, 34], .b []] none := by
  refine wfText_of [.cstr (some 255) (some 255) true, .cstr (some 255) (some 255) true] .none (by decide +kernel)
    ⟨⟨by decide, by intro m hm; cases hm; decide, by intro m hm; cases hm; decide⟩,
    ⟨⟨by decide, by intro m hm; cases hm; decide, by intro m hm; cases hm; decide⟩, trivial⟩⟩ trivial (by decide)

/-- TXT under `txt_is_utf8` with a string that is valid UTF-8 (NBSP) and one that is not -/
example : WfText "TXT" { txtUtf8 := true } {} [] (some (.bl [[0x61, 0xC2, 0xA0], [0xFF]])) := by
  refine wfText_of [] .txt (by decide +kernel) trivial ⟨by simp, ?_⟩ (by decide)
  intro s hs; simp at hs; rcases hs with rfl | rfl <;> refine ⟨by decide, by decide⟩

example : WfText "TXT" {} {} [] (some (.bl [[97, 200], []])) := by
  refine wfText_of [] .txt (by decide +kernel) trivial ⟨by simp, ?_⟩ (by decide)
  intro s hs; simp at hs; rcases hs with rfl | rfl <;> refine ⟨by decide, by decide⟩

/-- `AMTRELAY 10 0 0 .` and `IPSECKEY 10 0 0 .` (no gateway, algorithm 0 ⇒ no key: the case repaired by a158101) -/
example : WfText "AMTRELAY" {} {} [.n 10, .n 0, .n 0] (some (.gw 0 [] [] [])) := by
  refine wfText_of [u8, .uint 1, .uint 127] (.gateway 2 none) (by decide +kernel)
    ⟨(by decide : 10 ≤ 255), ⟨Nat.zero_le 1, ⟨Nat.zero_le 127, trivial⟩⟩⟩ ⟨rfl, Or.inl ⟨rfl, rfl, rfl⟩, rfl⟩ (by decide)

example : WfText "IPSECKEY" {} {} [.n 10, .n 0, .n 0] (some (.gw 0 [] [] [])) := by
  refine wfText_of [u8, u8, u8] (.gateway 1 (some 2)) (by decide +kernel)
    ⟨(by decide : 10 ≤ 255), ⟨Nat.zero_le 255, ⟨Nat.zero_le 255, trivial⟩⟩⟩
    ⟨rfl, Or.inl ⟨rfl, rfl, rfl⟩, 0, rfl, fun _ => rfl, by simp, Or.inr ⟨blanks_space, by decide⟩⟩ (by decide)

/-- `APL !1:192.168.0.0/16 2:2001:db8::/32` -/
example : WfText "APL" {} {} [] (some (.apl [(1, true, [192, 168, 0, 0], 16),
    (2, false, [0x20, 1, 0x0d, 0xb8, 0, 0, 0, 0, 0, 0, 0, 0, 0, 0, 0, 0], 32)])) := by
  refine wfText_of [] .apl (by decide +kernel) trivial ?_ (by decide)
  intro it hit
  simp at hit
  rcases hit with rfl | rfl
  · exact Or.inl ⟨rfl, ⟨192, 168, 0, 0, rfl, by decide, by decide, by decide, by decide⟩, by decide⟩
  · exact Or.inr (Or.inl ⟨rfl, rfl, by decide, by decide⟩)

/-- `APL !7:ab00/255`: an item of an unknown address family (hex digits since commit dc89065), trailing zero octet kept -/
example : WfText "APL" {} {} [] (some (.apl [(7, true, [0xab, 0], 255)])) := by
  refine wfText_of [] .apl (by decide +kernel) trivial ?_ (by decide)
  intro it hit
  simp at hit
  subst hit
  exact Or.inr (Or.inr ⟨by decide, by decide, by decide, by decide, by decide, by decide⟩)

/-- `WKS 10.0.0.1 6 25` (SMTP over TCP) -/
example : WfText "WKS" {} {} [] (some (.wks [10, 0, 0, 1] 6 [0, 0, 0, 0x40])) := by
  refine wfText_of [] .wks (by decide +kernel) trivial
    ⟨⟨10, 0, 0, 1, rfl, by decide, by decide, by decide, by decide⟩, by decide, by decide, by decide, by decide⟩ (by decide)

/-- `GPOS -32.6882 116.8652 10.0`, and the latitude bound: `90.000000000000007` (< 90 + 2^-47) is accepted because
`float()` rounds it to 90.0, `90.00000000000001` is not -/
example : WfText "GPOS" {} {} [.b [45, 51, 50, 46, 54, 56, 56, 50], .b [49, 49, 54, 46, 56, 54, 53, 50], .b [49, 48, 46, 48]] none := by
  refine wfText_of [.gpos (some (90, 47)), .gpos (some (180, 46)), .gpos none] .none (by decide +kernel)
    ⟨⟨by decide, by decide⟩, ⟨⟨by decide, by decide⟩, ⟨⟨by decide, by decide⟩, trivial⟩⟩⟩ trivial (by decide)

example : gposCheck (some (90, 47)) [57, 48, 46, 48, 48, 48, 48, 48, 48, 48, 48, 48, 48, 48, 48, 48, 48, 55] = true ∧
    gposCheck (some (90, 47)) [57, 48, 46, 48, 48, 48, 48, 48, 48, 48, 48, 48, 48, 48, 48, 48, 49] = false := by decide

end C05
