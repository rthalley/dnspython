import Model.Tokenizer
import Model.ZoneFile
import Proofs.TokenizerTTL
import Proofs.TokenizerLayout
import Proofs.ZoneFileCname
import Proofs.ZoneFileInterp
import Proofs.ZoneFileHeader
import Props.C01
import Proofs.ZoneFileRoundTrip
import Proofs.ZoneFileOwnerText
import Proofs.ZoneFileGenerate
import Proofs.ZoneFileLossless
import Proofs.ZoneFileRecOK
import Proofs.ZoneFileGenText
import Proofs.ZoneFileGenLine
import Proofs.ZoneFileInclude
import Proofs.ZoneFileChecks
/-!
# C09 — zones survive write-then-read as text; equivalent zone-file spellings agree

Theorems of record about `Model.Tokenizer` (dns/tokenizer.py, dns/ttl.py, dns/grange.py) and
`Model.ZoneFile` (dns/zonefile.py reader, zone/node/rdataset writer).  The tables (`ConstsC09.*`) are
regenerated from the working tree on every run.
-/
namespace C09
open Model

/-- The delimiter sets the tokenizer model uses are the ones of the working tree (`_DELIMITERS`, `_QUOTING_DELIMITERS`). -/
theorem delimiters_generated :
    (∀ c, c ∈ Model.delimiters ↔ c ∈ ConstsC09.delimiters) ∧ Model.quotingDelimiters = ConstsC09.quotingDelimiters := by
  -- the two lists hold the same characters in different orders
  exact ⟨fun _ => (by decide : Model.delimiters.Perm ConstsC09.delimiters).mem_iff, by decide⟩

/-- The type the reader treats as "a CNAME" is type 5, and the only types allowed next to it are NSEC (47), NSEC3 (50)
and KEY (25): `dns.node._cname_types` / `_neutral_types` of the working tree, which `cname_exclusive` is relative to. -/
theorem cname_tables_generated :
    ConstsC09.cnameTypes = [5] ∧ ConstsC09.neutralTypes = [25, 47, 50] ∧ classifyType tCNAME = .cname := by
  decide

/-- "$TTL emission" / explicit TTLs: `dns.ttl.from_text` inverts the decimal text of every TTL up to `MAX_TTL`
(the form in which the writer prints TTLs and the `$TTL` directive). -/
theorem ttl_roundtrip (n : Nat) (h : n ≤ Consts.maxTTL) : ttlFromText (natToDec n) = .ok n :=
  ttlFromText_natToDec n h

/-- BIND 8 unit form: any non-empty sequence of `<count><unit>` groups (units w d h m s in either case) denotes
the sum of `count × unit`, and is accepted exactly when that sum is at most `MAX_TTL`. -/
theorem ttl_units (g : Nat × Nat) (gs : List (Nat × Nat)) (hu : ∀ x ∈ g :: gs, (unitMult x.2).isSome) :
    ttlFromText (unitsText (g :: gs)) =
      if unitsValue (g :: gs) > Consts.maxTTL then .error .badTTL else .ok (unitsValue (g :: gs)) := by
  unfold ttlFromText
  have h1 : unitsText (g :: gs) ≠ [] := by
    obtain ⟨v, u⟩ := g
    simp [unitsText]
  have h2 := unitsText_not_all_decimal g gs (hu g (by simp))
  simp only [h1, h2, ne_eq, not_false_eq_true, Bool.false_eq_true, and_false, if_false]
  rw [ttlLoop_units (g :: gs) 0 hu]
  simp

/-- non-vacuity: `1w2D3h4m5s` -/
example : ttlFromText (unitsText [(1, 119), (2, 68), (3, 104), (4, 109), (5, 115)]) = .ok 788645 := by
  rw [ttl_units _ _ (by decide)]; rfl

/-- "parenthesised multi-line versus single-line records": the tokens `Tokenizer.get` returns for a line do not
depend on its layout.  A line is a list of words (identifiers with escapes, quoted strings), each preceded by a
separator made of blanks, tabs, `(`, `)`, and — inside parentheses only — newlines and `;comment` lines, closed by a
separator that brings the depth back to 0, an optional trailing comment and the newline.  Whatever the separators
are, the tokens are the words' tokens followed by EOL, the tokenizer ends at depth 0, not quoting, on the text after
the line. -/
theorem tokenize_layout (items : List (List SepItem × Word)) (sepEnd : List SepItem) (trailing : Option (List Nat))
    (rest : List Nat)
    (hdepth : lineDepth 0 items sepEnd = some 0) (hw : ∀ p ∈ items, p.2.ok = true)
    (hsep : ∀ p ∈ items.tail, p.1 ≠ []) (ht : ∀ t ∈ trailing, 10 ∉ t) :
    getLine (items.length + 1) (TState.init (renderLine items sepEnd trailing ++ rest)) =
      .ok (items.map (fun p => p.2.token) ++ [eolToken trailing], TState.init rest) := by
  have := getLine_items items sepEnd trailing rest 0 false (items.length + 1) (by omega) hdepth hw hsep ht
  simpa [after, TState.init] using this

/-- any two layouts of the same words give the same token list (the EOL token's value does not depend on a trailing
comment either; only its `comment` attribute does) -/
theorem tokenize_layout_eq (ws : List Word) (l1 l2 : List (List SepItem)) (e1 e2 : List SepItem) (rest1 rest2 : List Nat)
    (hl1 : l1.length = ws.length) (hl2 : l2.length = ws.length)
    (hd1 : lineDepth 0 (l1.zip ws) e1 = some 0) (hd2 : lineDepth 0 (l2.zip ws) e2 = some 0)
    (hw : ∀ w ∈ ws, w.ok = true)
    (hs1 : ∀ p ∈ (l1.zip ws).tail, p.1 ≠ []) (hs2 : ∀ p ∈ (l2.zip ws).tail, p.1 ≠ []) :
    (getLine (ws.length + 1) (TState.init (renderLine (l1.zip ws) e1 none ++ rest1))).map (·.1) =
    (getLine (ws.length + 1) (TState.init (renderLine (l2.zip ws) e2 none ++ rest2))).map (·.1) := by
  have len1 : (l1.zip ws).length = ws.length := by simp [hl1]
  have len2 : (l2.zip ws).length = ws.length := by simp [hl2]
  have hw1 : ∀ p ∈ l1.zip ws, p.2.ok = true := fun p hp => hw p.2 (List.of_mem_zip hp).2
  have hw2 : ∀ p ∈ l2.zip ws, p.2.ok = true := fun p hp => hw p.2 (List.of_mem_zip hp).2
  have t1 := tokenize_layout (l1.zip ws) e1 none rest1 hd1 hw1 hs1 (by simp)
  have t2 := tokenize_layout (l2.zip ws) e2 none rest2 hd2 hw2 hs2 (by simp)
  rw [len1] at t1; rw [len2] at t2
  rw [t1, t2]
  simp only [Except.map]
  rw [map_snd_zip Word.token l1 ws hl1, map_snd_zip Word.token l2 ws hl2]

/-- non-vacuity: `a ( "x y" ; c⏎ b\.c ) ⏎` against `a "x y" b\.c⏎` -/
example :
    let ws := [Word.ident [97], Word.quoted [120, 32, 121], Word.ident [98, 92, 46, 99]]
    lineDepth 0 ([[], [.sp, .opn, .sp], [.sp, .comment [32, 99], .tab]].zip ws) [.sp, .cls, .sp] = some 0 ∧
    lineDepth 0 ([[], [.sp], [.sp]].zip ws) [] = some 0 ∧ (∀ w ∈ ws, w.ok = true) := by
  decide

/-- "a CNAME never coexists with other data after loading": every zone `from_text` returns satisfies `ZoneOK`
(no node holds a CNAME-kind rdataset together with a regular — "other data" — rdataset), for every input text,
origin, relativize setting and `check_origin` flag. -/
theorem cname_exclusive (text : List Nat) (origin : Option Name) (rel chk : Bool) (z : ZoneMap) (o : Option Name)
    (h : zoneFromText text origin rel chk = .ok (z, o)) : ZoneOK z := by
  simp only [zoneFromText, PState.read, bind, Except.bind] at h
  split at h
  · cases h
  · rename_i v hv
    obtain ⟨r, z1⟩ := v
    have hz1 : ZoneOK z1 := readLoop_ok _ _ _ _ _ zoneOK_nil hv
    simp only at h
    split at h
    · split at h
      · cases h
      · simp [pure, Except.pure] at h; rw [← h.1]; exact hz1
    · simp [pure, Except.pure] at h; rw [← h.1]; exact hz1

/-- "the reader equals a denotational `interp`": what `Reader.read` does to the zone is the fold of `txn.add` over
the records the zone-independent parser emits (`parseTrace`, which never looks at the zone), the first failing step
deciding the outcome.  Two texts whose parser traces agree therefore load to the same zone (or fail alike). -/
theorem read_eq_interp (text : List Nat) (origin : Option Name) (rel : Bool) :
    (PState.init text origin rel).read =
      interpTrace (parseTrace (text.length + 2) (PState.init text origin rel)) [] := by
  simp [PState.read, readLoop_eq_interp, PState.init, TState.init, includeFuel]

/-- the same from any reader state — with `$INCLUDE` allowed, files to open and includes pending: pushing and popping
`saved_state` happens inside the zone-independent parser (`lineStep`), so a file with `$INCLUDE`s still denotes the fold
of `txn.add` over one trace of records -/
theorem read_eq_interp_state (r : PState) :
    r.read = interpTrace (parseTrace (r.tok.input.length + 2 + includeFuel r.files) r) [] := by
  simp [PState.read, readLoop_eq_interp]

/-- "either order of TTL and class" (under any layout of the separators, including parenthesised multi-line
ones): `<ttl> <class> <type>` and `<class> <ttl> <type>` parse to the same TTL and type, update `last_ttl` alike and
leave the reader at the same place. -/
theorem ttl_class_either_order (r1 r2 : PState) (a2 a3 b2 b3 : List SepItem) (ttlT clsT tyT T : List Nat)
    (d1 d2 d3 e1 e2 : Nat) (v ty : Nat)
    (hsame : ∀ tk, { r1 with tok := tk } = { r2 with tok := tk })
    (hf1 : getIdent r1.tok = .ok (identToken ttlT, after d1 false (renderSep a2 ++ (clsT ++ (renderSep a3 ++ (tyT ++ T))))))
    (hf2 : getIdent r2.tok = .ok (identToken clsT, after e1 false (renderSep b2 ++ (ttlT ++ (renderSep b3 ++ (tyT ++ T))))))
    (ha2 : sepDepth d1 a2 = some d2) (ha3 : sepDepth d2 a3 = some d3)
    (hb2 : sepDepth e1 b2 = some e2) (hb3 : sepDepth e2 b3 = some d3)
    (na3 : a3 ≠ []) (nb3 : b3 ≠ []) (hT : startsDelim T)
    (ok1 : identOK ttlT = true) (ne1 : ttlT ≠ []) (ok2 : identOK clsT = true) (ne2 : clsT ≠ [])
    (ok3 : identOK tyT = true) (ne3 : tyT ≠ [])
    (hv : ttlOf ttlT = some v) (hc : classFromText clsT = some 1) (hcv : ttlOf clsT = none)
    (hty : typeFromText tyT = some ty) :
    rrHeader r1 = rrHeader r2 := by
  rw [rrHeaderA_ttl_class r1 ttlT clsT tyT _ _ _ v ty hf1
      (getIdent_word a2 clsT _ d1 d2 false ha2 ok2 ne2 (renderSep_startsDelim a3 _ na3))
      (getIdent_word a3 tyT _ d2 d3 false ha3 ok3 ne3 hT) hv hc hty,
    rrHeaderA_class_ttl r2 clsT ttlT tyT _ _ _ v ty hf2
      (getIdent_word b2 ttlT _ e1 e2 false hb2 ok1 ne1 (renderSep_startsDelim b3 _ nb3))
      (getIdent_word b3 tyT _ e2 d3 false hb3 ok3 ne3 hT) hc hcv hv hty]
  -- the two results are the same function of states that agree up to the tokenizer
  exact congrArg (fun r : PState => Except.ok ((some v, ty), { r with lastTTL := v, lastTTLKnown := true }))
    (hsame (after d3 false T))

/-- "inherited versus explicit class": omitting the class field changes nothing. -/
theorem class_inherited_eq_explicit (r1 r2 : PState) (a2 a3 b2 : List SepItem) (ttlT clsT tyT T : List Nat)
    (d1 d2 d3 e1 : Nat) (v ty : Nat)
    (hsame : ∀ tk, { r1 with tok := tk } = { r2 with tok := tk })
    (hf1 : getIdent r1.tok = .ok (identToken ttlT, after d1 false (renderSep a2 ++ (clsT ++ (renderSep a3 ++ (tyT ++ T))))))
    (hf2 : getIdent r2.tok = .ok (identToken ttlT, after e1 false (renderSep b2 ++ (tyT ++ T))))
    (ha2 : sepDepth d1 a2 = some d2) (ha3 : sepDepth d2 a3 = some d3) (hb2 : sepDepth e1 b2 = some d3)
    (na3 : a3 ≠ []) (hT : startsDelim T)
    (ok2 : identOK clsT = true) (ne2 : clsT ≠ []) (ok3 : identOK tyT = true) (ne3 : tyT ≠ [])
    (hv : ttlOf ttlT = some v) (hc : classFromText clsT = some 1)
    (hnc : classFromText tyT = none) (hty : typeFromText tyT = some ty) :
    rrHeader r1 = rrHeader r2 := by
  rw [rrHeaderA_ttl_class r1 ttlT clsT tyT _ _ _ v ty hf1
      (getIdent_word a2 clsT _ d1 d2 false ha2 ok2 ne2 (renderSep_startsDelim a3 _ na3))
      (getIdent_word a3 tyT _ d2 d3 false ha3 ok3 ne3 hT) hv hc hty,
    rrHeaderA_ttl_only r2 ttlT tyT _ _ v ty hf2 (getIdent_word b2 tyT _ e1 d3 false hb2 ok3 ne3 hT) hv hnc hty]
  -- the two results are the same function of states that agree up to the tokenizer
  exact congrArg (fun r : PState => Except.ok ((some v, ty), { r with lastTTL := v, lastTTLKnown := true }))
    (hsame (after d3 false T))

/-- "inherited versus explicit TTL": with the TTL field omitted the record gets the `$TTL` / SOA-minimum default when
one is known, else the last explicit TTL; writing that value explicitly yields the same TTL and type (it then also
becomes `last_ttl`, which the reader never consults while a default is known). -/
theorem ttl_inherited_eq_explicit (r1 r2 : PState) (a2 : List SepItem) (ttlT tyT T : List Nat)
    (d1 d2 e1 : Nat) (v ty : Nat)
    (hf1 : getIdent r1.tok = .ok (identToken ttlT, after d1 false (renderSep a2 ++ (tyT ++ T))))
    (hf2 : getIdent r2.tok = .ok (identToken tyT, after e1 false T))
    (ha2 : sepDepth d1 a2 = some d2) (hT : startsDelim T)
    (ok3 : identOK tyT = true) (ne3 : tyT ≠ [])
    (hv : ttlOf ttlT = some v) (hinh : r2.inheritedTTL = some v)
    (hnv : ttlOf tyT = none) (hnc : classFromText tyT = none) (hty : typeFromText tyT = some ty) :
    (rrHeader r1).map (·.1) = (rrHeader r2).map (·.1) := by
  rw [rrHeaderA_ttl_only r1 ttlT tyT _ _ v ty hf1 (getIdent_word a2 tyT _ d1 d2 false ha2 ok3 ne3 hT) hv hnc hty,
    rrHeaderA_type_only r2 tyT _ ty hf2 hnv hnc hty]
  simp [Except.map, hinh]

/-- "inherited versus explicit owner": a line that starts with whitespace gets `last_name`; writing that name out
gives the same owner and the same parser state apart from the tokenizer position. -/
theorem owner_inherited_eq_explicit (r1 r2 : PState) (t1 t2 tw : Token) (s1 s2 sw : TState) (co zo n : Name)
    (hsame : ∀ tk, { r1 with tok := tk } = { r2 with tok := tk })
    (hco : r1.currentOrigin = some co) (hzo : r1.zoneOrigin = some zo) (hln : r1.lastName = some n)
    (hg1 : r1.tok.get (wantLeading := true) = .ok (t1, s1)) (ht1 : t1.ttype ≠ .whitespace)
    (hn : t1.asName (some co) false none = .ok n)
    (hg2 : r2.tok.get (wantLeading := true) = .ok (tw, sw)) (htw : tw.ttype = .whitespace)
    (hg2' : sw.get = .ok (t2, s2)) (hne : t2.isEolOrEof = false)
    (hin : isSubdomain n zo = true) :
    (rrOwner r1).map (fun x => (x.1, { x.2 with tok := s1 })) =
    (rrOwner r2).map (fun x => (x.1, { x.2 with tok := s1 })) := by
  have e := hsame s1
  simp only [PState.mk.injEq] at e
  obtain ⟨_, e2, e3, e4, e5, e6, e7, e8, e9⟩ := e
  rw [rrOwner_explicit r1 t1 s1 co zo n hco hzo hg1 ht1 hn hin,
    rrOwner_inherited r2 tw t2 sw s2 co zo n (e4 ▸ hco) (e2 ▸ hzo) (e5 ▸ hln) hg2 htw hg2' hne hin]
  rw [← e3]
  cases ownerInZone r1.relativize n zo with
  | error e => rfl
  | ok m =>
    simp only [Except.map, Except.ok.injEq, Prod.mk.injEq, true_and, PState.mk.injEq]
    simp [e2, e4, e6, e7, e8, e9, ← e5, hln]

/-- "$ORIGIN-relative versus absolute names": the relative spelling of a name under the current origin and its
absolute spelling denote the same name (owner names, and every name inside RDATA, go through this function). -/
theorem relative_eq_absolute_name (n o : Name) (hn : WfName n) (hno : WfName (n ++ o)) (ho1 : OctetsOk n) (ho2 : OctetsOk (n ++ o))
    (hrel : isAbs n = false) (habs : isAbs (n ++ o) = true) :
    fromText (toText n) (some o) = fromText (toText (n ++ o)) (some o) := by
  rw [C01.fromText_toText_origin n o hn ho1, C01.fromText_toText_origin (n ++ o) o hno ho2]
  simp [hrel, habs, validate_of_wf (n ++ o) hno]

/-- non-vacuity for the name spelling: `www` under `example.` -/
example : WfName [[119, 119, 119]] ∧ WfName ([[119, 119, 119]] ++ [[101, 120], []]) ∧
    isAbs [[119, 119, 119]] = false ∧ isAbs ([[119, 119, 119]] ++ [[101, 120], []]) = true := by
  refine ⟨⟨?_, ?_, ?_⟩, ⟨?_, ?_, ?_⟩, ?_, ?_⟩ <;> decide

/-- "records outside the zone origin are ignored": when the owner of a line is not at or below the zone origin the
rest of the line is consumed without being parsed (so it need not even be well-formed beyond its tokens), no record
is produced, and only `last_name` changes. -/
theorem out_of_zone_ignored (r : PState) (t : Token) (s : TState) (co zo n : Name)
    (hco : r.currentOrigin = some co) (hzo : r.zoneOrigin = some zo)
    (hget : r.tok.get (wantLeading := true) = .ok (t, s)) (hty : t.ttype ≠ .whitespace)
    (hn : t.asName (some co) false none = .ok n) (hout : isSubdomain n zo = false) :
    rrParse r = (eatLine (s.input.length + 2) s).map fun s' => (none, { r with tok := s', lastName := some n }) := by
  unfold rrParse
  rw [rrOwner_out_of_zone r t s co zo n hco hzo hget hty hn hout]
  cases eatLine (s.input.length + 2) s <;> simp [Except.map, bind, Except.bind, pure, Except.pure]

/-- the record lines of a file in the writer's canonical shape are read back one record each, whatever RDATA codec
is plugged in behind the `RdataReads` interface (C05): `owner SP ttl SP class SP type <rdata> NL`. -/
theorem read_line (r : PState) (ow ttlT clsT tyT rdText rest : List Nat) (co zo n m : Name) (ttl ty : Nat)
    (rd : Rdata) (comment : Option (List Nat))
    (hco : r.currentOrigin = some co) (hzo : r.zoneOrigin = some zo)
    (htok : r.tok = after 0 false (ow ++ (32 :: (ttlT ++ (32 :: (clsT ++ (32 :: (tyT ++ (rdText ++ rest)))))))))
    (hl : LineOK ow ttlT clsT tyT co zo n ttl ty)
    (hm : ownerInZone r.relativize n zo = .ok m)
    (hrd : RdataReads ty rdText rd comment (some co) r.relativize (some zo) r.gfix) :
    lineStep r = .ok (.entry ⟨m, ttl, ty, ⟨rd, comment⟩⟩, afterRecord r n ttl ty rd rest) :=
  -- the canonical line among the record lines of every shape; `afterG` at a line that carries its TTL unfolds to
  -- `afterRecord`, and `GLine.entry` to the record
  lineStep_G r (canonLine ow ttlT clsT tyT rdText n m ttl ty rd comment) rest co zo hco hzo
    (by simpa [canonLine, GLine.text, Hdr.text, Hdr.first, Hdr.rest] using htok) (canonLine_good hl hm hrd)
    (fun h => by cases h) (fun h => by cases h)

/-- what the writer prints in front of the RDATA always is what the reader needs (`LineOK` minus the name algebra):
the text of any well-formed owner name is one identifier that is no directive; the decimal TTL reads back as the
TTL; `IN` reads back as class 1; every mnemonic of the working tree's type table reads back as its type. -/
theorem written_fields_are_tokens (name : Name) (ttl : Nat) (hwf : WfName name) (ho : OctetsOk name)
    (ht : ttl ≤ Consts.maxTTL) :
    (identOK (toText name) = true ∧ toText name ≠ [] ∧ (toText name).head? ≠ some 36) ∧
    (identOK (natToDec ttl) = true ∧ natToDec ttl ≠ [] ∧ ttlOf (natToDec ttl) = some ttl) ∧
    (identOK (classToText 1) = true ∧ classToText 1 ≠ [] ∧ classFromText (classToText 1) = some 1) ∧
    (∀ p ∈ ConstsC09.typeText, TypeTextOK p.1) :=
  ⟨toText_token name hwf ho, ⟨(natToDec_token ttl).1, (natToDec_token ttl).2, ttlOf_natToDec ttl ht⟩,
    classText_token, typeText_table_ok⟩

/-- "writing any zone to master-file text and reading it back yields an equal zone, for relativized and absolute
zones" — proved for the plain one-record-per-line style with `sorted` on or off (`plainStyleS b`), for every
well-formed zone (`ZoneWF`: non-empty nodes and rdatasets, names / types / rdatas pairwise distinct, singleton types
hold one rdata, CNAME exclusivity, SOA only at the origin) whose records are individually readable (`RecLine.Good`: the
name algebra of the owner, and the RDATA codec behind the C05 interface `RdataReads`):
`from_text(to_styled_text(z)) = z` exactly when unsorted, and the zone with its names in canonical order when sorted. -/
theorem read_write (b : Bool) (z : ZoneMap) (zo : Name) (rel gfix : Bool) (absOf : Name → Name) (rtextOf : RR → List Nat)
    (hwf : ZoneWF (if rel then some [] else some zo) (writeOrder b z))
    (htext : ∀ p ∈ writeOrder b z, ∀ rds ∈ p.2, ∀ rr ∈ rds.rrs, rdataToText (plainStyleS b).toRdStyle rr.rd = .ok (rtextOf rr))
    (hgood : ∀ l ∈ zoneRecLines absOf rtextOf (writeOrder b z), l.Good zo rel gfix) :
    ∃ text, zoneToText (plainStyleS b) (some zo) z rel = .ok text ∧
      zoneFromText text (some zo) rel false gfix = .ok (writeOrder b z, some zo) := by
  -- the case `plainStyleS b` of `read_write_core`: `adjustStyle` leaves the plain style alone, `recordText` is `rdataToText`
  -- for it and its line is the canonical one, all by computation
  have hcore := read_write_core (plainStyleS b) z zo rel gfix (some zo) toText absOf rtextOf RR.comment (plainStyleS b) rfl
    (writeOrder b z) rfl ⟨rfl, rfl, Int.le_refl 0, nofun⟩ (Or.inl rfl) nofun (fun p _ => nameToStyledText_plain b p.1) htext
    (by rw [withComments_self]; exact hwf) (good_plain b zo rel gfix absOf rtextOf _ hgood)
  rwa [withComments_self] at hcore

/-- "sorting": the order in which a sorted style writes (and the reader then stores) the names is a permutation of
the zone's own order — the zones are equal as name → node maps. -/
theorem sorted_is_permutation (z : ZoneMap) : (writeOrder true z).Perm z := by
  simpa [writeOrder] using sortNames_perm z

/-- the denotation of a zone's own record list is the zone (the reader reconstructs a well-formed zone exactly) -/
theorem interp_of_records (eff : Option Name) (z : ZoneMap) (hwf : ZoneWF eff z) :
    addAll eff [] (entriesOfZone z) = .ok z := addAll_rebuild eff z hwf

/-- non-vacuity of `read_write`: the relativized zone `www 300 IN A 10.0.0.1 / 10.0.0.2`, `ns 60 IN A 192.0.2.1`
under origin `ex.` meets every hypothesis, with the A-record instance of the RDATA interface (`rdataReads_A_all`). -/
example :
    let zo : Name := [[101, 120], []]
    let z : ZoneMap := [([[119, 119, 119]], [⟨1, 300, [⟨.a [10, 0, 0, 1], none⟩, ⟨.a [10, 0, 0, 2], none⟩]⟩]),
                        ([[110, 115]], [⟨1, 60, [⟨.a [192, 0, 2, 1], none⟩]⟩])]
    let rtextOf : RR → List Nat := fun rr => match rr.rd with | .a addr => inetNtoa addr | _ => []
    let absOf : Name → Name := fun n => n ++ zo
    ZoneWF (some []) (writeOrder false z) ∧
    (∀ p ∈ writeOrder false z, ∀ rds ∈ p.2, ∀ rr ∈ rds.rrs,
        rdataToText (plainStyleS false).toRdStyle rr.rd = .ok (rtextOf rr)) ∧
    (∀ l ∈ zoneRecLines absOf rtextOf (writeOrder false z), l.Good zo true false) := by
  intro zo z rtextOf absOf
  have hf : ∀ l ∈ zoneRecLines absOf rtextOf (writeOrder false z), l.toG.Fields zo zo true := by decide +kernel
  refine ⟨by decide +kernel, by decide +kernel, fun l hl => RecLine.good_of_fields (hf l hl) ?_⟩
  simp only [zoneRecLines, writeOrder, z, Bool.false_eq_true, if_false, List.flatMap_cons, List.flatMap_nil, List.map_cons,
    List.map_nil, List.append_nil, List.cons_append, List.nil_append, List.mem_cons, List.mem_nil_iff, or_false] at hl
  rcases hl with rfl | rfl | rfl
  · exact (rdataReads_A_all [32] 10 0 0 1 (by decide) (by decide) (by decide) (by decide) none _ _ _ _ sp_blank (by simp)
      (by simp)).of_text (by decide +kernel)
  · exact (rdataReads_A_all [32] 10 0 0 2 (by decide) (by decide) (by decide) (by decide) none _ _ _ _ sp_blank (by simp)
      (by simp)).of_text (by decide +kernel)
  · exact (rdataReads_A_all [32] 192 0 2 1 (by decide) (by decide) (by decide) (by decide) none _ _ _ _ sp_blank (by simp)
      (by simp)).of_text (by decide +kernel)

/-- "$GENERATE versus its expansion", one index: the `for` loop of `_generate_line` (owner through
`dns.name.from_text`, RDATA through a fresh tokenizer over the substituted text) hands `txn.add` the same record as the
reader does for the explicit line `owner SP ttl SP class SP type SP rdata NL` of the expansion.  `co` is the current
origin (any `$ORIGIN` may have preceded), `zo` the zone origin: both call sites (`_rr_line`, `_generate_line`) hand
`dns.rdata.from_text` the triple `(origin, relativize, relativize_to) = (current_origin, relativize, zone_origin)`, which
is what `hline` (the line) and `hfresh` (the loop) speak about. -/
theorem generate_eq_expansion (r : PState) (nameT ttlT clsT tyT rdT rest : List Nat) (co zo n m : Name) (ttl ty : Nat)
    (rd : Rdata) (comment : Option (List Nat)) (s' : TState)
    (hco : r.currentOrigin = some co) (hzo : r.zoneOrigin = some zo)
    (hname : fromText nameT (some co) = .ok n) (habs : isAbs n = true)
    (hl : LineOK nameT ttlT clsT tyT co zo n ttl ty)
    (hm : ownerInZone r.relativize n zo = .ok m)
    (hline : RdataReads ty (32 :: (rdT ++ [10])) rd comment (some co) r.relativize (some zo) r.gfix)
    (hfresh : rdataFromText ty (TState.init rdT) (some co) r.relativize (some zo) r.gfix = .ok (rd, comment, s')) :
    (genItem ttl ty (nameT, rdT) r).map (·.1) =
    (lineStep { r with tok := after 0 false (nameT ++ (32 :: (ttlT ++ (32 :: (clsT ++ (32 :: (tyT ++ ((32 :: (rdT ++ [10])) ++ rest)))))))) }).map
      (fun x => evEntry x.1) := by
  rw [genItem_record r nameT rdT co zo n m ttl ty rd comment s' hco hzo hname hl.in_zone hm hfresh]
  rw [read_line
    { r with tok := after 0 false (nameT ++ (32 :: (ttlT ++ (32 :: (clsT ++ (32 :: (tyT ++ ((32 :: (rdT ++ [10])) ++ rest)))))))) }
    nameT ttlT clsT tyT (32 :: (rdT ++ [10])) rest co zo n m ttl ty rd comment hco hzo rfl hl hm hline]
  rfl

/-- "$GENERATE versus its expansion", the whole loop, with no in-zone hypothesis: every index either yields a record
(`e item = some _`) or has its owner outside the zone and is skipped (`e item = none`); what the loop does to the zone
is the fold of `txn.add` over the records yielded, in index order — the same denotation `read_eq_interp` / `read_write` give
to the file of their explicit lines. -/
theorem generate_loop_is_fold (ttl ty : Nat) (items : List (List Nat × List Nat)) (r : PState)
    (e : List Nat × List Nat → Option Entry) (nOf : List Nat × List Nat → Name) (k : PState → Trace)
    (h : ∀ item ∈ items, ∀ ln, genItem ttl ty item { r with lastName := ln } =
      .ok (e item, { r with lastName := some (nOf item) }))
    (z : ZoneMap) :
    ∃ ln, interpTrace (genTrace ttl ty items r k) z =
      (addAll r.effOrigin z (items.filterMap e)).bind fun z' => interpTrace (k { r with lastName := ln }) z' := by
  refine ⟨lastNameAfter nOf r.lastName items, ?_⟩
  rw [genTrace_records ttl ty items r e nOf k h, interpTrace_entries]

/-- a generated owner outside the zone yields no record and does not end the loop (`fix:` commit 202894b): the later
indices still run -/
theorem generate_out_of_zone_skipped (r : PState) (nameT rdT : List Nat) (co zo n : Name) (ttl ty : Nat)
    (hco : r.currentOrigin = some co) (hzo : r.zoneOrigin = some zo)
    (hname : fromText nameT (some co) = .ok n) (hout : isSubdomain n zo = false) :
    genItem ttl ty (nameT, rdT) r = .ok (none, { r with lastName := some n }) := by
  rw [genItem_eq r co zo ttl ty _ hco hzo]
  simp [genEntry, hname, hout, Except.map]

/-- regression of the finding repaired by 202894b, end to end on the model: zone `h2.ex.`, `$ORIGIN ex.`, and
`$GENERATE 1-3 h$ 300 A 10.0.0.$` — `h1` and `h3` are outside the zone and skipped, `h2` (the apex) is loaded — the same
zone as the explicit lines give -/
example :
    zoneFromText (s2l "$ORIGIN ex.\n$GENERATE 1-3 h$ 300 A 10.0.0.$\n") (some [s2l "h2", s2l "ex", []]) false false =
      .ok ([([s2l "h2", s2l "ex", []], [⟨1, 300, [⟨.a [10, 0, 0, 2], none⟩]⟩])], some [s2l "h2", s2l "ex", []]) := by
  -- `rw [s2l_ofList]` turns a string literal into its character list by unification; evaluating `String.toList` on a
  -- literal is what would cost most here
  repeat rw [s2l_ofList]
  decide +kernel

example :
    zoneFromText (s2l "$ORIGIN ex.\nh1 300 A 10.0.0.1\nh2 300 A 10.0.0.2\nh3 300 A 10.0.0.3\n")
      (some [s2l "h2", s2l "ex", []]) false false =
      .ok ([([s2l "h2", s2l "ex", []], [⟨1, 300, [⟨.a [10, 0, 0, 2], none⟩]⟩])], some [s2l "h2", s2l "ex", []]) := by
  repeat rw [s2l_ofList]
  decide +kernel

/-- the indices a `$GENERATE start-stop/step` line runs over are `start, start+step, …` up to `stop` inclusive -/
theorem generate_indices (start stop step : Nat) (lhs rhs : List Nat) (lm rm : Modify) :
    generateExpansion start stop step lhs rhs lm rm =
      (((List.range (stop + 1 - start)).filter (fun k => k % step = 0)).map fun k =>
        (substIndex lhs lm (start + k), substIndex rhs rm (start + k))) := rfl

/-! ### write-then-read under every lossless style -/

/-- **"writing any zone to master-file text and reading it back yields an equal zone … under every output style that
does not discard information"**.  `st` is any style; `st' = adjustStyle st …` is the style `Zone.to_styled_file`
actually uses (it supplies the zone's origin to a generic-syntax style that has none).  Hypotheses:
`Lossless st'` (TTLs not omitted, first owner of a node printed, owner column not right-justified, `$TTL` value in
range); the zone — in the order written, with the comments the text carries — is well formed (`ZoneWF`); every record
is readable (`RecOK`: the name algebra of its owner, the type token, and the RDATA codec behind the C05 interface
`RdataReads`, for the RDATA text under *this* style: chunking, generic form, trailing comment, padding); the zone origin
is an absolute name (`dns.zone.Zone` requires it; the reader completes the `$ORIGIN` argument with the origin it was
given and rejects a name that is still relative — commit c444c98).
Conclusion: the text written loads back — given the origin, or, when `$ORIGIN` is emitted and the zone is not empty,
without it — to exactly that zone.  Every knob is free: `sorted`, `want_origin`, `default_ttl` (any value, 0 included),
`deduplicate_names`, the four justifications, `want_comments`, `omit_rdclass`, `want_generic`, the name style
(`origin`/`relativize`) and the RDATA style (chunk sizes and separators). -/
theorem read_write_lossless (st : Style) (z : ZoneMap) (zo : Name) (rel gfix : Bool) (origin? : Option Name)
    (owOf : Name → List Nat) (absOf : Name → Name) (rtextOf : RR → List Nat)
    (hl : Lossless (adjustStyle st (some zo) rel))
    (horig : origin? = some zo ∨ (origin? = none ∧ (adjustStyle st (some zo) rel).wantOrigin = true ∧
      writeOrder (adjustStyle st (some zo) rel).sorted z ≠ []))
    (hotext : (adjustStyle st (some zo) rel).wantOrigin = true →
      identOK (toText zo) = true ∧ toText zo ≠ [] ∧ fromText (toText zo) none = .ok zo)
    (hzabs : isAbs zo = true)
    (hname : ∀ p ∈ writeOrder (adjustStyle st (some zo) rel).sorted z,
      nameToStyledText (adjustStyle st (some zo) rel).toNameStyle p.1 = .ok (owOf p.1))
    (htext : ∀ p ∈ writeOrder (adjustStyle st (some zo) rel).sorted z, ∀ rds ∈ p.2, ∀ rr ∈ rds.rrs,
      recordText (adjustStyle st (some zo) rel) rr.rd = .ok (rtextOf rr))
    (hwf : ZoneWF (if rel then some [] else some zo)
      (keptZone (adjustStyle st (some zo) rel) (writeOrder (adjustStyle st (some zo) rel).sorted z)))
    (hrec : ∀ p ∈ writeOrder (adjustStyle st (some zo) rel).sorted z, ∀ rds ∈ p.2, ∀ x ∈ rds.rrs,
      RecOK (adjustStyle st (some zo) rel) zo rel gfix (owOf p.1) (absOf p.1) p.1 rds.ttl rds.rdtype x (rtextOf x)) :
    ∃ text, zoneToText st (some zo) z rel = .ok text ∧
      zoneFromText text origin? rel false gfix =
        .ok (keptZone (adjustStyle st (some zo) rel) (writeOrder (adjustStyle st (some zo) rel).sorted z), some zo) :=
  read_write_core st z zo rel gfix origin? owOf absOf rtextOf _ _ rfl _ rfl hl horig (fun h => ⟨hotext h, hzabs⟩) hname htext
    hwf (recG_good_of_recOK _ zo rel gfix owOf absOf rtextOf _ hrec)

/-- every single knob of the lossless set, and all of them together, satisfy `Lossless` (the instances of
`read_write_lossless` the property text enumerates: `$ORIGIN` emission, `$TTL` emission incl. 0, owner de-duplication,
left justification of the owner and either justification of the other columns, comments, chunking, generic syntax) -/
theorem lossless_knobs :
    Lossless { wantOrigin := true } ∧ Lossless { defaultTTL := some 0 } ∧ Lossless { defaultTTL := some 86400 } ∧
    Lossless { dedup := true } ∧ Lossless { nameJust := -24, ttlJust := 8, classJust := -4, typeJust := 10 } ∧
    Lossless { wantComments := true } ∧ Lossless { hexChunk := 2, hexSep := [32, 32] } ∧
    Lossless { wantGeneric := true, genFix := 2 } ∧ Lossless { omitClass := true } ∧ Lossless { sorted := false } ∧
    Lossless { wantOrigin := true, defaultTTL := some 300, dedup := true, nameJust := -16, ttlJust := -6, classJust := 3,
               typeJust := -8, wantComments := true, wantGeneric := true, genFix := 2, omitClass := true } := by
  decide

/-! ### concrete RDATA codecs behind the interface `RdataReads`

Each instance is stated for "blanks, the text `to_styled_text` prints, an optional ` ;comment`, newline" — the shape the
writer produces after the (padded) type column under any lossless style — and for every continuation of the file. -/

/-- A: the address token -/
theorem rdata_codec_A (b w addr : List Nat) (kc : Option (List Nat)) (co : Option Name) (rel : Bool) (zo : Option Name)
    (gfix : Bool) (hb : Blank b) (hbn : b ≠ []) (hkc : ∀ t ∈ kc, 10 ∉ t)
    (hw : identOK w = true) (hne : w ≠ []) (hnot : w ≠ [92, 35]) (hesc : hasEsc w = false)
    (hval : inetAton (w.flatMap utf8) = some addr) :
    RdataReads tA (b ++ (w ++ lineEnd kc)) (.a addr) kc co rel zo gfix :=
  rdataReads_A_gen b w addr kc co rel zo gfix hb hbn hkc hw hne hnot hesc hval

/-- NS / CNAME / PTR: one name, resolved against the current origin exactly as `Tokenizer.as_name` does -/
theorem rdata_codec_name (ty : Nat) (hty : isName1Type ty = true) (b w : List Nat) (t : Name) (kc : Option (List Nat))
    (co : Option Name) (rel : Bool) (zo : Option Name) (gfix : Bool)
    (hb : Blank b) (hbn : b ≠ []) (hkc : ∀ x ∈ kc, 10 ∉ x)
    (hw : identOK w = true) (hne : w ≠ []) (hnot : w ≠ [92, 35])
    (hname : (identToken w).asName co rel zo = .ok t) :
    RdataReads ty (b ++ (w ++ lineEnd kc)) (.name1 t) kc co rel zo gfix := by
  have hgen : isGenericType ty = false := by
    rcases (of_decide_eq_true hty : ty = 2 ∨ ty = 5 ∨ ty = 12) with h | h | h <;> subst h <;> decide
  refine rdataReads_typed (body := id) hgen (by simp [isModelledType, hty]) hb hbn hkc hw hne hnot (fun _ _ => rfl)
    (lineEnd_startsDelim kc) fun rest => ?_
  rw [rdataFromTextTyped_name1 ty hty]
  simp only [bind, Except.bind, liftT, getName_of_get _ _ w co rel zo t (get_ungot_after _ w) hname, pure, Except.pure, id]

/-- MX: preference (any 16-bit value) and exchange -/
theorem rdata_codec_MX (b w : List Nat) (p : Nat) (t : Name) (kc : Option (List Nat))
    (co : Option Name) (rel : Bool) (zo : Option Name) (gfix : Bool)
    (hb : Blank b) (hbn : b ≠ []) (hkc : ∀ x ∈ kc, 10 ∉ x) (hp : p ≤ 65535)
    (hw : identOK w = true) (hne : w ≠ []) (hname : (identToken w).asName co rel zo = .ok t) :
    RdataReads tMX (b ++ (natToDec p ++ (32 :: (w ++ lineEnd kc)))) (.mx p t) kc co rel zo gfix := by
  refine rdataReads_typed (body := fun X => 32 :: (w ++ X)) (by decide) (by decide) hb hbn hkc (natToDec_token p).1
    (natToDec_token p).2 (natToDec_not_marker p) (fun _ _ => by simp) (fun _ => sp_startsDelim _) fun rest => ?_
  rw [rdataFromTextTyped_MX]
  simp only [bind, Except.bind, liftT, getUint_of_get 65535 _ _ p (get_ungot_after _ _) hp,
    getName_sp w _ co rel zo t hw hne (lineEnd_startsDelim kc rest) hname, pure, Except.pure]

/-- SOA: two names, a 32-bit serial and four TTL-valued timers printed in decimal -/
theorem rdata_codec_SOA (b mt rt : List Nat) (m r : Name) (se rf rtv ex mi : Nat) (kc : Option (List Nat))
    (co : Option Name) (rel : Bool) (zo : Option Name) (gfix : Bool)
    (hb : Blank b) (hbn : b ≠ []) (hkc : ∀ x ∈ kc, 10 ∉ x)
    (hm : identOK mt = true) (hmn : mt ≠ []) (hmk : mt ≠ [92, 35]) (hr : identOK rt = true) (hrn : rt ≠ [])
    (hmname : (identToken mt).asName co rel zo = .ok m) (hrname : (identToken rt).asName co rel zo = .ok r)
    (hse : se ≤ 4294967295) (hrf : rf ≤ Consts.maxTTL) (hrt : rtv ≤ Consts.maxTTL) (hex : ex ≤ Consts.maxTTL)
    (hmi : mi ≤ Consts.maxTTL) :
    RdataReads tSOA (b ++ soaText mt rt se rf rtv ex mi (lineEnd kc)) (.soa m r se rf rtv ex mi) kc co rel zo gfix := by
  refine rdataReads_typed (w := mt) (body := fun X => (soaText [] rt se rf rtv ex mi X))
    (by decide) (by decide) hb hbn hkc hm hmn hmk (fun _ _ => by simp [soaText]) (fun _ => sp_startsDelim _) fun rest => ?_
  rw [rdataFromTextTyped_SOA]
  simp only [bind, Except.bind, liftT, soaText, List.nil_append,
    getName_of_get _ _ mt co rel zo m (get_ungot_after _ mt) hmname,
    getName_sp rt _ co rel zo r hr hrn (sp_startsDelim _) hrname, getUint_sp _ se _ hse (sp_startsDelim _),
    getTTL_sp rf _ hrf (sp_startsDelim _), getTTL_sp rtv _ hrt (sp_startsDelim _), getTTL_sp ex _ hex (sp_startsDelim _),
    getTTL_sp mi _ hmi (lineEnd_startsDelim kc rest), pure, Except.pure]

/-- TXT: any non-empty list of character-strings of at most 255 arbitrary octets, quoted and escaped by
`dns.rdata._escapify`, comes back octet for octet through the tokenizer's quoting mode and `unescape_to_bytes` -/
theorem rdata_codec_TXT (b : List Nat) (s1 : Bytes) (more : List Bytes) (kc : Option (List Nat))
    (co : Option Name) (rel : Bool) (zo : Option Name) (gfix : Bool)
    (hb : Blank b) (hbn : b ≠ []) (hkc : ∀ x ∈ kc, 10 ∉ x)
    (hs : ∀ s ∈ s1 :: more, (∀ c ∈ s, c < 256) ∧ s.length ≤ 255) :
    RdataReads tTXT (b ++ (joinWith [32] ((s1 :: more).map txtQuote) ++ lineEnd kc)) (.txt (s1 :: more)) kc co rel zo gfix := by
  refine ⟨blank_startsDelim _ _ hb hbn, fun rest => ?_⟩
  have e : (b ++ (joinWith [32] ((s1 :: more).map txtQuote) ++ lineEnd kc)) ++ rest =
      b ++ ((txtWord s1).text ++ itemsText (txtMore more) (lineEnd kc ++ rest)) := by
    rw [txtWord_text, ← txtMore_text s1 more (lineEnd kc ++ rest)]
    simp [List.append_assoc]
  rw [e]
  have hT : startsDelim (itemsText (txtMore more) (lineEnd kc ++ rest)) :=
    itemsText_startsDelim (txtMore more) (txtMore_ok more) [] blank_nil kc rest
  have hg : _ = Except.ok (_, after 0 true _) := get_blank_word b (txtWord s1) _ false hb
    (by simp [txtWord, Word.ok, quotedOK_rdEscapify s1]) hT
  have := rdataFromText_typed tTXT _ _ _ (after 0 false rest) _ (eolToken kc) (.txt (s1 :: more)) co rel zo gfix
    (by decide) (by decide) hg (by simp [txtWord, Word.token, Token.isIdentifier])
    (by
      rw [rdataFromTextTyped_TXT]
      simp only [bind, Except.bind, liftT, getRemaining_txt s1 more kc hkc rest, mapM_txt _ hs]
      simp [pure, Except.pure])
    (getEol_ungot_eol rest kc)
  simpa [eolToken_comment] using this

/-- "base64/hex chunking", "generic RFC 3597 syntax": the generic form `\# n hex…` of a type without an
implementation class, under *any* chunk size and any separator made of blanks ("token-safe re-chunking") -/
theorem rdata_codec_generic (ty : Nat) (hty : isGenericType ty = true) (b : List Nat) (d : Bytes) (hd : ∀ x ∈ d, x < 256)
    (chunk : Nat) (sep : List Nat) (hsep : SepOK sep) (kc : Option (List Nat)) (hc : ∀ t ∈ kc, 10 ∉ t)
    (co : Option Name) (rel : Bool) (zo : Option Name) (gfix : Bool) (hb : Blank b) (hbn : b ≠ []) :
    RdataReads ty (b ++ (genericMarker ++ genericTail d chunk sep (lineEnd kc))) (.generic d) kc co rel zo gfix :=
  ⟨blank_startsDelim _ _ hb hbn, fun rest => rdataFromText_generic ty _ _ _ _ d co rel zo gfix hty
    (genericFromText_ok _ d hd chunk sep hsep kc hc rest (generic_first b d chunk sep kc rest hb)) (getEol_ungot_eol rest kc)⟩

/-- `want_generic` on a known type: the generic text is read back to the rdata whenever the type's wire codec
round-trips against the reader's origin (the C02 interface), again under any chunking -/
theorem rdata_codec_generic_known (ty : Nat) (hgen : isGenericType ty = false) (hmod : isModelledType ty = true)
    (b : List Nat) (d : Bytes) (rd : Rdata) (hd : ∀ x ∈ d, x < 256)
    (chunk : Nat) (sep : List Nat) (hsep : SepOK sep) (kc : Option (List Nat)) (hc : ∀ t ∈ kc, 10 ∉ t)
    (co : Option Name) (rel : Bool) (zo : Option Name) (gfix : Bool) (hb : Blank b) (hbn : b ≠ [])
    (hdec : rdataFromWire ty d (if gfix then wireOrigin co rel zo else co) = some rd)
    (henc : rdataToWire (if gfix then wireOrigin co rel zo else none) rd = .ok d) :
    RdataReads ty (b ++ (genericMarker ++ genericTail d chunk sep (lineEnd kc))) rd kc co rel zo gfix :=
  ⟨blank_startsDelim _ _ hb hbn, fun rest => rdataFromText_marker ty _ _ _ _ _ _ d rd co rel zo gfix hgen hmod
    (generic_first b d chunk sep kc rest hb) marker_token
    (genericFromText_ok _ d hd chunk sep hsep kc hc rest (get_ungot_after _ genericMarker)) hdec henc
    (getEol_ungot_eol rest kc)⟩

/-- the RDATA text of the generic form is exactly what the writer prints for it, and the escape / hex tables used
above are those of the working tree -/
theorem codec_tables :
    RdEscOK ConstsC09.rdataEscaped ∧
    (∀ d chunk sep, rdataToText { hexChunk := chunk, hexSep := sep } (.generic d) =
      .ok (genericMarker ++ genericTail d chunk sep [])) := by
  refine ⟨rdEscOK_generated, ?_⟩
  intro d chunk sep
  simp [rdataToText, genericMarker, genericTail, s2l, List.append_assoc]

/-- a codec instance in "blanks, text, line end" form supplies the `rdata` field `read_write_lossless` asks of a record -/
theorem codec_supplies_record (st : Style) (ty : Nat) (rr : RR) (rtext : List Nat) (co : Option Name) (rel : Bool)
    (zo : Option Name) (gfix : Bool)
    (h : RdataReads ty ((padR (typeTok st ty) st.typeJust ++ [32]) ++ (rtext ++ lineEnd (keptComment st rr))) rr.rd
      (keptComment st rr) co rel zo gfix) :
    RdataReads ty (padR (typeTok st ty) st.typeJust ++ (32 :: (rtext ++ (extraOf st rr ++ [10])))) rr.rd
      (keptComment st rr) co rel zo gfix := by
  rw [extra_lineEnd]
  simpa [List.append_assoc] using h

/-- non-vacuity of `read_write_lossless`: with `$ORIGIN`, `$TTL 300`, de-duplicated owners, a left-justified owner
column, left/right-justified TTL/class/type columns and comments all switched on, the relativized zone
`www 300 A 10.0.0.1 ;c / 10.0.0.2`, `www 60 TXT "hi"` under `ex.` meets every hypothesis (codecs: A and TXT instances),
whether the reader is given the origin or takes it from `$ORIGIN`. -/
example :
    let zo : Name := [[101, 120], []]
    let st : Style := { sorted := false, wantOrigin := true, defaultTTL := some 300, dedup := true, nameJust := -16,
                        ttlJust := -6, classJust := 3, typeJust := -8, wantComments := true }
    let z : ZoneMap := [([[119, 119, 119]],
      [⟨1, 300, [⟨.a [10, 0, 0, 1], some [99]⟩, ⟨.a [10, 0, 0, 2], none⟩]⟩, ⟨16, 60, [⟨.txt [[104, 105]], none⟩]⟩])]
    let rtextOf : RR → List Nat := fun rr => match rr.rd with
      | .a addr => inetNtoa addr
      | .txt ss => joinWith [32] (ss.map txtQuote)
      | _ => []
    let absOf : Name → Name := fun n => n ++ zo
    let owOf : Name → List Nat := toText
    Lossless (adjustStyle st (some zo) true) ∧
    (∀ p ∈ writeOrder (adjustStyle st (some zo) true).sorted z,
      nameToStyledText (adjustStyle st (some zo) true).toNameStyle p.1 = .ok (owOf p.1)) ∧
    (∀ p ∈ writeOrder (adjustStyle st (some zo) true).sorted z, ∀ rds ∈ p.2, ∀ rr ∈ rds.rrs,
      recordText (adjustStyle st (some zo) true) rr.rd = .ok (rtextOf rr)) ∧
    ZoneWF (some []) (keptZone (adjustStyle st (some zo) true) (writeOrder (adjustStyle st (some zo) true).sorted z)) ∧
    (∀ p ∈ writeOrder (adjustStyle st (some zo) true).sorted z, ∀ rds ∈ p.2, ∀ x ∈ rds.rrs,
      RecOK (adjustStyle st (some zo) true) zo true true (owOf p.1) (absOf p.1) p.1 rds.ttl rds.rdtype x (rtextOf x)) := by
  intro zo st z rtextOf absOf owOf
  have hst : adjustStyle st (some zo) true = st := rfl
  have hw : writeOrder st.sorted z = z := rfl
  rw [hst, hw]
  refine ⟨by decide, ?_, ?_, ?_, ?_⟩
  · decide +kernel
  · decide +kernel
  · decide +kernel
  · intro p hp rds hr x hx
    simp only [z, List.mem_cons, List.mem_nil_iff, or_false] at hp
    subst hp
    simp at hr
    rcases hr with rfl | rfl <;> refine RecOK.of_checks (by decide +kernel) (codec_supplies_record _ _ _ _ _ _ _ _ ?_) <;>
      simp at hx
    · rcases hx with rfl | rfl
      · exact rdata_codec_A _ (inetNtoa [10, 0, 0, 1]) [10, 0, 0, 1] _ _ _ _ _ (typeGap_sep st 1).1 (typeGap_sep st 1).2
          (by intro t ht; cases ht; decide) rfl (by decide) (by decide) rfl rfl
      · exact rdata_codec_A _ (inetNtoa [10, 0, 0, 2]) [10, 0, 0, 2] _ _ _ _ _ (typeGap_sep st 1).1 (typeGap_sep st 1).2
          (by intro t ht; cases ht) rfl (by decide) (by decide) rfl rfl
    · subst hx
      exact rdata_codec_TXT _ [104, 105] [] _ _ _ _ _ (typeGap_sep st 16).1 (typeGap_sep st 16).2
        (by intro t ht; cases ht) (by intro s hs; simp at hs; subst hs; exact ⟨by decide, by decide⟩)

/-- A without side conditions: for every address `a.b.c.d` the dotted quad the writer prints is read back to it -/
theorem rdata_codec_A_all (b : List Nat) (o1 o2 o3 o4 : Nat) (h1 : o1 < 256) (h2 : o2 < 256) (h3 : o3 < 256) (h4 : o4 < 256)
    (kc : Option (List Nat)) (co : Option Name) (rel : Bool) (zo : Option Name) (gfix : Bool)
    (hb : Blank b) (hbn : b ≠ []) (hkc : ∀ t ∈ kc, 10 ∉ t) :
    RdataReads tA (b ++ (inetNtoa [o1, o2, o3, o4] ++ lineEnd kc)) (.a [o1, o2, o3, o4]) kc co rel zo gfix :=
  rdataReads_A_all b o1 o2 o3 o4 h1 h2 h3 h4 kc co rel zo gfix hb hbn hkc

/-- the type column: every mnemonic of the working tree's table (the meta-type `ANY`, whose mnemonic is also a class
mnemonic, excepted) and, under `want_generic`, `TYPEn` for every 16-bit type meet what `read_write_lossless` asks of the
type token (`TypeTokOK`: it is a token, reads back as the type, and is neither a TTL nor a class) -/
theorem type_column_ok (st : Style) :
    (st.wantGeneric = false → ∀ p ∈ ConstsC09.typeText, p.1 ≠ 255 → TypeTokOK st p.1) ∧
    (st.wantGeneric = true → ∀ n, n ≤ 65535 → TypeTokOK st n) :=
  ⟨fun hg p hp hany => typeTokOK_plain st hg p hp hany, fun hg n h => typeTokOK_generic st hg n h⟩

/-- the `$ORIGIN` line: the text of any well-formed absolute-or-relative origin name is a token that reads back as
the name (what `read_write_lossless` asks when `want_origin` is on) -/
theorem origin_text_ok (zo : Name) (hwf : WfName zo) (ho : OctetsOk zo) :
    identOK (toText zo) = true ∧ toText zo ≠ [] ∧ fromText (toText zo) none = .ok zo :=
  ⟨(toText_token zo hwf ho).1, (toText_token zo hwf ho).2.1, C01.fromText_toText zo hwf ho⟩

/-! ### `$GENERATE` at character level -/

/-- `_format_index`, **width** (base `d`): a non-negative index is printed in decimal, left-filled with `0` up to the
width; the text still denotes the index and is at least `width` long -/
theorem generate_format_width (n w : Nat) :
    formatIndex (n : Int) 100 w = List.replicate (w - (natToDec n).length) 48 ++ natToDec n ∧
    digitsVal (formatIndex (n : Int) 100 w) 0 = n ∧ w ≤ (formatIndex (n : Int) 100 w).length :=
  ⟨formatIndex_dec n w, (formatIndex_dec_value n w).1, (formatIndex_dec_value n w).2.1⟩

/-- `_format_index` of a negative index (counter below a `-offset`): the sign stays in front of the zero fill -/
theorem generate_format_negative (n w : Nat) :
    formatIndex (-((n : Int) + 1)) 100 w =
      45 :: (List.replicate (w - ((natToDec (n + 1)).length + 1)) 48 ++ natToDec (n + 1)) := by
  unfold formatIndex
  have : [100, 111, 120, 88].contains 100 = true := by decide
  simp only [this, if_true, formatInt_dec_neg]
  unfold zfill
  by_cases hl : (45 :: natToDec (n + 1)).length ≥ w
  · have : w - ((natToDec (n + 1)).length + 1) = 0 := by simp at hl; omega
    simp [this]
  · have hl' : ¬ (natToDec (n + 1)).length + 1 ≥ w := by simpa using hl
    simp only [List.length_cons, hl', if_false]

/-- the range token: `start-stop` and `start-stop/step` -/
theorem generate_range_text (a b s : Nat) (h : a ≤ b) (hs : 1 ≤ s) :
    grangeFromText (natToDec a ++ 45 :: natToDec b) = .ok (a, b, 1) ∧
    grangeFromText (natToDec a ++ 45 :: (natToDec b ++ 47 :: natToDec s)) = .ok (a, b, s) :=
  ⟨by simpa using grange_range a b none h nofun,
    by simpa using grange_range a b (some s) h (fun _ h' => by cases h'; exact hs)⟩

/-- `_parse_modify` + `str.replace` on a side `pre$post` (one `$`, no modifier): the `$` becomes the decimal index -/
theorem generate_subst_plain (pre post : List Nat) (i : Nat) (hpre : 36 ∉ pre) (hpost : 36 ∉ post)
    (hbrace : post.head? ≠ some 123) :
    parseModify (pre ++ 36 :: post) = some {} ∧
    substIndex (pre ++ 36 :: post) {} i = pre ++ (natToDec i ++ post) := by
  have h1 := lastMod_single 1 pre post hpre hpost
  have h2 := lastMod_single 2 pre post hpre hpost
  have h3 := lastMod_single 3 pre post hpre hpost
  rw [modAt_no_brace _ _ hbrace] at h1 h2 h3
  constructor
  · unfold parseModify
    simp only [h1, h2, h3]
    decide
  · simpa [formatIndex_dec] using substIndex_one pre post {} i hpre hpost

/-- `_parse_modify` + `str.replace` on a side `pre${[-]offset,width,base}post`: **offset**, **width** and **base** are
those of the group, and the group becomes `_format_index(i ± offset, base, width)` -/
theorem generate_subst_modifier (pre post : List Nat) (neg : Bool) (o w b : Nat) (i : Nat)
    (hpre : 36 ∉ pre) (hpost : 36 ∉ post) (hb : [100, 111, 120, 88, 110, 78].contains b = true) :
    parseModify (pre ++ 36 :: (modText neg o w b ++ post)) =
      some { mod := modText neg o w b, sign := if neg then 45 else 43, offset := o, width := w, base := b } ∧
    substIndex (pre ++ 36 :: (modText neg o w b ++ post))
        { mod := modText neg o w b, sign := if neg then 45 else 43, offset := o, width := w, base := b } i =
      pre ++ (formatIndex (if neg then (i : Int) - o else (i : Int) + o) b w ++ post) := by
  have hb10 : b ≠ 10 := by intro e; subst e; simp at hb
  have hb36 : b ≠ 36 := by intro e; subst e; simp at hb
  have hnd := modText_no_dollar neg o w b hb36
  have htail : 36 ∉ modText neg o w b ++ post := by
    intro h; rcases List.mem_append.mp h with h | h
    · exact hnd h
    · exact hpost h
  have h1 := lastMod_single 1 pre (modText neg o w b ++ post) hpre htail
  rw [modAt_full neg o w b post hb10] at h1
  constructor
  · unfold parseModify
    simp only [h1, hb, if_true]
  · have := substIndex_one pre post
      { mod := modText neg o w b, sign := if neg then 45 else 43, offset := o, width := w, base := b } i hpre hpost
    cases neg <;> simpa using this

/-- the expansion of `$GENERATE a-b/s pre₁$post₁ … pre₂$post₂`: for every index the owner `pre₁ i post₁` and the RDATA
text `pre₂ i post₂` -/
theorem generate_expansion_plain (a b s : Nat) (pre1 post1 pre2 post2 : List Nat)
    (h1 : 36 ∉ pre1) (h2 : 36 ∉ post1) (h3 : post1.head? ≠ some 123)
    (h4 : 36 ∉ pre2) (h5 : 36 ∉ post2) (h6 : post2.head? ≠ some 123) :
    generateExpansion a b s (pre1 ++ 36 :: post1) (pre2 ++ 36 :: post2) {} {} =
      (((List.range (b + 1 - a)).filter (fun k => k % s = 0)).map fun k =>
        (pre1 ++ (natToDec (a + k) ++ post1), pre2 ++ (natToDec (a + k) ++ post2))) := by
  unfold generateExpansion
  apply List.map_congr_left
  intro k _
  rw [(generate_subst_plain pre1 post1 (a + k) h1 h2 h3).2, (generate_subst_plain pre2 post2 (a + k) h4 h5 h6).2]

/-- **"$GENERATE versus its expansion", as text**: the line `$GENERATE range lhs ttl class type rhs⏎` and the file of
the explicit record lines of its indices (same records, TTL written out, index order) take the reader — from the same
state, with the same text after them — to the same zone and the same parser state, so the rest of the file is read
alike.  (Per index: the owner resolves and the RDATA text reads, both from a fresh tokenizer as `_generate_line` does and
in the line as `_rr_line` does — the interfaces of `generate_eq_expansion`.)  The state `r` is any state of the reader:
its current origin `co` need not be the zone origin `zo` (`generate_after_origin_directives` below supplies such states
from files with any run of `$ORIGIN` directives); relative owners and relative RDATA names of the lines and of the
`$GENERATE` templates are completed with `co`, and stored relative to `zo`. -/
theorem generate_eq_expansion_text (f : Nat) (r : PState) (z : ZoneMap) (co zo : Name)
    (rangeT lhs ttlT clsT tyT rhs rest : List Nat) (a b st ttl ty : Nat) (lm rm : Modify)
    (e : List Nat × List Nat → Option Entry) (nOf : List Nat × List Nat → Name) (ls : List GLine)
    (hco : r.currentOrigin = some co) (hzo : r.zoneOrigin = some zo)
    (k1 : TokOK rangeT) (k2 : TokOK lhs) (k3 : TokOK ttlT) (k4 : TokOK clsT) (k5 : TokOK tyT) (k6 : TokOK rhs)
    (hrange : grangeFromText rangeT = .ok (a, b, st)) (httl : ttlOf ttlT = some ttl)
    (hcls : classFromText clsT = some 1) (hty : typeFromText tyT = some ty)
    (hlm : parseModify lhs = some lm) (hrm : parseModify rhs = some rm)
    (hitems : ∀ item ∈ generateExpansion a b st lhs rhs lm rm, ∀ ln,
      genItem ttl ty item { r with tok := after 0 false (10 :: rest), lastTTL := ttl, lastTTLKnown := true, lastName := ln } =
        .ok (e item, { r with tok := after 0 false (10 :: rest), lastTTL := ttl, lastTTLKnown := true,
                                     lastName := some (nOf item) }))
    (hls : ls.map GLine.entry = (generateExpansion a b st lhs rhs lm rm).filterMap e) (hne : ls ≠ [])
    (hok : LinesOK co zo r.relativize r.gfix r.lastName none ls) (hu : UniformLines ttl ls)
    (hlast : lastN r.lastName ls = lastNameAfter nOf r.lastName (generateExpansion a b st lhs rhs lm rm)) :
    readLoop (f + 2)
        { r with tok := after 0 false (s2l "$GENERATE" ++ genHeaderText rangeT lhs ttlT clsT tyT rhs (10 :: rest)) } z =
    readLoop (f + ls.length) { r with tok := after 0 false (glinesText ls ++ rest) } z :=
  generate_eq_lines true f r z co zo (genHeaderText rangeT lhs ttlT clsT tyT rhs (10 :: rest)) rest ttl ty _ e nOf ls hco hzo
    (sp_startsDelim _)
    (generateParse_header { r with tok := after 0 false (genHeaderText rangeT lhs ttlT clsT tyT rhs (10 :: rest)) }
      rangeT lhs tyT rhs (10 :: rest) (some ttlT) (some clsT) a b st ttl ty lm rm (by simp [hco]) rfl (nl_startsDelim rest)
      k1 k2 k5 k6 (fun _ h => by cases h; exact ⟨k3, httl⟩) (fun _ h => by cases h; exact ⟨k4, hcls⟩) nofun nofun hrange hty
      hlm hrm)
    nofun hitems hls (fun _ => hne) hok hu hlast

/-- non-vacuity of `generate_eq_expansion_text`: `$GENERATE 1-2 h$ 300 IN A 10.0.0.$` against `h1 300 IN A 10.0.0.1`,
`h2 300 IN A 10.0.0.2` in the relativized zone `ex.` -/
example (r0 : PState) (rest : List Nat) (hrel : r0.relativize = true) (hg : r0.gfix = true)
    (hco : r0.currentOrigin = some [[101, 120], []]) (hzo : r0.zoneOrigin = some [[101, 120], []]) :
    let zo : Name := [[101, 120], []]
    let lhs := s2l "h$"
    let rhs := s2l "10.0.0.$"
    let mk : Nat → GLine := fun i =>
      { owner := some (s2l "h" ++ natToDec i), b0 := [32], hdr := .tc (s2l "300") [32] (s2l "IN") [32] (s2l "A"),
        rdText := 32 :: (s2l "10.0.0." ++ natToDec i ++ [10]), n := [s2l "h" ++ natToDec i] ++ zo,
        m := [s2l "h" ++ natToDec i], ttl := 300, ty := 1, rd := .a [10, 0, 0, i], comment := none }
    let ls := [mk 1, mk 2]
    let e : List Nat × List Nat → Option Entry := fun it => some ⟨[it.1], 300, 1, ⟨.a [10, 0, 0, digitsVal (it.1.drop 1) 0], none⟩⟩
    let nOf : List Nat × List Nat → Name := fun it => [it.1] ++ zo
    grangeFromText (s2l "1-2") = .ok (1, 2, 1) ∧ parseModify lhs = some {} ∧ parseModify rhs = some {} ∧
    generateExpansion 1 2 1 lhs rhs {} {} = [(s2l "h1", s2l "10.0.0.1"), (s2l "h2", s2l "10.0.0.2")] ∧
    (∀ item ∈ generateExpansion 1 2 1 lhs rhs {} {}, ∀ ln,
      genItem 300 1 item { r0 with tok := after 0 false (10 :: rest), lastTTL := 300, lastTTLKnown := true, lastName := ln } =
        .ok (e item, { r0 with tok := after 0 false (10 :: rest), lastTTL := 300, lastTTLKnown := true,
                                      lastName := some (nOf item) })) ∧
    ls.map GLine.entry = (generateExpansion 1 2 1 lhs rhs {} {}).filterMap e ∧
    LinesOK zo zo r0.relativize r0.gfix r0.lastName none ls ∧ UniformLines 300 ls ∧
    lastN r0.lastName ls = lastNameAfter nOf r0.lastName (generateExpansion 1 2 1 lhs rhs {} {}) := by
  repeat rw [s2l_ofList]
  intro zo lhs rhs mk ls e nOf
  refine ⟨by decide +kernel, by decide +kernel, by decide +kernel, ?_⟩
  refine (fun hexp => ⟨hexp, ?_, by rw [hexp]; rfl, ?_, by unfold UniformLines; decide +kernel, by rw [hexp]; rfl⟩)
    (by decide +kernel)
  · rw [hexp]
    exact genItems_of_entries { r0 with tok := after 0 false (10 :: rest), lastTTL := 300, lastTTLKnown := true } zo zo 300 1 _ e
      nOf hco hzo (by simp only [hrel, hg]; decide +kernel)
  · rw [hrel]
    refine linesOK_of_fields _ _ _ (by decide +kernel) fun l hl => ?_
    simp only [ls, List.mem_cons, List.mem_nil_iff, or_false] at hl
    rcases hl with rfl | rfl
    · exact (rdataReads_A_all [32] 10 0 0 1 (by decide) (by decide) (by decide) (by decide) none _ _ _ _ sp_blank (by simp)
        (by simp)).of_text (by decide +kernel)
    · exact (rdataReads_A_all [32] 10 0 0 2 (by decide) (by decide) (by decide) (by decide) none _ _ _ _ sp_blank (by simp)
        (by simp)).of_text (by decide +kernel)

/-- **"$GENERATE versus its expansion" in a file with arbitrary preceding `$ORIGIN` directives**: after any run
`$ORIGIN t₁⏎ … $ORIGIN tₙ⏎` (zone origin `zo` known, so none of them changes it; each argument absolute or relative,
completed with the origin current at that point — `OriginsOK`) the `$GENERATE` line and the explicit
lines of its expansion are read alike, with relative names on both sides completed with the origin `co` of the last
directive and stored relative to the zone origin `zo`.  (A `$GENERATE` loop that relativized its RDATA against the
current origin instead — seeded change C09-c — fails `hitems` for name-bearing RDATA as soon as `co ≠ zo`: see the
example below, whose target is `h1.hosts`, not `h1`.) -/
theorem generate_after_origin_directives (f : Nat) (r : PState) (z : ZoneMap) (co zo : Name)
    (ds : List (List Nat × Name))
    (rangeT lhs ttlT clsT tyT rhs rest : List Nat) (a b st ttl ty : Nat) (lm rm : Modify)
    (e : List Nat × List Nat → Option Entry) (nOf : List Nat × List Nat → Name) (ls : List GLine)
    (hzo : r.zoneOrigin = some zo) (hds : OriginsOK r.currentOrigin ds) (hco : lastOrigin r.currentOrigin ds = some co)
    (k1 : TokOK rangeT) (k2 : TokOK lhs) (k3 : TokOK ttlT) (k4 : TokOK clsT) (k5 : TokOK tyT) (k6 : TokOK rhs)
    (hrange : grangeFromText rangeT = .ok (a, b, st)) (httl : ttlOf ttlT = some ttl)
    (hcls : classFromText clsT = some 1) (hty : typeFromText tyT = some ty)
    (hlm : parseModify lhs = some lm) (hrm : parseModify rhs = some rm)
    (hitems : ∀ item ∈ generateExpansion a b st lhs rhs lm rm, ∀ ln,
      genItem ttl ty item { r with tok := after 0 false (10 :: rest), currentOrigin := some co, lastTTL := ttl,
                                   lastTTLKnown := true, lastName := ln } =
        .ok (e item, { r with tok := after 0 false (10 :: rest), currentOrigin := some co, lastTTL := ttl,
                                     lastTTLKnown := true, lastName := some (nOf item) }))
    (hls : ls.map GLine.entry = (generateExpansion a b st lhs rhs lm rm).filterMap e) (hne : ls ≠ [])
    (hok : LinesOK co zo r.relativize r.gfix r.lastName none ls) (hu : UniformLines ttl ls)
    (hlast : lastN r.lastName ls = lastNameAfter nOf r.lastName (generateExpansion a b st lhs rhs lm rm)) :
    readLoop ((f + 2) + ds.length)
        { r with tok := after 0 false (originsText ds ++
            (s2l "$GENERATE" ++ genHeaderText rangeT lhs ttlT clsT tyT rhs (10 :: rest))) } z =
    readLoop ((f + ls.length) + ds.length)
        { r with tok := after 0 false (originsText ds ++ (glinesText ls ++ rest)) } z := by
  -- the directives are read alike on both sides
  rw [(run_origins ds (s2l "$GENERATE" ++ genHeaderText rangeT lhs ttlT clsT tyT rhs (10 :: rest))
      { r with tok := after 0 false (originsText ds ++
        (s2l "$GENERATE" ++ genHeaderText rangeT lhs ttlT clsT tyT rhs (10 :: rest))) } zo hzo rfl hds none).skip,
    (run_origins ds (glinesText ls ++ rest) { r with tok := after 0 false (originsText ds ++ (glinesText ls ++ rest)) } zo hzo
      rfl hds none).skip]
  simp only [hco]
  exact generate_eq_expansion_text f { r with currentOrigin := some co } z co zo rangeT lhs ttlT clsT tyT rhs rest
    a b st ttl ty lm rm e nOf ls rfl hzo k1 k2 k3 k4 k5 k6 hrange httl hcls hty hlm hrm hitems hls hne hok hu hlast

/-- a run of directives with relative and absolute arguments: under `ex.`, `$ORIGIN hosts` / `$ORIGIN deep` /
`$ORIGIN ex.` lead to `hosts.ex.`, `deep.hosts.ex.` and back to `ex.` (the relative spelling and the absolute one name
the same origin — the regression of the finding repaired by c444c98) -/
example :
    let ex : Name := [[101, 120], []]
    let hosts : List Nat := [104, 111, 115, 116, 115]
    let ds : List (List Nat × Name) :=
      [(s2l "hosts", hosts :: ex), (s2l "deep", s2l "deep" :: hosts :: ex), (s2l "ex.", ex)]
    OriginsOK (some ex) ds ∧ lastOrigin (some ex) ds = some ex ∧
    (identToken (s2l "hosts")).asName (some ex) false none = (identToken (s2l "hosts.ex.")).asName (some ex) false none ∧
    (identToken (s2l "hosts")).asName none false none = .ok [hosts] ∧ isAbs [hosts] = false := by
  repeat rw [s2l_ofList]
  intro ex hosts ds
  refine ⟨⟨by decide, by decide, by decide +kernel, by decide, by decide, by decide, by decide +kernel, by decide, by decide,
    by decide, by decide +kernel, by decide, trivial⟩, rfl, by decide +kernel, by decide +kernel, by decide⟩

/-- non-vacuity with a current origin that is not the zone origin and name-bearing RDATA: in the relativized zone `ex.`,
after `$ORIGIN hosts.ex.`, the line `$GENERATE 1-2 a$ 300 IN CNAME h$` against `a1 300 IN CNAME h1`, `a2 300 IN CNAME h2`:
owners `a1.hosts`, `a2.hosts` and targets `h1.hosts`, `h2.hosts` (relative to the zone origin) on both sides -/
example (r0 : PState) (rest : List Nat) (hrel : r0.relativize = true) (hg : r0.gfix = true)
    (hco : r0.currentOrigin = some [[104, 111, 115, 116, 115], [101, 120], []]) (hzo : r0.zoneOrigin = some [[101, 120], []]) :
    let zo : Name := [[101, 120], []]
    let hosts : List Nat := [104, 111, 115, 116, 115]
    let co : Name := hosts :: zo
    let lhs := s2l "a$"
    let rhs := s2l "h$"
    let mk : Nat → GLine := fun i =>
      { owner := some (s2l "a" ++ natToDec i), b0 := [32], hdr := .tc (s2l "300") [32] (s2l "IN") [32] (s2l "CNAME"),
        rdText := 32 :: (s2l "h" ++ natToDec i ++ [10]), n := [s2l "a" ++ natToDec i] ++ co,
        m := [s2l "a" ++ natToDec i, hosts], ttl := 300, ty := 5, rd := .name1 [s2l "h" ++ natToDec i, hosts],
        comment := none }
    let ls := [mk 1, mk 2]
    let e : List Nat × List Nat → Option Entry := fun it => some ⟨[it.1, hosts], 300, 5, ⟨.name1 [it.2, hosts], none⟩⟩
    let nOf : List Nat × List Nat → Name := fun it => [it.1] ++ co
    fromText (s2l "hosts.ex.") none = .ok co ∧
    generateExpansion 1 2 1 lhs rhs {} {} = [(s2l "a1", s2l "h1"), (s2l "a2", s2l "h2")] ∧
    (∀ item ∈ generateExpansion 1 2 1 lhs rhs {} {}, ∀ ln,
      genItem 300 5 item { r0 with tok := after 0 false (10 :: rest), lastTTL := 300, lastTTLKnown := true, lastName := ln } =
        .ok (e item, { r0 with tok := after 0 false (10 :: rest), lastTTL := 300, lastTTLKnown := true,
                                      lastName := some (nOf item) })) ∧
    ls.map GLine.entry = (generateExpansion 1 2 1 lhs rhs {} {}).filterMap e ∧
    LinesOK co zo r0.relativize r0.gfix r0.lastName none ls ∧ UniformLines 300 ls ∧
    lastN r0.lastName ls = lastNameAfter nOf r0.lastName (generateExpansion 1 2 1 lhs rhs {} {}) := by
  repeat rw [s2l_ofList]
  intro zo hosts co lhs rhs mk ls e nOf
  refine ⟨by decide +kernel, ?_⟩
  refine (fun hexp => ⟨hexp, ?_, by rw [hexp]; rfl, ?_, by unfold UniformLines; decide +kernel, by rw [hexp]; rfl⟩)
    (by decide +kernel)
  · rw [hexp]
    exact genItems_of_entries { r0 with tok := after 0 false (10 :: rest), lastTTL := 300, lastTTLKnown := true } co zo 300 5 _ e
      nOf hco hzo (by simp only [hrel, hg]; decide +kernel)
  · rw [hrel]
    refine linesOK_of_fields _ _ _ (by decide +kernel) fun l hl => ?_
    simp only [ls, List.mem_cons, List.mem_nil_iff, or_false] at hl
    rcases hl with rfl | rfl
    · exact (rdata_codec_name 5 (by decide) [32] (s2l "h1") [s2l "h1", hosts] none _ _ _ _ sp_blank (by simp) (by simp)
        (by decide) (by decide) (by decide) (by decide +kernel)).of_text (by decide +kernel)
    · exact (rdata_codec_name 5 (by decide) [32] (s2l "h2") [s2l "h2", hosts] none _ _ _ _ sp_blank (by simp) (by simp)
        (by decide) (by decide) (by decide) (by decide +kernel)).of_text (by decide +kernel)

/-- the same record with the RDATA relativized against the *current* origin (what seeded change C09-c makes of
`_generate_line`) is a different record: the model's loop does not produce it -/
example : (∃ s', rdataFromText 5 (TState.init (s2l "h1")) (some [[104, 111, 115, 116, 115], [101, 120], []]) true
      (some [[101, 120], []]) true = .ok (.name1 [s2l "h1", [104, 111, 115, 116, 115]], none, s')) ∧
    (Rdata.name1 [s2l "h1", [104, 111, 115, 116, 115]] ≠ .name1 [s2l "h1"]) :=
  ⟨⟨_, rfl⟩, by decide⟩

/-! ### the TTL of a line that states none (`default_ttl` versus `last_ttl`) -/

/-- **one rule for both line kinds.**  (1) The `except BadTTL` fallback of `_generate_line` — "no default and no last
TTL: error; default known: the default; otherwise the last stated TTL" — is the TTL `_rr_line` inherits
(`PState.inheritedTTL`, the value `header_stage`/`read_line` give a TTL-less record line).  (2) A known default TTL
(`$TTL`, or the SOA minimum) wins over any TTL stated on an earlier line; (3) only without a default is the last stated
TTL inherited.  (Seeded change C09-e swaps the precedence in `_generate_line` alone.) -/
theorem ttl_defaulting_rule (r : PState) :
    genFallbackTTL r = r.inheritedTTL ∧
    (r.defaultTTLKnown = true → r.inheritedTTL = some r.defaultTTL) ∧
    (r.defaultTTLKnown = false → r.lastTTLKnown = true → r.inheritedTTL = some r.lastTTL) ∧
    (r.defaultTTLKnown = false → r.lastTTLKnown = false → r.inheritedTTL = none) :=
  ⟨by unfold genFallbackTTL PState.inheritedTTL; cases r.defaultTTLKnown <;> cases r.lastTTLKnown <;> simp,
    inheritedTTL_default r, inheritedTTL_last r, fun h1 h2 => by simp [PState.inheritedTTL, h1, h2]⟩

/-- the model's `_generate_line`, on a header with neither TTL nor class, hands its loop exactly the inherited TTL and
leaves `last_ttl` alone (`generate_ttl_of_header_class`: the same with the class written) -/
theorem generate_ttl_of_header (r : PState) (rangeT lhs tyT rhs T : List Nat) (a b st ttl ty : Nat) (lm rm : Modify)
    (hco : r.currentOrigin.isNone = false)
    (htok : r.tok = after 0 false (genHeaderTextY rangeT lhs tyT rhs T)) (hT : startsDelim T)
    (k1 : TokOK rangeT) (k2 : TokOK lhs) (k5 : TokOK tyT) (k6 : TokOK rhs)
    (hrange : grangeFromText rangeT = .ok (a, b, st)) (hnt : ttlOf tyT = none) (hinh : r.inheritedTTL = some ttl)
    (hnc : classFromText tyT = none) (hty : typeFromText tyT = some ty)
    (hlm : parseModify lhs = some lm) (hrm : parseModify rhs = some rm) :
    generateParse r = .ok (⟨ttl, ty, generateExpansion a b st lhs rhs lm rm⟩, { r with tok := after 0 false T }) :=
  generateParse_header r rangeT lhs tyT rhs T none none a b st ttl ty lm rm hco htok hT k1 k2 k5 k6 nofun nofun
    (fun _ => ⟨hnt, hinh⟩) (fun _ => hnc) hrange hty hlm hrm

theorem generate_ttl_of_header_class (r : PState) (rangeT lhs clsT tyT rhs T : List Nat) (a b st ttl ty : Nat)
    (lm rm : Modify) (hco : r.currentOrigin.isNone = false)
    (htok : r.tok = after 0 false (genHeaderTextC rangeT lhs clsT tyT rhs T)) (hT : startsDelim T)
    (k1 : TokOK rangeT) (k2 : TokOK lhs) (k4 : TokOK clsT) (k5 : TokOK tyT) (k6 : TokOK rhs)
    (hrange : grangeFromText rangeT = .ok (a, b, st)) (hnt : ttlOf clsT = none) (hinh : r.inheritedTTL = some ttl)
    (hcls : classFromText clsT = some 1) (hty : typeFromText tyT = some ty)
    (hlm : parseModify lhs = some lm) (hrm : parseModify rhs = some rm) :
    generateParse r = .ok (⟨ttl, ty, generateExpansion a b st lhs rhs lm rm⟩, { r with tok := after 0 false T }) :=
  generateParse_header r rangeT lhs tyT rhs T none (some clsT) a b st ttl ty lm rm hco htok hT k1 k2 k5 k6 nofun
    (fun _ h => by cases h; exact ⟨k4, hcls⟩) (fun _ => ⟨hnt, hinh⟩) nofun hrange hty hlm hrm

/-- **"$GENERATE versus its expansion", TTLs included, when no TTL is written**: the line `$GENERATE range lhs type rhs⏎`
and the file of its explicit record lines, none of which states a TTL (`InheritLines`: header without TTL, record TTL
`ttl`, not an SOA), take the reader from the same state to the same zone — each record with the TTL `ttl` the reader
inherits at that point (`ttl_defaulting_rule`: the default TTL if known, whatever was stated before; else the last
stated TTL) — and to the same parser state.  Current origin `co` and zone origin `zo` are independent as in
`generate_eq_expansion_text`. -/
theorem generate_eq_expansion_inherited_ttl (f : Nat) (r : PState) (z : ZoneMap) (co zo : Name)
    (rangeT lhs tyT rhs rest : List Nat) (a b st ttl ty : Nat) (lm rm : Modify)
    (e : List Nat × List Nat → Option Entry) (nOf : List Nat × List Nat → Name) (ls : List GLine)
    (hco : r.currentOrigin = some co) (hzo : r.zoneOrigin = some zo)
    (k1 : TokOK rangeT) (k2 : TokOK lhs) (k5 : TokOK tyT) (k6 : TokOK rhs)
    (hrange : grangeFromText rangeT = .ok (a, b, st)) (hnt : ttlOf tyT = none) (hnc : classFromText tyT = none)
    (hty : typeFromText tyT = some ty) (hlm : parseModify lhs = some lm) (hrm : parseModify rhs = some rm)
    (hinh : r.inheritedTTL = some ttl)
    (hitems : ∀ item ∈ generateExpansion a b st lhs rhs lm rm, ∀ ln,
      genItem ttl ty item { r with tok := after 0 false (10 :: rest), lastName := ln } =
        .ok (e item, { r with tok := after 0 false (10 :: rest), lastName := some (nOf item) }))
    (hls : ls.map GLine.entry = (generateExpansion a b st lhs rhs lm rm).filterMap e)
    (hok : LinesOK co zo r.relativize r.gfix r.lastName (some ttl) ls) (hu : InheritLines ttl ls)
    (hlast : lastN r.lastName ls = lastNameAfter nOf r.lastName (generateExpansion a b st lhs rhs lm rm)) :
    readLoop (f + 2)
        { r with tok := after 0 false (s2l "$GENERATE" ++ genHeaderTextY rangeT lhs tyT rhs (10 :: rest)) } z =
    readLoop (f + ls.length) { r with tok := after 0 false (glinesText ls ++ rest) } z :=
  generate_eq_lines false f r z co zo (genHeaderTextY rangeT lhs tyT rhs (10 :: rest)) rest ttl ty _ e nOf ls hco hzo
    (sp_startsDelim _)
    (generate_ttl_of_header { r with tok := after 0 false (genHeaderTextY rangeT lhs tyT rhs (10 :: rest)) }
      rangeT lhs tyT rhs (10 :: rest) a b st ttl ty lm rm (by simp [hco]) rfl ⟨10, rest, rfl, by decide⟩ k1 k2 k5 k6
      hrange hnt hinh hnc hty hlm hrm)
    (fun _ => hinh) hitems hls nofun hok hu hlast

/-- the same with the class written: `$GENERATE range lhs IN type rhs⏎` -/
theorem generate_eq_expansion_inherited_ttl_class (f : Nat) (r : PState) (z : ZoneMap) (co zo : Name)
    (rangeT lhs clsT tyT rhs rest : List Nat) (a b st ttl ty : Nat) (lm rm : Modify)
    (e : List Nat × List Nat → Option Entry) (nOf : List Nat × List Nat → Name) (ls : List GLine)
    (hco : r.currentOrigin = some co) (hzo : r.zoneOrigin = some zo)
    (k1 : TokOK rangeT) (k2 : TokOK lhs) (k4 : TokOK clsT) (k5 : TokOK tyT) (k6 : TokOK rhs)
    (hrange : grangeFromText rangeT = .ok (a, b, st)) (hnt : ttlOf clsT = none) (hcls : classFromText clsT = some 1)
    (hty : typeFromText tyT = some ty) (hlm : parseModify lhs = some lm) (hrm : parseModify rhs = some rm)
    (hinh : r.inheritedTTL = some ttl)
    (hitems : ∀ item ∈ generateExpansion a b st lhs rhs lm rm, ∀ ln,
      genItem ttl ty item { r with tok := after 0 false (10 :: rest), lastName := ln } =
        .ok (e item, { r with tok := after 0 false (10 :: rest), lastName := some (nOf item) }))
    (hls : ls.map GLine.entry = (generateExpansion a b st lhs rhs lm rm).filterMap e)
    (hok : LinesOK co zo r.relativize r.gfix r.lastName (some ttl) ls) (hu : InheritLines ttl ls)
    (hlast : lastN r.lastName ls = lastNameAfter nOf r.lastName (generateExpansion a b st lhs rhs lm rm)) :
    readLoop (f + 2)
        { r with tok := after 0 false (s2l "$GENERATE" ++ genHeaderTextC rangeT lhs clsT tyT rhs (10 :: rest)) } z =
    readLoop (f + ls.length) { r with tok := after 0 false (glinesText ls ++ rest) } z :=
  generate_eq_lines false f r z co zo (genHeaderTextC rangeT lhs clsT tyT rhs (10 :: rest)) rest ttl ty _ e nOf ls hco hzo
    (sp_startsDelim _)
    (generate_ttl_of_header_class { r with tok := after 0 false (genHeaderTextC rangeT lhs clsT tyT rhs (10 :: rest)) }
      rangeT lhs clsT tyT rhs (10 :: rest) a b st ttl ty lm rm (by simp [hco]) rfl ⟨10, rest, rfl, by decide⟩ k1 k2 k4 k5 k6
      hrange hnt hinh hcls hty hlm hrm)
    (fun _ => hinh) hitems hls nofun hok hu hlast

/-- non-vacuity, the situation of seeded change C09-e: default TTL 3600 known (`$TTL 3600`), an earlier record stated
86400; `$GENERATE 1-2 h$ A 10.0.0.$` against `h1 A 10.0.0.1`, `h2 A 10.0.0.2` — every record gets 3600, not 86400 -/
example (r0 : PState) (rest : List Nat) (hrel : r0.relativize = true) (hg : r0.gfix = true)
    (hco : r0.currentOrigin = some [[101, 120], []]) (hzo : r0.zoneOrigin = some [[101, 120], []])
    (hdk : r0.defaultTTLKnown = true) (hdv : r0.defaultTTL = 3600) (_hlk : r0.lastTTLKnown = true)
    (_hlv : r0.lastTTL = 86400) :
    let zo : Name := [[101, 120], []]
    let lhs := s2l "h$"
    let rhs := s2l "10.0.0.$"
    let mk : Nat → GLine := fun i =>
      { owner := some (s2l "h" ++ natToDec i), b0 := [32], hdr := .y (s2l "A"),
        rdText := 32 :: (s2l "10.0.0." ++ natToDec i ++ [10]), n := [s2l "h" ++ natToDec i] ++ zo,
        m := [s2l "h" ++ natToDec i], ttl := 3600, ty := 1, rd := .a [10, 0, 0, i], comment := none }
    let ls := [mk 1, mk 2]
    let e : List Nat × List Nat → Option Entry := fun it => some ⟨[it.1], 3600, 1, ⟨.a [10, 0, 0, digitsVal (it.1.drop 1) 0], none⟩⟩
    let nOf : List Nat × List Nat → Name := fun it => [it.1] ++ zo
    r0.inheritedTTL = some 3600 ∧ ttlOf (s2l "A") = none ∧ classFromText (s2l "A") = none ∧
    generateExpansion 1 2 1 lhs rhs {} {} = [(s2l "h1", s2l "10.0.0.1"), (s2l "h2", s2l "10.0.0.2")] ∧
    (∀ item ∈ generateExpansion 1 2 1 lhs rhs {} {}, ∀ ln,
      genItem 3600 1 item { r0 with tok := after 0 false (10 :: rest), lastName := ln } =
        .ok (e item, { r0 with tok := after 0 false (10 :: rest), lastName := some (nOf item) })) ∧
    ls.map GLine.entry = (generateExpansion 1 2 1 lhs rhs {} {}).filterMap e ∧
    LinesOK zo zo r0.relativize r0.gfix r0.lastName (some 3600) ls ∧ InheritLines 3600 ls ∧
    lastN r0.lastName ls = lastNameAfter nOf r0.lastName (generateExpansion 1 2 1 lhs rhs {} {}) := by
  repeat rw [s2l_ofList]
  intro zo lhs rhs mk ls e nOf
  refine ⟨by rw [inheritedTTL_default r0 hdk, hdv], by decide +kernel, by decide +kernel, ?_⟩
  refine (fun hexp => ⟨hexp, ?_, by rw [hexp]; rfl, ?_, by unfold InheritLines; decide +kernel, by rw [hexp]; rfl⟩)
    (by decide +kernel)
  · rw [hexp]
    exact genItems_of_entries { r0 with tok := after 0 false (10 :: rest) } zo zo 3600 1 _ e nOf hco hzo
      (by simp only [hrel, hg]; decide +kernel)
  · rw [hrel]
    refine linesOK_of_fields _ _ _ (by decide +kernel) fun l hl => ?_
    simp only [ls, List.mem_cons, List.mem_nil_iff, or_false] at hl
    rcases hl with rfl | rfl
    · exact (rdataReads_A_all [32] 10 0 0 1 (by decide) (by decide) (by decide) (by decide) none _ _ _ _ sp_blank (by simp)
        (by simp)).of_text (by decide +kernel)
    · exact (rdataReads_A_all [32] 10 0 0 2 (by decide) (by decide) (by decide) (by decide) none _ _ _ _ sp_blank (by simp)
        (by simp)).of_text (by decide +kernel)

/-! ### `$GENERATE` modifiers in the bases `o`, `x`, `X`, `n`, `N` -/

/-- `_format_index`, bases `o` / `x` / `X`: a non-negative index is printed in radix 8 / 16 (lower-case digits for `x`,
upper-case for `X`), left-filled with `0` up to the width; read back in that radix (`radixVal`, i.e. `int(s, 8|16)`) the
text is the index, and it is at least `width` long -/
theorem generate_format_radix (base n w : Nat) (hbase : base = 111 ∨ base = 120 ∨ base = 88) :
    formatIndex (n : Int) base w =
      List.replicate (w - (formatInt (n : Int) base).length) 48 ++ formatInt (n : Int) base ∧
    radixVal (radixOf base) (formatIndex (n : Int) base w) 0 = n ∧ w ≤ (formatIndex (n : Int) base w).length := by
  have hmem : [100, 111, 120, 88].contains base = true := by
    rcases hbase with h | h | h <;> subst h <;> decide
  have hr : radixOf base = baseRadix base := by
    rcases hbase with h | h | h <;> subst h <;> rfl
  have hz := formatIndex_nat base n w hmem
  refine ⟨hz, ?_, by rw [hz]; simp; omega⟩
  rw [hz, radixVal_zeros, formatInt_nat, hr,
    radixVal_toBaseAux _ (baseRadix_bounds base).1 (baseRadix_bounds base).2 _ _ _ _ (by omega)]
  rfl

/-- `_format_index`, bases `n` / `N` (nibbles, for `ip6.arpa` owners): the hex text zero-filled to the width, reversed,
one dot between digits, cut to `width` characters; `N` upper-cases it -/
theorem generate_format_nibble (i : Int) (w : Nat) :
    formatIndex i 110 w = (joinWith [46] ((zfill (formatInt i 120) w).reverse.map fun c => [c])).take w ∧
    formatIndex i 78 w = (formatIndex i 110 w).map upperAscii := by
  constructor <;> rfl

/-- non-vacuity: `${0,4,x}` of 255 is `00ff`, `${0,3,X}` of 255 is `0FF`, `${0,4,o}` of 8 is `0010`, `${0,7,n}` of 0x1a2
is `2.a.1.0`, and a side `h${0,3,x}` substitutes to `h0ff` -/
example :
    formatIndex 255 120 4 = s2l "00ff" ∧ formatIndex 255 88 3 = s2l "0FF" ∧ formatIndex 8 111 4 = s2l "0010" ∧
    formatIndex 418 110 7 = s2l "2.a.1.0" ∧ formatIndex 418 78 7 = s2l "2.A.1.0" ∧
    radixVal 16 (s2l "00ff") 0 = 255 ∧ radixVal 8 (s2l "0010") 0 = 8 ∧
    (parseModify (s2l "h${0,3,x}")).map (fun m => substIndex (s2l "h${0,3,x}") m 255) = some (s2l "h0ff") := by
  repeat rw [s2l_ofList]
  decide +kernel

/-! ### the node-kind classification over (rdtype, covers) -/

/-- **the table, written out**: what `NodeKind.classify` says on the grid that matters — CNAME and an RRSIG covering CNAME
are "CNAME"; NSEC, NSEC3, KEY and an RRSIG covering one of them are "neutral"; everything else is "other data", in
particular the legacy SIG (type 24) whatever it covers, an RRSIG covering an ordinary type, DNSKEY, and NSEC/KEY used as
the *covered* type of anything that is not an RRSIG. (`decide`, over the tables regenerated from the working tree.) -/
theorem classify_table :
    classifyTC 5 0 = .cname ∧ classifyTC 46 5 = .cname ∧
    classifyTC 47 0 = .neutral ∧ classifyTC 50 0 = .neutral ∧ classifyTC 25 0 = .neutral ∧
    classifyTC 46 47 = .neutral ∧ classifyTC 46 50 = .neutral ∧ classifyTC 46 25 = .neutral ∧
    classifyTC 24 5 = .regular ∧ classifyTC 24 47 = .regular ∧ classifyTC 24 50 = .regular ∧ classifyTC 24 25 = .regular ∧
    classifyTC 24 1 = .regular ∧ classifyTC 24 0 = .regular ∧
    classifyTC 46 1 = .regular ∧ classifyTC 46 0 = .regular ∧ classifyTC 46 46 = .regular ∧ classifyTC 46 48 = .regular ∧
    classifyTC 48 0 = .regular ∧ classifyTC 1 0 = .regular ∧ classifyTC 6 0 = .regular ∧ classifyTC 65280 0 = .regular := by
  decide

/-- the covered type matters for RRSIG only: for every other type — SIG included — the classification is that of the
type alone (what seeded change C09-o loses: `covers in rdtypes` for any type) -/
theorem classify_covers_only_for_rrsig (ty covers : Nat) (h : ty ≠ ConstsC09.rrsigType) :
    classifyTC ty covers = classifyType ty := by
  unfold classifyTC classifyType matchesTypeOrItsSignature
  have : (ty == ConstsC09.rrsigType) = false := by simpa using h
  simp [this]

/-- an RRSIG is classified by what it covers -/
theorem classify_rrsig (covers : Nat) : classifyTC ConstsC09.rrsigType covers = classifyType covers := by
  unfold classifyTC classifyType matchesTypeOrItsSignature
  have h1 : ¬ (ConstsC09.rrsigType ∈ ConstsC09.cnameTypes) := by decide
  have h2 : ¬ (ConstsC09.rrsigType ∈ ConstsC09.neutralTypes) := by decide
  simp [h1, h2]

/-- which kinds may share a node (`_check_cname_and_other_data`): everything except CNAME with "other data" -/
theorem coexistence_table :
    kindsCoexist .cname .cname = true ∧ kindsCoexist .cname .neutral = true ∧ kindsCoexist .neutral .cname = true ∧
    kindsCoexist .neutral .regular = true ∧ kindsCoexist .regular .neutral = true ∧ kindsCoexist .regular .regular = true ∧
    kindsCoexist .neutral .neutral = true ∧ kindsCoexist .cname .regular = false ∧ kindsCoexist .regular .cname = false := by
  decide

/-! ### `$INCLUDE file [origin]` -/

/-- **`$INCLUDE file origin⏎` saves and restores the parent's state.**  `Reader.read` pushes `(tok, current_origin,
last_name, last_ttl(_known), default_ttl(_known))` — the parent's, taken *before* the include origin is installed — and
the end of the included file pops them.  For an included file of record lines: its records are added, relative names
completed with the include origin `o` (the token completed with the parent's current origin) and stored against the
zone origin, and the parent resumes after the line in exactly the state it had: nothing the included file did to the
current origin, the last owner or the TTLs leaks back.  (Seeded change C09-f saves the include's origin instead: the
continuation state would carry `currentOrigin = some o`.) -/
theorem include_restores_parent (f : Nat) (r : PState) (z : ZoneMap) (zo o : Name) (fname ot rest : List Nat)
    (ls : List GLine) (d : Option Nat)
    (hallow : r.allowInclude = true) (kf : TokOK fname) (ko : TokOK ot)
    (hname : fromText ot r.currentOrigin = .ok o) (hfile : lookupFile r.files fname = some (glinesText ls))
    (hzo : r.zoneOrigin = some zo)
    (htok : r.tok = after 0 false (s2l "$INCLUDE" ++ (32 :: (fname ++ (32 :: (ot ++ 10 :: rest))))))
    (hd : ∀ d', d = some d' → r.defaultTTLKnown = true ∧ r.defaultTTL = d')
    (hok : LinesOK o zo r.relativize r.gfix r.lastName d ls) :
    readLoop (f + 1 + ls.length + 1) r z =
      (addAll r.effOrigin z (ls.map GLine.entry)).bind fun z' => readLoop f { r with tok := after 0 false rest } z' :=
  (run_include r zo o fname rest (some ot) ls d hallow kf (fun _ h => by cases h; exact ⟨ko, hname⟩) nofun hfile hzo htok hd
    hok).apply (by omega) z

/-- the one-argument form `$INCLUDE file⏎`: the included file is read under the parent's current origin -/
theorem include_plain_restores_parent (f : Nat) (r : PState) (z : ZoneMap) (co zo : Name) (fname rest : List Nat)
    (ls : List GLine) (d : Option Nat)
    (hallow : r.allowInclude = true) (kf : TokOK fname) (hfile : lookupFile r.files fname = some (glinesText ls))
    (hco : r.currentOrigin = some co) (hzo : r.zoneOrigin = some zo)
    (htok : r.tok = after 0 false (s2l "$INCLUDE" ++ (32 :: (fname ++ 10 :: rest))))
    (hd : ∀ d', d = some d' → r.defaultTTLKnown = true ∧ r.defaultTTL = d')
    (hok : LinesOK co zo r.relativize r.gfix r.lastName d ls) :
    readLoop (f + 1 + ls.length + 1) r z =
      (addAll r.effOrigin z (ls.map GLine.entry)).bind fun z' => readLoop f { r with tok := after 0 false rest } z' :=
  (run_include r zo co fname rest none ls d hallow kf nofun (fun _ => hco) hfile hzo htok hd hok).apply (by omega) z

/-- **`$INCLUDE` versus the textually inlined spelling** `$ORIGIN origin⏎ <the file's lines> $ORIGIN <parent origin>⏎`:
both add the same records (same fold of `txn.add`) and continue with the same rest of the parent file, the same current
and zone origin; the continuation states differ only in what `$INCLUDE` restores and no directive can (last owner,
last/default TTL): `sI` is the parent's state, `sL` carries what the inlined lines left. -/
theorem include_vs_inline (f : Nat) (r : PState) (z : ZoneMap) (co zo o : Name) (fname ot pt rest : List Nat)
    (ls : List GLine) (d : Option Nat)
    (hallow : r.allowInclude = true) (kf : TokOK fname) (ko : TokOK ot) (kp : TokOK pt)
    (hco : r.currentOrigin = some co) (hzo : r.zoneOrigin = some zo)
    (hname : fromText ot (some co) = .ok o) (hoabs : isAbs o = true)
    (hpname : (identToken pt).asName (some o) false none = .ok co) (hcabs : isAbs co = true)
    (hfile : lookupFile r.files fname = some (glinesText ls))
    (hd : ∀ d', d = some d' → r.defaultTTLKnown = true ∧ r.defaultTTL = d')
    (hok : LinesOK o zo r.relativize r.gfix r.lastName d ls) :
    ∃ sI sL : PState,
      readLoop (f + 1 + ls.length + 1)
          { r with tok := after 0 false (s2l "$INCLUDE" ++ (32 :: (fname ++ (32 :: (ot ++ 10 :: rest))))) } z =
        ((addAll r.effOrigin z (ls.map GLine.entry)).bind fun z' => readLoop f sI z') ∧
      readLoop (f + 1 + ls.length + 1)
          { r with tok := after 0 false (originsText [(ot, o)] ++ (glinesText ls ++ (originsText [(pt, co)] ++ rest))) } z =
        ((addAll r.effOrigin z (ls.map GLine.entry)).bind fun z' => readLoop f sL z') ∧
      sI.tok = sL.tok ∧ sI.currentOrigin = sL.currentOrigin ∧ sI.zoneOrigin = sL.zoneOrigin ∧
      sI.relativize = sL.relativize ∧ sI.saved = sL.saved ∧
      sI.lastName = r.lastName ∧ sI.lastTTL = r.lastTTL ∧ sI.lastTTLKnown = r.lastTTLKnown ∧
      sI.defaultTTL = r.defaultTTL ∧ sI.defaultTTLKnown = r.defaultTTLKnown := by
  have hI := (run_include
    { r with tok := after 0 false (s2l "$INCLUDE" ++ (32 :: (fname ++ (32 :: (ot ++ 10 :: rest))))) } zo o fname rest
    (some ot) ls d hallow kf (fun _ h => by cases h; exact ⟨ko, by simpa [hco] using hname⟩) nofun hfile hzo rfl hd
    hok).apply (F := f + 1 + ls.length + 1) (f := f) (by omega) z
  have hL := (run_inline
    { r with tok := after 0 false (originsText [(ot, o)] ++ (glinesText ls ++ (originsText [(pt, co)] ++ rest))) } co zo o
    ot pt rest ls d hzo ko (by simpa [hco] using asName_of_fromText ot (some co) o hname hoabs) hoabs kp hpname hcabs rfl hd
    hok).apply (F := f + 1 + ls.length + 1) (f := f) (by omega) z
  have hF := finalStateR_fields ls (originsText [(pt, co)] ++ rest)
    { ({ r with tok := after 0 false (originsText [(ot, o)] ++ (glinesText ls ++ (originsText [(pt, co)] ++ rest))) } : PState)
      with tok := after 0 false (glinesText ls ++ (originsText [(pt, co)] ++ rest)), currentOrigin := some o } rfl
  exact ⟨_, _, hI, hL, rfl, hco, hF.2.1.symm, hF.2.2.1.symm, hF.2.2.2.2.1.symm, rfl, rfl, rfl, rfl, rfl⟩

/-- `allow_include=False`: `$INCLUDE` is not among the allowed directives -/
theorem include_refused (r : PState) (T : List Nat) (hT : startsDelim T) (hallow : r.allowInclude = false)
    (htok : r.tok = after 0 false (s2l "$INCLUDE" ++ T)) : lineStep r = .error .syntaxError := by
  rw [lineStep_include r T hT htok]
  simp [includeDirective, hallow]

/-- non-vacuity, the situation of seeded change C09-f, end to end on the model: zone `ex.`, relativized,
`$INCLUDE f branch` where `f` holds `a 300 IN A 10.0.0.1`, then `www 300 IN A 10.0.0.2` in the parent: `a` lands under
`branch`, `www` under the zone origin again -/
example :
    zoneFromText (s2l "$INCLUDE f branch\nwww 300 IN A 10.0.0.2\n") (some [[101, 120], []]) true false false
        [(s2l "f", s2l "a 300 IN A 10.0.0.1\n")] true =
      .ok ([([s2l "a", s2l "branch"], [⟨1, 300, [⟨.a [10, 0, 0, 1], none⟩]⟩]),
            ([s2l "www"], [⟨1, 300, [⟨.a [10, 0, 0, 2], none⟩]⟩])], some [[101, 120], []]) ∧
    zoneFromText (s2l "$INCLUDE f branch\nwww 300 IN A 10.0.0.2\n") (some [[101, 120], []]) true false false
        [(s2l "f", s2l "a 300 IN A 10.0.0.1\n")] false = .error .syntaxError := by
  repeat rw [s2l_ofList]
  constructor <;> decide +kernel

/-! ### D08 — `want_generic` (recorded finding; DESIGN §6)

The property text lists "generic RFC 3597 syntax" among the lossless styles, and the working tree violates it
(`KNOWN_FINDINGS.json`).  The model carries the decision point as a parameter (`Style.genFix`, `PState.gfix`): value 0 /
false is the code as shipped, the other values are the proposed repair; at run time the harness replays the
witnesses below on the implementation and asks the model for the variant the code implements.

Full statement (not provable for the code as shipped, and for the repaired variant it needs the wire codec theorems of
C02 for the generic form of every type):
`∀ z st, Lossless st → st.wantGeneric → zoneFromText (zoneToText st z) = z`.
What is established here: `read_write_lossless`, in which `want_generic` is free but every record is assumed to be
written (`recordText … = .ok`) and to read back (`RecOK`) under the style — what the first witness below refutes for the
code as shipped; the witnesses below; correspondence and the write/read oracle on zones whose RDATA holds no name at or
below the origin (where the shipped code does round-trip). -/

/-- witness, as shipped: a relativized zone `@ 300 IN NS ns` cannot be written with `want_generic` -/
example : zoneToText { wantGeneric := true } (some [[101, 120], []])
    [([], [⟨2, 300, [⟨.name1 [[110, 115]], none⟩]⟩])] true = .error .needAbsolute := by decide +kernel

/-- the same zone under the repaired variant is written in RFC 3597 form with the origin appended in the wire name -/
example : zoneToText { wantGeneric := true, genFix := 2 } (some [[101, 120], []])
    [([], [⟨2, 300, [⟨.name1 [[110, 115]], none⟩]⟩])] true =
      .ok (s2l "@ 300 CLASS1 TYPE2 \\# 7 026e7302657800\n") := by
  rw [s2l_ofList]
  decide +kernel

end C09
