import Model.Versioned
import Proofs.Versioned
import Proofs.VersionedCow
/-!
# C11 — Versioned-zone readers see one immutable snapshot; version retention is sound

Theorems of record about `Model.Versioned` (model of `dns/versioned.py`: `_versions`, `_readers`, `reader`,
`_end_read`, commit / rollback, `_prune_versions_unlocked`, `set_max_versions`, `set_pruning_policy`,
`_get_next_version_id`).  `reach ops` is the state of a freshly constructed zone after an **arbitrary** list of
operations: readers opened on the latest version, by id or by serial (successfully or not), closed (also twice),
writers opened, committed with or without changes, rolled back, policies set to the default, `max n`, unlimited or
an **arbitrary** pure callable of (number of versions retained when asked, version) via `Op.setPred f` — `f` need not be
monotone in the id or in the count.  All statements hold after every prefix of every such history (induction over the list).

Python-level immutability of snapshot objects is *not* a theorem: versions are persistent values in the model.  It is
established by enumeration in `harness/props/C11.py` (every public callable of every object reachable from a read
transaction is called on every run; mutating calls must raise and change nothing).
-/
namespace C11
open Model.Versioned

abbrev reach (ops : List Op) : State := (run init ops).1

/-- "Version ids strictly increase": along the retained versions and along everything ever committed. -/
theorem ids_strictly_increase (ops : List Op) :
    (reach ops).versions.Pairwise (fun a b => a.id < b.id) ∧ (reach ops).history.Pairwise (fun a b => a.id < b.id) := by
  have h := (inv_reach ops).pre
  have hh : (reach ops).history.Pairwise (fun a b => a.id < b.id) := by
    have hp : ((reach ops).history.map (fun v => v.id)).Pairwise (· < ·) := by
      rw [h.ids]; exact List.pairwise_lt_range'
    exact (List.pairwise_map.mp hp)
  exact ⟨hh.sublist h.suffix.sublist, hh⟩

/-- … and no id is skipped or reused: the ids ever committed are exactly 1, 2, …, n. -/
theorem ids_consecutive (ops : List Op) :
    (reach ops).history.map (fun v => v.id) = List.range' 1 (reach ops).history.length :=
  (inv_reach ops).pre.ids

/-- "the retained versions always form a contiguous run of history": the deque is a suffix of the list of all
versions ever committed (same objects, same order, nothing missing in the middle). -/
theorem retained_contiguous (ops : List Op) : (reach ops).versions <:+ (reach ops).history :=
  (inv_reach ops).pre.suffix

/-- "… that contains the newest version": the deque is never empty and its last element is the last commit. -/
theorem newest_retained (ops : List Op) :
    (reach ops).versions ≠ [] ∧ (reach ops).versions.getLast? = (reach ops).history.getLast? := by
  have h := (inv_reach ops).pre
  exact ⟨versions_ne_nil h, getLast?_of_suffix h.suffix (versions_ne_nil h)⟩

/-- "… and every version still pinned by an open reader": the very version object an open read transaction holds
is in the deque. -/
theorem pinned_retained (ops : List Op) : ∀ r ∈ (reach ops).readers, r.2 ∈ (reach ops).versions :=
  (inv_reach ops).pre.pins

/-- "… and is otherwise exactly what the pruning policy allows", part 1 (every reachable state): the oldest
retained version is at or above `least_kept` (the smallest pinned id, or the newest id when nobody reads), or the
policy — asked with the current number of retained versions — refuses to prune it.  Nothing prunable is left over. -/
theorem pruning_exact (ops : List Op) :
    FrontKept (reach ops).policy (leastKept (reach ops).readers (reach ops).versions) (reach ops).versions :=
  (inv_reach ops).stable

/-- part 2 (the loop itself, any policy, any bound, any deque): what `_prune_versions_unlocked` drops is exactly
the longest prefix of versions each of which is below `least_kept` and was allowed by the policy at the moment it
was asked; the rest is kept untouched and its first element is not prunable. -/
theorem pruning_drops_exactly_allowed_prefix (p : Policy) (least : Nat) (vs : List Ver) :
    ∃ n, n ≤ vs.length ∧ pruneLoop p least vs = vs.drop n ∧
      (∀ i (_ : i < n) (hlt : i < vs.length), vs[i].id < least ∧ prunable p (vs.length - i) vs[i] = true) ∧
      FrontKept p least (vs.drop n) := by
  fun_induction pruneLoop p least vs
  case case1 => exact ⟨0, Nat.le_refl _, rfl, fun i hi => absurd hi (Nat.not_lt_zero _), trivial⟩
  case case2 v rest hc ih =>
    obtain ⟨n, hn, he, hall, hf⟩ := ih
    refine ⟨n + 1, Nat.succ_le_succ hn, he, fun i hi hlt => ?_, hf⟩
    cases i with
    | zero => exact hc
    | succ j => simpa using hall j (by omega) (by simpa using hlt)
  case case3 hc => exact ⟨0, Nat.zero_le _, rfl, fun i hi => absurd hi (Nat.not_lt_zero _), hc⟩

/-- part 3, the precise meaning of "exactly what the pruning policy allows" for an arbitrary (possibly
non-monotone) policy: call a suffix `S` of the deque *closed* when its first version is not prunable at its turn —
its id is at or above `least_kept`, or the policy, asked about it with `len = |S|`, says no (`FrontKept`).  What
`_prune_versions_unlocked` retains is a closed suffix, and it is the **longest** closed suffix: every other closed
suffix is shorter.  So pruning proceeds from the oldest version and stops at the first refusal; versions behind a
refused one stay even if the policy would accept them. -/
theorem pruning_keeps_longest_closed_suffix (p : Policy) (least : Nat) (vs : List Ver) :
    pruneLoop p least vs <:+ vs ∧ FrontKept p least (pruneLoop p least vs) ∧
      ∀ S, S <:+ vs → FrontKept p least S → S.length ≤ (pruneLoop p least vs).length :=
  ⟨pruneLoop_suffix p least vs, pruneLoop_front p least vs, fun S hS hF => pruneLoop_longest p least vs S hS hF⟩

/-- `reader(serial=sn)`: the versions are scanned from the newest; the transaction is opened on the **newest**
retained version whose SOA serial is `sn` (every retained version with that serial has an id at most the chosen
one), and `KeyError` is raised exactly when no retained version has that serial. -/
theorem reader_by_serial_is_newest_match (ops : List Op) (h sn : Nat) :
    (∃ v, v ∈ (reach ops).versions ∧ v.serial = some sn ∧
        (∀ w ∈ (reach ops).versions, w.serial = some sn → w.id ≤ v.id) ∧
        (step (reach ops) (.openSerial h sn)).2 = .pinned v.id v.content) ∨
    ((∀ w ∈ (reach ops).versions, w.serial ≠ some sn) ∧
        (step (reach ops) (.openSerial h sn)) = (reach ops, .err .keyError)) := by
  cases hf : findSerial (reach ops).versions sn with
  | some v =>
    exact .inl ⟨v, mem_of_find?_rev hf, by simpa using List.find?_some hf,
      fun w hw hs => find_rev_newest (ids_strictly_increase ops).1 hf w hw (by simpa using hs), by simp only [step, hf]⟩
  | none => exact .inr ⟨fun w hw => by simpa using find_rev_none hf w hw, by simp only [step, hf]⟩

/-- `reader(id=i)`: opened on the retained version with that id (there is at most one), `KeyError` exactly when
no retained version has it — in particular for every id that was pruned or never issued. -/
theorem reader_by_id (ops : List Op) (h i : Nat) :
    (∃ v, v ∈ (reach ops).versions ∧ v.id = i ∧ (step (reach ops) (.openId h i)).2 = .pinned v.id v.content) ∨
    ((∀ w ∈ (reach ops).versions, w.id ≠ i) ∧ (step (reach ops) (.openId h i)) = (reach ops, .err .keyError)) := by
  cases hf : findId (reach ops).versions i with
  | some v => exact .inl ⟨v, mem_of_find?_rev hf, by simpa using List.find?_some hf, by simp only [step, hf]⟩
  | none => exact .inr ⟨fun w hw => by simpa using find_rev_none hf w hw, by simp only [step, hf]⟩

/-- "observes exactly the content of the version that was current when it was opened (or of the version requested
by id or serial) for its whole life, no matter how many commits happen meanwhile": whatever opening reader `h`
returned, observing through `h` returns the same (id, content) after any further operations that do not close `h`. -/
theorem snapshot_stable (s : State) (h : Nat) (v : Ver) (hopen : findReader s.readers h = some v)
    (ops : List Op) (hc : ∀ op ∈ ops, closes h op = false) :
    (step (run s ops).1 (.observe h)).2 = .pinned v.id v.content := by
  have := reader_kept_run s ops h v hc hopen
  simp only [step, this]

/-- the reader just opened on the latest version holds the newest committed version -/
theorem open_latest_pins_newest (ops : List Op) (h : Nat) (hfresh : findReader (reach ops).readers h = none) :
    ∃ v, (reach ops).history.getLast? = some v ∧
      (step (reach ops) (.openLatest h)).2 = .pinned v.id v.content ∧
      findReader (step (reach ops) (.openLatest h)).1.readers h = some v := by
  have hn := newest_retained ops
  cases hl : (reach ops).versions.getLast? with
  | none => exact absurd (List.getLast?_eq_none_iff.mp hl) hn.1
  | some v =>
    refine ⟨v, by rw [← hn.2, hl], by simp only [step, hl], ?_⟩
    simp only [step, hl]
    rw [findReader_append, hfresh, if_pos rfl]; rfl

/-! ## snapshot isolation by the copy-on-write mechanism

In the retention model above versions are persistent values.  Here they are not: `Model.Versioned.CowState` has a
heap of node cells shared between versions, a write hits a cell whoever points to it, and what keeps snapshots apart
is only the bookkeeping of the code — `WritableVersion.changed`, `_maybe_cow_with_name` (copy unless the name is
already in `changed`), `delete_node`, B-tree `update_glue_flag` (copy every re-flagged name and add *that name* to
`changed`), and `ImmutableVersion.__init__` (new immutable node for every changed name). -/

/-- "observes exactly the content of its version for its whole life, no matter how many commits happen meanwhile,
and everything reachable from it is immutable", by mechanism: after **any** sequence of transactions (begin /
replacement begin, puts, node deletes, glue re-flagging of arbitrary name lists, commit, empty commit, rollback),
(1) every node of every committed version is a frozen cell, and (2) whatever further operations follow, every
version committed so far is still there, in order, and shows exactly the same name ↦ content view. -/
theorem snapshot_isolated_by_cow (ops more : List CowOp) :
    (∀ m ∈ (cowRun cowInit ops).versions, ∀ p ∈ m, FrozenAt (cowRun cowInit ops).heap p.2) ∧
    (cowRun cowInit ops).versions <+: (cowRun (cowRun cowInit ops) more).versions ∧
    ∀ m ∈ (cowRun cowInit ops).versions,
      view (cowRun (cowRun cowInit ops) more).heap m = view (cowRun cowInit ops).heap m := by
  have h := (cow_run cowInit ops cowInv_init).1
  have h2 := cow_run (cowRun cowInit ops) more h
  exact ⟨fun m hm p hp => (h.frozen m hm p hp).2, h2.2.1, h2.2.2⟩

/-- the writer-side invariant that makes it work (the thing a wrong `changed.add` breaks): in an open write
transaction a changed name has a node of its own, allocated in this transaction, and an unchanged name still points
to the frozen node of the version it was copied from. -/
theorem writer_nodes_private_or_frozen (ops : List CowOp) (x : Writer) (hx : (cowRun cowInit ops).w = some x) :
    ∀ p ∈ x.nodes, (p.1 ∈ x.changed ∧ x.base ≤ p.2) ∨ (p.1 ∉ x.changed ∧ FrozenAt (cowRun cowInit ops).heap p.2) := by
  intro p hp
  have h := ((cow_run cowInit ops cowInv_init).1.writer x hx).1.2 p hp
  rcases h.2 with h1 | ⟨h1, _, h3⟩
  · exact Or.inl h1
  · exact Or.inr ⟨h1, h3⟩

-- version 2 = {a ↦ 5, b ↦ 6}; a later transaction rewrites a, re-flags b (glue) and deletes nothing: version 2 still shows 5 and 6
example : view (cowRun cowInit [.begin true, .put 1 5, .put 2 6, .commit, .begin false, .put 1 7, .flip [2] 9, .commit]).heap
    [(1, 3), (2, 2)] = [(1, 5), (2, 6)] := by decide +kernel
example : (cowRun cowInit [.begin true, .put 1 5, .put 2 6, .commit]).versions = [[], [(1, 3), (2, 2)]] := by decide +kernel
example : (view (cowRun cowInit [.begin true, .put 1 5, .put 2 6, .commit, .begin false, .put 1 7, .flip [2] 9, .commit]).heap
    ((cowRun cowInit [.begin true, .put 1 5, .put 2 6, .commit, .begin false, .put 1 7, .flip [2] 9, .commit]).versions.getLast?.getD []))
    = [(1, 7), (2, 9)] := by decide +kernel

-- freezing does not look at what a node holds: a node that is empty at commit (content 0 — no rdatasets) is frozen too
example : let s := cowRun cowInit [.begin true, .put 1 5, .put 2 0, .commit]
    (s.versions.getLast?.getD []).all (fun p => (s.heap[p.2]?.map (·.frozen)) == some true) = true := by decide +kernel

/-! ## the hypotheses are satisfiable; the clauses are not vacuous -/

-- a reader pins version 1 across two commits under the default policy; closing it prunes down to the newest
example : ((reach [.openLatest 1, .wopen, .commit 10 none true, .wopen, .commit 11 none true]).versions.map (·.id)) = [1, 2, 3] := by decide +kernel
example : ((reach [.openLatest 1, .wopen, .commit 10 none true, .wopen, .commit 11 none true, .close 1]).versions.map (·.id)) = [3] := by decide +kernel
-- a predicate that refuses version 1 keeps everything behind it too (contiguity)
example : ((reach [.setPolicy (some [2, 3]), .wopen, .commit 10 none true, .wopen, .commit 11 none true]).versions.map (·.id)) = [1, 2, 3] := by decide +kernel
-- max 2
example : ((reach [.setMax (some 2), .wopen, .commit 10 none true, .wopen, .commit 11 none true]).versions.map (·.id)) = [2, 3] := by decide +kernel
-- a policy that is not monotone in the count: "prune only while exactly 3 versions are retained"
example : ((reach [.setPred (fun len _ => len == 3), .wopen, .commit 10 none true, .wopen, .commit 11 none true,
    .wopen, .commit 12 none true]).versions.map (·.id)) = [3, 4] := by decide +kernel
-- not monotone in the id: true on version 2 only; version 1 is refused, so 2 stays although the policy accepts it
example : ((reach [.setPred (fun _ v => v.id == 2), .wopen, .commit 10 none true, .wopen, .commit 11 none true]).versions.map (·.id)) = [1, 2, 3] := by decide +kernel
-- two retained versions with serial 6: reader(serial=6) takes the newer one
example : (step (reach [.setMax none, .wopen, .commit 10 (some 6) true, .wopen, .commit 11 (some 6) true]) (.openSerial 1 6)).2 = .pinned 3 11 := by decide +kernel
-- snapshot_stable's hypotheses
example : findReader (reach [.openLatest 7]).readers 7 = some ⟨1, 0, none⟩ := by decide +kernel
example : (step (reach [.openLatest 7, .wopen, .commit 10 (some 5) true, .setMax (some 1)]) (.observe 7)).2 = .pinned 1 0 := by decide +kernel

end C11
