import Model.Name
import Proofs.NameText
import Proofs.NameWire
import Proofs.NameCompress
/-!
# C01 — Name text and wire codecs are exact inverses within DNS length limits

Theorems of record.  `Model.Name` follows `dns/name.py`; the constants (`Consts.*`) are regenerated
from the working tree on every run, so e.g. `escOk_generated` is an obligation about the code's
current `_escaped` set.
-/
namespace C01
open Model

/-- `from_text` reads back what `to_text` printed, whatever the origin: the labels of the name itself when it
is absolute or no origin is given, those of the name followed by the origin's otherwise, handed to the
constructor. -/
theorem fromText_toText_any (n : Name) (origin : Option Name) (h : WfName n) (ho : OctetsOk n) :
    fromText (toText n) origin =
      validate (match origin with
        | some o => if isAbs n then n else n ++ o
        | none => n) := by
  rw [fromText_eq, ftLabels_toText n h ho]
  cases origin <;> rfl

/-- Text round trip, no origin: every legal name over all 256 octet values, byte-identical labels. -/
theorem fromText_toText (n : Name) (h : WfName n) (ho : OctetsOk n) :
    fromText (toText n) none = .ok n :=
  (fromText_toText_any n none h ho).trans (validate_of_wf n h)

/-- Text round trip against an origin: an absolute name is returned as is; a relative one is
concatenated with the origin and validated (so it raises exactly when the limits are exceeded). -/
theorem fromText_toText_origin (n o : Name) (h : WfName n) (ho : OctetsOk n) :
    fromText (toText n) (some o) = if isAbs n then .ok n else validate (n ++ o) := by
  rw [fromText_toText_any n (some o) h ho]
  dsimp only
  split
  · exact validate_of_wf n h
  · rfl

/-- The constructor check: exactly the well-formed label lists are accepted, and unchanged. -/
theorem validate_iff (n : Name) : (∃ m, validate n = .ok m) ↔ WfName n := by
  constructor
  · rintro ⟨m, hm⟩; exact (wf_of_validate n m hm).2
  · intro h; exact ⟨n, validate_of_wf n h⟩

/-- The limits the code enforces (regenerated from dns/name.py on every run) are the ones the property
names: labels of at most 63 octets, names of at most 255, label types 0x00/0xC0, 14-bit pointers.  A change
of any of them in the source breaks this obligation. -/
theorem limits_are_rfc1035 : Consts.maxLabel = 63 ∧ Consts.maxName = 255 ∧ Consts.ptrLabelMin = 64 ∧
    Consts.ptrTagMin = 192 ∧ Consts.maxPtr = 16383 ∧ Consts.ptrBase = 49152 ∧
    Consts.nameEscaped = [34, 36, 40, 41, 46, 59, 64, 92] := by decide

/-- non-vacuity: a name with dots, quotes, backslash, '@', '$', control and high octets is well formed -/
example : WfName [[46, 34, 92, 64, 36, 0, 255], [97], []] ∧ OctetsOk [[46, 34, 92, 64, 36, 0, 255], [97], []] := by
  decide


/-- Uncompressed wire round trip at any offset inside any surrounding bytes: byte-identical labels
and exactly the encoded length consumed. -/
theorem fromWire_toWire (n : Name) (h : WfName n) (ha : isAbs n = true) (pre post : Bytes) :
    fromWire (pre ++ toWire n ++ post) pre.length = .ok (n, (toWire n).length) := by
  obtain ⟨ls, rfl, hp⟩ := abs_split n h ha
  exact fromWire_ok_iff.2 ⟨ls, _, Dec_plain ls hp pre post pre.length, rfl, (Nat.add_sub_cancel_left ..).symm, h⟩

/-- and conversely every `Dec` derivation whose name passes the length checks is what `from_wire` returns -/
theorem fromWire_of_Dec (b : Bytes) (off : Nat) (ls : List Label) (fwd : Nat) (hd : Dec b off off ls fwd)
    (hw : WfName (ls ++ [[]])) : fromWire b off = .ok (ls ++ [[]], fwd - off) :=
  fromWire_ok_iff.2 ⟨ls, fwd, hd, rfl, rfl, hw⟩

/-- Wire decoding is closed: whatever octets are presented at whatever offset, a returned name is
well formed (labels ≤ 63, total ≤ 255), absolute, and the octets consumed lie inside the buffer. -/
theorem fromWire_wf (b : Bytes) (off : Nat) (n : Name) (k : Nat) (h : fromWire b off = .ok (n, k)) :
    WfName n ∧ isAbs n = true ∧ off + k ≤ b.length := by
  obtain ⟨ls, fwd, hd, rfl, rfl, hw⟩ := fromWire_ok_iff.1 h
  exact ⟨hw, (isAbs_iff_getLast? _).2 List.getLast?_concat,
    by rw [Nat.add_sub_cancel' (Nat.le_of_lt hd.fwd_le.1)]; exact hd.fwd_le.2⟩

/-- Decoding terminates (the definition of `fromWireAux` is accepted by Lean's termination checker
on the measure (biggest_pointer, bytes left)) and only follows pointers to strictly earlier offsets:
every successful decode is a derivation of `Dec`, whose pointer rule demands `target < bound`, the
bound starting at the name's own offset and being lowered to each target followed. -/
theorem fromWire_backward (b : Bytes) (off : Nat) (n : Name) (k : Nat) (h : fromWire b off = .ok (n, k)) :
    ∃ ls fwd, Dec b off off ls fwd ∧ n = ls ++ [[]] ∧ k = fwd - off :=
  let ⟨ls, fwd, hd, hn, hk, _⟩ := fromWire_ok_iff.1 h
  ⟨ls, fwd, hd, hn, hk⟩


/-- equality of names up to ASCII case (the library's `Name.__eq__`) -/
def lowEq (a b : Name) : Prop := lowerName a = lowerName b

/-- Rendering an absolute name with a compression table whose entries decode to their keys up to `R`
(equality, or equality up to ASCII case): output and table only grow, every entry stays sound, and decoding at
the start offset consumes exactly the octets written and yields a name `R`-related to `n`. -/
theorem toWireC_rel (R : Name → Name → Prop) (hRcons : ∀ l a b, R a b → R (l :: a) (l :: b))
    (hRroot : R [[]] [[]]) (out : Bytes) (tbl : CTable) (n : Name) (h : WfName n) (ha : isAbs n = true)
    (hs : TableSound R out tbl)
    (hhit : ∀ p ∈ tbl, ∀ k, lowerName p.1 = lowerName (n.drop k) → ∀ m, R m p.1 → R m (n.drop k))
    (hwf : ∀ m, R m n → WfName m) :
    ∃ ext new, toWireC out tbl n none = .ok (out ++ ext, tbl ++ new) ∧
      TableSound R (out ++ ext) (tbl ++ new) ∧
      ∃ m, fromWire (out ++ ext) out.length = .ok (m, ext.length) ∧ R m n := by
  obtain ⟨h4, ls, hd, hr⟩ := cLoop_sound_rel R hRcons hRroot out tbl n h ha hs hhit
  refine ⟨_, _, by rw [toWireC_eq, wireName_abs ha], fun p hp => ?_, ls ++ [[]], ?_, hr⟩
  · rcases List.mem_append.mp hp with hp | hp
    · exact (hs p hp).mono _
    · exact (h4 p hp).2
  · rw [fromWire_of_Dec _ out.length ls _ hd (hwf _ hr), Nat.add_sub_cancel_left]

/-- Compressed encoding is sound, whatever the table and whatever the offset (including beyond 0x3FFF):
given a table every entry of which decodes (in the output so far) to its key up to ASCII case, rendering an
absolute name `n` with compression (i) only appends to the output, (ii) only appends to the table and
keeps every entry sound in the new output, so no pointer ever targets anything but an earlier occurrence of
that suffix, and (iii) decoding at the start offset consumes exactly the octets written and yields `n`
up to ASCII case (reading of DESIGN §6: the table is looked up with the library's case-insensitive equality). -/
theorem toWireC_sound (out : Bytes) (tbl : CTable) (n : Name) (h : WfName n) (ha : isAbs n = true)
    (hs : TableSound lowEq out tbl) :
    ∃ ext new, toWireC out tbl n none = .ok (out ++ ext, tbl ++ new) ∧
      TableSound lowEq (out ++ ext) (tbl ++ new) ∧
      ∃ m, fromWire (out ++ ext) out.length = .ok (m, ext.length) ∧ lowerName m = lowerName n :=
  toWireC_rel lowEq (fun l _ _ hab => congrArg (lowerLabel l :: ·) hab) rfl out tbl n h ha hs
    (fun _ _ _ hk _ hm => hm.trans hk) (fun _ hr => wf_congr n _ hr.symm h)

/-- no table entry equals a suffix of `n` only up to ASCII case -/
def CaseConsistent (tbl : CTable) (n : Name) : Prop :=
  ∀ p ∈ tbl, ∀ k, lowerName p.1 = lowerName (n.drop k) → p.1 = n.drop k

/-- … and byte-identical whenever the table is case-consistent with the name and itself exact:
the compressed round trip then restores exactly `n`, and the table stays exact. -/
theorem toWireC_exact (out : Bytes) (tbl : CTable) (n : Name) (h : WfName n) (ha : isAbs n = true)
    (hs : TableSound Eq out tbl) (hc : CaseConsistent tbl n) :
    ∃ ext new, toWireC out tbl n none = .ok (out ++ ext, tbl ++ new) ∧
      TableSound Eq (out ++ ext) (tbl ++ new) ∧
      fromWire (out ++ ext) out.length = .ok (n, ext.length) := by
  obtain ⟨ext, new, h1, h2, m, h3, rfl⟩ := toWireC_rel Eq (fun l _ _ hab => congrArg (l :: ·) hab) rfl out tbl n h ha hs
    (fun p hp k hk m hm => hm.trans (hc p hp k hk)) (fun _ hr => hr ▸ h)
  exact ⟨ext, new, h1, h2, h3⟩

/-- non-vacuity: the empty table is sound in any buffer, and case-consistent with any name -/
example (out : Bytes) (n : Name) : TableSound Eq out [] ∧ TableSound lowEq out [] ∧ CaseConsistent [] n := by
  refine ⟨?_, ?_, ?_⟩ <;> intro p hp <;> simp at hp


/-! ### closure: no operation that produces a name yields an over-long label or name -/

theorem validate_closed {n r : Name} (h : validate n = .ok r) : WfName r := by
  obtain ⟨rfl, hw⟩ := wf_of_validate n r h; exact hw

theorem concatenate_closed (a b r : Name) (h : concatenate a b = .ok r) : WfName r := by
  obtain ⟨_, rfl, hw⟩ := (concatenate_eq_ok_iff a b r).1 h
  exact hw

theorem relativize_closed (n o r : Name) (hn : WfName n) (h : relativize n o = .ok r) : WfName r := by
  rw [relativize_of_wf hn] at h
  cases h
  split
  · exact NameOrder.wf_take n hn _
  · exact hn

theorem derelativize_closed (n o r : Name) (hn : WfName n) (h : derelativize n o = .ok r) : WfName r := by
  cases ha : isAbs n with
  | true => rw [derelativize_of_abs ha] at h; cases h; exact hn
  | false => rw [derelativize_of_rel ha] at h; exact validate_closed h

theorem parent_closed (n r : Name) (h : parent n = .ok r) : WfName r :=
  (parent_ok h).2.2

theorem split_closed (n : Name) (d : Nat) (a b : Name) (hn : WfName n) (h : split n d = .ok (a, b)) :
    WfName a ∧ WfName b := by
  have hempty : WfName [] := by decide
  rcases split_ok h with ⟨_, rfl, rfl⟩ | ⟨_, rfl, rfl⟩ | ⟨_, h1, h2⟩
  · exact ⟨hn, hempty⟩
  · exact ⟨hempty, hn⟩
  · exact ⟨validate_closed h1, validate_closed h2⟩

theorem padToMaxName_closed (n r : Name) (h : padToMaxName n = .ok r) : WfName r :=
  validate_closed h

theorem absSuccLoop_closed (origin : Name) (ho : WfName origin) (name r : Name)
    (h : absSuccLoop origin name = .ok r) : WfName r := by
  induction name with
  | nil => cases h; exact ho
  | cons x s ih =>
    rcases absSuccLoop_ok h with rfl | ⟨_, ⟨y, _, rfl, hw⟩ | h'⟩
    · exact ho
    · exact hw
    · exact ih h'

theorem absoluteSuccessor_closed (nm o r : Name) (p : Bool) (ho : WfName o)
    (h : absoluteSuccessor nm o p = .ok r) : WfName r := by
  rcases absoluteSuccessor_ok h with ⟨rfl, hw⟩ | h'
  · exact hw
  · exact absSuccLoop_closed o ho nm r h'

theorem absolutePredecessor_closed (nm o r : Name) (p : Bool)
    (h : absolutePredecessor nm o p = .ok r) : WfName r := by
  rcases absolutePredecessor_ok h with ⟨_, h'⟩ | ⟨_, hw, _⟩
  · exact padToMaxName_closed _ _ h'
  · exact hw

/-- `_handle_relativity` only derelativizes the argument and relativizes the result: it is closed as soon
as the absolute operation it wraps is (whatever the argument: what it hands on has passed the constructor). -/
theorem handleRelativity_closed (f : Name → Name → Bool → Except NameErr Name) (n o r : Name) (p : Bool)
    (hf : ∀ nm r', f nm o p = .ok r' → WfName r') (h : handleRelativity f n o p = .ok r) : WfName r := by
  obtain ⟨_, ⟨_, _, hr⟩ | ⟨_, _, r0, hr0, hr⟩⟩ := handleRelativity_ok h
  · exact hf n r hr
  · exact relativize_closed _ _ _ (hf _ r0 hr0) hr

theorem successor_closed (n o r : Name) (p : Bool) (hn : WfName n) (ho : WfName o)
    (h : successor n o p = .ok r) : WfName r :=
  handleRelativity_closed absoluteSuccessor n o r p (fun nm r' h => absoluteSuccessor_closed nm o r' p ho h) h

theorem predecessor_closed (n o r : Name) (p : Bool) (hn : WfName n)
    (h : predecessor n o p = .ok r) : WfName r :=
  handleRelativity_closed absolutePredecessor n o r p (fun nm r' h => absolutePredecessor_closed nm o r' p h) h


/-! ### `to_wire(origin=…)` / `to_digestable(origin)` for relative names -/

/-- The bytes-returning wire form of a relative name against an absolute origin (`Name.to_wire(origin=…)`,
hence record hashing/equality and `to_digestable`) is the uncompressed encoding of the derelativized name:
it decodes to exactly the labels of the name followed by the labels of the origin, byte-identical (no case
folding of either part unless canonical form was asked for), and it is refused with NameTooLong exactly
when that name would exceed 255 octets. -/
theorem toWireO_roundtrip (n o : Name) (hn : WfName n) (hr : isAbs n = false) (ho : WfName o)
    (hoa : isAbs o = true) :
    (wireLen (n ++ o) ≤ Consts.maxName →
      ∃ out, toWireO n (some o) false = .ok out ∧ fromWire out 0 = .ok (n ++ o, out.length)) ∧
    (wireLen (n ++ o) > Consts.maxName → toWireO n (some o) false = .error .nameTooLong) := by
  have hlen : (toWire n ++ toWire o).length = wireLen (n ++ o) := by
    rw [← toWire_append, length_toWire]
  have hunf : toWireO n (some o) false = if (toWire n ++ toWire o).length > Consts.maxName
      then .error .nameTooLong else .ok (toWire n ++ toWire o) := by
    simp only [toWireO, hr, Bool.false_eq_true, if_false, hoa, if_true]
    rfl
  rw [hunf, hlen]
  constructor
  · intro hle
    obtain ⟨hwf, habs⟩ := wf_append_origin n o hn hr ho hoa hle
    refine ⟨toWire (n ++ o), by rw [if_neg (Nat.not_lt.mpr hle), toWire_append], ?_⟩
    have := fromWire_toWire (n ++ o) hwf habs [] []
    rwa [List.nil_append, List.append_nil] at this
  · intro hgt
    rw [if_pos hgt]

/-- The file-writing path `Name.to_wire(file, compress=None, origin=…)` (what `Rdata.to_wire(file, origin=…)`
and the renderer use): at any file position, a relative name against an absolute origin is written as the
uncompressed encoding of name + origin — decoding at the start position returns exactly those labels and
consumes exactly the octets written — and the call raises NameTooLong, writing nothing, exactly when that
name would exceed 255 octets. -/
theorem toWireF_plain_roundtrip (out : Bytes) (n o : Name) (hn : WfName n) (hr : isAbs n = false)
    (ho : WfName o) (hoa : isAbs o = true) :
    (wireLen (n ++ o) ≤ Consts.maxName →
      ∃ ext, toWireF out none n (some o) false = .ok (out ++ ext, none) ∧
        fromWire (out ++ ext) out.length = .ok (n ++ o, ext.length)) ∧
    (wireLen (n ++ o) > Consts.maxName → toWireF out none n (some o) false = .error .nameTooLong) := by
  rw [toWireF_rel out none false hr hoa]
  constructor
  · intro hle
    obtain ⟨hwf, habs⟩ := wf_append_origin n o hn hr ho hoa hle
    rw [validate_of_wf _ hwf]
    refine ⟨toWire (n ++ o), rfl, ?_⟩
    have := fromWire_toWire (n ++ o) hwf habs out []
    rwa [List.append_nil] at this
  · intro hgt
    rw [validate_append_too_long n o hn ho hgt]

/-- Closure of the file-writing path for every table, origin, position and flag combination: on well-formed
operands it either raises NeedAbsoluteNameOrOrigin or NameTooLong, or it succeeds and then the label
sequence it wrote is a well-formed absolute name (≤ 63 per label, ≤ 255 in all) — the name itself or
name + origin; without a table the octets appended are exactly that name's uncompressed encoding
(lower-cased iff canonical form was asked for). -/
theorem toWireF_closed (out : Bytes) (t : Option CTable) (n : Name) (origin : Option Name) (canon : Bool)
    (hn : WfName n) (ho : ∀ o, origin = some o → WfName o) :
    (∃ r full, toWireF out t n origin canon = .ok r ∧ WfName full ∧ isAbs full = true ∧
        (full = n ∨ ∃ o, origin = some o ∧ full = n ++ o) ∧
        (t = none → r.1 = out ++ toWire (if canon then lowerName full else full))) ∨
    toWireF out t n origin canon = .error .needAbsolute ∨
    toWireF out t n origin canon = .error .nameTooLong := by
  have hnone : ∀ labels, t = none → (wroteF out t labels).1 = out ++ toWire labels := fun _ ht => by subst ht; rfl
  by_cases ha : isAbs n = true
  · exact Or.inl ⟨_, n, toWireF_abs out t origin canon ha hn, hn, ha, Or.inl rfl, hnone _⟩
  · have hr : isAbs n = false := Bool.eq_false_iff.2 ha
    cases origin with
    | none => right; left; simp [toWireF, hr]
    | some o =>
      by_cases hoa : isAbs o = true
      · rw [toWireF_rel out t canon hr hoa]
        by_cases hle : wireLen (n ++ o) ≤ Consts.maxName
        · obtain ⟨hwf, habs⟩ := wf_append_origin n o hn hr (ho o rfl) hoa hle
          rw [validate_of_wf _ hwf]
          exact Or.inl ⟨_, n ++ o, rfl, hwf, habs, Or.inr ⟨o, rfl, rfl⟩, hnone _⟩
        · rw [validate_append_too_long n o hn (ho o rfl) (Nat.lt_of_not_le hle)]
          exact Or.inr (Or.inr rfl)
      · right; left
        simp [toWireF, hr, Bool.eq_false_iff.2 hoa]

/-- The file-writing path with a compression table and an origin: against any sound table at any position,
a relative name + absolute origin that fits is written so that the output and the table only grow, every
table entry stays decodable to its key, and decoding at the start position consumes exactly what was
written and yields name + origin up to ASCII case. -/
theorem toWireF_compress_sound (out : Bytes) (tbl : CTable) (n o : Name) (hn : WfName n)
    (hr : isAbs n = false) (ho : WfName o) (hoa : isAbs o = true)
    (hle : wireLen (n ++ o) ≤ Consts.maxName) (hs : TableSound lowEq out tbl) :
    ∃ ext new, toWireF out (some tbl) n (some o) false = .ok (out ++ ext, some (tbl ++ new)) ∧
      TableSound lowEq (out ++ ext) (tbl ++ new) ∧
      ∃ m, fromWire (out ++ ext) out.length = .ok (m, ext.length) ∧ lowerName m = lowerName (n ++ o) := by
  obtain ⟨hwf, habs⟩ := wf_append_origin n o hn hr ho hoa hle
  obtain ⟨ext, new, h1, h2, h3⟩ := toWireC_sound out tbl (n ++ o) hwf habs hs
  refine ⟨ext, new, ?_, h2, h3⟩
  rw [toWireC, if_pos habs] at h1
  rw [toWireF_rel out (some tbl) false hr hoa, validate_of_wf _ hwf]
  exact congrArg (fun r : Bytes × CTable => Except.ok (r.1, some r.2)) (Except.ok.inj h1)

/-- non-vacuity: a 183-octet relative name fits against `Ex.`; against a 123-octet origin it does not -/
example : wireLen (List.replicate 3 (List.replicate 60 97) ++ [[69, 120], []]) ≤ Consts.maxName ∧
    wireLen (List.replicate 3 (List.replicate 60 97) ++ (List.replicate 2 (List.replicate 60 97) ++ [[]])) > Consts.maxName := by
  constructor <;> decide +kernel

/-- `to_text(omit_final_dot=True)` of an absolute non-root name is the text of the name without its root
label, so reading it back with the root as origin (what `from_text` does by default) returns the name,
byte-identical. -/
theorem fromText_toTextOmit (n : Name) (h : WfName n) (ho : OctetsOk n) (ha : isAbs n = true)
    (hroot : n ≠ [[]]) : fromText (toTextOmit n) (some [[]]) = .ok n := by
  have hne := NameOrder.ne_nil_of_isAbs ha
  have hlast := dropLast_append_root ha
  have hrel : isAbs n.dropLast = false :=
    List.dropLast_eq_take ▸ NameOrder.isAbs_take_false n h _ (Nat.sub_lt (List.length_pos_iff.2 hne) Nat.one_pos)
  have hd0 : n.dropLast ≠ [] := fun e => hroot (by rw [← hlast, e]; rfl)
  have hd1 : n.dropLast ≠ [[]] := fun e => by rw [e] at hrel; cases hrel
  have htxt : toTextOmit n = toText n.dropLast := by
    rw [toTextOmit, if_neg hne, if_neg hroot, if_pos ha, toText, if_neg hd0, if_neg hd1]
  rw [htxt, fromText_toText_origin _ [[]] (List.dropLast_eq_take ▸ NameOrder.wf_take n h _)
    (fun l hl => ho l (List.dropLast_subset n hl)), hrel, if_neg Bool.false_ne_true, hlast]
  exact validate_of_wf n h

/-- Styled text is `choose_relativity` followed by printing: with `NameStyle(origin, relativize)` the text is
that of the relativized / derelativized name (the name itself when the origin is `None` or empty), and any
error is that operation's. -/
theorem toStyledText_spec (n : Name) (omitDot : Bool) (origin : Option Name) (rel : Bool) :
    toStyledText n omitDot origin rel =
      match (match origin with
             | none => (Except.ok n : Except NameErr Name)
             | some o => if o = [] then Except.ok n else if rel then relativize n o else derelativize n o) with
      | .error e => .error e
      | .ok m => .ok (if omitDot then toTextOmit m else toText m) := by
  unfold toStyledText chooseRel
  cases origin <;> rfl

/-- non-vacuity: `www.Ex.` is absolute, well formed and not the root -/
example : WfName [[119, 119, 119], [69, 120], []] ∧ isAbs [[119, 119, 119], [69, 120], []] = true ∧
    ([[119, 119, 119], [69, 120], []] : Name) ≠ [[]] ∧
    toTextOmit [[119, 119, 119], [69, 120], []] = [119, 119, 119, 46, 69, 120] := by
  decide

/-- non-vacuity: `www` against `Example.` -/
example : WfName [[119, 119, 119]] ∧ isAbs [[119, 119, 119]] = false ∧ WfName [[69, 120], []] ∧ isAbs [[69, 120], []] = true := by
  decide

/-- non-vacuity for the wire theorems: `www.Example.` is absolute and well formed -/
example : WfName [[119, 119, 119], [69, 120], []] ∧ isAbs [[119, 119, 119], [69, 120], []] = true := by
  decide

end C01
