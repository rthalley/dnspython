import Proofs.NameOrder5
import Proofs.NameDict
/-!
# C06 — Name comparison is the DNSSEC canonical order, coherent with equality and hash

Theorems of record.  `Model.fullcompare`, `cmpOrder` (= `fullcompare[1]`, which `__eq__ … __gt__`
test against 0), `nameHash`, `isSubdomain`, `isSuperdomain`, `parent`, `split`, `relativize`,
`derelativize`, `successor`, `predecessor` follow `dns/name.py` branch by branch and are tied to it
by the correspondence check.  The specification `NameOrder.canonLt` is RFC 4034 §6.1 written
independently of the code: core Lean's lexicographic order on the reversed list of lower-cased labels
(a proper prefix is smaller, at both levels), relative names before absolute ones.
Every statement is for all label lists over all `Nat` octets: no well-formedness is needed for the
order laws.
-/
namespace C06
open Model Model.NameOrder Model.NameDictProofs

/-- "Comparing two names yields exactly the RFC 4034 §6.1 canonical order (labels right to left,
ASCII case-insensitive octet order, relative names before absolute)": the three outcomes of the order
component of `fullcompare` are exactly `a` before `b`, `b` before `a`, and equal up to ASCII case. -/
theorem order_is_rfc4034 (a b : Name) :
    (cmpOrder a b < 0 ↔ canonLt a b) ∧ (cmpOrder a b > 0 ↔ canonLt b a) ∧
      (cmpOrder a b = 0 ↔ lowerName a = lowerName b) :=
  ⟨cmpOrder_lt_iff a b, cmpOrder_gt_iff a b, cmpOrder_eq_iff a b⟩

/-- "it is total": any two names are ordered one way, the other way, or equal. -/
theorem total (a b : Name) : cmpOrder a b < 0 ∨ cmpOrder a b = 0 ∨ cmpOrder b a < 0 := by
  have h := cmpOrder_swap a b
  omega

/-- "antisymmetric": the two directions of a comparison always agree (`a < b` iff `b > a`, `a == b`
iff `b == a`), `a < b` excludes `b < a`, and `a ≤ b ≤ a` forces equality. -/
theorem antisymm (a b : Name) :
    (cmpOrder a b < 0 ↔ cmpOrder b a > 0) ∧ (cmpOrder a b = 0 ↔ cmpOrder b a = 0) ∧
      (cmpOrder a b < 0 → ¬ cmpOrder b a < 0) ∧
      (cmpOrder a b ≤ 0 → cmpOrder b a ≤ 0 → cmpOrder a b = 0) := by
  -- exchanging the arguments negates the order component of `fullcompare`
  have h := cmpOrder_swap a b
  exact ⟨by omega, by omega, by omega, by omega⟩

/-- "transitive" (strict form), for all triples. -/
theorem trans (a b c : Name) (h1 : cmpOrder a b < 0) (h2 : cmpOrder b c < 0) : cmpOrder a c < 0 :=
  cmpOrder_lt_trans h1 h2

/-- "transitive" (non-strict form, which also says that names equal up to case are interchangeable
in comparisons), for all triples. -/
theorem le_trans (a b c : Name) (h1 : cmpOrder a b ≤ 0) (h2 : cmpOrder b c ≤ 0) : cmpOrder a c ≤ 0 :=
  cmpOrder_le_trans h1 h2

/-- "names are equal iff they differ at most in ASCII case" (`Name.__eq__` is `fullcompare[1] == 0`). -/
theorem eq_iff_lower_eq (a b : Name) : nameEq a b = true ↔ lowerName a = lowerName b :=
  nameEq_iff a b

/-- "equal names hash equally" (`Name.__hash__`). -/
theorem hash_congr (a b : Name) (h : nameEq a b = true) : nameHash a = nameHash b := by
  rw [nameHash_lower, nameHash_lower, (nameEq_iff a b).1 h]

/-- "The reported relation and common-label count agree with the subdomain/superdomain predicates":
the relation and `nlabels` of `fullcompare` are the independently specified ones (number of common
most-significant labels up to case, relation derived from it and the two lengths), `is_subdomain` holds
exactly when the other name's labels are (up to case) a suffix and relativity agrees, and
`is_superdomain` is its converse. -/
theorem reln_agrees (a b : Name) :
    (fullcompare a b).1 = relationSpec a b ∧ (fullcompare a b).2.2 = commonLabels a b ∧
      (isSubdomain a b = true ↔ isAbs a = isAbs b ∧ lowerName b <:+ lowerName a) ∧
      isSuperdomain a b = isSubdomain b a :=
  ⟨(fullcompare_reln a b).1, (fullcompare_reln a b).2, isSubdomain_iff a b, isSuperdomain_iff a b⟩

/-- "… and with parent": a name is a proper subdomain of its parent, sorts after it, and shares all of the
parent's labels with it. -/
theorem parent_reln (a p : Name) (h : parent a = .ok p) :
    p = a.drop 1 ∧ p.length + 1 = a.length ∧ fullcompare a p = (2, 1, p.length) :=
  parent_spec a p h

/-- "… and with split": the two parts concatenate to the name, the suffix has `depth` labels, and for
`depth > 0` the name is a subdomain of (or equal to) the suffix with exactly `depth` common labels. -/
theorem split_reln (a x y : Name) (d : Nat) (h : split a d = .ok (x, y)) :
    x ++ y = a ∧ y.length = d ∧
      (0 < d → fullcompare a y = (if a.length = d then 3 else 2, (a.length : Int) - d, d)) :=
  ⟨(split_spec a x y d h).1, (split_spec a x y d h).2.1, NameOrder.split_reln a x y d h⟩

/-
The property text ("relativizing a name to an origin and derelativizing again restores it … for all names (any
relativity) and all origins") is read as: whenever the name is absolute or is a subdomain of the origin (a
relative name that is not below the origin is returned unchanged by `relativize` and then extended by
`derelativize`, by design).  In that reading it used to fail at the empty origin (`self[: -len(origin)]` is
`self[:0]` for `len(origin) = 0`); /repo carries the repair (`fix:` commit) and the model follows the repaired
code, so `relativize_derelativize` below holds without a side condition on the origin.
-/

/-- "relativizing a name to an origin and derelativizing again restores it": for every absolute name and
every origin, and for every relative name below a non-empty origin, both steps succeed and return a name
equal to the original (same labels up to ASCII case — the origin's spelling replaces the name's own
suffix), byte-identical when the origin is byte-for-byte a suffix of the name (and trivially when the name
is not below the origin). -/
theorem relativize_derelativize_partial (a o : Name) (ha : WfName a)
    (h : isAbs a = true ∨ (isSubdomain a o = true ∧ o ≠ [])) :
    ∃ r a', relativize a o = .ok r ∧ derelativize r o = .ok a' ∧ nameEq a' a = true ∧
      (o <:+ a → a' = a) := by
  obtain ⟨r, a', h1, h2, h3, h4⟩ := rel_derel a o ha (h.imp_right And.left)
  exact ⟨r, a', h1, h2, (nameEq_iff a' a).2 h3, h4⟩

/-- The full statement, including the empty origin (true since the `fix:` commit that slices by
`len(self) - len(origin)`; before it `self[: -0]` was `self[:0]` and a relative name relativized to the
empty origin lost all its labels — the former counter-example `relativize [[97]] [] = .ok []`). -/
theorem relativize_derelativize (a o : Name) (ha : WfName a)
    (h : isAbs a = true ∨ isSubdomain a o = true) :
    ∃ r a', relativize a o = .ok r ∧ derelativize r o = .ok a' ∧ nameEq a' a = true ∧
      (o <:+ a → a' = a) := by
  obtain ⟨r, a', h1, h2, h3, h4⟩ := rel_derel a o ha h
  exact ⟨r, a', h1, h2, (nameEq_iff a' a).2 h3, h4⟩

/-- the other composition: derelativizing a relative name against an absolute origin and relativizing
again is the identity, byte for byte. -/
theorem derelativize_relativize (n o r : Name) (hn : WfName n) (hrel : isAbs n = false)
    (ho : isAbs o = true) (h : derelativize n o = .ok r) : relativize r o = .ok n :=
  (derel_rel n o r hn hrel ho h).2

/-- "A name's RFC 4471 successor within a zone sorts strictly after it (or wraps to the origin)": for
both values of `prefix_ok`, any origin, all octets, absolute names and (through
`_handle_relativity_and_call`: derelativize, compute, relativize) relative names, whenever `successor`
returns, the result is the wrap-around value (the origin; the empty name for a relative name, which is the
origin relativized) or sorts strictly after the name.  Holds because `@` is bumped to `[` and `Z` to `{`
(the repaired D06). -/
theorem successor_gt (n o r : Name) (p : Bool) (h : successor n o p = .ok r) :
    r = (if isAbs n then o else []) ∨ cmpOrder n r < 0 := by
  cases hn : isAbs n with
  | true =>
    rcases (successor_abs hn h).2 with e | e
    · exact Or.inl (by simpa using e)
    · exact Or.inr ((cmpOrder_lt_iff n r).2 e.1)
  | false =>
    rcases successor_rel n o r p hn h with e | e
    · exact Or.inl (by simpa using e)
    · exact Or.inr ((cmpOrder_lt_iff n r).2 e)

/-- "… and its predecessor strictly before it": unless the name is the origin itself (the empty name for a
relative name), where the predecessor wraps around to the longest name of the zone, the result sorts
strictly before the name; both values of `prefix_ok`, absolute and relative names. -/
theorem predecessor_lt (n o r : Name) (p : Bool) (h : predecessor n o p = .ok r) :
    nameEq n (if isAbs n then o else []) = true ∨ cmpOrder r n < 0 := by
  cases hn : isAbs n with
  | true =>
    rcases (predecessor_abs hn h).2 with e | e
    · exact Or.inl (by simpa using e)
    · exact Or.inr ((cmpOrder_lt_iff r n).2 e.1)
  | false =>
    rcases predecessor_rel n o r p hn h with e | e
    · subst e; exact Or.inl rfl
    · exact Or.inr ((cmpOrder_lt_iff r n).2 e)

/-- successor and predecessor never leave the zone or the limits: a result other than the wrap-around is a
legal name at or below the origin (absolute names). -/
theorem successor_predecessor_in_zone (n o r : Name) (p : Bool) (hn : isAbs n = true) :
    (successor n o p = .ok r → r = o ∨ (WfName r ∧ isSubdomain r o = true)) ∧
    (predecessor n o p = .ok r → nameEq n o = true ∨ (WfName r ∧ lowerName o <:+ lowerName r)) := by
  constructor
  · intro h
    obtain ⟨ho, hr⟩ := successor_abs hn h
    exact hr.imp_right fun ⟨_, hw, hs⟩ => ⟨hw, isSubdomain_of_suffix (ne_nil_of_isAbs ho) hs⟩
  · intro h
    exact (predecessor_abs hn h).2.imp_right And.right

/-! ## `dns.namedict.NameDict` (anchored file; a user of name equality, hash and suffixes) -/

/-- `NameDict` keeps `max_depth` an upper bound of the label counts of its keys over every history of
assignments and deletions (including re-assignment of an existing key up to case, deletion of absent keys,
and the recomputation when the last key of maximal depth goes away). -/
theorem namedict_depth_invariant (ops : List NdOp) : DepthOk (ndRun NDict.empty ops) :=
  depthOk_run ops NDict.empty (by intro p hp; cases hp)

/-- `get_deepest_match(name)`: under that invariant the returned key is a stored key (up to ASCII case) with
its value, it is the empty name or a suffix of `name`, and no suffix of `name` with more labels is a key —
"the longest name in the dictionary which is a superdomain of name"; `KeyError` (`none`) is raised exactly when
neither a suffix of `name` nor the empty name is a key. -/
theorem namedict_deepest_match (d : NDict) (h : DepthOk d) (name : Name) :
    (∀ k v, ndDeepest d name = some (k, v) →
      ndFind d.store k = some v ∧
      (k = [] ∨ ∃ i, 1 ≤ i ∧ i ≤ name.length ∧ k = name.drop (name.length - i)) ∧
      ∀ i, 1 ≤ i → i ≤ name.length → ndHas d.store (name.drop (name.length - i)) = true → i ≤ k.length) ∧
    (ndDeepest d name = none →
      ndHas d.store [] = false ∧
      ∀ i, 1 ≤ i → i ≤ name.length → ndHas d.store (name.drop (name.length - i)) = false) := by
  -- `i` labels: the longest suffix of `name` that is a key
  obtain ⟨i, hi, hnone, ⟨rfl, hres⟩ | ⟨hi1, v', hv, hres⟩⟩ := ndDeepest_spec d h name
  · rw [hres]
    have hno : ∀ j, 1 ≤ j → j ≤ name.length → ndHas d.store (name.drop (name.length - j)) = false := hnone
    refine ⟨fun k v hr => ?_, fun hr => ⟨by rw [ndHas, Option.map_eq_none_iff.1 hr]; rfl, hno⟩⟩
    obtain ⟨_, hv, e⟩ := Option.map_eq_some_iff.1 hr
    cases e
    exact ⟨hv, Or.inl rfl, fun j g1 g2 g3 => by rw [hno j g1 g2] at g3; cases g3⟩
  · rw [hres]
    refine ⟨fun k v hr => ?_, nofun⟩
    cases hr
    have hk : (name.drop (name.length - i)).length = i := by rw [List.length_drop]; omega
    refine ⟨hv, Or.inr ⟨i, hi1, hi, rfl⟩, fun j _ g2 g3 => Nat.le_of_not_lt fun hlt => ?_⟩
    rw [hnone j (hk ▸ hlt) g2] at g3
    cases g3

/-- `choose_relativity(origin, relativize)` is `relativize` / `derelativize` for a non-empty origin and the
identity for `None` and for the zero-label origin (`if origin:`); so relativizing and then derelativizing
through it restores every absolute name (up to the case of the origin's labels). -/
theorem choose_relativity_spec (a o : Name) (rel : Bool) :
    chooseRelativity06 a none rel = .ok a ∧ chooseRelativity06 a (some []) rel = .ok a ∧
    (o ≠ [] → chooseRelativity06 a (some o) true = relativize a o ∧
      chooseRelativity06 a (some o) false = derelativize a o) ∧
    (WfName a → isAbs a = true → o ≠ [] →
      ∃ r a', chooseRelativity06 a (some o) true = .ok r ∧ chooseRelativity06 r (some o) false = .ok a' ∧
        nameEq a' a = true) := by
  have key : o ≠ [] → ∀ (n : Name) (rel : Bool),
      chooseRelativity06 n (some o) rel = if rel then relativize n o else derelativize n o :=
    fun ho n rel => if_neg fun e => ho (List.length_eq_zero_iff.1 e)
  refine ⟨rfl, rfl, fun ho => ⟨key ho a true, key ho a false⟩, fun hw ha ho => ?_⟩
  obtain ⟨r, a', h1, h2, h3, _⟩ := relativize_derelativize a o hw (Or.inl ha)
  exact ⟨r, a', (key ho a true).trans h1, (key ho r false).trans h2, h3⟩

/-! ## non-vacuity and the witnesses named in the property text -/
-- a NameDict history with a case-variant re-assignment and a deletion of the deepest key; lookups afterwards
example : ndDeepest (ndRun NDict.empty [.set [[101], []] 1, .set [[119], [101], []] 2, .set [[87], [69], []] 3,
      .del [[119], [101], []], .set [] 9]) [[120], [119], [101], []] = some ([[101], []], 1) ∧
    ndDeepest (ndRun NDict.empty [.set [[101], []] 1, .set [] 9]) [[122], []] = some ([], 9) ∧
    ndDeepest (ndRun NDict.empty [.set [[101], []] 1]) [[122], []] = none := by decide +kernel

-- 'Z' (0x5A) compares as 'z' and therefore sorts after '[' (0x5B); '@' sorts before '`'
example : canonLt [[91], []] [[90], []] ∧ canonLt [[64], []] [[96], []] := by decide +kernel
-- a shorter label is smaller; a relative name precedes an absolute one
example : canonLt [[97], []] [[97, 0], []] ∧ canonLt [[255, 255]] [[]] := by decide +kernel
-- equal up to case, equal hash
example : nameEq [[87, 119], [0x5A], []] [[119, 87], [0x7A], []] = true ∧
    nameHash [[87, 119], [0x5A], []] = nameHash [[119, 87], [0x7A], []] := by decide +kernel
-- relation / nlabels on the examples of the docstring of `fullcompare`
example : fullcompare [[119], [101], []] [[101], []] = (2, 1, 2) ∧
    fullcompare [[101, 49], [99], []] [[101, 50], [99], []] = (4, -1, 2) := by decide +kernel
-- the D06 witness (63 × 'Z', prefix_ok = False) now has a successor that sorts after it
example : ∃ r, successor [List.replicate 63 90, [101], []] [[101], []] false = .ok r ∧
    cmpOrder [List.replicate 63 90, [101], []] r < 0 := by
  refine ⟨[List.replicate 62 90 ++ [123], [101], []], by rfl, by decide +kernel⟩
-- a relative name: successor computed under the origin and relativized again
example : successor [[97, 64]] [[101], []] false = .ok [[97, 64, 0]] ∧
    predecessor [[97, 91]] [[101], []] false = .ok [[97, 64] ++ List.replicate 61 255] := by
  refine ⟨by rfl, by rfl⟩
-- hypotheses of the round trips are satisfiable
example : WfName [[87], [69, 120], []] ∧ isAbs [[87], [69, 120], []] = true ∧
    relativize [[87], [69, 120], []] [[101, 88], []] = .ok [[87]] ∧
    derelativize [[87]] [[101, 88], []] = .ok [[87], [101, 88], []] := by
  refine ⟨by decide, by decide, by rfl, by rfl⟩

end C06
