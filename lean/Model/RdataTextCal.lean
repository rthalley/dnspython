/-!
Calendar arithmetic behind `time.gmtime` / `calendar.timegm` as used by the RRSIG/SIG time fields
(`posixtime_to_sigtime`, `sigtime_to_posixtime` in `dns/rdtypes/rrsigbase.py`): proleptic Gregorian
days ⇄ civil date.  Import-free, like every model file.
-/
namespace Model

/-- civil date `(year, month, day)` of the day number `z` (days since 1970-01-01) -/
def civilFromDays (z0 : Nat) : Nat × Nat × Nat :=
  let z := z0 + 719468
  let era := z / 146097
  let doe := z - era * 146097
  let yoe := (doe - doe / 1460 + doe / 36524 - doe / 146096) / 365
  let y := yoe + era * 400
  let doy := doe - (365 * yoe + yoe / 4 - yoe / 100)
  let mp := (5 * doy + 2) / 153
  let d := doy - (153 * mp + 2) / 5 + 1
  let m := if mp < 10 then mp + 3 else mp - 9
  (if m ≤ 2 then y + 1 else y, m, d)

/-- `datetime.date(y, m, d).toordinal() + 306`: days since 0000-03-01 (so `- 719468` gives days since 1970-01-01);
`y ≥ 1`, `1 ≤ m ≤ 12` -/
def daysFromCivilShift (y0 m d : Nat) : Nat :=
  let y := if m ≤ 2 then y0 - 1 else y0
  let era := y / 400
  let yoe := y - era * 400
  let doy := (153 * (if m > 2 then m - 3 else m + 9) + 2) / 5 + d - 1
  let doe := yoe * 365 + yoe / 4 - yoe / 100 + doy
  era * 146097 + doe

/-- the day number `z` survives `gmtime` then `timegm`, and the civil date has the printable ranges -/
def okDay (z : Nat) : Bool :=
  let c := civilFromDays z
  daysFromCivilShift c.1 c.2.1 1 + c.2.2 - 1 == z + 719468 && decide (1970 ≤ c.1) && decide (c.1 ≤ 2106) &&
    decide (1 ≤ c.2.1) && decide (c.2.1 ≤ 12) && decide (1 ≤ c.2.2) && decide (c.2.2 ≤ 31)

/-- `okDay` on the 256-day blocks `lo … lo + n - 1` -/
def daysOk (lo n : Nat) : Bool :=
  (List.range n).all fun b => (List.range 256).all fun i => okDay ((lo + b) * 256 + i)

end Model
